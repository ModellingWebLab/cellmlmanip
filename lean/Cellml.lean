import Cellml.Basic.Assoc
import Cellml.Basic.Decimal
import Cellml.Basic.ListLemmas
import Cellml.Basic.PMap
import Cellml.Basic.PMapCanon
import Cellml.Basic.Rotation
import Cellml.Basic.Sexp
import Cellml.Basic.Writes
import Cellml.Generated.Code.ConvRule
import Cellml.Generated.Code.SingDet3
import Cellml.Generated.Tables
import Cellml.Units.Builtin
import Cellml.Units.Conv
import Cellml.Units.Core
import Cellml.Units.Define
import Cellml.Units.Lemmas
import Cellml.Units.Wire
import Cellml.Model.ConvRule
import Cellml.Model.ConvertVarErr
import Cellml.Audit
import Cellml.Props.C01
import Cellml.Props.C01Gen
import Cellml.Props.C02
import Cellml.Props.C02Gen
import Cellml.Props.C03
import Cellml.Props.C03Gen
import Cellml.Props.C04
import Cellml.Props.C04Denotes
import Cellml.Props.C04Gen
import Cellml.Props.C05
import Cellml.Props.C05Gen
import Cellml.Props.C06
import Cellml.Props.C06Gen
import Cellml.Props.C06GenE
import Cellml.Props.C07
import Cellml.Props.C07Gen
import Cellml.Props.C08
import Cellml.Props.C08Gen
import Cellml.Props.C09
import Cellml.Props.C09Gen
import Cellml.Props.C10
import Cellml.Props.C10Gen
import Cellml.Props.C11
import Cellml.Props.C11Gen
import Cellml.Props.C12
import Cellml.Props.C12Gen
import Cellml.Props.C13
import Cellml.Props.C13Gen
import Cellml.Props.C13GenQ
import Cellml.Props.C14
import Cellml.Props.C14Gen
import Cellml.Props.C14GenAll
import Cellml.Props.C15
import Cellml.Props.C15Gen
import Cellml.Props.C16
import Cellml.Props.C16Gen
import Cellml.Props.C16Process
import Cellml.Props.C17
import Cellml.Props.C17Gen
import Cellml.Props.C18
import Cellml.Props.C18Gen
import Cellml.Props.C19
import Cellml.Props.C19Gen
import Cellml.Props.C19GenR
import Cellml.Props.C19GenRCases
import Cellml.Props.C19GenRIdem
import Cellml.Tie.AddVarRef
import Cellml.Tie.AddVars
import Cellml.Tie.Cmeta
import Cellml.Tie.CmetaQ
import Cellml.Tie.CmetaView
import Cellml.Tie.ConnDir
import Cellml.Tie.ConnLoop
import Cellml.Tie.ConnLoopClosed
import Cellml.Tie.ConvRule
import Cellml.Tie.ConvRuleView
import Cellml.Tie.Convert
import Cellml.Tie.ConvertCases
import Cellml.Tie.ConvertN
import Cellml.Tie.ConvertPw
import Cellml.Tie.ConvertVar
import Cellml.Tie.ConvertVarDriver
import Cellml.Tie.ConvertVarE
import Cellml.Tie.ConvertVarERefine
import Cellml.Tie.ConvertVarEView
import Cellml.Tie.ConvertVarHelpers
import Cellml.Tie.ConvertVarSym
import Cellml.Tie.ConvertVarSymView
import Cellml.Tie.ConvertVarView
import Cellml.Tie.ConvertVarWF
import Cellml.Tie.ConvertView
import Cellml.Tie.GenBCompose
import Cellml.Tie.GenBConvertVar
import Cellml.Tie.GenBIso
import Cellml.Tie.GenBUnitDefs
import Cellml.Tie.GenBUnits
import Cellml.Tie.GenBWhile
import Cellml.Tie.GenDConvertVar
import Cellml.Tie.GenDGraph
import Cellml.Tie.Graph
import Cellml.Tie.GraphBuild
import Cellml.Tie.GraphEqs
import Cellml.Tie.GraphNum
import Cellml.Tie.GraphView
import Cellml.Tie.Infer
import Cellml.Tie.InferCheck
import Cellml.Tie.InferNary
import Cellml.Tie.InferView
import Cellml.Tie.Iso2
import Cellml.Tie.Iso2View
import Cellml.Tie.Loader
import Cellml.Tie.LoaderComps
import Cellml.Tie.LoaderConsts
import Cellml.Tie.LoaderGen
import Cellml.Tie.LoaderParse
import Cellml.Tie.LoaderRel
import Cellml.Tie.LoaderStagesA
import Cellml.Tie.LoaderStagesB
import Cellml.Tie.LoaderStagesC
import Cellml.Tie.LoaderStagesD
import Cellml.Tie.LoaderSym
import Cellml.Tie.LoaderUnitsOrder
import Cellml.Tie.LoaderView
import Cellml.Tie.MathsWalk
import Cellml.Tie.MathsWalkView
import Cellml.Tie.Misc5
import Cellml.Tie.Misc5View
import Cellml.Tie.ModelState
import Cellml.Tie.ModelStateView
import Cellml.Tie.NumPipe
import Cellml.Tie.NumPipeAll
import Cellml.Tie.Prelude
import Cellml.Tie.Printer
import Cellml.Tie.Printer2View
import Cellml.Tie.PrinterAdd
import Cellml.Tie.PrinterClosed
import Cellml.Tie.PrinterMul
import Cellml.Tie.PrinterMul2
import Cellml.Tie.PrinterPr
import Cellml.Tie.PrinterReject
import Cellml.Tie.PrinterSign
import Cellml.Tie.PrinterView
import Cellml.Tie.PyM
import Cellml.Tie.RdfQ
import Cellml.Tie.Roles
import Cellml.Tie.RolesClosed
import Cellml.Tie.RolesQueries
import Cellml.Tie.RolesValue
import Cellml.Tie.RolesView
import Cellml.Tie.Sing
import Cellml.Tie.SingDet
import Cellml.Tie.SingDet3
import Cellml.Tie.SingDet3View
import Cellml.Tie.SingDetView
import Cellml.Tie.SingFix
import Cellml.Tie.SingFixAdd
import Cellml.Tie.SingPw
import Cellml.Tie.SingTrav
import Cellml.Tie.SingView
import Cellml.Tie.Transpile
import Cellml.Tie.TranspileClosed
import Cellml.Tie.TranspileView
import Cellml.Tie.UnitDefs
import Cellml.Tie.UnitDefsDen
import Cellml.Tie.UnitDefsMake
import Cellml.Tie.UnitDefsView
import Cellml.Tie.Units
import Cellml.Tie.UnitsInit
import Cellml.Tie.UnitsLemmas
import Cellml.Tie.UnitsView
import Cellml.Tie.WalkGen

/-! Every module under `Cellml/` is reached from this file, except the nineteen `Cnn/Driver.lean` and `Expr/Wire.lean`,
    which `Main.lean` imports. A new module that no other module imports has to be listed here, or `lake build Cellml`
    does not check it. -/
