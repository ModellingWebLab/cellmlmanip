import Cellml.C08.Lemmas

/-! What the queries answer (`obs`) in a state that satisfies the invariant: the answers of the model reached by a history
    are those of the freshly built model with the same content (`fresh`), which is what `add_equation` call by call builds.
    Core Lean only. -/

namespace Model

theorem Obs.eq_of {a b : Obs} (h1 : a.vars = b.vars) (h2 : a.equations = b.equations)
    (h3 : a.definition = b.definition) (h4 : a.states = b.states) (h5 : a.stateKeys = b.stateKeys)
    (h6 : a.free = b.free) (h7 : a.cmetaLookup = b.cmetaLookup) (h8 : a.hasCmeta = b.hasCmeta)
    (h9 : a.graph = b.graph) (h10 : a.graphNum = b.graphNum) (h11 : a.types = b.types) : a = b := by
  cases a; cases b; simp_all

theorem obs_congr {s s' : MState} (hmc : s'.modelCmeta = s.modelCmeta) (hh : SameButTypes s.heap s'.heap)
    (hl : s'.live = s.live) (he : s'.equations = s.equations) (hvd : s'.varDef = s.varDef)
    (hod : s'.odeDef = s.odeDef) (hcm : ∀ c, s'.cmetaMap.lookup c = s.cmetaMap.lookup c)
    (hg : (queryGraph s').2 = (queryGraph s).2) (hgn : (queryGraphNum s').2 = (queryGraphNum s).2)
    (ht : ∀ i ∈ relevant s.live s.equations, typeOf (queryGraph s').1 i = typeOf (queryGraph s).1 i) :
    obs s' = obs s := by
  apply Obs.eq_of
  · simp only [obs, hl, hh.nameOfVar, hh.cmetaOf, hh.initOf]
  · exact he
  · funext v; simp only [obs, getDefinition, hvd, hod]
  · simp only [obs, getStateVariables, stateKeys, hod, hh.orderOf]
  · simp only [obs, stateKeys, hod]
  · simp only [obs, getFreeVariable, hod]
  · funext c; exact hcm c
  · funext c; simp only [obs, hasCmetaId, hmc, hasKey_eq_isSome, hcm]
  · exact hg
  · exact hgn
  · simp only [obs, hl, he]
    exact List.map_congr_left (fun i hi => by rw [ht i hi])

theorem obs_failed_build {s : MState} (hg : s.graph = none) (hn : s.graphNum = none) :
    obs { s with heap := applyTypes s.heap (relevant s.live s.equations) (typeMap s.equations) } = obs s := by
  have hsame := sameButTypes_applyTypes s.heap (relevant s.live s.equations) (typeMap s.equations)
  have hnames : names { s with heap := applyTypes s.heap (relevant s.live s.equations) (typeMap s.equations) } =
      names s := hsame.names
  refine obs_congr rfl hsame rfl rfl rfl rfl (fun _ => rfl) ?_ ?_ ?_
  -- `by exact` / `by rfl`: the state the lemma is about is the updated record; elaborating the argument after the
  -- rewrite has found it avoids unifying the record against `s`
  · rw [queryGraph_of_none (by exact hg), queryGraph_of_none hg, hnames]
  · rw [queryGraphNum_of_none (by exact hg) (by exact hn), queryGraphNum_of_none hg hn, hnames]
  · intro i hi
    rw [typeOf_queryGraph_of_none (by exact hg) i (by exact hi), typeOf_queryGraph_of_none hg i hi]
    simp only [length_applyTypes]

theorem mem_fresh_cmetaMap (s : MState) (c : String) (i : Nat) :
    (c, i) ∈ (fresh (content s)).cmetaMap ↔ (i ∈ s.live ∧ cmetaOf s i = some c) := by
  simp only [fresh, content, List.mem_filterMap, List.getElem?_map]
  constructor
  · rintro ⟨j, hj, h⟩
    cases hv : s.heap[j]? with
    | none => simp [hv] at h
    | some v =>
      simp only [hv, Option.map_some, Option.bind_some] at h
      cases hc : v.cmeta with
      | none => simp [hc] at h
      | some k =>
        simp only [hc, Option.map_some, Option.some.injEq, Prod.mk.injEq] at h
        obtain ⟨rfl, rfl⟩ := h
        exact ⟨hj, by simp [cmetaOf, hv, hc]⟩
  · rintro ⟨hi, hc⟩
    refine ⟨i, hi, ?_⟩
    simp only [cmetaOf] at hc
    cases hv : s.heap[i]? with
    | none => simp [hv] at hc
    | some v => simp only [hv, Option.bind_some] at hc; simp [hc]

/-- **coherence**: every query answers as on a model freshly built with the same variables and equations -/
theorem obs_fresh {s : MState} (h : Inv s) : obs s = obs (fresh (content s)) := by
  symm
  have hsame : SameButTypes s.heap (fresh (content s)).heap := sameButTypes_eraseTypes s.heap
  have hnames : names (fresh (content s)) = names s := hsame.names
  have hmem : ∀ c i, (c, i) ∈ (fresh (content s)).cmetaMap ↔ (c, i) ∈ s.cmetaMap := by
    intro c i; rw [mem_fresh_cmetaMap, h.reg.cmetaIff]
  have hfun : ∀ c a b, (c, a) ∈ s.cmetaMap → (c, b) ∈ s.cmetaMap → a = b :=
    fun c a b => functional_of_keys_nodup s.cmetaMap h.reg.cmetaKeys c a b
  refine obs_congr rfl hsame rfl rfl h.eq.varDef.symm h.eq.odeDef.symm ?_ ?_ ?_ ?_
  · intro c
    exact lookup_congr _ _ c (fun a b ha hb => hfun c a b ((hmem c a).mp ha) ((hmem c b).mp hb)) (hfun c)
      (fun v => hmem c v)
  · rw [queryGraph_snd h.cache, queryGraph_of_none (by rfl), hnames]; rfl
  · rw [queryGraphNum_snd h.cache, queryGraphNum_of_none (by rfl) (by rfl), hnames]; rfl
  · intro i hi
    rw [typeOf_queryGraph h.cache i hi, typeOf_queryGraph_of_none (by rfl) i (by exact hi)]
    simp [fresh, content]

theorem obs_eq_of_content {s₁ s₂ : MState} (h₁ : Inv s₁) (h₂ : Inv s₂) (h : content s₁ = content s₂) : obs s₁ = obs s₂ := by
  rw [obs_fresh h₁, obs_fresh h₂, h]

/-- the induction behind `fresh_is_built`, over the equations `pre` already added -/
theorem fresh_build_aux (c : Content) (l pre : List Eqn)
    (hn : ((pre ++ l).filterMap defKey).Nodup) (hl : ∀ e ∈ l, e.lhs ≠ .other)
    (ho : ∀ e ∈ l, ∀ st t o, e.lhs = .deriv st t o → o ≤ 1) :
    l.foldl (fun s e => (step s (.addEquation e)).1) (fresh { c with equations := pre }) =
      fresh { c with equations := pre ++ l } := by
  induction l generalizing pre with
  | nil => simp
  | cons e l ih =>
    have hassoc : pre ++ e :: l = (pre ++ [e]) ++ l := by simp
    have hrest := ih (pre ++ [e]) (by rw [← hassoc]; exact hn)
      (fun x hx => hl x (List.mem_cons_of_mem _ hx)) (fun x hx => ho x (List.mem_cons_of_mem _ hx))
    rw [hassoc, ← hrest, List.foldl_cons]
    congr 1
    have hkey : ∀ k, defKey e = some k → k ∉ pre.filterMap defKey := by
      intro k hk hmem
      rw [List.filterMap_append, List.filterMap_cons, hk] at hn
      exact (List.nodup_append.mp hn).2.2 k hmem k (List.mem_cons_self ..) rfl
    have hundef : ∀ k, defKey e = some k →
        (hasKey k (deriveOdeDef pre) || hasKey k (deriveVarDef pre)) = false := fun k hk =>
      Bool.eq_false_iff.mpr fun h => hkey k hk ((mem_defKeys_iff pre k).mpr h)
    simp only [step]
    cases hlhs : e.lhs with
    | var v =>
      have hd := hundef v (by simp [defKey, hlhs])
      have hd2 := (Bool.or_eq_false_iff.mp hd).2
      simp only [addEquationCore, hlhs, isDefined, fresh, hd, Bool.and_false, Bool.false_eq_true, if_false,
        invalidate, insertKey_of_not_hasKey _ _ _ hd2]
      -- the derived maps of `pre ++ [e]` are those of `pre` with `e` appended
      simp [deriveVarDef, deriveOdeDef, List.filterMap_append, hlhs]
    | deriv st t o =>
      have hd := hundef st (by simp [defKey, hlhs])
      have hd1 := (Bool.or_eq_false_iff.mp hd).1
      have hord : ¬ o > 1 := Nat.not_lt.mpr (ho e (List.mem_cons_self ..) st t o hlhs)
      simp only [addEquationCore, hlhs, hord, isDefined, fresh, hd, Bool.and_false, Bool.false_eq_true, if_false,
        invalidate, insertKey_of_not_hasKey _ _ _ hd1]
      simp [deriveVarDef, deriveOdeDef, List.filterMap_append, hlhs]
    | other => exact absurd hlhs (hl e (List.mem_cons_self ..))

/-- the fresh model of the content of a coherent state is what `add_equation`, called for each equation in turn on a
    model holding the same variables, builds -/
theorem fresh_is_built {s : MState} (h : Inv s) :
    s.equations.foldl (fun st e => (step st (.addEquation e)).1) (fresh { content s with equations := [] }) =
      fresh (content s) := by
  have := fresh_build_aux (content s) s.equations [] (by simpa using h.eq.nodup) h.eq.lhsOk h.eq.orderOk
  simpa [content] using this

end Model
