import Cellml.C08.Heap
import Cellml.Model.Sort
import Cellml.C08.FreeCmeta

/-! Every API call preserves `Inv` (`inv_step`), and a call that raises hands back the state it was given — a graph
    query with the types it wrote (`raised_state`). Core Lean only. -/

namespace Model

theorem mem_deriveVarDef (eqs : List Eqn) (v : Nat) (e : Eqn) :
    (v, e) ∈ deriveVarDef eqs ↔ e ∈ eqs ∧ e.lhs = .var v := by
  simp only [deriveVarDef, List.mem_filterMap]
  constructor
  · rintro ⟨a, ha, h⟩
    cases hl : a.lhs <;> simp [hl] at h
    obtain ⟨rfl, rfl⟩ := h; exact ⟨ha, hl⟩
  · rintro ⟨he, hl⟩; exact ⟨e, he, by simp [hl]⟩

theorem mem_deriveOdeDef (eqs : List Eqn) (v : Nat) (e : Eqn) :
    (v, e) ∈ deriveOdeDef eqs ↔ e ∈ eqs ∧ ∃ t o, e.lhs = .deriv v t o := by
  simp only [deriveOdeDef, List.mem_filterMap]
  constructor
  · rintro ⟨a, ha, h⟩
    cases hl : a.lhs <;> simp [hl] at h
    obtain ⟨rfl, rfl⟩ := h; exact ⟨ha, _, _, hl⟩
  · rintro ⟨he, t, o, hl⟩; exact ⟨e, he, by simp [hl]⟩

theorem mem_defKeys_iff (eqs : List Eqn) (k : Nat) :
    k ∈ eqs.filterMap defKey ↔ (hasKey k (deriveOdeDef eqs) || hasKey k (deriveVarDef eqs)) = true := by
  simp only [Bool.or_eq_true, hasKey_iff, mem_deriveOdeDef, mem_deriveVarDef, List.mem_filterMap]
  constructor
  · rintro ⟨e, he, hk⟩
    cases hl : e.lhs with
    | var v => simp [defKey, hl] at hk; subst hk; exact .inr ⟨e, he, hl⟩
    | deriv st t o => simp [defKey, hl] at hk; subst hk; exact .inl ⟨e, he, t, o, hl⟩
    | other => simp [defKey, hl] at hk
  · rintro (⟨e, he, t, o, hl⟩ | ⟨e, he, hl⟩) <;> exact ⟨e, he, by simp [defKey, hl]⟩

theorem keys_deriveOdeDef_sublist (eqs : List Eqn) :
    ((deriveOdeDef eqs).map (·.1)).Sublist (eqs.filterMap defKey) := by
  induction eqs with
  | nil => exact List.Sublist.refl _
  | cons e es ih =>
    cases hl : e.lhs with
    | var v => simpa [deriveOdeDef, defKey, hl] using List.Sublist.cons v ih
    | deriv st t o => simpa [deriveOdeDef, defKey, hl] using ih
    | other => simpa [deriveOdeDef, defKey, hl] using ih

theorem filterMap_erase_key (f : Eqn → Option (Nat × Eqn)) (hf : ∀ e p, f e = some p → defKey e = some p.1)
    (eqs : List Eqn) (e : Eqn) (k : Nat) (he : e ∈ eqs) (hk : defKey e = some k)
    (hn : (eqs.filterMap defKey).Nodup) :
    (eqs.erase e).filterMap f = eraseKey k (eqs.filterMap f) := by
  induction eqs with
  | nil => cases he
  | cons x xs ih =>
    by_cases hx : x = e
    · subst hx
      simp only [List.erase_cons_head]
      simp only [List.filterMap_cons, hk, List.nodup_cons] at hn
      have hrest : eraseKey k (xs.filterMap f) = xs.filterMap f := by
        simp only [eraseKey, List.filter_eq_self, List.mem_filterMap, decide_eq_true_eq, ne_eq]
        rintro p ⟨y, hy, hfy⟩ hpk
        apply hn.1
        exact List.mem_filterMap.mpr ⟨y, hy, by rw [hf y p hfy, hpk]⟩
      cases hfx : f x with
      | none => simp [hfx, hrest]
      | some p =>
        have : p.1 = k := by have := hf x p hfx; rw [hk] at this; exact (Option.some.inj this).symm
        rw [List.filterMap_cons_some hfx]
        simp only [eraseKey] at hrest ⊢
        rw [List.filter_cons_of_neg (by simp [this]), hrest]
    · have he' : e ∈ xs := by
        rcases List.mem_cons.mp he with h | h
        · exact absurd h.symm hx
        · exact h
      have hbeq : (x == e) = false := by simpa using hx
      simp only [List.erase_cons, hbeq]
      have hn' : (xs.filterMap defKey).Nodup := by
        simp only [List.filterMap_cons] at hn
        cases hdx : defKey x <;> simp [hdx] at hn
        · exact hn
        · exact hn.2
      cases hfx : f x with
      | none => simp [hfx, ih he' hn']
      | some p =>
        have hpk : p.1 ≠ k := by
          intro hpk
          have hdx := hf x p hfx
          simp only [List.filterMap_cons, hdx, List.nodup_cons] at hn
          apply hn.1
          exact List.mem_filterMap.mpr ⟨e, he', by rw [hk, hpk]⟩
        simp [hfx, ih he' hn', eraseKey, hpk]

theorem filterMap_erase_none (f : Eqn → Option (Nat × Eqn)) (eqs : List Eqn) (e : Eqn) (hf : f e = none) :
    (eqs.erase e).filterMap f = eqs.filterMap f := by
  induction eqs with
  | nil => rfl
  | cons x xs ih =>
    by_cases hx : x = e
    · subst hx; simp [hf]
    · have hbeq : (x == e) = false := by simpa using hx
      simp only [List.erase_cons, hbeq]
      simp [List.filterMap_cons, ih]

theorem EqInvOn.erase {eqs : List Eqn} {vd od : List (Nat × Eqn)} (h : EqInvOn eqs vd od) (e : Eqn) :
    EqInvOn (eqs.erase e) (deriveVarDef (eqs.erase e)) (deriveOdeDef (eqs.erase e)) :=
  ⟨rfl, rfl, (List.erase_sublist.filterMap _).nodup h.nodup, fun x hx => h.lhsOk x (List.mem_of_mem_erase hx),
    fun x hx => h.orderOk x (List.mem_of_mem_erase hx)⟩

theorem EqInvOn.of_removeVar {eqs : List Eqn} {vd od : List (Nat × Eqn)} (h : EqInvOn eqs vd od) (e : Eqn) (v : Nat)
    (he : e ∈ eqs) (hl : e.lhs = .var v) : EqInvOn (eqs.erase e) (eraseKey v vd) od := by
  rw [h.varDef, h.odeDef]
  have := h.erase e
  rw [deriveVarDef, filterMap_erase_key _ (by
      intro a p hp; cases hla : a.lhs <;> simp [hla] at hp; subst hp; simp [defKey, hla]) eqs e v he
    (by simp [defKey, hl]) h.nodup, deriveOdeDef, filterMap_erase_none _ eqs e (by simp [hl])] at this
  exact this

theorem EqInvOn.of_removeOde {eqs : List Eqn} {vd od : List (Nat × Eqn)} (h : EqInvOn eqs vd od) (e : Eqn)
    (st t o : Nat) (he : e ∈ eqs) (hl : e.lhs = .deriv st t o) : EqInvOn (eqs.erase e) vd (eraseKey st od) := by
  rw [h.varDef, h.odeDef]
  have := h.erase e
  rw [deriveOdeDef, filterMap_erase_key _ (by
      intro a p hp; cases hla : a.lhs <;> simp [hla] at hp; subst hp; simp [defKey, hla]) eqs e st he
    (by simp [defKey, hl]) h.nodup, deriveVarDef, filterMap_erase_none _ eqs e (by simp [hl])] at this
  exact this

theorem not_defined_of {eqs : List Eqn} {vd od : List (Nat × Eqn)} (h : EqInvOn eqs vd od) (k : Nat)
    (hd : (hasKey k od || hasKey k vd) = false) : k ∉ eqs.filterMap defKey := by
  rw [mem_defKeys_iff, ← h.varDef, ← h.odeDef, hd]; exact Bool.false_ne_true

/-- `add_equation` that succeeds -/
theorem EqInvOn.add {eqs : List Eqn} {vd od : List (Nat × Eqn)} (h : EqInvOn eqs vd od) (e : Eqn) (k : Nat)
    (hk : defKey e = some k) (ho : ∀ st t o, e.lhs = .deriv st t o → o ≤ 1)
    (hd : (hasKey k od || hasKey k vd) = false) :
    EqInvOn (eqs ++ [e]) (vd ++ deriveVarDef [e]) (od ++ deriveOdeDef [e]) := by
  refine ⟨?_, ?_, ?_, List.forall_mem_append.mpr ⟨h.lhsOk, List.forall_mem_singleton.mpr fun hl => ?_⟩,
    List.forall_mem_append.mpr ⟨h.orderOk, List.forall_mem_singleton.mpr ho⟩⟩
  · rw [h.varDef]; exact List.filterMap_append.symm
  · rw [h.odeDef]; exact List.filterMap_append.symm
  · rw [List.filterMap_append, List.filterMap_cons, hk]
    exact List.nodup_snoc h.nodup (not_defined_of h k hd)
  · simp [defKey, hl] at hk

theorem EqInvOn.of_addVar {eqs : List Eqn} {vd od : List (Nat × Eqn)} (h : EqInvOn eqs vd od) (e : Eqn) (v : Nat)
    (hl : e.lhs = .var v) (hd : (hasKey v od || hasKey v vd) = false) :
    EqInvOn (eqs ++ [e]) (insertKey v e vd) od := by
  have := h.add e v (by simp [defKey, hl]) (fun _ _ _ h' => by rw [hl] at h'; cases h') hd
  rw [insertKey_of_not_hasKey _ _ _ (Bool.or_eq_false_iff.mp hd).2]
  simpa [deriveVarDef, deriveOdeDef, hl] using this

theorem EqInvOn.of_addOde {eqs : List Eqn} {vd od : List (Nat × Eqn)} (h : EqInvOn eqs vd od) (e : Eqn)
    (st t o : Nat) (hl : e.lhs = .deriv st t o) (ho : o ≤ 1) (hd : (hasKey st od || hasKey st vd) = false) :
    EqInvOn (eqs ++ [e]) vd (insertKey st e od) := by
  have := h.add e st (by simp [defKey, hl]) (fun _ _ _ h' => by rw [hl] at h'; cases h'; exact ho) hd
  rw [insertKey_of_not_hasKey _ _ _ (Bool.or_eq_false_iff.mp hd).1]
  simpa [deriveVarDef, deriveOdeDef, hl] using this

/-! The registry invariant is stated over the READINGS (`name cmeta order : Nat → _`, `RegInvOn`), not over a state: the new
    readings after an edit are then closed `if`-functions (`fun i => if i = v then some c else cmeta i`), and no lemma has to
    look at `cmetaOf` of a heap that `setVar` has touched. -/
section Reg
variable {mc : Option String} {len : Nat} {name : Nat → String} {cmeta : Nat → Option String} {order : Nat → Nat}
  {live : List Nat} {cm : List (String × Nat)} {no : Nat}

/-- `add_variable` that succeeds -/
theorem RegInvOn.addVar (R : RegInvOn mc len name cmeta order live cm no) (n : String) (c : Option String)
    (hnew : ∀ i ∈ live, name i ≠ n) (hc : ∀ c0, c = some c0 → mc ≠ some c0 ∧ hasKey c0 cm = false) :
    RegInvOn mc (len + 1) (fun i => if i = len then n else name i) (fun i => if i = len then c else cmeta i)
      (fun i => if i = len then no else order i) (live ++ [len]) (registerCmeta c len cm) (no + 1) := by
  have hlt : ∀ i ∈ live, i < len := R.liveBound
  have old : ∀ {β} (x : β) (f : Nat → β), ∀ i ∈ live, (if i = len then x else f i) = f i :=
    fun x f i hi => if_neg (Nat.ne_of_lt (hlt i hi))
  have hreg : registerCmeta c len cm = cm ++ c.toList.map (·, len) := by
    cases c with
    | none => simp [registerCmeta]
    | some c0 => simp [registerCmeta, insertKey_of_not_hasKey _ _ _ (hc c0 rfl).2]
  refine {
    liveNodup := List.nodup_snoc R.liveNodup fun h => Nat.lt_irrefl _ (hlt _ h)
    liveBound := List.forall_mem_append.mpr ⟨fun i hi => Nat.lt_succ_of_lt (hlt i hi), by simp⟩
    namesNodup := ?_, cmetaIff := ?_, cmetaKeys := ?_
    cmetaModel := List.forall_mem_append.mpr ⟨fun i hi c' hci => R.cmetaModel i hi c' (old c cmeta i hi ▸ hci),
      List.forall_mem_singleton.mpr fun c' hci => (hc c' (by simpa using hci)).1⟩
    orderInc := ?_
    orderBound := List.forall_mem_append.mpr
      ⟨fun i hi => (old no order i hi).symm ▸ Nat.lt_succ_of_lt (R.orderBound i hi),
        List.forall_mem_singleton.mpr (by simp)⟩ }
  · rw [List.map_append, List.map_congr_left (old n name)]
    refine List.nodup_snoc R.namesNodup fun ha => ?_
    obtain ⟨i, hi, hn⟩ := List.mem_map.mp ha
    exact hnew i hi (by simpa using hn)
  · intro c' i
    rw [hreg, List.mem_append, R.cmetaIff, List.mem_append, List.mem_singleton]
    constructor
    · rintro (⟨hi, hci⟩ | hm)
      · exact ⟨Or.inl hi, (old c cmeta i hi).symm ▸ hci⟩
      · obtain ⟨c'', hc', h⟩ := List.mem_map.mp hm
        cases h
        exact ⟨Or.inr rfl, by simpa using hc'⟩
    · rintro ⟨hi | rfl, hci⟩
      · exact Or.inl ⟨hi, old c cmeta i hi ▸ hci⟩
      · exact Or.inr (List.mem_map.mpr ⟨c', by simpa using hci, rfl⟩)
  · cases c with
    | none => exact R.cmetaKeys
    | some c0 => exact nodup_keys_insertKey c0 len cm R.cmetaKeys
  · rw [List.map_append, List.map_congr_left (old no order)]
    refine List.pairwise_append.mpr ⟨R.orderInc, by simp, fun a ha b hb => ?_⟩
    obtain ⟨i, hi, rfl⟩ := List.mem_map.mp ha
    rw [List.mem_singleton.mp hb]
    simpa using R.orderBound i hi

/-- `remove_variable` -/
theorem RegInvOn.removeVar (R : RegInvOn mc len name cmeta order live cm no) (v : Nat) (hv : v ∈ live) :
    RegInvOn mc len name cmeta order (live.erase v)
      (match cmeta v with | some c => eraseKey c cm | none => cm) no := by
  have hsub : (live.erase v).Sublist live := List.erase_sublist
  have hmem : ∀ i, i ∈ live.erase v ↔ i ∈ live ∧ i ≠ v := by
    intro i; rw [R.liveNodup.mem_erase_iff]; exact and_comm
  refine {
    liveNodup := hsub.nodup R.liveNodup, liveBound := fun i hi => R.liveBound i (hsub.mem hi)
    namesNodup := (hsub.map _).nodup R.namesNodup, cmetaIff := ?_, cmetaKeys := ?_
    cmetaModel := fun i hi => R.cmetaModel i (hsub.mem hi), orderInc := R.orderInc.sublist (hsub.map _)
    orderBound := fun i hi => R.orderBound i (hsub.mem hi) }
  · intro c i
    cases hcv : cmeta v with
    | none =>
      rw [R.cmetaIff, hmem]
      constructor
      · rintro ⟨hi, hci⟩; exact ⟨⟨hi, by rintro rfl; rw [hcv] at hci; cases hci⟩, hci⟩
      · rintro ⟨⟨hi, _⟩, hci⟩; exact ⟨hi, hci⟩
    | some c0 =>
      simp only [mem_eraseKey]
      rw [R.cmetaIff, hmem]
      constructor
      · rintro ⟨⟨hi, hci⟩, hne⟩
        refine ⟨⟨hi, ?_⟩, hci⟩
        rintro rfl; rw [hcv] at hci; exact hne (Option.some.inj hci).symm
      · rintro ⟨⟨hi, hne⟩, hci⟩
        refine ⟨⟨hi, hci⟩, ?_⟩
        intro hcc; change c = c0 at hcc; subst hcc
        have h1 : (c, i) ∈ cm := (R.cmetaIff c i).mpr ⟨hi, hci⟩
        have h2 : (c, v) ∈ cm := (R.cmetaIff c v).mpr ⟨hv, hcv⟩
        exact hne (functional_of_keys_nodup cm R.cmetaKeys c i v h1 h2)
  · cases hcv : cmeta v with
    | none => exact R.cmetaKeys
    | some c0 => exact (keys_eraseKey_sublist c0 cm).nodup R.cmetaKeys

/-- `add_cmeta_id` that invents the unused id `c` -/
theorem RegInvOn.setCmeta (R : RegInvOn mc len name cmeta order live cm no) (v : Nat) (c : String) (hv : v ∈ live)
    (hnone : cmeta v = none) (hfree : hasKey c cm = false) (hmc : mc ≠ some c) :
    RegInvOn mc len name (fun i => if i = v then some c else cmeta i) order live (insertKey c v cm) no := by
  refine { R with cmetaIff := ?_, cmetaKeys := ?_, cmetaModel := ?_ }
  · intro c' i
    simp only [insertKey_of_not_hasKey _ _ _ hfree, List.mem_append, List.mem_singleton, Prod.mk.injEq]
    rw [R.cmetaIff]
    constructor
    · rintro (⟨hi, hci⟩ | ⟨rfl, rfl⟩)
      · refine ⟨hi, ?_⟩
        have : i ≠ v := by rintro rfl; rw [hnone] at hci; cases hci
        simp [this, hci]
      · exact ⟨hv, by simp⟩
    · rintro ⟨hi, hci⟩
      by_cases hiv : i = v
      · subst hiv; simp at hci; exact Or.inr ⟨hci.symm, rfl⟩
      · simp [hiv] at hci; exact Or.inl ⟨hi, hci⟩
  · exact nodup_keys_insertKey c v cm R.cmetaKeys
  · intro i hi c' hci
    by_cases hiv : i = v
    · subst hiv; simp at hci; subst hci; exact hmc
    · simp [hiv] at hci; exact R.cmetaModel i hi c' hci

/-- `transfer_cmeta_id` that succeeds -/
theorem RegInvOn.transfer (R : RegInvOn mc len name cmeta order live cm no) (src dst : Nat) (c : String)
    (hs : src ∈ live) (hd : dst ∈ live) (hcs : cmeta src = some c) (hcd : cmeta dst = none) :
    RegInvOn mc len name (fun i => if i = src then none else if i = dst then some c else cmeta i) order live
      (insertKey c dst cm) no := by
  have hne : src ≠ dst := by rintro rfl; rw [hcs] at hcd; cases hcd
  refine { R with cmetaIff := ?_, cmetaKeys := ?_, cmetaModel := ?_ }
  · intro c' i
    rw [mem_insertKey c dst cm R.cmetaKeys, R.cmetaIff]
    constructor
    · rintro (h | ⟨⟨hi, hci⟩, hcc⟩)
      · obtain ⟨rfl, rfl⟩ := Prod.mk.inj h
        exact ⟨hd, by simp [Ne.symm hne]⟩
      · simp only [ne_eq] at hcc
        refine ⟨hi, ?_⟩
        have h1 : i ≠ src := by rintro rfl; rw [hcs] at hci; exact hcc (Option.some.inj hci).symm
        have h2 : i ≠ dst := by rintro rfl; rw [hcd] at hci; cases hci
        simp [h1, h2, hci]
    · rintro ⟨hi, hci⟩
      by_cases h1 : i = src
      · subst h1; simp at hci
      · by_cases h2 : i = dst
        · subst h2; simp [h1] at hci; subst hci; exact Or.inl rfl
        · simp [h1, h2] at hci
          refine Or.inr ⟨⟨hi, hci⟩, ?_⟩
          simp only [ne_eq]; rintro rfl
          exact h1 (functional_of_keys_nodup cm R.cmetaKeys c' i src ((R.cmetaIff c' i).mpr ⟨hi, hci⟩)
            ((R.cmetaIff c' src).mpr ⟨hs, hcs⟩))
  · exact nodup_keys_insertKey c dst cm R.cmetaKeys
  · intro i hi c' hci
    by_cases h1 : i = src
    · subst h1; simp at hci
    · by_cases h2 : i = dst
      · subst h2; simp [h1] at hci; subst hci; exact R.cmetaModel src hs c hcs
      · simp [h1, h2] at hci; exact R.cmetaModel i hi c' hci

end Reg

theorem RegInv.congr {s s' : MState} (R : RegInv s) (hmc : s'.modelCmeta = s.modelCmeta)
    (hh : SameButTypes s.heap s'.heap) (hl : s'.live = s.live) (hcm : s'.cmetaMap = s.cmetaMap)
    (hno : s'.nextOrder = s.nextOrder) : RegInv s' := by
  unfold RegInv at *
  rw [hmc, hh.length, hh.nameOfVar, hh.cmetaOf, hh.orderOf, hl, hcm, hno]; exact R

theorem EqInv.congr {s s' : MState} (E : EqInv s) (h1 : s'.equations = s.equations) (h2 : s'.varDef = s.varDef)
    (h3 : s'.odeDef = s.odeDef) : EqInv s' := by
  unfold EqInv at *; rw [h1, h2, h3]; exact E

theorem CacheInv.of_none {s : MState} (h1 : s.graph = none) (h2 : s.graphNum = none) : CacheInv s :=
  ⟨fun g hg => (by rw [h1] at hg; cases hg), fun g hg => (by rw [h2] at hg; cases hg)⟩

theorem CacheInv.graphNum_none {s : MState} (C : CacheInv s) (hg : s.graph = none) : s.graphNum = none := by
  cases hn : s.graphNum with
  | none => rfl
  | some gn => obtain ⟨g0, h0, _⟩ := C.graphNum gn hn; rw [hg] at h0; cases h0

theorem CacheInv.congr {s s' : MState} (C : CacheInv s) (hg : s'.graph = s.graph) (hn : s'.graphNum = s.graphNum)
    (hnames : names s' = names s) (he : s'.equations = s.equations) (hl : s'.live = s.live)
    (ht : ∀ i : Nat, (s'.heap[i]?).map (·.type) = (s.heap[i]?).map (·.type)) : CacheInv s' := by
  refine ⟨?_, ?_⟩
  · intro g hg'
    rw [hg] at hg'
    obtain ⟨hb, hts⟩ := C.graph g hg'
    refine ⟨by rw [hnames, he]; exact hb, ?_⟩
    intro i v' hv' hrel
    rw [hl, he] at hrel
    have := ht i
    rw [hv'] at this
    cases hv : s.heap[i]? with
    | none => rw [hv] at this; cases this
    | some v =>
      rw [hv] at this
      simp only [Option.map_some, Option.some.injEq] at this
      rw [this, he]; exact hts i v hv hrel
  · intro g hg'
    rw [hn] at hg'
    obtain ⟨g0, h0, h1⟩ := C.graphNum g hg'
    exact ⟨g0, by rw [hg]; exact h0, h1⟩

theorem inv_addVariable {s : MState} (h : Inv s) (n : String) (c : Option String) (iv : Option Rat) :
    Inv (addVariable s n c iv).1 := by
  unfold addVariable
  by_cases hname : (s.live.any fun i => nameOfVar s i == n) = true
  · rw [if_pos hname]; exact h
  rw [if_neg hname]
  by_cases hcm : cmetaTaken s c = true
  · rw [if_pos hcm]; exact h
  rw [if_neg hcm]
  refine ⟨h.eq, CacheInv.of_none rfl rfl, ?_⟩
  unfold RegInv
  -- `(by rfl)`: elaborated after the rewrite has found the new heap (the note in `obs_failed_build`, `C08/Obs.lean`)
  rw [funext (nameOfVar_snoc (s := s) (x := ⟨n, s.nextOrder, c, iv, none⟩) (by rfl)), funext (cmetaOf_snoc (s := s) (by rfl)),
    funext (orderOf_snoc (s := s) (by rfl))]
  simpa [invalidate] using h.reg.addVar n c (by simpa using hname)
    (fun c0 e => by subst e; simpa [cmetaTaken, hasCmetaId] using hcm)

theorem removeEquation_cases {s : MState} (E : EqInv s) (e : Eqn) :
    (e ∉ s.equations ∧ removeEquation s e = (s, .raised .keyError)) ∨
    (∃ v, e ∈ s.equations ∧ e.lhs = .var v ∧ removeEquation s e =
      (invalidate { s with equations := s.equations.erase e, varDef := eraseKey v s.varDef }, .ok)) ∨
    (∃ st t o, e ∈ s.equations ∧ e.lhs = .deriv st t o ∧ removeEquation s e =
      (invalidate { s with equations := s.equations.erase e, odeDef := eraseKey st s.odeDef }, .ok)) := by
  unfold removeEquation
  by_cases hc : s.equations.contains e = true
  · have he : e ∈ s.equations := by simpa using hc
    simp only [hc, Bool.not_true, Bool.false_eq_true, if_false]
    cases hl : e.lhs with
    | var v =>
      have : hasKey v s.varDef = true := by
        rw [E.varDef]; exact (hasKey_iff _ _).mpr ⟨e, (mem_deriveVarDef _ _ _).mpr ⟨he, hl⟩⟩
      exact Or.inr (Or.inl ⟨v, he, rfl, by simp only [this, if_true]⟩)
    | deriv st t o =>
      have : hasKey st s.odeDef = true := by
        rw [E.odeDef]; exact (hasKey_iff _ _).mpr ⟨e, (mem_deriveOdeDef _ _ _).mpr ⟨he, t, o, hl⟩⟩
      exact Or.inr (Or.inr ⟨st, t, o, he, rfl, by simp only [this, if_true]⟩)
    | other => exact absurd hl (E.lhsOk e he)
  · have he : e ∉ s.equations := by simpa using hc
    have hc' : s.equations.contains e = false := by simpa using hc
    exact Or.inl ⟨he, by simp only [hc', Bool.not_false, if_true]⟩

theorem removeEquation_frame (s : MState) (e : Eqn) :
    (removeEquation s e).1.heap = s.heap ∧ (removeEquation s e).1.live = s.live ∧
    (removeEquation s e).1.modelCmeta = s.modelCmeta ∧ (removeEquation s e).1.cmetaMap = s.cmetaMap := by
  unfold removeEquation
  split
  · exact ⟨rfl, rfl, rfl, rfl⟩
  · split <;> (try split) <;> exact ⟨rfl, rfl, rfl, rfl⟩

theorem inv_removeEquation {s : MState} (h : Inv s) (e : Eqn) : Inv (removeEquation s e).1 := by
  rcases removeEquation_cases h.eq e with ⟨_, hr⟩ | ⟨v, he, hl, hr⟩ | ⟨st, t, o, he, hl, hr⟩
  · rw [hr]; exact h
  · rw [hr]
    exact ⟨EqInvOn.of_removeVar h.eq e v he hl, CacheInv.of_none rfl rfl,
      h.reg⟩
  · rw [hr]
    exact ⟨EqInvOn.of_removeOde h.eq e st t o he hl, CacheInv.of_none rfl rfl,
      h.reg⟩

theorem addEquation_cases (s : MState) (e : Eqn) :
    addEquationCore s e true = (s, .raised .valueError) ∨
    (∃ v, e.lhs = .var v ∧ isDefined s v = false ∧ addEquationCore s e true =
      (invalidate { s with varDef := insertKey v e s.varDef, equations := s.equations ++ [e] }, .ok)) ∨
    (∃ st t o, e.lhs = .deriv st t o ∧ o ≤ 1 ∧ isDefined s st = false ∧ addEquationCore s e true =
      (invalidate { s with odeDef := insertKey st e s.odeDef, equations := s.equations ++ [e] }, .ok)) := by
  unfold addEquationCore
  cases hl : e.lhs with
  | var v =>
    by_cases hd : isDefined s v = true
    · simp [hd]
    · have hd' : isDefined s v = false := by simpa using hd
      exact Or.inr (Or.inl ⟨v, rfl, hd', by simp [hd']⟩)
  | deriv st t o =>
    by_cases ho : o > 1
    · simp [ho]
    · by_cases hd : isDefined s st = true
      · simp [ho, hd]
      · have hd' : isDefined s st = false := by simpa using hd
        exact Or.inr (Or.inr ⟨st, t, o, rfl, Nat.le_of_not_lt ho, hd', by simp [ho, hd']⟩)
  | other => simp

theorem inv_addEquation {s : MState} (h : Inv s) (e : Eqn) : Inv (addEquationCore s e true).1 := by
  rcases addEquation_cases s e with hr | ⟨v, hl, hd, hr⟩ | ⟨st, t, o, hl, ho, hd, hr⟩
  · rw [hr]; exact h
  · rw [hr]
    exact ⟨EqInvOn.of_addVar h.eq e v hl hd, CacheInv.of_none rfl rfl,
      h.reg⟩
  · rw [hr]
    exact ⟨EqInvOn.of_addOde h.eq e st t o hl ho hd, CacheInv.of_none rfl rfl,
      h.reg⟩

theorem getDefinition_mem {s : MState} (E : EqInv s) (v : Nat) (e : Eqn) (h : getDefinition s v = some e) :
    e ∈ s.equations := by
  unfold getDefinition at h
  cases ho : s.odeDef.lookup v with
  | some e' =>
    rw [ho] at h; cases h
    have := List.mem_of_lookup _ _ _ ho
    rw [E.odeDef] at this
    exact ((mem_deriveOdeDef _ _ _).mp this).1
  | none =>
    rw [ho] at h
    have := List.mem_of_lookup _ _ _ h
    rw [E.varDef] at this
    exact ((mem_deriveVarDef _ _ _).mp this).1

theorem inv_unregister {s : MState} (h : Inv s) (v : Nat) (hv : v ∈ s.live) :
    Inv (unregister s v).1 ∧ (unregister s v).2 = .ok := by
  have hR := RegInvOn.removeVar h.reg v hv
  unfold unregister
  cases hc : cmetaOf s v with
  | none =>
    simp only [hc] at hR
    exact ⟨⟨h.eq, CacheInv.of_none rfl rfl, hR⟩, rfl⟩
  | some c =>
    simp only [hc] at hR
    have hk : hasKey c s.cmetaMap = true := (hasKey_iff _ _).mpr ⟨v, (h.reg.cmetaIff c v).mpr ⟨hv, hc⟩⟩
    simp only [hk, if_true]
    exact ⟨⟨h.eq, CacheInv.of_none rfl rfl, hR⟩, trivial⟩

/-- under `Inv` the `remove_equation` inside `remove_variable` returns, so the call is `unregister` on the state `s1`
    that leaves (`s` itself when `v` has no definition). The tie holds without `Inv` and does not use this. -/
theorem removeVariable_cases {s : MState} (h : Inv s) (v : Nat) :
    (v ∉ s.live ∧ removeVariable s v = (s, .raised .notInModel)) ∨
    (v ∈ s.live ∧ ∃ s1, Inv s1 ∧ s1.live = s.live ∧ removeVariable s v = unregister s1 v) := by
  unfold removeVariable
  by_cases hv : isLive s v = true
  · have hv' : v ∈ s.live := by simpa [isLive] using hv
    simp only [hv, Bool.not_true, Bool.false_eq_true, if_false]
    refine Or.inr ⟨hv', ?_⟩
    cases hd : getDefinition s v with
    | none => exact ⟨s, h, rfl, rfl⟩
    | some e =>
      have he := getDefinition_mem h.eq v e hd
      rcases removeEquation_cases h.eq e with ⟨hne, _⟩ | ⟨w, _, hl, hr⟩ | ⟨st, t, o, _, hl, hr⟩
      · exact absurd he hne
      · exact ⟨(removeEquation s e).1, inv_removeEquation h e, by rw [hr]; rfl, by simp only [hr]⟩
      · exact ⟨(removeEquation s e).1, inv_removeEquation h e, by rw [hr]; rfl, by simp only [hr]⟩
  · have hv' : v ∉ s.live := by simpa [isLive] using hv
    have hv'' : isLive s v = false := by simpa using hv
    exact Or.inl ⟨hv', by simp only [hv'', Bool.not_false, if_true]⟩

theorem inv_removeVariable {s : MState} (h : Inv s) (v : Nat) : Inv (removeVariable s v).1 := by
  rcases removeVariable_cases h v with ⟨_, hr⟩ | ⟨hv, s1, h1, hl, hr⟩
  · rw [hr]; exact h
  · rw [hr]; exact (inv_unregister h1 v (by rw [hl]; exact hv)).1

/-- a call that only rewrites cmeta ids, on the objects and in the registry. `c'`: the ids of the new state as a free
    function (tied by `hc`), so that `RegInvOn.setCmeta` / `.transfer` apply as they are; `hf`: the objects keep every
    field but `cmeta`. -/
theorem inv_of_cmeta_edit {s s' : MState} (h : Inv s) (hE : s'.equations = s.equations) (hvd : s'.varDef = s.varDef)
    (hod : s'.odeDef = s.odeDef) (hg : s'.graph = s.graph) (hgn : s'.graphNum = s.graphNum) (hl : s'.live = s.live)
    (hmc : s'.modelCmeta = s.modelCmeta) (hno : s'.nextOrder = s.nextOrder)
    (hf : ∀ i : Nat, (s'.heap[i]?).map (fun x => (x.name, x.order, x.init, x.type)) =
      (s.heap[i]?).map (fun x => (x.name, x.order, x.init, x.type)))
    (c' : Nat → Option String) (hc : ∀ i, cmetaOf s' i = c' i)
    (hR : RegInvOn s.modelCmeta s.heap.length (nameOfVar s) c' (orderOf s) s.live s'.cmetaMap s.nextOrder) : Inv s' := by
  have hnames : names s' = names s :=
    List.ext_getElem? fun i => by
      simp only [names, List.getElem?_map]
      exact map_comp_of_map _ (·.1) (hf i)
  have horder : orderOf s' = orderOf s :=
    funext fun i => congrArg (·.getD 0) (map_comp_of_map _ (·.2.1) (hf i))
  refine ⟨h.eq.congr hE hvd hod,
    h.cache.congr hg hgn hnames hE hl (fun i => map_comp_of_map _ (·.2.2.2) (hf i)), ?_⟩
  unfold RegInv
  rw [hmc, length_eq_of_getElem?_map _ hf, show nameOfVar s' = nameOfVar s from funext fun i => by
    simp only [nameOfVar, hnames], funext hc, horder, hl, hno]
  exact hR

theorem inv_addCmetaId {s : MState} (h : Inv s) (v : Nat) : Inv (addCmetaId s v).1 := by
  unfold addCmetaId
  by_cases hv : isLive s v = true
  · have hv' : v ∈ s.live := by simpa [isLive] using hv
    simp only [hv, Bool.not_true, Bool.false_eq_true, if_false]
    cases hc : cmetaOf s v with
    | some c => exact h
    | none =>
      cases hf : freeCmeta s ((nameOfVar s v).replace "$" "__") (s.cmetaMap.length + 1) with
      | none => exact h
      | some c =>
        obtain ⟨_, _, _, _, hfree⟩ := freeCmeta_some _ _ _ hf
        simp only [hasCmetaId, Bool.or_eq_false_iff] at hfree
        have hmc : s.modelCmeta ≠ some c := by intro hm; simp [hm] at hfree
        exact inv_of_cmeta_edit h rfl rfl rfl rfl rfl rfl rfl rfl (getElem?_setVar_cmeta_other_fields s.heap v (some c))
          _ (fun i => cmeta_setVar s.heap v i (some c) (h.reg.liveBound v hv'))
          (RegInvOn.setCmeta h.reg v c hv' hc hfree.2 hmc)
  · have hv'' : isLive s v = false := by simpa using hv
    simp only [hv'', Bool.not_false, if_true]; exact h

theorem inv_transferCmetaId {s : MState} (h : Inv s) (src dst : Nat) : Inv (transferCmetaId s src dst).1 := by
  unfold transferCmetaId
  by_cases hl : (!isLive s src || !isLive s dst) = true
  · simp only [hl, if_true]; exact h
  · have hl' : (!isLive s src || !isLive s dst) = false := by simpa using hl
    simp only [hl', Bool.false_eq_true, if_false]
    simp only [Bool.or_eq_false_iff, Bool.not_eq_false'] at hl'
    have hs : src ∈ s.live := by simpa [isLive] using hl'.1
    have hd : dst ∈ s.live := by simpa [isLive] using hl'.2
    cases hcs : cmetaOf s src with
    | none => exact h
    | some c =>
      cases hcd : cmetaOf s dst with
      | some _ => exact h
      | none =>
        refine inv_of_cmeta_edit h rfl rfl rfl rfl rfl rfl rfl rfl
          (fun i => by rw [getElem?_setVar_cmeta_other_fields, getElem?_setVar_cmeta_other_fields]) _ (fun i => ?_)
          (RegInvOn.transfer h.reg src dst c hs hd hcs hcd)
        show ((setVar (setVar s.heap dst _) src _)[i]?).bind (·.cmeta) = _
        rw [cmeta_setVar _ src i none (by rw [length_setVar]; exact h.reg.liveBound src hs),
          cmeta_setVar s.heap dst i (some c) (h.reg.liveBound dst hd)]
        rfl

theorem queryGraph_of_none {s : MState} (hg : s.graph = none) :
    queryGraph s =
      ({ s with heap := applyTypes s.heap (relevant s.live s.equations) (typeMap s.equations),
                graph := (match buildGraph (names s) s.equations with | .ok g => some g | .error _ => none) },
        buildGraph (names s) s.equations) := by
  unfold queryGraph
  rw [hg]
  cases hb : buildGraph (names s) s.equations <;> simp

theorem queryGraph_of_some {s : MState} {g : Graph} (hg : s.graph = some g) : queryGraph s = (s, .ok g) := by
  unfold queryGraph; rw [hg]

theorem typesSettled_applyTypes (s : MState) (g : Option Graph) :
    TypesSettled { s with heap := applyTypes s.heap (relevant s.live s.equations) (typeMap s.equations), graph := g } := by
  intro i v hv hrel
  have := typeOf_applyTypes s.heap _ (typeMap s.equations) i hrel
  simp only at hv
  rw [hv] at this
  have hlt : i < s.heap.length := by
    have := (List.getElem?_eq_some_iff.mp hv).1
    rwa [length_applyTypes] at this
  simpa [hlt] using this

theorem inv_queryGraph {s : MState} (h : Inv s) : Inv (queryGraph s).1 := by
  cases hg : s.graph with
  | some g => rw [queryGraph_of_some hg]; exact h
  | none =>
    rw [queryGraph_of_none hg]
    have hsame := sameButTypes_applyTypes s.heap (relevant s.live s.equations) (typeMap s.equations)
    have hnum := h.cache.graphNum_none hg
    refine ⟨h.eq, ⟨?_, ?_⟩, h.reg.congr rfl hsame rfl rfl rfl⟩
    · intro g hg'
      refine ⟨?_, typesSettled_applyTypes s _⟩
      rw [hsame.names (s := s)]
      cases hb : buildGraph (names s) s.equations with
      | ok g0 => simp only [hb] at hg'; rw [Option.some.inj hg']
      | error e => simp only [hb] at hg'; cases hg'
    · intro g hg'
      simp only [hnum] at hg'; cases hg'

theorem queryGraph_graph {s s' : MState} {g : Graph} (h : queryGraph s = (s', .ok g)) : s'.graph = some g := by
  cases hg : s.graph with
  | some g0 => rw [queryGraph_of_some hg] at h; cases h; exact hg
  | none =>
    rw [queryGraph_of_none hg] at h
    obtain ⟨h1, h2⟩ := Prod.mk.inj h
    subst h1; simp only [h2]

theorem inv_queryGraphNum {s : MState} (h : Inv s) : Inv (queryGraphNum s).1 := by
  unfold queryGraphNum
  cases hn : s.graphNum with
  | some g => exact h
  | none =>
    have h1 := inv_queryGraph h
    cases hq : queryGraph s with
    | mk s' r =>
      rw [hq] at h1
      cases r with
      | error e => exact h1
      | ok g =>
        have hg := queryGraph_graph hq
        refine ⟨h1.eq, ⟨?_, ?_⟩, h1.reg⟩
        · intro g' hg'; exact h1.cache.graph g' hg'
        · intro g' hg'; simp only [Option.some.injEq] at hg'; exact ⟨g, hg, hg'.symm⟩

theorem queryGraph_snd {s : MState} (C : CacheInv s) : (queryGraph s).2 = buildGraph (names s) s.equations := by
  cases hg : s.graph with
  | some g => rw [queryGraph_of_some hg]; exact (C.graph g hg).1.symm
  | none => rw [queryGraph_of_none hg]

theorem queryGraphNum_of_none {s : MState} (hg : s.graph = none) (hn : s.graphNum = none) :
    (queryGraphNum s).2 = (buildGraph (names s) s.equations).map numGraph := by
  unfold queryGraphNum
  rw [hn]
  simp only [queryGraph_of_none hg]
  cases buildGraph (names s) s.equations <;> rfl

theorem queryGraphNum_snd {s : MState} (C : CacheInv s) :
    (queryGraphNum s).2 = (buildGraph (names s) s.equations).map numGraph := by
  cases hn : s.graphNum with
  | some g =>
    obtain ⟨g0, h0, h1⟩ := C.graphNum g hn
    unfold queryGraphNum; rw [hn, (C.graph g0 h0).1, h1]; rfl
  | none =>
    cases hg : s.graph with
    | none => exact queryGraphNum_of_none hg hn
    | some g0 =>
      unfold queryGraphNum
      rw [hn]
      simp only [queryGraph_of_some hg, (C.graph g0 hg).1]; rfl

theorem typeOf_queryGraph_of_none {s : MState} (hg : s.graph = none) (i : Nat)
    (hi : i ∈ relevant s.live s.equations) :
    typeOf (queryGraph s).1 i = if i < s.heap.length then tyOf (typeMap s.equations) i else none := by
  rw [queryGraph_of_none hg]
  exact typeOf_applyTypes s.heap _ _ i hi

theorem typeOf_queryGraph {s : MState} (C : CacheInv s) (i : Nat) (hi : i ∈ relevant s.live s.equations) :
    typeOf (queryGraph s).1 i = if i < s.heap.length then tyOf (typeMap s.equations) i else none := by
  cases hg : s.graph with
  | none => exact typeOf_queryGraph_of_none hg i hi
  | some g =>
    rw [queryGraph_of_some hg]
    have hts := (C.graph g hg).2
    by_cases hl : i < s.heap.length
    · simp only [hl, if_true, typeOf, List.getElem?_eq_getElem hl, Option.bind_some]
      exact hts i _ (List.getElem?_eq_getElem hl) hi
    · simp [hl, typeOf]

theorem queryGraph_error {s : MState} {e : GErr} (h : (queryGraph s).2 = .error e) : s.graph = none ∧
    (queryGraph s).1 = { s with heap := applyTypes s.heap (relevant s.live s.equations) (typeMap s.equations) } := by
  cases hg : s.graph with
  | some g => rw [queryGraph_of_some hg] at h; cases h
  | none =>
    rw [queryGraph_of_none hg] at h ⊢
    exact ⟨rfl, by simp only [show buildGraph (names s) s.equations = .error e from h]⟩

theorem queryGraphNum_error {s : MState} {e : GErr} (h : (queryGraphNum s).2 = .error e) :
    s.graphNum = none ∧ (queryGraphNum s).1 = (queryGraph s).1 ∧ (queryGraph s).2 = .error e := by
  unfold queryGraphNum at h ⊢
  cases hn : s.graphNum with
  | some g => rw [hn] at h; cases h
  | none =>
    rw [hn] at h
    cases hq : queryGraph s with
    | mk s' r =>
      rw [hq] at h
      cases r with
      | ok g => cases h
      | error e' => exact ⟨rfl, rfl, h⟩

theorem ofGraphResult_fst (r : MState × Except GErr Graph) : (ofGraphResult r).1 = r.1 := by
  obtain ⟨s, r⟩ := r; cases r <;> rfl

theorem ofGraphResult_raised {r : MState × Except GErr Graph} {s' : MState} {e : Err}
    (h : ofGraphResult r = (s', .raised e)) : r.1 = s' ∧ ∃ ge, r.2 = .error ge := by
  obtain ⟨s, r⟩ := r
  cases r with
  | ok g => cases h
  | error ge => exact ⟨(Prod.mk.inj h).1, ge, rfl⟩

theorem inv_init (mc : Option String) : Inv (init mc) := by
  refine ⟨⟨rfl, rfl, List.nodup_nil, (by intro e he; cases he), (by intro e he; cases he)⟩,
    CacheInv.of_none rfl rfl, ?_⟩
  refine {
    liveNodup := List.nodup_nil, liveBound := nofun, namesNodup := List.nodup_nil, cmetaIff := ?_
    cmetaKeys := List.nodup_nil, cmetaModel := nofun, orderInc := List.Pairwise.nil, orderBound := nofun }
  intro c i; simp [init]

theorem inv_step {s : MState} (h : Inv s) (op : Op) : Inv (step s op).1 := by
  cases op with
  | addVariable n c i => exact inv_addVariable h n c i
  | removeVariable v => exact inv_removeVariable h v
  | addEquation e => exact inv_addEquation h e
  | removeEquation e => exact inv_removeEquation h e
  | createQuantity => exact h
  | addCmetaId v => exact inv_addCmetaId h v
  | transferCmetaId a b => exact inv_transferCmetaId h a b
  | qGraph => simp only [step, ofGraphResult_fst]; exact inv_queryGraph h
  | qGraphNum => simp only [step, ofGraphResult_fst]; exact inv_queryGraphNum h
  | qStates => exact h
  | qFree => exact h
  | qDefinition v => simp only [step]; split <;> exact h

/-- the places where the code raises after it has changed something (a `del` on a missing key) are not reached under
    `Inv` -/
theorem step_same_or_ok {s : MState} (h : Inv s) (op : Op) (hq : op ≠ .qGraph) (hn : op ≠ .qGraphNum) :
    (step s op).1 = s ∨ (step s op).2 = .ok := by
  cases op with
  | addVariable n c i =>
    simp only [step, addVariable]
    split
    · exact .inl rfl
    · split
      · exact .inl rfl
      · exact .inr rfl
  | removeVariable v =>
    rcases removeVariable_cases h v with ⟨_, hr⟩ | ⟨hv, s1, h1, hl, hr⟩
    · exact .inl (by simp only [step, hr])
    · exact .inr (by simp only [step, hr]; exact (inv_unregister h1 v (hl ▸ hv)).2)
  | addEquation eq =>
    rcases addEquation_cases s eq with hr | ⟨v, _, _, hr⟩ | ⟨st, t, o, _, _, _, hr⟩
    · exact .inl (by simp only [step, hr])
    · exact .inr (by simp only [step, hr])
    · exact .inr (by simp only [step, hr])
  | removeEquation eq =>
    rcases removeEquation_cases h.eq eq with ⟨_, hr⟩ | ⟨v, _, _, hr⟩ | ⟨st, t, o, _, _, hr⟩
    · exact .inl (by simp only [step, hr])
    · exact .inr (by simp only [step, hr])
    · exact .inr (by simp only [step, hr])
  | createQuantity => exact .inl rfl
  | addCmetaId v =>
    simp only [step, addCmetaId]
    split
    · exact .inl rfl
    · split
      · exact .inl rfl
      · split
        · exact .inl rfl
        · exact .inr rfl
  | transferCmetaId a b =>
    simp only [step, transferCmetaId]
    split
    · exact .inl rfl
    · split
      · exact .inl rfl
      · split
        · exact .inl rfl
        · exact .inr rfl
  | qGraph => exact absurd rfl hq
  | qGraphNum => exact absurd rfl hn
  | qStates => exact .inl rfl
  | qFree => exact .inl rfl
  | qDefinition v =>
    simp only [step]
    split <;> exact .inl rfl

theorem raised_state {s s' : MState} (h : Inv s) (op : Op) (e : Err) (hs : step s op = (s', .raised e)) :
    s' = s ∨ ((op = .qGraph ∨ op = .qGraphNum) ∧ s.graph = none ∧ s.graphNum = none ∧
      s' = { s with heap := applyTypes s.heap (relevant s.live s.equations) (typeMap s.equations) }) := by
  have other : op ≠ .qGraph → op ≠ .qGraphNum → s' = s := fun hq hn => by
    rcases step_same_or_ok h op hq hn with h1 | h1 <;> rw [hs] at h1
    · exact h1
    · cases h1
  cases op with
  | qGraph =>
    obtain ⟨rfl, ge, hq⟩ := ofGraphResult_raised hs
    obtain ⟨hg, hst⟩ := queryGraph_error hq
    exact .inr ⟨.inl rfl, hg, h.cache.graphNum_none hg, hst⟩
  | qGraphNum =>
    obtain ⟨rfl, ge, hq⟩ := ofGraphResult_raised hs
    obtain ⟨hn, hst, hq'⟩ := queryGraphNum_error hq
    obtain ⟨hg, hst'⟩ := queryGraph_error hq'
    exact .inr ⟨.inr rfl, hg, hn, hst.trans hst'⟩
  | _ => exact .inl (other (fun h => nomatch h) (fun h => nomatch h))

theorem stateKeys_nodup {s : MState} (E : EqInv s) : (stateKeys s).Nodup := by
  unfold stateKeys; rw [E.odeDef]
  exact (keys_deriveOdeDef_sublist s.equations).nodup E.nodup

/-- `get_state_variables()` lists the state variables in the order in which `variables()` lists them -/
theorem states_in_variables_order {s : MState} (h : Inv s) (hlive : ∀ k ∈ stateKeys s, k ∈ s.live) :
    getStateVariables s = s.live.filter (fun i => hasKey i s.odeDef) := by
  have hperm : (getStateVariables s).Perm (s.live.filter (fun i => hasKey i s.odeDef)) := by
    refine (sortByKey_perm _ _).trans ?_
    refine (List.perm_ext_iff_of_nodup (stateKeys_nodup h.eq) (h.reg.liveNodup.sublist List.filter_sublist)).mpr ?_
    intro a
    simp only [List.mem_filter]
    constructor
    · intro ha; exact ⟨hlive a ha, (hasKey_iff_mem_keys a s.odeDef).mpr ha⟩
    · rintro ⟨_, ha⟩; exact (hasKey_iff_mem_keys a s.odeDef).mp ha
  have hs1 := sortByKey_sorted (orderOf s) (stateKeys s)
  have hs2 : (s.live.filter (fun i => hasKey i s.odeDef)).Pairwise (fun a b => orderOf s a ≤ orderOf s b) := by
    have := h.reg.orderInc
    rw [List.pairwise_map] at this
    exact (this.imp (fun hab => Nat.le_of_lt hab)).filter _
  refine List.Perm.eq_of_pairwise ?_ hs1 hs2 hperm
  intro a b ha hb hab hba
  have ha' : a ∈ s.live := hlive a ((sortByKey_perm _ _).subset ha)
  have hb' : b ∈ s.live := (List.mem_filter.mp hb).1
  exact pairwise_lt_inj h.reg.orderInc a b ha' hb' (Nat.le_antisymm hab hba)

end Model
