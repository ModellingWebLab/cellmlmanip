import Cellml.Model.Assoc
import Cellml.Basic.ListLemmas

/-! `add_cmeta_id` always finds a free id: among `|cmeta map| + 1` distinct candidates `c`, `c_`, `c__`, … one is not in
    use (pigeonhole), so on a live variable the answer `cmetaFuel` of `Model.addCmetaId` never occurs
    (`addCmetaId_returns`). Core Lean only. -/

namespace Model

/-- the candidates of `while self.has_cmeta_id(cmeta_id): cmeta_id += '_'`: `c`, `c_`, `c__`, … -/
def cand (c : String) : Nat → String
  | 0 => c
  | k + 1 => cand (c ++ "_") k

theorem cand_length (c : String) (k : Nat) : (cand c k).length = c.length + k := by
  induction k generalizing c with
  | zero => rfl
  | succ k ih =>
    show (cand (c ++ "_") k).length = _
    rw [ih, String.length_append]
    show c.length + 1 + k = _
    omega

theorem cand_inj (c : String) (i j : Nat) (h : cand c i = cand c j) : i = j := by
  have := congrArg String.length h
  rw [cand_length, cand_length] at this
  omega

theorem freeCmeta_none {s : MState} : ∀ (n : Nat) (c : String), freeCmeta s c n = none →
    ∀ k, k ≤ n → hasCmetaId s (cand c k) = true := by
  intro n
  induction n with
  | zero =>
    intro c h k hk
    have : k = 0 := by omega
    subst this
    unfold freeCmeta at h
    by_cases hh : hasCmetaId s c = true
    · exact hh
    · rw [if_neg hh] at h; cases h
  | succ n ih =>
    intro c h k hk
    unfold freeCmeta at h
    by_cases hh : hasCmetaId s c = true
    · simp only [hh, if_true] at h
      cases k with
      | zero => exact hh
      | succ k => exact ih _ h k (by omega)
    · rw [if_neg hh] at h; cases h

theorem freeCmeta_some {s : MState} : ∀ (n : Nat) (c c' : String), freeCmeta s c n = some c' →
    ∃ k, k ≤ n ∧ c' = cand c k ∧ (∀ j, j < k → hasCmetaId s (cand c j) = true) ∧ hasCmetaId s c' = false := by
  intro n
  induction n with
  | zero =>
    intro c c' h
    unfold freeCmeta at h
    by_cases hh : hasCmetaId s c = true
    · rw [if_pos hh] at h; cases h
    · rw [if_neg hh] at h; cases h
      exact ⟨0, Nat.le_refl _, rfl, fun j hj => absurd hj (Nat.not_lt_zero _), by simpa using hh⟩
  | succ n ih =>
    intro c c' h
    unfold freeCmeta at h
    by_cases hh : hasCmetaId s c = true
    · simp only [hh, if_true] at h
      obtain ⟨k, hk, he, hall, hfree⟩ := ih _ _ h
      refine ⟨k + 1, by omega, he, ?_, hfree⟩
      intro j hj
      cases j with
      | zero => exact hh
      | succ j => exact hall j (by omega)
    · rw [if_neg hh] at h; cases h
      exact ⟨0, Nat.zero_le _, rfl, fun j hj => absurd hj (Nat.not_lt_zero _), by simpa using hh⟩

/-- the ids `has_cmeta_id` answers True for -/
def usedIds (s : MState) : List String := s.modelCmeta.toList ++ s.cmetaMap.map (·.1)

theorem mem_usedIds {s : MState} {c : String} (h : hasCmetaId s c = true) : c ∈ usedIds s := by
  unfold hasCmetaId at h
  unfold usedIds
  rw [Bool.or_eq_true] at h
  rcases h with h | h
  · have : s.modelCmeta = some c := by simpa using h
    simp [this]
  · exact List.mem_append_right _ ((hasKey_iff_mem_keys c s.cmetaMap).mp h)

/-- **the loop terminates**: with `|registry| + 1` rounds of fuel an unused candidate is always reached -/
theorem freeCmeta_isSome (s : MState) (c : String) : (freeCmeta s c (s.cmetaMap.length + 1)).isSome = true := by
  cases h : freeCmeta s c (s.cmetaMap.length + 1) with
  | some _ => rfl
  | none =>
    exfalso
    have hall := freeCmeta_none _ _ h
    have hlen : (usedIds s).length ≤ s.cmetaMap.length + 1 := by
      unfold usedIds
      cases s.modelCmeta <;> simp
    exact List.pigeon (cand c) (cand_inj c) (usedIds s).length (usedIds s) rfl
      (fun k hk => mem_usedIds (hall k (by omega)))

theorem addCmetaId_returns {s : MState} {v : Nat} (hl : isLive s v = true) : (addCmetaId s v).2 = .ok := by
  unfold addCmetaId
  cases hc : cmetaOf s v with
  | some c => simp [hl]
  | none =>
    have hsome := freeCmeta_isSome s ((nameOfVar s v).replace "$" "__")
    cases hf : freeCmeta s ((nameOfVar s v).replace "$" "__") (s.cmetaMap.length + 1) with
    | none => rw [hf] at hsome; cases hsome
    | some c => simp [hl]

end Model
