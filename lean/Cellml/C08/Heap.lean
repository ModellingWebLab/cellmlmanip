import Cellml.Model.Roles
import Cellml.Basic.ListLemmas

/-! What the objects of the heap say (`nameOfVar`, `cmetaOf`, `orderOf`, `initOf`) after each way the model edits it: an
    object changed in place (`setVar`), the types written by a graph query (`applyTypes`; `SameButTypes`: nothing else
    differs), an object appended. Core Lean only. -/

namespace Model

/-! ### two readings agree when they agree through a projection -/

theorem length_eq_of_getElem?_map {α β} (f : α → β) {l l' : List α}
    (h : ∀ i : Nat, (l'[i]?).map f = (l[i]?).map f) : l'.length = l.length := by
  simpa only [List.length_map] using
    congrArg List.length
      (List.ext_getElem? (l₁ := l'.map f) (l₂ := l.map f) fun i => by simpa only [List.getElem?_map] using h i)

theorem map_comp_of_map {α β γ} (f : α → β) (π : β → γ) {o o' : Option α} (h : o'.map f = o.map f) :
    o'.map (fun x => π (f x)) = o.map (fun x => π (f x)) := by
  simpa only [Option.map_map, Function.comp_def] using congrArg (Option.map π) h

theorem bind_comp_of_map {α β γ} (f : α → β) (π : β → Option γ) {o o' : Option α} (h : o'.map f = o.map f) :
    o'.bind (fun x => π (f x)) = o.bind (fun x => π (f x)) := by
  simpa only [Option.bind_map, Function.comp_def] using congrArg (·.bind π) h

theorem getElem?_setVar (h : List Var) (i j : Nat) (f : Var → Var) :
    (setVar h i f)[j]? = if j = i then (h[j]?).map f else h[j]? := by
  unfold setVar
  cases hi : h[i]? with
  | none =>
    by_cases hj : j = i
    · subst hj; simp [hi]
    · simp [hj]
  | some v =>
    by_cases hj : j = i
    · subst hj; simp [hi, List.getElem?_set]
      have := (List.getElem?_eq_some_iff.mp hi).1
      simp [this]
    · simp [hj, Ne.symm hj]

theorem length_setVar (h : List Var) (i : Nat) (f : Var → Var) : (setVar h i f).length = h.length := by
  unfold setVar; cases h[i]? <;> simp

theorem getElem?_setVar_proj {β} (π : Var → β) (h : List Var) (i j : Nat) (f : Var → Var) (hf : ∀ v, π (f v) = π v) :
    ((setVar h i f)[j]?).map π = (h[j]?).map π := by
  rw [getElem?_setVar]
  split
  · cases h[j]? <;> simp [hf]
  · rfl

theorem names_setVar (h : List Var) (i : Nat) (f : Var → Var) (hf : ∀ v, (f v).name = v.name) :
    (setVar h i f).map (·.name) = h.map (·.name) := by
  apply List.ext_getElem?; intro j
  simp only [List.getElem?_map]
  exact getElem?_setVar_proj (·.name) h i j f hf

-- `hv`: outside the heap `setVar` changes nothing, and the right-hand side would still answer `k` at `i = v`
theorem cmeta_setVar (h : List Var) (v i : Nat) (k : Option String) (hv : v < h.length) :
    ((setVar h v (fun x => { x with cmeta := k }))[i]?).bind (·.cmeta) = if i = v then k else (h[i]?).bind (·.cmeta) := by
  rw [getElem?_setVar]
  by_cases hi : i = v
  · subst hi; simp [List.getElem?_eq_getElem hv]
  · simp [hi]

theorem getElem?_setVar_cmeta_other_fields (h : List Var) (v : Nat) (k : Option String) (i : Nat) :
    ((setVar h v (fun x => { x with cmeta := k }))[i]?).map (fun x => (x.name, x.order, x.init, x.type)) =
      (h[i]?).map (fun x => (x.name, x.order, x.init, x.type)) :=
  getElem?_setVar_proj _ h v i _ (fun _ => rfl)

theorem nameOf_setVar_cmeta (h : List Var) (v i : Nat) (k : Option String) :
    nameOf ((setVar h v (fun x => { x with cmeta := k })).map (·.name)) i = nameOf (h.map (·.name)) i := by
  rw [names_setVar h v (fun x => { x with cmeta := k }) (fun _ => rfl)]

theorem getElem?_applyTypes (h : List Var) (rel : List Nat) (tm : List (Nat × VType)) (i : Nat) :
    (applyTypes h rel tm)[i]? = (h[i]?).map (fun v => if rel.contains i then { v with type := tyOf tm i } else v) := by
  simp [applyTypes, List.getElem?_mapIdx]

theorem length_applyTypes (h : List Var) (rel : List Nat) (tm : List (Nat × VType)) :
    (applyTypes h rel tm).length = h.length := by simp [applyTypes]

theorem typeOf_applyTypes (h : List Var) (rel : List Nat) (tm : List (Nat × VType)) (i : Nat) (hi : i ∈ rel) :
    ((applyTypes h rel tm)[i]?).bind (·.type) = if i < h.length then tyOf tm i else none := by
  rw [getElem?_applyTypes]
  by_cases hl : i < h.length
  · simp [hi, hl]
  · simp [hl]

def regFields (v : Var) : String × Nat × Option String × Option Rat := (v.name, v.order, v.cmeta, v.init)

/-- a change of the heap that leaves name, order, cmeta id and initial value of every object alone -/
def SameButTypes (h h' : List Var) : Prop := ∀ i : Nat, (h'[i]?).map regFields = (h[i]?).map regFields

theorem sameButTypes_applyTypes (h : List Var) (rel : List Nat) (tm : List (Nat × VType)) :
    SameButTypes h (applyTypes h rel tm) := by
  intro i; rw [getElem?_applyTypes]; cases h[i]? with
  | none => rfl
  | some v => simp only [Option.map_some]; split <;> rfl

theorem sameButTypes_eraseTypes (h : List Var) : SameButTypes h (h.map (fun v => { v with type := none })) := by
  intro i; simp only [List.getElem?_map]; cases h[i]? <;> rfl

theorem SameButTypes.refl (h : List Var) : SameButTypes h h := fun _ => rfl

theorem SameButTypes.symm {h h' : List Var} (hs : SameButTypes h h') : SameButTypes h' h := fun i => (hs i).symm

theorem SameButTypes.of_map {h h' : List Var} (e : h'.map regFields = h.map regFields) : SameButTypes h h' :=
  fun i => by simpa only [List.getElem?_map] using congrArg (·[i]?) e

theorem SameButTypes.length {h h' : List Var} (hs : SameButTypes h h') : h'.length = h.length :=
  length_eq_of_getElem?_map regFields hs

section Same
variable {s s' : MState} (hs : SameButTypes s.heap s'.heap)
include hs

theorem SameButTypes.names : names s' = names s :=
  List.ext_getElem? fun i => by
    simp only [Model.names, List.getElem?_map]
    exact map_comp_of_map regFields (·.1) (hs i)

theorem SameButTypes.nameOfVar : nameOfVar s' = nameOfVar s := by
  funext i; simp only [Model.nameOfVar, hs.names]

theorem SameButTypes.cmetaOf : cmetaOf s' = cmetaOf s :=
  funext fun i => bind_comp_of_map regFields (·.2.2.1) (hs i)

theorem SameButTypes.orderOf : orderOf s' = orderOf s :=
  funext fun i => congrArg (·.getD 0) (map_comp_of_map regFields (·.2.1) (hs i))

theorem SameButTypes.initOf : initOf s' = initOf s :=
  funext fun i => bind_comp_of_map regFields (·.2.2.2) (hs i)

end Same

/-! ### an object appended: what the objects say then (for every `i`: beyond the heap both sides are the default) -/
section Snoc
variable {s s' : MState} {x : Var} (hh : s'.heap = s.heap ++ [x]) (i : Nat)
include hh

theorem nameOfVar_snoc : nameOfVar s' i = if i = s.heap.length then x.name else nameOfVar s i := by
  simp only [nameOfVar, nameOf, names, hh, List.getElem?_map, List.getElem?_snoc]; split <;> rfl

theorem cmetaOf_snoc : cmetaOf s' i = if i = s.heap.length then x.cmeta else cmetaOf s i := by
  simp only [cmetaOf, hh, List.getElem?_snoc]; split <;> rfl

theorem orderOf_snoc : orderOf s' i = if i = s.heap.length then x.order else orderOf s i := by
  simp only [orderOf, hh, List.getElem?_snoc]; split <;> rfl

end Snoc

end Model
