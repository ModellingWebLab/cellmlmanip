import Lean
/-! `#audit_module M`: for every theorem declared in module `M`, print the axioms it depends on.
    Used by the harness on every run (the check fails unless each set ⊆ {propext, Classical.choice, Quot.sound}).
    Only theorems are listed; definitions, instances and `example`s are covered by the harness's search for `sorry`,
    `axiom`, `native_decide` … in the text of the files (`grep_forbidden`, `harness/common.py`). -/
open Lean Elab Command

elab "#audit_module " id:ident : command => do
  let env ← getEnv
  let modName := id.getId
  let some idx := env.getModuleIdx? modName | throwError "unknown module {modName}"
  let consts := env.header.moduleData[idx.toNat]!.constNames
  let mut n : Nat := 0
  for c in consts do
    match env.find? c with
    | some (.thmInfo _) =>
        if c.isInternalDetail then continue
        let axs ← liftCoreM (collectAxioms c)
        n := n + 1
        logInfo m!"AUDIT {c} :: {axs.toList}"
    | _ => pure ()
  logInfo m!"AUDIT-COUNT {modName} {n}"
