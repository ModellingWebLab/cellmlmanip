/-! Finitely supported maps `κ → Rat` as association lists: the common representation of
    * scales      (prime ↦ exponent;  ⟦s⟧ = ∏ pᵉ, a positive real),
    * containers  (unit name ↦ exponent; pint's `UnitsContainer`),
    * dimensions  (dimension name ↦ exponent).
    Core Lean only (this file is linked into the compiled driver).

    The *meaning* of a map is its `get` function; all algebra is stated pointwise on `get`, so it holds for
    unnormalised lists too. `norm` produces the canonical form (sorted by key, no zero entries) that the
    driver prints and compares. (`instDecEqExcept`, used by the closed evaluations of the models, stands here because
    this is the first file of the library.) -/

instance instDecEqExcept {ε α : Type} [DecidableEq ε] [DecidableEq α] : DecidableEq (Except ε α)
  | .ok a, .ok b => if h : a = b then isTrue (by rw [h]) else isFalse (by intro h'; cases h'; exact h rfl)
  | .error a, .error b => if h : a = b then isTrue (by rw [h]) else isFalse (by intro h'; cases h'; exact h rfl)
  | .ok _, .error _ => isFalse (by intro h; cases h)
  | .error _, .ok _ => isFalse (by intro h; cases h)

class KeyLt (κ : Type) where
  ltb : κ → κ → Bool

instance : KeyLt Nat := ⟨fun a b => decide (a < b)⟩
instance : KeyLt String := ⟨fun a b => decide (a < b)⟩

abbrev PMap (κ : Type) := List (κ × Rat)

namespace PMap
variable {κ : Type} [DecidableEq κ]

/-- the meaning of a map: total exponent of key `k` -/
def get : PMap κ → κ → Rat
  | [], _ => 0
  | (k', e) :: t, k => (if k' = k then e else 0) + get t k

def add (a b : PMap κ) : PMap κ := a ++ b
def smul (q : Rat) (a : PMap κ) : PMap κ := a.map (fun (k, e) => (k, q * e))
def neg (a : PMap κ) : PMap κ := smul (-1) a
def sub (a b : PMap κ) : PMap κ := add a (neg b)
def single (k : κ) (e : Rat) : PMap κ := [(k, e)]

def Equiv (a b : PMap κ) : Prop := ∀ k, get a k = get b k
infix:50 " ≃ " => Equiv

@[simp] theorem get_nil (k : κ) : get ([] : PMap κ) k = 0 := rfl
@[simp] theorem get_cons (k' : κ) (e : Rat) (t : PMap κ) (k : κ) :
    get ((k', e) :: t) k = (if k' = k then e else 0) + get t k := rfl

@[simp] theorem get_add (a b : PMap κ) (k : κ) : get (add a b) k = get a k + get b k := by
  induction a with
  | nil => simp only [add, List.nil_append, get_nil]; grind
  | cons h t ih =>
      obtain ⟨k', e⟩ := h
      simp only [add, List.cons_append, get_cons] at *
      grind

@[simp] theorem get_smul (q : Rat) (a : PMap κ) (k : κ) : get (smul q a) k = q * get a k := by
  induction a with
  | nil => simp only [smul, List.map_nil, get_nil]; grind
  | cons h t ih =>
      obtain ⟨k', e⟩ := h
      simp only [smul, List.map_cons, get_cons] at *
      grind

@[simp] theorem get_neg (a : PMap κ) (k : κ) : get (neg a) k = - get a k := by
  simp only [neg, get_smul]; grind

@[simp] theorem get_sub (a b : PMap κ) (k : κ) : get (sub a b) k = get a k - get b k := by
  simp only [sub, get_add, get_neg]; grind

@[simp] theorem get_single (k k' : κ) (e : Rat) : get (single k e) k' = if k = k' then e else 0 := by
  simp only [single, get_cons, get_nil]; grind

theorem mem_of_get_ne_zero (l : PMap κ) (k : κ) (h : get l k ≠ 0) : ∃ x, (k, x) ∈ l := by
  induction l with
  | nil => exact absurd rfl h
  | cons hd tl ih =>
      obtain ⟨k', x⟩ := hd
      by_cases hk : k' = k
      · subst hk; exact ⟨x, List.mem_cons_self⟩
      · have : get tl k ≠ 0 := by
          intro h0; apply h; simp only [get_cons, hk, if_false, h0]; grind
        obtain ⟨y, hy⟩ := ih this
        exact ⟨y, List.mem_cons_of_mem _ hy⟩

omit [DecidableEq κ] in
theorem add_nil (a : PMap κ) : add a [] = a := List.append_nil a

theorem Equiv.refl (a : PMap κ) : a ≃ a := fun _ => rfl
theorem Equiv.symm {a b : PMap κ} (h : a ≃ b) : b ≃ a := fun k => (h k).symm
theorem Equiv.trans {a b c : PMap κ} (h₁ : a ≃ b) (h₂ : b ≃ c) : a ≃ c := fun k => (h₁ k).trans (h₂ k)

theorem add_congr {a a' b b' : PMap κ} (ha : a ≃ a') (hb : b ≃ b') : add a b ≃ add a' b' := by
  intro k; simp only [get_add, ha k, hb k]
theorem smul_congr (q : Rat) {a a' : PMap κ} (ha : a ≃ a') : smul q a ≃ smul q a' := by
  intro k; simp only [get_smul, ha k]
theorem neg_congr {a a' : PMap κ} (ha : a ≃ a') : neg a ≃ neg a' := by
  intro k; simp only [get_neg, ha k]
theorem sub_congr {a a' b b' : PMap κ} (ha : a ≃ a') (hb : b ≃ b') : sub a b ≃ sub a' b' := by
  intro k; simp only [get_sub, ha k, hb k]

/-! ### canonical form -/
variable [KeyLt κ]

/-- insert into a list sorted by key, adding exponents, dropping zeros -/
def ins (k : κ) (e : Rat) : PMap κ → PMap κ
  | [] => if e = 0 then [] else [(k, e)]
  | (k', f) :: t =>
      if KeyLt.ltb k k' then (if e = 0 then (k', f) :: t else (k, e) :: (k', f) :: t)
      else if k = k' then (if e + f = 0 then t else (k', e + f) :: t)
      else (k', f) :: ins k e t

def norm : PMap κ → PMap κ
  | [] => []
  | (k, e) :: t => ins k e (norm t)

theorem get_ins (k : κ) (e : Rat) (m : PMap κ) (k₀ : κ) :
    get (ins k e m) k₀ = (if k = k₀ then e else 0) + get m k₀ := by
  induction m with
  | nil => unfold ins; split <;> simp only [get_cons, get_nil] <;> grind
  | cons h t ih =>
      obtain ⟨k', f⟩ := h
      unfold ins
      split
      · split <;> simp only [get_cons] <;> grind
      · split
        · rename_i hk; subst hk
          split <;> simp only [get_cons] <;> grind
        · simp only [get_cons, ih]; grind

@[simp] theorem get_norm (m : PMap κ) (k : κ) : get (norm m) k = get m k := by
  induction m with
  | nil => rfl
  | cons h t ih =>
      obtain ⟨k', e⟩ := h
      simp only [norm, get_ins, ih, get_cons]

theorem norm_equiv (m : PMap κ) : norm m ≃ m := fun k => get_norm m k

theorem key_of_mem_ins {k : κ} {e : Rat} : ∀ (m : PMap κ) (p : κ × Rat), p ∈ ins k e m →
    p.1 = k ∨ ∃ p' ∈ m, p'.1 = p.1 := by
  intro m
  induction m with
  | nil => intro p h; unfold ins at h; split at h <;> simp_all
  | cons hd tl ih =>
      intro p h
      -- whichever of the three branches of `ins` applies, an entry is the new one, an old one, or comes from `ih`
      unfold ins at h
      grind

theorem key_of_mem_norm : ∀ (m : PMap κ) (p : κ × Rat), p ∈ norm m → ∃ p' ∈ m, p'.1 = p.1 := by
  intro m
  induction m with
  | nil => intro p h; cases h
  | cons hd tl ih =>
      intro p h
      rcases key_of_mem_ins _ p h with h' | ⟨p', hp', he⟩
      · exact ⟨hd, List.mem_cons_self, h'.symm⟩
      · obtain ⟨p'', hp'', he'⟩ := ih p' hp'
        exact ⟨p'', List.mem_cons_of_mem _ hp'', he'.trans he⟩

theorem equiv_of_norm_eq {a b : PMap κ} (h : norm a = norm b) : a ≃ b := by
  intro k; rw [← get_norm a, ← get_norm b, h]

def beq (a b : PMap κ) : Bool := decide (norm a = norm b)

theorem equiv_of_beq {a b : PMap κ} (h : beq a b = true) : a ≃ b :=
  equiv_of_norm_eq (of_decide_eq_true h)

def isZero (a : PMap κ) : Bool := decide (norm a = [])

theorem get_of_isZero {a : PMap κ} (h : isZero a = true) (k : κ) : get a k = 0 := by
  have : norm a = norm ([] : PMap κ) := of_decide_eq_true h
  have h2 := equiv_of_norm_eq this k
  simpa only [get_nil] using h2

end PMap
