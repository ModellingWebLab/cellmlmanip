import Cellml.Basic.PMap

/-! Canonical forms are unique: two maps with the same meaning have the same `norm`. Hence the executable test
    `PMap.beq` decides semantic equality *exactly* (soundness is in PMap.lean; this file adds completeness). -/

class LawfulKeyLt (κ : Type) [KeyLt κ] : Prop where
  irrefl : ∀ a : κ, KeyLt.ltb a a = false
  trans : ∀ a b c : κ, KeyLt.ltb a b = true → KeyLt.ltb b c = true → KeyLt.ltb a c = true
  tri : ∀ a b : κ, KeyLt.ltb a b = false → a ≠ b → KeyLt.ltb b a = true

instance : LawfulKeyLt Nat where
  irrefl a := by simp [KeyLt.ltb]
  trans a b c := by simp only [KeyLt.ltb, decide_eq_true_eq]; omega
  tri a b := by simp only [KeyLt.ltb, decide_eq_false_iff_not, decide_eq_true_eq]; omega

instance : LawfulKeyLt String where
  irrefl a := by simp [KeyLt.ltb, String.lt_irrefl]
  trans a b c := by simp only [KeyLt.ltb, decide_eq_true_eq]; exact String.lt_trans
  tri a b := by
    simp only [KeyLt.ltb, decide_eq_false_iff_not, decide_eq_true_eq]
    intro h hne
    rcases Std.lt_trichotomy a b with h' | h' | h'
    · exact absurd h' h
    · exact absurd h' hne
    · exact h'

namespace PMap
variable {κ : Type} [DecidableEq κ] [KeyLt κ] [LawfulKeyLt κ]

def Above (k : κ) (m : PMap κ) : Prop := ∀ x ∈ m, KeyLt.ltb k x.1 = true

inductive Canon : PMap κ → Prop where
  | nil : Canon []
  | cons (k : κ) (e : Rat) (t : PMap κ) : e ≠ 0 → Above k t → Canon t → Canon ((k, e) :: t)

theorem get_of_above {k : κ} {m : PMap κ} (h : Above k m) : get m k = 0 := by
  induction m with
  | nil => rfl
  | cons hd tl ih =>
      obtain ⟨k', e⟩ := hd
      have hk : KeyLt.ltb k k' = true := h (k', e) (by simp)
      have hne : k' ≠ k := by
        intro heq; subst heq; rw [LawfulKeyLt.irrefl] at hk; cases hk
      have := ih (fun x hx => h x (by simp [hx]))
      simp only [get_cons, hne, if_false, this]; grind

theorem get_of_above_lt {k k₀ : κ} {m : PMap κ} (h : Above k m) (hlt : KeyLt.ltb k₀ k = true) : get m k₀ = 0 := by
  apply get_of_above
  intro x hx
  exact LawfulKeyLt.trans _ _ _ hlt (h x hx)

theorem Above.mono {k k' : κ} {m : PMap κ} (h : Above k m) (hlt : KeyLt.ltb k' k = true) : Above k' m :=
  fun x hx => LawfulKeyLt.trans _ _ _ hlt (h x hx)

omit [LawfulKeyLt κ] in
theorem above_ins {k₀ k : κ} {e : Rat} {m : PMap κ} (hm : Above k₀ m) (hk : KeyLt.ltb k₀ k = true) :
    Above k₀ (ins k e m) := by
  intro x hx
  rcases key_of_mem_ins m x hx with h | ⟨p', hp', he⟩
  · rw [h]; exact hk
  · rw [← he]; exact hm p' hp'

theorem canon_ins (k : κ) (e : Rat) {m : PMap κ} (hm : Canon m) : Canon (ins k e m) := by
  induction hm with
  | nil =>
      unfold ins; split
      · exact Canon.nil
      · rename_i he; exact Canon.cons k e [] he (fun x hx => by cases hx) Canon.nil
  | cons k' f t hf habove ht ih =>
      unfold ins
      split
      · rename_i hlt
        split
        · exact Canon.cons k' f t hf habove ht
        · rename_i he
          refine Canon.cons k e _ he ?_ (Canon.cons k' f t hf habove ht)
          intro x hx
          simp only [List.mem_cons] at hx
          rcases hx with rfl | hx
          · exact hlt
          · exact LawfulKeyLt.trans _ _ _ hlt (habove x hx)
      · rename_i hnlt
        split
        · rename_i heq; subst heq
          split
          · exact ht
          · rename_i hne; exact Canon.cons k (e + f) t hne habove ht
        · rename_i hne
          have hgt : KeyLt.ltb k' k = true := LawfulKeyLt.tri k k' (by simpa using hnlt) hne
          exact Canon.cons k' f _ hf (above_ins habove hgt) ih

theorem canon_norm (m : PMap κ) : Canon (norm m) := by
  induction m with
  | nil => exact Canon.nil
  | cons hd tl ih => obtain ⟨k, e⟩ := hd; exact canon_ins k e ih

/-- the first key of a canonical form is not above the first key of an equivalent one: there its exponent would be 0 -/
theorem canon_head_not_lt {k k' : κ} {e f : Rat} {t t' : PMap κ} (he : e ≠ 0) (habove : Above k t)
    (habove' : Above k' t') (h : ((k, e) :: t) ≃ ((k', f) :: t')) : KeyLt.ltb k k' = false := by
  cases h1 : KeyLt.ltb k k' with
  | false => rfl
  | true =>
    have hb0 : get ((k', f) :: t') k = 0 :=
      get_of_above (fun x hx => by
        rcases List.mem_cons.mp hx with rfl | hx
        · exact h1
        · exact LawfulKeyLt.trans _ _ _ h1 (habove' x hx))
    have := h k
    rw [hb0] at this
    simp only [get_cons, if_true, get_of_above habove] at this
    exact absurd (by grind) he

theorem canon_unique {a b : PMap κ} (ha : Canon a) (hb : Canon b) (h : a ≃ b) : a = b := by
  induction ha generalizing b with
  | nil =>
      cases hb with
      | nil => rfl
      | cons k e t he habove _ =>
          have := h k
          simp only [get_nil, get_cons, if_true, get_of_above habove] at this
          exact absurd (by grind) he
  | cons k e t he habove ht ih =>
      cases hb with
      | nil =>
          have := h k
          simp only [get_nil, get_cons, if_true, get_of_above habove] at this
          exact absurd (by grind) he
      | cons k' f t' hf habove' ht' =>
          have hkk : k = k' := Classical.byContradiction fun hne =>
            absurd (LawfulKeyLt.tri k k' (canon_head_not_lt he habove habove' h) hne)
              (by rw [canon_head_not_lt hf habove' habove h.symm]; exact Bool.false_ne_true)
          subst hkk
          have hef : e = f := by
            have := h k
            simp only [get_cons, if_true, get_of_above habove, get_of_above habove'] at this
            grind
          subst hef
          have htt : t ≃ t' := by
            intro p
            have := h p
            simp only [get_cons] at this
            grind
          rw [ih ht' htt]
theorem norm_eq_of_equiv {a b : PMap κ} (h : a ≃ b) : norm a = norm b :=
  canon_unique (canon_norm a) (canon_norm b) ((norm_equiv a).trans (h.trans (norm_equiv b).symm))

theorem norm_eq_iff_equiv {a b : PMap κ} : norm a = norm b ↔ a ≃ b :=
  ⟨equiv_of_norm_eq, norm_eq_of_equiv⟩

theorem beq_iff_equiv {a b : PMap κ} : beq a b = true ↔ a ≃ b := by
  simp only [beq, decide_eq_true_eq]; exact norm_eq_iff_equiv

theorem isZero_iff (a : PMap κ) : isZero a = true ↔ a ≃ [] := by
  have h : norm a = norm ([] : PMap κ) ↔ a ≃ [] := norm_eq_iff_equiv
  simpa [isZero, norm] using h

theorem norm_eq_nil_of_zero (m : PMap κ) (h : ∀ k, get m k = 0) : norm m = [] := by
  have : m ≃ ([] : PMap κ) := fun k => by simp only [h k, get_nil]
  simpa [norm] using norm_eq_of_equiv this

theorem norm_idem (m : PMap κ) : norm (norm m) = norm m := norm_eq_of_equiv (norm_equiv m)

end PMap
