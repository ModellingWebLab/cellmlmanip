/-! `List.lookup` on an association list, seen through its keys `l.map (·.1)`. Core Lean only; what core states with
    `==` on pairs is stated here with `=`, `∈` and the key list, the forms the packages use. -/

namespace List

universe u v
variable {α : Type u} {β : Type v} [BEq α] [LawfulBEq α]

theorem lookup_cons_ite [DecidableEq α] (k a : α) (b : β) (l : List (α × β)) :
    ((a, b) :: l).lookup k = if k = a then some b else l.lookup k := by
  by_cases h : k = a
  · simp [h]
  · simp [List.lookup_cons, beq_eq_false_iff_ne.mpr h, h]

theorem mem_of_lookup (l : List (α × β)) (k : α) (v : β) (h : l.lookup k = some v) : (k, v) ∈ l := by
  obtain ⟨l₁, l₂, rfl, _⟩ := List.lookup_eq_some_iff.mp h
  exact List.mem_append_right _ List.mem_cons_self

theorem lookup_isSome_iff_mem_keys {l : List (α × β)} {k : α} : (l.lookup k).isSome = true ↔ k ∈ l.map (·.1) := by
  simp only [List.lookup_isSome_iff, beq_iff_eq, List.mem_map]
  exact ⟨fun ⟨p, hp, h⟩ => ⟨p, hp, h.symm⟩, fun ⟨p, hp, h⟩ => ⟨p, hp, h.symm⟩⟩

theorem lookup_eq_none_iff_not_mem_keys {l : List (α × β)} {k : α} : l.lookup k = none ↔ k ∉ l.map (·.1) := by
  rw [← lookup_isSome_iff_mem_keys]; cases l.lookup k <;> simp

theorem lookup_eq_some_iff_mem [DecidableEq α] : ∀ {l : List (α × β)}, (l.map (·.1)).Nodup → ∀ {k : α} {v : β},
    l.lookup k = some v ↔ (k, v) ∈ l
  | [], _, _, _ => by simp
  | (a, b) :: l, hn, k, v => by
    rw [List.map_cons, List.nodup_cons] at hn
    rw [lookup_cons_ite, List.mem_cons, Prod.mk.injEq]
    by_cases h : k = a
    · subst h
      have : (k, v) ∉ l := fun hm => hn.1 (List.mem_map_of_mem (f := (·.1)) hm)
      simp [this, eq_comm]
    · simp [h, lookup_eq_some_iff_mem hn.2]

theorem lookup_map_snd {γ : Type _} (h : α → β → γ) : ∀ (l : List (α × β)) (k : α),
    (l.map fun p => (p.1, h p.1 p.2)).lookup k = (l.lookup k).map (h k)
  | [], _ => rfl
  | (a, b) :: l, k => by
    simp only [List.map_cons, List.lookup_cons]
    cases hk : k == a with
    | true => cases eq_of_beq hk; rfl
    | false => exact lookup_map_snd h l k

/-! ### `d[k] = v`, for any function with the two equations of `Model.insertKey` / `Py.setAssoc` (the same text in two
    places that cannot import each other) -/

section Insert
variable [DecidableEq α] {k : α} {v : β} {ins : List (α × β) → List (α × β)}
  (h0 : ins [] = [(k, v)]) (hc : ∀ a b l, ins ((a, b) :: l) = if a = k then (k, v) :: l else (a, b) :: ins l)
include h0 hc

theorem lookup_ins (k' : α) : ∀ l, (ins l).lookup k' = if k' = k then some v else l.lookup k'
  | [] => by simp [h0, lookup_cons_ite]
  | (a, b) :: l => by
    by_cases ha : a = k
    · subst ha
      by_cases hk : k' = a <;> simp [hc, lookup_cons_ite, hk]
    · by_cases hk : k' = a
      · subst hk; simp [hc, ha]
      · simp [hc, lookup_cons_ite, ha, hk, lookup_ins k' l]

omit [BEq α] [LawfulBEq α] in
theorem ins_fresh : ∀ l, k ∉ l.map (·.1) → ins l = l ++ [(k, v)]
  | [], _ => h0
  | (a, b) :: l, h => by
    rw [List.map_cons, List.mem_cons, not_or] at h
    rw [hc, if_neg fun e : a = k => h.1 e.symm, ins_fresh l h.2, List.cons_append]

end Insert

end List
