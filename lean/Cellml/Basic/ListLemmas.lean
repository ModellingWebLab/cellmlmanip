/-! Facts about core `List` functions that several packages need and core does not have. Core Lean only. -/

namespace List
variable {α β : Type}

theorem inj_of_nodup_map (f : α → β) : ∀ (l : List α), (l.map f).Nodup → ∀ x ∈ l, ∀ y ∈ l, f x = f y → x = y := by
  intro l
  induction l with
  | nil => intro _ x hx; cases hx
  | cons a l ih => grind

theorem nodup_snoc {l : List α} {a : α} (h : l.Nodup) (ha : a ∉ l) : (l ++ [a]).Nodup :=
  List.nodup_append.mpr ⟨h, by simp, fun x hx y hy hxy => ha (List.mem_singleton.mp hy ▸ hxy ▸ hx)⟩

theorem append_sep_inj (x : α) : ∀ (a b l₁ l₂ : List α), x ∉ a → x ∉ b → a ++ x :: l₁ = b ++ x :: l₂ → a = b ∧ l₁ = l₂ := by
  intro a
  induction a with
  | nil =>
      intro b l₁ l₂ _ hb h
      cases b with
      | nil => simpa using h
      | cons y b => simp_all
  | cons y a ih =>
      intro b l₁ l₂ ha hb h
      cases b with
      | nil => simp_all
      | cons z b =>
          simp only [List.cons_append, List.cons.injEq, List.mem_cons, not_or] at h ha hb
          exact ⟨by rw [h.1, (ih b l₁ l₂ ha.2 hb.2 h.2).1], (ih b l₁ l₂ ha.2 hb.2 h.2).2⟩

theorem foldl_inv {σ : Type} (f : σ → α → σ) (P : σ → Prop) :
    ∀ (l : List α) (b : σ), P b → (∀ b, ∀ a ∈ l, P b → P (f b a)) → P (l.foldl f b)
  | [], _, h, _ => h
  | a :: l, b, h, hs =>
    foldl_inv f P l _ (hs b a List.mem_cons_self h) fun b a' ha' => hs b a' (List.mem_cons_of_mem _ ha')

theorem length_of_mapM_ok {ε : Type} {f : α → Except ε β} :
    ∀ {l : List α} {rs : List β}, l.mapM f = .ok rs → rs.length = l.length
  | [], rs, h => by cases h; rfl
  | a :: l, rs, h => by
    rw [List.mapM_cons] at h
    cases ha : f a with
    | error e => rw [ha] at h; cases h
    | ok b =>
      cases hl : l.mapM f with
      | error e => rw [ha, hl] at h; cases h
      | ok bs => rw [ha, hl] at h; cases h; simp [length_of_mapM_ok hl]

theorem getElem?_snoc {γ : Type _} (l : List γ) (x : γ) (i : Nat) : (l ++ [x])[i]? = if i = l.length then some x else l[i]? := by
  rcases Nat.lt_trichotomy i l.length with hi | rfl | hi
  · rw [List.getElem?_append_left hi, if_neg (Nat.ne_of_lt hi)]
  · simp
  · rw [if_neg (Nat.ne_of_gt hi), List.getElem?_eq_none (by simp; omega), List.getElem?_eq_none (by omega)]

theorem countP_lt_of {α} (p q : α → Bool) (l : List α) (hpq : ∀ x ∈ l, p x = true → q x = true) (x : α) (hx : x ∈ l)
    (hq : q x = true) (hp : p x = false) : l.countP p < l.countP q := by
  induction l with
  | nil => cases hx
  | cons y ys ih =>
    have hmono : ys.countP p ≤ ys.countP q :=
      List.countP_mono_left (fun z hz hpz => hpq z (List.mem_cons_of_mem _ hz) hpz)
    rcases List.mem_cons.mp hx with rfl | hx'
    · rw [List.countP_cons_of_pos hq, List.countP_cons_of_neg (by simp [hp])]
      omega
    · have ih := ih (fun z hz => hpq z (List.mem_cons_of_mem _ hz)) hx'
      by_cases hpy : p y = true
      · rw [List.countP_cons_of_pos hpy, List.countP_cons_of_pos (hpq y (List.mem_cons_self ..) hpy)]; omega
      · rw [List.countP_cons_of_neg hpy]
        by_cases hqy : q y = true
        · rw [List.countP_cons_of_pos hqy]; omega
        · rw [List.countP_cons_of_neg hqy]; exact ih

theorem pigeon {β : Type} [BEq β] [LawfulBEq β] (f : Nat → β) (hf : ∀ i j, f i = f j → i = j) :
    ∀ (n : Nat) (u : List β), u.length = n → ¬ (∀ k, k ≤ n → f k ∈ u) := by
  intro n
  induction n with
  | zero =>
    intro u hu h
    have := h 0 (Nat.le_refl _)
    rw [List.length_eq_zero_iff.mp hu] at this
    cases this
  | succ n ih =>
    intro u hu h
    have hm := h (n + 1) (Nat.le_refl _)
    refine ih (u.erase (f (n + 1))) (by rw [List.length_erase_of_mem hm, hu]; rfl) ?_
    intro k hk
    have hne : f k ≠ f (n + 1) := fun e => by have := hf _ _ e; omega
    exact (List.mem_erase_of_ne hne).mpr (h k (by omega))

theorem dropWhile_idem (p : α → Bool) : ∀ (l : List α), (l.dropWhile p).dropWhile p = l.dropWhile p
  | [] => rfl
  | c :: cs => by
    rw [List.dropWhile_cons]
    split
    · exact dropWhile_idem p cs
    · rename_i hc; rw [List.dropWhile_cons, if_neg hc]

/-- python's `str.strip`, done twice, is done once: what the first pass leaves begins and ends with an element that stays -/
theorem dropWhile_ends_idem (p : α → Bool) (cs : List α) :
    ((((cs.dropWhile p).reverse.dropWhile p).reverse.dropWhile p).reverse.dropWhile p).reverse =
      ((cs.dropWhile p).reverse.dropWhile p).reverse := by
  cases ha : cs.dropWhile p with
  | nil => simp
  | cons x r =>
    have hx : p x = false := by
      have := List.head?_dropWhile_not p cs
      rwa [ha] at this
    have hb : List.dropWhile p ((List.dropWhile p (x :: r).reverse).reverse) =
        (List.dropWhile p (x :: r).reverse).reverse := by
      rw [List.reverse_cons, List.dropWhile_append]
      split
      · simp [hx]
      · simp [hx]
    rw [hb, List.reverse_reverse, dropWhile_idem]

end List
