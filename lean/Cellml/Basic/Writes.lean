import Cellml.Basic.Assoc

/-! Association lists written by loops: `es.foldl (fun m e => w e ++ m) acc` is the dictionary after
    `for e in es: for (k, v) in w e: m[k] = v` (most recent write first, so `lookup` finds the LAST write).
    Two readings of it: the last write to `x` was made by some `e`, or nobody wrote `x` (`lookup_writes_cases`);
    and, for a loop that only ever writes one value `c`, the closed form (`lookup_writes_const`). Core Lean only. -/

namespace List

variable {α κ ν : Type} [BEq κ] [LawfulBEq κ]

/-- after the loop, `x` holds what the last `e` that wrote it wrote — or what it held before, when nobody wrote it -/
theorem lookup_writes_cases (w : α → List (κ × ν)) (x : κ) : ∀ (es : List α) (acc : List (κ × ν)),
    (∃ e ∈ es, ∃ v, (x, v) ∈ w e ∧ (es.foldl (fun m e => w e ++ m) acc).lookup x = some v) ∨
    ((∀ e ∈ es, ∀ v, (x, v) ∉ w e) ∧ (es.foldl (fun m e => w e ++ m) acc).lookup x = acc.lookup x)
  | [], _ => .inr ⟨fun _ h => (nomatch h), rfl⟩
  | e :: es, acc => by
    rw [foldl_cons]
    rcases lookup_writes_cases w x es (w e ++ acc) with ⟨e', he', h⟩ | ⟨hno, hl⟩
    · exact .inl ⟨e', mem_cons_of_mem _ he', h⟩
    · rw [hl, lookup_append]
      cases hw : (w e).lookup x with
      | some v => exact .inl ⟨e, mem_cons_self, v, mem_of_lookup _ _ _ hw, rfl⟩
      | none =>
        refine .inr ⟨fun e' he' v hv => ?_, rfl⟩
        rcases mem_cons.mp he' with rfl | he'
        · exact absurd (mem_map.mpr ⟨_, hv, rfl⟩) (lookup_eq_none_iff_not_mem_keys.mp hw)
        · exact hno e' he' v hv

/-- a loop that only ever writes `c`: closed form -/
theorem lookup_writes_const (w : α → List (κ × ν)) (c : ν) (hw : ∀ e, ∀ p ∈ w e, p.2 = c) (x : κ)
    (es : List α) (acc : List (κ × ν)) :
    (es.foldl (fun m e => w e ++ m) acc).lookup x
      = if es.any (fun e => (w e).any (·.1 == x)) then some c else acc.lookup x := by
  rcases lookup_writes_cases w x es acc with ⟨e, he, v, hv, hl⟩ | ⟨hno, hl⟩
  · rw [hl, if_pos (any_eq_true.mpr ⟨e, he, any_eq_true.mpr ⟨_, hv, beq_self_eq_true x⟩⟩), ← hw e _ hv]
  · rw [hl, if_neg]
    simp only [any_eq_true, not_exists, not_and]
    rintro e he ⟨k, v⟩ hp hk
    exact hno e he v (eq_of_beq hk ▸ hp)

/-- the loop gives `x` the same value for every order of `es`, provided all who write `x` write the same -/
theorem lookup_writes_perm (w : α → List (κ × ν)) (x : κ) {es es' : List α} (hp : es'.Perm es)
    {acc acc' : List (κ × ν)} (hacc : acc'.lookup x = acc.lookup x)
    (hfun : ∀ e₁ ∈ es, ∀ e₂ ∈ es, ∀ v₁ v₂, (x, v₁) ∈ w e₁ → (x, v₂) ∈ w e₂ → v₁ = v₂) :
    (es'.foldl (fun m e => w e ++ m) acc').lookup x = (es.foldl (fun m e => w e ++ m) acc).lookup x := by
  rcases lookup_writes_cases w x es acc with ⟨e, he, t, hm, hl⟩ | ⟨hno, hl⟩ <;>
    rcases lookup_writes_cases w x es' acc' with ⟨e', he', t', hm', hl'⟩ | ⟨hno', hl'⟩
  · rw [hl, hl', hfun e he e' (hp.mem_iff.mp he') t t' hm hm']
  · exact absurd hm (hno' e (hp.mem_iff.mpr he) t)
  · exact absurd hm' (hno e' (hp.mem_iff.mp he') t')
  · rw [hl, hl', hacc]

end List
