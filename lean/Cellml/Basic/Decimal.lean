import Cellml.Basic.PMap
/-! Decimal text → exact rational (the value Python's `float()` / pint's number parser would round), and
    positive rational → prime-exponent scale. Core Lean only. -/

namespace Decimal

def digitsToNat (cs : List Char) : Option Nat :=
  if cs.isEmpty then none else
  cs.foldl (fun acc c => match acc with
    | none => none
    | some n => if c.isDigit then some (n * 10 + (c.toNat - '0'.toNat)) else none) (some 0)

/-- optional sign then digits -/
def parseInt (s : String) : Option Int :=
  match s.toList with
  | '-' :: r => (fun n => -(n : Int)) <$> digitsToNat r
  | '+' :: r => (fun n => (n : Int)) <$> digitsToNat r
  | r => (fun n => (n : Int)) <$> digitsToNat r

/-- `String.trimAscii` on character lists: drop `Char.isWhitespace` characters at both ends. Same result as
    `s.trimAscii.toString.toList`, but by structural recursion, so `decide` can evaluate it (the library function goes
    through string slices and does not reduce in the kernel). -/
def trimList (cs : List Char) : List Char :=
  ((cs.dropWhile Char.isWhitespace).reverse.dropWhile Char.isWhitespace).reverse

def pow10Rat (k : Int) : Rat :=
  if k ≥ 0 then ((10 ^ k.toNat : Nat) : Rat) else 1 / ((10 ^ (-k).toNat : Nat) : Rat)

/-- `[sign] digits [. digits] [e|E [sign] digits]`, at least one mantissa digit; exact value -/
def parse (s : String) : Option Rat :=
  let cs := trimList s.toList
  let (neg, cs) := match cs with
    | '-' :: r => (true, r)
    | '+' :: r => (false, r)
    | r => (false, r)
  let (mant, ex) := match cs.span (fun c => c != 'e' && c != 'E') with
    | (m, []) => (m, none)
    | (m, _ :: e) => (m, some e)
  let (ip, fp) := match mant.span (· != '.') with
    | (i, []) => (i, [])
    | (i, _ :: f) => (i, f)
  if ip.isEmpty && fp.isEmpty then none else
  if !(ip.all Char.isDigit && fp.all Char.isDigit) then none else
  let digits := ip ++ fp
  match digitsToNat digits with
  | none => none
  | some n =>
    let e10 : Option Int := match ex with
      | none => some 0
      | some e => parseInt (String.ofList e)
    match e10 with
    | none => none
    | some e =>
      let v : Rat := (n : Rat) * pow10Rat (e - fp.length)
      some (if neg then -v else v)

end Decimal

namespace Factor

/-- trial division: exponent of each prime of `n`, smallest first; `fuel` bounds the candidate divisor -/
def go (fuel : Nat) (n d : Nat) (acc : List (Nat × Rat)) : List (Nat × Rat) :=
  match fuel with
  | 0 => if n > 1 then (n, 1) :: acc else acc
  | fuel + 1 =>
    if n ≤ 1 then acc
    else if d * d > n then (n, 1) :: acc
    else if n % d == 0 then
      match acc with
      | (p, e) :: t => if p == d then go fuel (n / d) d ((p, e + 1) :: t) else go fuel (n / d) d ((d, 1) :: acc)
      | [] => go fuel (n / d) d [(d, 1)]
    else go fuel n (d + 1) acc

/-- Candidates up to about 2·10⁶ are tried; what is left when the budget runs out is kept as ONE key, composite if `n`
    has two prime factors above that bound (`nat (2000003 * 2000029) = [(4000064000087, 1)]`): `≃` of scales is then
    finer than equality of the numbers denoted. No theorem speaks of primality. -/
def nat (n : Nat) : PMap Nat := (go (2000000) n 2 []).reverse

/-- scale of a positive rational; `none` for zero or negative -/
def rat (q : Rat) : Option (PMap Nat) :=
  if q ≤ 0 then none
  else some (PMap.norm (PMap.add (nat q.num.toNat) (PMap.neg (nat q.den))))

end Factor
