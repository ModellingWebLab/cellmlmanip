/-! The counting argument of a rotating work list (`Parser._add_units`, `Parser._add_connections`): the head of a deque is
    tried; if it has to wait it goes to the other end and a counter goes up, otherwise the counter is reset. The counter
    is then the length of a suffix of the deque all of whose items were found waiting in the present state, so when it
    passes the length EVERY item is waiting. Core Lean only. -/

/-- the last `it` items of the deque satisfy `p` ("waiting in the present state") -/
def List.Blocked {α : Type} (p : α → Prop) (it : Nat) (dq : List α) : Prop :=
  ∃ front back, dq = front ++ back ∧ back.length = it ∧ ∀ d ∈ back, p d

namespace List.Blocked
variable {α : Type} {p : α → Prop} {it : Nat} {d : α} {rest : List α}

theorem zero (dq : List α) : Blocked p 0 dq := ⟨dq, [], by simp, rfl, fun _ h => by cases h⟩

/-- the counter has passed the length: the whole deque is waiting -/
theorem all (h : Blocked p it (d :: rest)) (hgt : it + 1 > (rest ++ [d]).length) :
    ∀ x ∈ d :: rest, p x := by
  obtain ⟨front, back, hsplit, hlen, hback⟩ := h
  have hfront : front = [] := List.eq_nil_of_length_eq_zero (by
    have := congrArg List.length hsplit
    simp only [List.length_append, List.length_cons, List.length_nil] at this hgt
    omega)
  rw [hsplit, hfront, List.nil_append]
  exact hback

/-- the head waits and goes to the other end -/
theorem rotate (h : Blocked p it (d :: rest)) (hd : p d) (hle : ¬ it + 1 > (rest ++ [d]).length) :
    Blocked p (it + 1) (rest ++ [d]) := by
  obtain ⟨front, back, hsplit, hlen, hback⟩ := h
  cases front with
  | nil =>
      exfalso
      have := congrArg List.length hsplit
      simp only [List.nil_append, List.length_append, List.length_cons, List.length_nil] at hle this
      omega
  | cons f0 front' =>
      simp only [List.cons_append, List.cons.injEq] at hsplit
      refine ⟨front', back ++ [d], by rw [hsplit.2, List.append_assoc], by simp [hlen], fun x hx => ?_⟩
      rcases List.mem_append.mp hx with h | h
      · exact hback x h
      · rw [List.mem_singleton.mp h]; exact hd

end List.Blocked
