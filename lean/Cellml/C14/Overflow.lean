import Cellml.C14.Lemmas

/-! # C14: the overflow edge. `ratToBits` returns infinity exactly from the halfway point between the largest double
    and `2^1024` upwards (IEEE round-to-nearest-even overflow rule), and never below it.
    Large powers of two are kept symbolic (`den · 2^2044` becomes an atom) so that nothing has to be evaluated. -/

namespace C14

/-- scaled halfway point between the largest double and `2^1024`: `(2^54 − 1) · 2^2044` -/
def overflowThreshold : Nat := (2 ^ 54 - 1) * 2 ^ 2044

theorem unit_2045 (den : Nat) : den * 2 ^ 2045 = 2 * (den * 2 ^ 2044) := by
  rw [Nat.pow_succ 2 2044, ← Nat.mul_assoc]
  omega

/-- a grid significand overflows exactly above the top binade, or in it on a carry -/
theorem assemble_eq_inf_iff {j sig : Nat} (hs : sig ≤ 2 ^ 53) (hlo : 0 < j → 2 ^ 52 ≤ sig) :
    assemble j sig = infBits ↔ 2045 < j ∨ j = 2045 ∧ 2 ^ 53 ≤ sig := by
  unfold assemble rawBits infBits
  split <;> split <;> omega

/-- **overflow edge**, both directions at once: the two adjunctions turn "top binade and a carry" into the threshold -/
theorem ratToBits_eq_inf_iff (num den : Nat) (hd : 0 < den) :
    ratToBits num den = infBits ↔ overflowThreshold * den ≤ num * 2 ^ 1074 := by
  rw [ratToBits_eq, overflowThreshold, Nat.mul_assoc, Nat.mul_comm (2 ^ 2044) den]
  generalize num * 2 ^ 1074 = N
  rw [assemble_eq_inf_iff (sig_le N den hd) (sig_ge N den hd)]
  have h44 := spacing_le_iff N den 2044 hd
  have h45 := spacing_le_iff N den 2045 hd
  rw [unit_2045] at h45
  generalize hj : spacing N den = j at *
  by_cases hj45 : j = 2045
  · subst hj45
    have hr := le_roundDivEven_iff N (den * 2 ^ 2045) (2 ^ 53) (Nat.mul_pos hd (two_pow_pos _))
    rw [if_pos (by decide)] at hr
    rw [unit_2045] at hr ⊢
    generalize den * 2 ^ 2044 = Z at *
    omega
  · generalize den * 2 ^ 2044 = Z at *
    omega

theorem ratToBits_finite_of_lt (num den : Nat) (hd : 0 < den)
    (h : num * 2 ^ 1074 < overflowThreshold * den) : ratToBits num den < infBits :=
  Nat.lt_of_le_of_ne (assemble_le_inf _ _) (mt (ratToBits_eq_inf_iff num den hd).1 (Nat.not_le_of_lt h))

/-- from the threshold on the result is infinity (the tie at the threshold goes to the even neighbour, `2^1024`) -/
theorem ratToBits_inf_of_ge (num den : Nat) (hd : 0 < den)
    (h : overflowThreshold * den ≤ num * 2 ^ 1074) : ratToBits num den = infBits :=
  (ratToBits_eq_inf_iff num den hd).2 h

end C14
