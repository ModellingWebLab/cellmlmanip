import Cellml.C14.Binary64
import Cellml.Generated.Tables

/-! # C14 model, part 2: the stages a number passes through in cellmlmanip, as functions on bit patterns.

    | stage                                  | source                                   | model            |
    |----------------------------------------|------------------------------------------|------------------|
    | plain `<cn>`                           | parser.py `_cn_handler`: `float(text.strip())`                | `cnPlain`     |
    | `<cn type="e-notation">m<sep/>e</cn>`  | `float('%se%d' % (m.strip(), int(e.strip())))` — ONE parse   | `cnENotation` |
    | `initial_value="…"`                    | model.py `Variable.__init__`: `float(initial_value)`          | `initialValue`|
    | `Quantity._value`, `float(quantity)`   | model.py `class Quantity`: the float object is stored and returned | `quantityValue` |
    | `get_value`                            | model.py `_get_value`: `float(initial_value)` / `float(rhs)`  | `getValue`    |
    | `d.evalf(FLOAT_PRECISION)`             | model.py `graph_with_sympy_numbers` → `Quantity._eval_evalf(prec)` = `sympy.Float(self._value, prec)` | `evalfStage` |
    | `float(Float)`                         | printer.py `_print_Float`                                      | inside `evalfStage` (`toFloat`) |
    | `str(float)`                           | printer.py `_print_float`: any text that parses back           | `Emits`       |

    sympy's route for `evalf(n)` on a `Quantity` (sympy 1.14, read from its source and observed):
    `prec = dps_to_prec(n)`; `_eval_evalf(prec + 4)` is called; it passes that *bit* count as the `dps` argument of
    `sympy.Float`, which therefore holds the double with `dps_to_prec(prec + 4)` bits (216 for n = 17); `evalf`
    rounds the result to its working precision `prec + 4` (64) and then to `prec` bits (60) — two roundings, visible as
    double rounding at small `n`; `float()` re-rounds to 53 bits (`_as_mpf_val(53)`) and calls `math.ldexp`.
    Each of these is a rounding step of the model (`roundSig`); the theorems show that none of them rounds when the
    translated `FLOAT_PRECISION` gives at least 53 bits. A zero of either sign becomes sympy's integer `Zero`
    (mpmath has no signed zero): the sign bit of `-0.0` is lost there — modelled as it is. -/

namespace C14

/-! ## sympy's precision conversion -/

/-- `sympy.core.evalf.dps_to_prec`: `max(1, int(round((int(n)+1)*3.3219280948873626)))`, as exact decimal arithmetic
    (agreement with the floating-point evaluation is part of the correspondence check) -/
def dpsToPrec (dps : Nat) : Nat :=
  max 1 (roundDivEven ((dps + 1) * 33219280948873626) (10 ^ 16))

/-- the binary precision `evalf(FLOAT_PRECISION)` asks for -/
def evalfPrec (fp : Nat) : Nat := dpsToPrec fp

/-- the binary precision of the `sympy.Float` built inside `Quantity._eval_evalf` (bits passed as dps, 4 guard bits) -/
def innerPrec (fp : Nat) : Nat := dpsToPrec (dpsToPrec fp + 4)

/-! ## binary floats of arbitrary precision (mpmath's `(man, exp)`, scaled by 2^1074 so that `exp ≥ 0`) -/

/-- number of bits of `m` (0 for 0) -/
def bitLen (m : Nat) : Nat := if m = 0 then 0 else Nat.log2 m + 1

/-- mpmath `normalize`: round the significand to `p` bits, nearest-even; unchanged when it already fits -/
def roundSig (p : Nat) (mj : Nat × Nat) : Nat × Nat :=
  let (m, j) := mj
  if bitLen m ≤ p then (m, j)
  else
    let s := bitLen m - p
    (roundDivEven m (2 ^ s), j + s)

/-- `(man, exp)` of a finite magnitude pattern, scaled: value · 2^1074 = man · 2^exp -/
def decodeScaled (b : Nat) : Nat × Nat :=
  let e := b / 2 ^ 52
  let f := b % 2 ^ 52
  if e = 0 then (f, 0) else (2 ^ 52 + f, e - 1)

/-- `math.ldexp(man, exp)`: the double nearest to `man · 2^exp` (scaled) -/
def ldexpScaled (mj : Nat × Nat) : Nat := ratToBits (mj.1 * 2 ^ mj.2) (2 ^ 1074)

/-- `Float.__float__` = `mlib.to_float(self._as_mpf_val(53))`: round to 53 bits, then `ldexp` -/
def toFloat (mj : Nat × Nat) : Nat := ldexpScaled (roundSig 53 mj)

/-- `float(quantity.evalf(fp))` on bit patterns -/
def evalfStage (fp : Nat) (b : Nat) : Nat :=
  if !isFiniteBits b then b                         -- inf/nan: outside the property (sympy turns them into oo/nan)
  else
    let mj := decodeScaled (magOf b)
    if mj.1 = 0 then 0                               -- sympy `Zero`: the sign of -0.0 is dropped here
    else
      let wide := roundSig (innerPrec fp) mj          -- sympy.Float(self._value, prec + 4): bits taken as digits
      let guard := roundSig (evalfPrec fp + 4) wide   -- evalf: `re._to_mpmath(prec + 4)` (working precision)
      let kept := roundSig (evalfPrec fp) guard       -- evalf: `Float._new(re, prec)` (requested precision)
      withSign (isNeg b) (toFloat kept)

/-! ## the stages -/

def cnPlain (text : List Char) : Option Nat := decToBitsL (strip text)

/-- Python `int(text)` for ASCII decimal integers: `ws [sign] digits ws` -/
def parseIntL (cs : List Char) : Option Int :=
  let (neg, u) := takeSign (strip cs)
  let (ds, rest) := spanDigits u
  if ds.isEmpty || !rest.isEmpty then none
  else
    let v : Int := digitsToNat ds
    some (if neg then -v else v)

def digitChar (d : Nat) : Char := Char.ofNat (48 + d)

/-- decimal digits of `n`, most significant first (fuel = n + 1 is always enough) -/
def natDigitsAux : Nat → Nat → List Char → List Char
  | 0, _, acc => acc
  | fuel + 1, n, acc =>
    let acc' := digitChar (n % 10) :: acc
    if n / 10 = 0 then acc' else natDigitsAux fuel (n / 10) acc'

def natDigits (n : Nat) : List Char := natDigitsAux (n + 1) n []

/-- Python `'%d' % z` -/
def renderInt (z : Int) : List Char :=
  if z < 0 then '-' :: natDigits z.natAbs else natDigits z.natAbs

/-- the text cellmlmanip hands to `float()` for an e-notation `<cn>`: `'%se%d' % (mantissa.strip(), int(exponent))` -/
def enotationText (mant : List Char) (z : Int) : List Char := strip mant ++ 'e' :: renderInt z

def cnENotation (mant expo : List Char) : Option Nat :=
  match parseIntL expo with
  | none => none
  | some z => decToBitsL (enotationText mant z)

def initialValue (text : List Char) : Option Nat := decToBitsL text

/-- `Quantity.__init__` stores the float object, `Quantity.__float__` returns `float(self._value)` -/
def quantityValue (b : Nat) : Nat := b

/-- `Model.get_value`: `float(variable.initial_value)` for a state, `float(rhs)` for a variable defined by a number -/
def getValue (b : Nat) : Nat := quantityValue b

/-- the number in the unit-stripped equation, read back with `float()` -/
def strippedValue (b : Nat) : Nat := evalfStage Cellml.Gen.floatPrecision b

/-- the printer may emit any text that `float()` reads back as the same double (`str(float)` is such a text) -/
def Emits (b : Nat) (text : List Char) : Prop := decToBitsL text = some b

/-- how a literal is written in the document -/
inductive Source where
  | plain (text : List Char)
  | enotation (mant expo : List Char)
  | initial (text : List Char)

def sourceBits : Source → Option Nat
  | .plain t => cnPlain t
  | .enotation m e => cnENotation m e
  | .initial t => initialValue t

/-- the exact text that is parsed (once) for a source -/
def sourceText : Source → Option (List Char)
  | .plain t => some (strip t)
  | .enotation m e => (parseIntL e).map (enotationText m)
  | .initial t => some t

/-- everything observable about one literal: quantity, get_value, stripped equation -/
structure Observed where
  quantity : Nat
  getValue : Nat
  stripped : Nat
deriving Repr, DecidableEq

def pipeline (s : Source) : Option Observed :=
  (sourceBits s).map fun b =>
    { quantity := quantityValue b, getValue := getValue (quantityValue b), stripped := strippedValue (quantityValue b) }

/-! ## the contrast: what a two-step reading of e-notation would compute -/

/-- `float(mantissa) * 10**exponent` for `0 ≤ exponent ≤ 22` (where `10**exponent` is an exact double): the mantissa is
    rounded, then the exact product of the two doubles is rounded again -/
def twoStep (mant : List Char) (expo : Nat) : Option Nat :=
  match decToBitsL mant with
  | none => none
  | some b =>
    some (withSign (isNeg b) (ratToBits (scaledOfBits (magOf b) * 10 ^ expo) (2 ^ 1074)))

end C14
