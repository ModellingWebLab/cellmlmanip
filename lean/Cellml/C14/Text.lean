import Cellml.C14.Pipeline

/-! # C14: lemmas about the text side — `'%d'` round trip, digit spans, stripping, and the parse of
    `mantissa ++ "e" ++ exponent` as ONE literal; `Mantissa`, `Sign`, `AllDigits` describe the mantissa text that
    `enotation_single` is stated with. Core Lean only. -/

namespace C14

theorem digitChar_facts : ∀ d, d < 10 → ((digitChar d).isDigit = true ∧ digitVal (digitChar d) = d) := by decide

theorem isDigit_not_special (c : Char) (h : c.isDigit = true) : isWs c = false ∧ c ≠ '-' ∧ c ≠ '+' := by
  have h' : 48 ≤ c.toNat ∧ c.toNat ≤ 57 := by
    simp only [Char.isDigit, Bool.and_eq_true, decide_eq_true_eq] at h
    have h1 : (48 : UInt32).toNat ≤ c.val.toNat := UInt32.le_iff_toNat_le.mp h.1
    have h2 : c.val.toNat ≤ (57 : UInt32).toNat := UInt32.le_iff_toNat_le.mp h.2
    exact ⟨h1, h2⟩
  have ne : ∀ k : Char, (k.toNat < 48 ∨ 57 < k.toNat) → c ≠ k := by
    intro k hk heq; subst heq; omega
  refine ⟨?_, ne '-' (by decide), ne '+' (by decide)⟩
  simp only [isWs, Bool.or_eq_false_iff, beq_eq_false_iff_ne]
  exact ⟨⟨⟨⟨⟨ne ' ' (by decide), ne '\t' (by decide)⟩, ne '\n' (by decide)⟩, ne '\r' (by decide)⟩,
    ne '\x0b' (by decide)⟩, ne '\x0c' (by decide)⟩

def AllDigits (cs : List Char) : Prop := ∀ c ∈ cs, c.isDigit = true

theorem digitsToNat_append (xs ys : List Char) :
    digitsToNat (xs ++ ys) = ys.foldl (fun a c => 10 * a + digitVal c) (digitsToNat xs) := by
  unfold digitsToNat; rw [List.foldl_append]

theorem natDigitsAux_spec : ∀ (fuel n : Nat) (acc : List Char), n < 10 ^ fuel → 1 ≤ fuel →
    ∃ ds, natDigitsAux fuel n acc = ds ++ acc ∧ ds ≠ [] ∧ AllDigits ds ∧
      (∀ a, ds.foldl (fun a c => 10 * a + digitVal c) a = a * 10 ^ ds.length + n) := by
  intro fuel
  induction fuel with
  | zero => intro n acc _ h; omega
  | succ fuel ih =>
    intro n acc hn _
    have hd := digitChar_facts (n % 10) (Nat.mod_lt _ (by decide))
    unfold natDigitsAux
    simp only
    by_cases hq : n / 10 = 0
    · simp only [hq, if_true]
      refine ⟨[digitChar (n % 10)], rfl, by simp, ?_, ?_⟩
      · intro c hc; simp only [List.mem_singleton] at hc; subst hc; exact hd.1
      · intro a; simp only [List.foldl_cons, List.foldl_nil, List.length_singleton, Nat.pow_one, hd.2]; omega
    · simp only [hq, if_false]
      have hfuel : 1 ≤ fuel := by
        rcases Nat.eq_zero_or_pos fuel with h0 | h0
        · subst h0; simp only [Nat.zero_add, Nat.pow_one] at hn; omega
        · exact h0
      have hlt : n / 10 < 10 ^ fuel := by
        rw [Nat.pow_succ] at hn
        exact (Nat.div_lt_iff_lt_mul (by decide)).mpr hn
      obtain ⟨ds, heq, hne, hall, hval⟩ := ih (n / 10) (digitChar (n % 10) :: acc) hlt hfuel
      refine ⟨ds ++ [digitChar (n % 10)], ?_, by simp, ?_, ?_⟩
      · rw [heq]; simp
      · intro c hc
        rcases List.mem_append.mp hc with h | h
        · exact hall c h
        · simp only [List.mem_singleton] at h; subst h; exact hd.1
      · intro a
        rw [List.foldl_append, hval a]
        simp only [List.foldl_cons, List.foldl_nil, hd.2, List.length_append, List.length_singleton]
        rw [Nat.pow_succ, ← Nat.mul_assoc]
        generalize a * 10 ^ ds.length = Y
        omega

theorem lt_ten_pow_succ (n : Nat) : n < 10 ^ (n + 1) :=
  Nat.lt_of_lt_of_le (Nat.lt_pow_self (by decide)) (Nat.pow_le_pow_right (by decide) (Nat.le_succ n))

theorem natDigits_spec (n : Nat) :
    natDigits n ≠ [] ∧ AllDigits (natDigits n) ∧ digitsToNat (natDigits n) = n := by
  obtain ⟨ds, heq, hne, hall, hval⟩ := natDigitsAux_spec (n + 1) n [] (lt_ten_pow_succ n) (by omega)
  unfold natDigits
  rw [heq, List.append_nil]
  refine ⟨hne, hall, ?_⟩
  unfold digitsToNat
  rw [hval 0]; omega

theorem spanDigits_append (ds rest : List Char) (hd : AllDigits ds)
    (h : ∀ c, rest.head? = some c → c.isDigit = false) : spanDigits (ds ++ rest) = (ds, rest) := by
  induction ds with
  | nil =>
    cases rest with
    | nil => rfl
    | cons c r => simp [spanDigits, h c rfl]
  | cons c r ih =>
    have hc : c.isDigit = true := hd c (by simp)
    have hr : AllDigits r := fun x hx => hd x (by simp [hx])
    simp [spanDigits, hc, ih hr]

theorem spanDigits_all (ds : List Char) (hd : AllDigits ds) : spanDigits ds = (ds, []) := by
  have := spanDigits_append ds [] hd (by simp)
  simpa using this

theorem dropWs_of_head (cs : List Char) (h : ∀ c, cs.head? = some c → isWs c = false) : dropWs cs = cs := by
  cases cs with
  | nil => rfl
  | cons c r => have := h c rfl; simp [dropWs, this]

theorem strip_clean (cs : List Char) (h1 : ∀ c, cs.head? = some c → isWs c = false)
    (h2 : ∀ c, cs.getLast? = some c → isWs c = false) : strip cs = cs := by
  unfold strip
  rw [dropWs_of_head cs h1, dropWs_of_head cs.reverse (by simpa [List.head?_reverse] using h2), List.reverse_reverse]

inductive Sign | none | minus | plus
deriving DecidableEq

def Sign.chars : Sign → List Char
  | .none => []
  | .minus => ['-']
  | .plus => ['+']

def Sign.neg : Sign → Bool
  | .minus => true
  | _ => false

theorem takeSign_sign (s : Sign) (rest : List Char)
    (h : ∀ c, rest.head? = some c → c ≠ '-' ∧ c ≠ '+') : takeSign (s.chars ++ rest) = (s.neg, rest) := by
  cases s with
  | minus => rfl
  | plus => rfl
  | none =>
    cases rest with
    | nil => rfl
    | cons c r =>
      have ⟨hm, hp⟩ := h c rfl
      simp only [Sign.chars, List.nil_append, Sign.neg]
      unfold takeSign
      split
      · rename_i heq; cases heq; exact absurd rfl hm
      · rename_i heq; cases heq; exact absurd rfl hp
      · rfl

theorem natDigits_cons (n : Nat) : ∃ c r, natDigits n = c :: r ∧ c.isDigit = true := by
  have ⟨hne, hall, _⟩ := natDigits_spec n
  obtain ⟨c, r, h⟩ := List.exists_cons_of_ne_nil hne
  exact ⟨c, r, h, hall c (h ▸ List.mem_cons_self)⟩

theorem takeSign_renderInt (z : Int) : takeSign (renderInt z) = (decide (z < 0), natDigits z.natAbs) := by
  unfold renderInt
  split
  · rename_i hz
    simp only [takeSign, hz, decide_true]
  · rename_i hz
    obtain ⟨c, r, h, hc⟩ := natDigits_cons z.natAbs
    have := takeSign_sign .none (c :: r) (fun c' hc' => by cases hc'; exact (isDigit_not_special c hc).2)
    simpa only [Sign.chars, Sign.neg, List.nil_append, h, hz, decide_false] using this

theorem parseExpPart_render (z : Int) : parseExpPart ('e' :: renderInt z) = some z := by
  have ⟨_, hall, hval⟩ := natDigits_spec z.natAbs
  obtain ⟨c, r, h, _⟩ := natDigits_cons z.natAbs
  unfold parseExpPart
  simp only [beq_self_eq_true, Bool.true_or, if_true, takeSign_renderInt, spanDigits_all _ hall, hval]
  simp only [h, List.isEmpty_cons, List.isEmpty_nil, Bool.not_true, Bool.or_self, Bool.false_eq_true, if_false,
    Option.some.injEq]
  by_cases hz : z < 0 <;> simp only [hz, decide_true, decide_false, if_true, if_false, Bool.false_eq_true] <;> omega

/-- a mantissa as MathML writes it: optional sign, digits, optionally a point and more digits (not both empty) -/
structure Mantissa where
  sign : Sign
  ip : List Char
  dot : Bool
  fp : List Char
  hip : AllDigits ip
  hfp : AllDigits fp
  hne : ip ≠ [] ∨ fp ≠ []
  hdot : dot = false → fp = []

def Mantissa.chars (m : Mantissa) : List Char :=
  m.sign.chars ++ (m.ip ++ (if m.dot then '.' :: m.fp else []))

def Mantissa.digits (m : Mantissa) : Nat := digitsToNat (m.ip ++ m.fp)

theorem body_char (c : Char) (h : c.isDigit = true ∨ c = '.' ∨ c = 'e') : isWs c = false ∧ c ≠ '-' ∧ c ≠ '+' := by
  rcases h with h | rfl | rfl
  · exact isDigit_not_special c h
  · decide
  · decide

theorem head_e (t : List Char) (c : Char) (h : ('e' :: t).head? = some c) : c = 'e' := (Option.some.inj h).symm

theorem Mantissa.tail_head (m : Mantissa) (rest : List Char) (c : Char)
    (hc : ((if m.dot then '.' :: m.fp else []) ++ rest).head? = some c) : c = '.' ∨ rest.head? = some c := by
  cases hdot : m.dot with
  | true =>
    simp only [hdot, if_true, List.cons_append, List.head?_cons, Option.some.injEq] at hc
    exact Or.inl hc.symm
  | false =>
    simp only [hdot, Bool.false_eq_true, if_false, List.nil_append] at hc
    exact Or.inr hc

theorem Mantissa.body_head (m : Mantissa) (rest : List Char) (hr : ∀ c, rest.head? = some c → c = 'e') (c : Char)
    (hc : (m.ip ++ ((if m.dot then '.' :: m.fp else []) ++ rest)).head? = some c) :
    c.isDigit = true ∨ c = '.' ∨ c = 'e' := by
  cases hip : m.ip with
  | cons x r =>
    simp only [hip, List.cons_append, List.head?_cons, Option.some.injEq] at hc
    exact Or.inl (hc ▸ m.hip x (by rw [hip]; exact List.mem_cons_self))
  | nil =>
    rw [hip, List.nil_append] at hc
    exact Or.inr ((m.tail_head rest c hc).imp_right (hr c))

theorem frac_span (m : Mantissa) (rest : List Char) (h : ∀ c, rest.head? = some c → c.isDigit = false ∧ c ≠ '.') :
    splitFrac ((if m.dot then '.' :: m.fp else []) ++ rest) = (m.fp, rest) := by
  cases hdot : m.dot with
  | true =>
    simp only [if_true, List.cons_append, splitFrac]
    exact spanDigits_append m.fp rest m.hfp (fun c hc => (h c hc).1)
  | false =>
    simp only [Bool.false_eq_true, if_false, List.nil_append, m.hdot hdot]
    cases rest with
    | nil => rfl
    | cons c r =>
      have := (h c rfl).2
      unfold splitFrac
      split
      · rename_i heq; cases heq; exact absurd rfl this
      · rfl

/-- a mantissa followed by nothing or by an exponent part is read as its sign, its digits, and the exponent
    lowered by the number of fraction digits -/
theorem parseBody_mantissa_append (m : Mantissa) (rest : List Char) (hr : ∀ c, rest.head? = some c → c = 'e') :
    parseBody (m.chars ++ rest) =
      (parseExpPart rest).map fun z => (m.sign.neg, m.digits, z - (m.fp.length : Int)) := by
  have he : ∀ c, rest.head? = some c → c.isDigit = false ∧ c ≠ '.' := fun c hc => by
    cases hr c hc; decide
  have hnd : ∀ c, ((if m.dot then '.' :: m.fp else []) ++ rest).head? = some c → c.isDigit = false := fun c hc => by
    rcases m.tail_head rest c hc with rfl | h
    · decide
    · exact (he c h).1
  have hemp : (m.ip.isEmpty && m.fp.isEmpty) = false := by
    rcases m.hne with h | h
    · simp [List.isEmpty_iff, h]
    · simp [List.isEmpty_iff, h]
  unfold parseBody Mantissa.chars
  simp only [List.append_assoc]
  rw [takeSign_sign m.sign _ fun c hc => (body_char c (m.body_head rest hr c hc)).2]
  simp only
  rw [spanDigits_append m.ip _ m.hip hnd]
  simp only
  rw [frac_span m rest he]
  simp only [hemp, Bool.false_eq_true, if_false]
  cases parseExpPart rest <;> rfl

theorem parseBody_mantissa_exp (m : Mantissa) (z : Int) :
    parseBody (m.chars ++ 'e' :: renderInt z) = some (m.sign.neg, m.digits, z - (m.fp.length : Int)) := by
  rw [parseBody_mantissa_append m _ (head_e _), parseExpPart_render]
  rfl

theorem parseBody_mantissa (m : Mantissa) :
    parseBody m.chars = some (m.sign.neg, m.digits, 0 - (m.fp.length : Int)) := by
  have := parseBody_mantissa_append m [] (fun c hc => nomatch hc)
  rwa [List.append_nil] at this

theorem strip_mantissa_exp (m : Mantissa) (z : Int) :
    strip (m.chars ++ 'e' :: renderInt z) = m.chars ++ 'e' :: renderInt z := by
  apply strip_clean
  · intro c hc
    unfold Mantissa.chars at hc
    cases hs : m.sign with
    | minus => simp only [hs, Sign.chars, List.cons_append, List.head?_cons, Option.some.injEq] at hc; subst hc; decide
    | plus => simp only [hs, Sign.chars, List.cons_append, List.head?_cons, Option.some.injEq] at hc; subst hc; decide
    | none =>
      simp only [hs, Sign.chars, List.nil_append, List.append_assoc] at hc
      exact (body_char c (m.body_head _ (head_e _) c hc)).1
  · -- the last character is the last digit of the exponent
    intro c hc
    obtain ⟨x, r, h, _⟩ := natDigits_cons z.natAbs
    have hlast : (m.chars ++ 'e' :: renderInt z).getLast? = (natDigits z.natAbs).getLast? := by
      unfold renderInt
      split <;> simp [h, List.getLast?_append, List.getLast?_cons]
    rw [hlast] at hc
    exact (isDigit_not_special c ((natDigits_spec z.natAbs).2.1 c (List.mem_of_getLast? hc))).1

end C14
