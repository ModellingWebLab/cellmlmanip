import Cellml.C14.Lemmas

/-! # C14: a double read back from its exact value is itself (`bits → exact value → bits` is the identity), and the
    consequence for the `sympy.Float` stage: widening to `p ≥ 53` bits and narrowing again changes nothing
    (`evalfStage_of_prec`). -/

namespace C14

theorem decodeScaled_spec (b : Nat) :
    (decodeScaled b).1 * 2 ^ (decodeScaled b).2 = scaledOfBits b ∧ (decodeScaled b).1 < 2 ^ 53 := by
  unfold decodeScaled scaledOfBits
  simp only
  have hf : b % 2 ^ 52 < 2 ^ 52 := Nat.mod_lt _ (two_pow_pos 52)
  split
  · simp only [Nat.pow_zero, Nat.mul_one, true_and]; omega
  · simp only [true_and]; omega

/-- a grid point is its own rounding: the double nearest to `m·2^j` (`(m, j)` in normal form) is `assemble j m` -/
theorem ratToBits_grid (num den m j : Nat) (hd : 0 < den) (hm : m < 2 ^ 53) (hn : 0 < j → 2 ^ 52 ≤ m)
    (h : num * 2 ^ 1074 = m * (den * 2 ^ j)) : ratToBits num den = assemble j m := by
  have hP : 0 < den * 2 ^ j := Nat.mul_pos hd (two_pow_pos _)
  rw [ratToBits_eq, h, spacing_eq _ den j hd (Nat.mul_lt_mul_of_pos_right hm hP)
    (fun hj => Nat.mul_le_mul_right _ (hn hj)), roundDivEven_exact m _ hP]

theorem decodeScaled_normal (b : Nat) : 0 < (decodeScaled b).2 → 2 ^ 52 ≤ (decodeScaled b).1 := by
  unfold decodeScaled
  simp only
  split
  · exact fun h => absurd h (Nat.lt_irrefl 0)
  · exact fun _ => Nat.le_add_right _ _

theorem assemble_decodeScaled (b : Nat) (hb : b < infBits) :
    assemble (decodeScaled b).2 (decodeScaled b).1 = b := by
  unfold decodeScaled assemble rawBits infBits at *
  simp only
  split <;> split <;> split <;> omega

/-- **round trip**: the double nearest to the exact value of a finite double is that double -/
theorem ratToBits_scaledOfBits (b : Nat) (hb : b < infBits) : ratToBits (scaledOfBits b) (2 ^ 1074) = b := by
  obtain ⟨hval, hlt⟩ := decodeScaled_spec b
  rw [← hval, ratToBits_grid _ _ _ _ (two_pow_pos _) hlt (decodeScaled_normal b)
    (by rw [Nat.mul_assoc, Nat.mul_comm (2 ^ (decodeScaled b).2)]), assemble_decodeScaled b hb]

theorem bitLen_le_of_lt (m p : Nat) (h : m < 2 ^ p) : bitLen m ≤ p := by
  unfold bitLen
  split
  · omega
  · rename_i hm
    have : Nat.log2 m < p := (Nat.log2_lt hm).mpr h
    omega

theorem roundSig_id_53 (p m j : Nat) (hp : 53 ≤ p) (hm : m < 2 ^ 53) : roundSig p (m, j) = (m, j) := by
  unfold roundSig
  simp only [Nat.le_trans (bitLen_le_of_lt m 53 hm) hp, if_true]

/-- `float(sympy.Float(x, p))` for a finite non-zero double `x` and any precision of at least 53 bits at every
    step is `x` again — bit for bit -/
theorem evalfStage_id_of_prec (fp b : Nat) (h1 : 53 ≤ innerPrec fp) (h2 : 53 ≤ evalfPrec fp)
    (hb : b < 2 ^ 64) (hfin : isFiniteBits b = true) (hnz : magOf b ≠ 0) :
    evalfStage fp b = b := by
  unfold evalfStage
  have hmag : magOf b < infBits := by simpa [isFiniteBits] using hfin
  simp only [hfin, Bool.not_true, Bool.false_eq_true, if_false]
  have ⟨hval, hlt⟩ := decodeScaled_spec (magOf b)
  have hm0 : (decodeScaled (magOf b)).1 ≠ 0 := by
    -- a zero significand is in normal form only at spacing 0, and that pattern is 0
    intro h0
    have hj : (decodeScaled (magOf b)).2 = 0 :=
      Nat.eq_zero_of_not_pos fun hj => by have := decodeScaled_normal _ hj; omega
    have := assemble_decodeScaled (magOf b) hmag
    rw [h0, hj] at this
    exact hnz this.symm
  simp only [hm0, if_false]
  generalize hd : decodeScaled (magOf b) = mj at *
  obtain ⟨m, j⟩ := mj
  simp only at hval hlt
  rw [roundSig_id_53 _ m j h1 hlt, roundSig_id_53 _ m j (by omega : 53 ≤ evalfPrec fp + 4) hlt,
    roundSig_id_53 _ m j h2 hlt]
  unfold toFloat
  rw [roundSig_id_53 53 m j (Nat.le_refl _) hlt]
  unfold ldexpScaled
  simp only
  rw [hval, ratToBits_scaledOfBits _ hmag, withSign_magOf b hb]

/-- the `evalf` stage at any precision that keeps 53 bits: the identity, except that a zero loses its sign -/
theorem evalfStage_of_prec (fp b : Nat) (h1 : 53 ≤ innerPrec fp) (h2 : 53 ≤ evalfPrec fp)
    (hb : b < 2 ^ 64) (hfin : isFiniteBits b = true) :
    evalfStage fp b = if magOf b = 0 then 0 else b := by
  split
  · rename_i hz
    unfold evalfStage
    rw [hz]
    simp only [hfin, Bool.not_true, Bool.false_eq_true, if_false]
    rfl
  · exact evalfStage_id_of_prec fp b h1 h2 hb hfin ‹_›

end C14
