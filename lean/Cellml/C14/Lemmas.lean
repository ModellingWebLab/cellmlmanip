import Cellml.C14.Pipeline

/-! # C14: lemmas about the rounding core, the binade location and the field assembly; `ratToBits` returns a nearest
    double, ties to even. Core Lean only (`omega` with products generalised to atoms). -/

namespace C14

/-- `|a − b|` without leaving `Nat`: one of the two truncated differences is 0 -/
def dist (a b : Nat) : Nat := (a - b) + (b - a)

theorem dist_self (a : Nat) : dist a a = 0 := by simp [dist]

theorem dist_le_of_le {n s b y : Nat} (hs : dist n s ≤ dist n b) (hb : b ≤ n) (hy : y ≤ b) : dist n s ≤ dist n y := by
  have h1 : dist n b = n - b := by unfold dist; omega
  have h2 : dist n y = n - y := by unfold dist; omega
  omega

theorem roundDivEven_cases (n d : Nat) :
    (2 * (n % d) < d ∧ roundDivEven n d = n / d) ∨
    (d < 2 * (n % d) ∧ roundDivEven n d = n / d + 1) ∨
    (2 * (n % d) = d ∧ roundDivEven n d = n / d + (n / d) % 2) := by
  unfold roundDivEven
  simp only
  by_cases h1 : 2 * (n % d) < d
  · exact Or.inl ⟨h1, if_pos h1⟩
  · rw [if_neg h1]
    by_cases h2 : 2 * (n % d) > d
    · exact Or.inr (Or.inl ⟨h2, if_pos h2⟩)
    · rw [if_neg h2]
      refine Or.inr (Or.inr ⟨by omega, ?_⟩)
      split <;> omega

/-- round-half-even as an adjunction: `k ≤ round(n/d)` iff `n/d` has reached the half point below `k`
    (strictly passed it when `k` is odd: the tie goes to the even side) -/
theorem le_roundDivEven_iff (n d k : Nat) (hd : 0 < d) :
    k ≤ roundDivEven n d ↔ (if k % 2 = 0 then 2 * (k * d) ≤ 2 * n + d else 2 * (k * d) < 2 * n + d) := by
  have h1 := Nat.div_add_mod n d
  have h2 := Nat.mod_lt n hd
  have hc := roundDivEven_cases n d
  generalize roundDivEven n d = s at *
  generalize n / d = q at *
  generalize n % d = r at *
  rw [Nat.mul_comm d q] at h1
  subst h1
  -- only `k = q + 1` is decided by the remainder: below it both sides hold, above it both fail
  rcases Nat.lt_trichotomy k (q + 1) with hk | hk | hk
  · have a := Nat.mul_le_mul_right d (Nat.le_of_lt_succ hk)
    generalize q * d = X at *
    generalize k * d = Y at *
    exact iff_of_true (by omega) (by split <;> omega)
  · subst hk
    have e := Nat.add_one_mul q d
    generalize (q + 1) * d = Y at *
    generalize q * d = X at *
    split <;> omega
  · have a := Nat.mul_le_mul_right d (Nat.succ_le_of_lt hk)
    rw [Nat.succ_mul, Nat.succ_mul] at a
    generalize q * d = X at *
    generalize k * d = Y at *
    exact iff_of_false (by omega) (by split <;> omega)

/-- within half a unit: `|n - r·d| · 2 ≤ d` (stated without subtraction) -/
theorem roundDivEven_near (n d : Nat) (hd : 0 < d) :
    2 * n ≤ 2 * (roundDivEven n d * d) + d ∧ 2 * (roundDivEven n d * d) ≤ 2 * n + d := by
  have h1 := (le_roundDivEven_iff n d _ hd).1 (Nat.le_refl _)
  have h2 := mt (le_roundDivEven_iff n d (roundDivEven n d + 1) hd).2 (Nat.not_succ_le_self _)
  rw [Nat.add_one_mul (roundDivEven n d) d] at h2
  generalize roundDivEven n d * d = S at *
  constructor
  · split at h2 <;> omega
  · split at h1 <;> omega

theorem roundDivEven_tie_even (n d : Nat) (h : 2 * (n % d) = d) : roundDivEven n d % 2 = 0 := by
  rcases roundDivEven_cases n d with hc | hc | hc <;> omega

theorem roundDivEven_exact (q d : Nat) (hd : 0 < d) : roundDivEven (q * d) d = q := by
  unfold roundDivEven
  simp [Nat.mul_div_cancel _ hd, Nat.mul_mod_left, hd]

theorem roundDivEven_mono {n n' : Nat} (d : Nat) (hd : 0 < d) (h : n ≤ n') : roundDivEven n d ≤ roundDivEven n' d := by
  have := (le_roundDivEven_iff n d _ hd).1 (Nat.le_refl _)
  rw [le_roundDivEven_iff n' d _ hd]
  split <;> simp only [*, if_true, if_false] at this <;> omega

theorem roundDivEven_le (n d k : Nat) (hd : 0 < d) (h : n < k * d) : roundDivEven n d ≤ k :=
  roundDivEven_exact k d hd ▸ roundDivEven_mono d hd (Nat.le_of_lt h)

theorem roundDivEven_ge (n d k : Nat) (hd : 0 < d) (h : k * d ≤ n) : k ≤ roundDivEven n d :=
  roundDivEven_exact k d hd ▸ roundDivEven_mono d hd h

theorem roundDivEven_nearest (n d k : Nat) (hd : 0 < d) :
    dist n (roundDivEven n d * d) ≤ dist n (k * d) := by
  have ⟨h1, h2⟩ := roundDivEven_near n d hd
  generalize roundDivEven n d = s at *
  unfold dist
  rcases Nat.lt_trichotomy k s with hk | hk | hk
  · have e1 : (k + 1) * d ≤ s * d := Nat.mul_le_mul_right d hk
    rw [Nat.add_mul, Nat.one_mul] at e1
    omega
  · subst hk; omega
  · have e1 : (s + 1) * d ≤ k * d := Nat.mul_le_mul_right d hk
    rw [Nat.add_mul, Nat.one_mul] at e1
    omega

theorem two_pow_pos (k : Nat) : 0 < 2 ^ k := Nat.pow_pos (by decide)

/-- the spacing exponent as an adjoint: `spacing N den ≤ k` iff `N/den` lies below the top of binade `k` -/
theorem spacing_le_iff (N den k : Nat) (hd : 0 < den) : spacing N den ≤ k ↔ N < 2 ^ 53 * (den * 2 ^ k) := by
  have e : 2 ^ 53 * (den * 2 ^ k) = 2 ^ (53 + k) * den := by
    rw [Nat.pow_add, Nat.mul_assoc, Nat.mul_comm den]
  rw [e, ← Nat.div_lt_iff_lt_mul hd]
  unfold spacing
  by_cases h0 : N / den = 0
  · rw [h0, Nat.log2_zero]
    exact iff_of_true (Nat.zero_le _) (Nat.pow_pos (by decide))
  · rw [← Nat.log2_lt h0]; omega

/-- above the subnormal range the spacing is not too coarse: `2^52 ≤ N / (den·2^j)` -/
theorem spacing_lo (N den : Nat) (hd : 0 < den) (hj : 0 < spacing N den) :
    2 ^ 52 * (den * 2 ^ spacing N den) ≤ N := by
  -- one binade down `spacing_le_iff` fails: `2^53·(den·2^(j-1)) ≤ N`
  obtain ⟨j, hj'⟩ : ∃ j, spacing N den = j + 1 := ⟨spacing N den - 1, by omega⟩
  have := mt (spacing_le_iff N den j hd).2 (by omega)
  rw [hj', Nat.pow_succ 2 j, ← Nat.mul_assoc den]
  generalize den * 2 ^ j = Z at *
  omega

theorem spacing_eq (N den j : Nat) (hd : 0 < den) (hhi : N < 2 ^ 53 * (den * 2 ^ j))
    (hlo : 0 < j → 2 ^ 52 * (den * 2 ^ j) ≤ N) : spacing N den = j := by
  apply Nat.le_antisymm ((spacing_le_iff N den j hd).2 hhi)
  rcases j with _ | j
  · exact Nat.zero_le _
  · apply Nat.lt_of_not_le
    intro h
    have := (spacing_le_iff N den j hd).1 h
    have := hlo (Nat.succ_pos j)
    rw [Nat.pow_succ 2 j, ← Nat.mul_assoc den] at this
    generalize den * 2 ^ j = Z at *
    omega

/-- the significand the model rounds to: at most `2^53` (a carry), at least `2^52` above the subnormal range -/
theorem sig_le (N den : Nat) (hd : 0 < den) :
    roundDivEven N (den * 2 ^ spacing N den) ≤ 2 ^ 53 :=
  roundDivEven_le _ _ _ (Nat.mul_pos hd (two_pow_pos _)) ((spacing_le_iff N den _ hd).1 (Nat.le_refl _))

theorem sig_ge (N den : Nat) (hd : 0 < den) (hj : 0 < spacing N den) :
    2 ^ 52 ≤ roundDivEven N (den * 2 ^ spacing N den) :=
  roundDivEven_ge _ _ _ (Nat.mul_pos hd (two_pow_pos _)) (spacing_lo N den hd hj)

theorem assemble_le_inf (j sig : Nat) : assemble j sig ≤ infBits := by
  unfold assemble
  split
  · exact Nat.le_refl _
  · omega

theorem assemble_fin (j sig : Nat) (hfin : assemble j sig < infBits) : assemble j sig = rawBits j sig := by
  unfold assemble at *
  split at hfin
  · omega
  · rename_i h; exact if_neg h

theorem scaledOfBits_fields (e f : Nat) (hf : f < 2 ^ 52) :
    scaledOfBits (e * 2 ^ 52 + f) = if e = 0 then f else (2 ^ 52 + f) * 2 ^ (e - 1) := by
  have h1 : (e * 2 ^ 52 + f) / 2 ^ 52 = e := by omega
  have h2 : (e * 2 ^ 52 + f) % 2 ^ 52 = f := by omega
  unfold scaledOfBits
  simp only [h1, h2]

theorem scaled_assemble (j sig : Nat) (hs : sig ≤ 2 ^ 53) (hsub : sig < 2 ^ 52 → j = 0)
    (hfin : assemble j sig < infBits) : scaledOfBits (assemble j sig) = sig * 2 ^ j := by
  rw [assemble_fin j sig hfin, rawBits]
  by_cases h52 : sig < 2 ^ 52
  · have := scaledOfBits_fields 0 sig h52
    rw [Nat.zero_mul, Nat.zero_add, if_pos rfl] at this
    rw [if_pos h52, this, hsub h52, Nat.pow_zero, Nat.mul_one]
  · rw [if_neg h52]
    by_cases hc : sig = 2 ^ 53
    · -- a carry: the pattern is that of `2^52` one binade up
      subst hc
      have := scaledOfBits_fields (j + 2) 0 (by decide)
      rw [if_neg (by omega), Nat.add_zero, Nat.add_zero] at this
      rw [show (j + 1) * 2 ^ 52 + (2 ^ 53 - 2 ^ 52) = (j + 2) * 2 ^ 52 by omega, this,
        show j + 2 - 1 = j + 1 from rfl, Nat.pow_succ 2 j]
      generalize 2 ^ j = X
      omega
    · have := scaledOfBits_fields (j + 1) (sig - 2 ^ 52) (by omega)
      rw [if_neg (by omega), Nat.add_sub_cancel, show 2 ^ 52 + (sig - 2 ^ 52) = sig by omega] at this
      exact this

theorem assemble_parity (j sig : Nat) (hfin : assemble j sig < infBits) :
    assemble j sig % 2 = sig % 2 := by
  rw [assemble_fin j sig hfin, rawBits]
  split
  · rfl
  · omega

theorem ratToBits_eq (num den : Nat) :
    ratToBits num den =
      assemble (spacing (num * 2 ^ 1074) den)
        (roundDivEven (num * 2 ^ 1074) (den * 2 ^ spacing (num * 2 ^ 1074) den)) := rfl

/-- the scaled value of the result, times `den`, is `sig` units `den·2^j`: one rounding of `N / (den·2^j)`, nothing
    else -/
theorem ratToBits_scaled (num den : Nat) (hd : 0 < den) (hfin : ratToBits num den < infBits) :
    scaledOfBits (ratToBits num den) * den =
      roundDivEven (num * 2 ^ 1074) (den * 2 ^ spacing (num * 2 ^ 1074) den) *
        (den * 2 ^ spacing (num * 2 ^ 1074) den) := by
  rw [ratToBits_eq] at *
  rw [scaled_assemble _ _ (sig_le _ _ hd) _ hfin, Nat.mul_assoc, Nat.mul_comm (2 ^ _) den]
  intro hlt
  rcases Nat.eq_zero_or_pos (spacing (num * 2 ^ 1074) den) with h | h
  · exact h
  · have := sig_ge _ _ hd h; omega

/-- **nearest**: no double `m · 2^i` (`m < 2^53`, any `i ≥ 0` on the scaled grid — this includes all finite doubles and
    every larger binade) is closer to `num/den` than the value of `ratToBits num den`. Stated cross-multiplied by `den`
    with `N = num · 2^1074`: `|N − v·den| ≤ |N − m·2^i·den|`. -/
theorem ratToBits_nearest (num den : Nat) (hd : 0 < den) (hfin : ratToBits num den < infBits)
    (m i : Nat) (hm : m < 2 ^ 53) :
    dist (num * 2 ^ 1074) (scaledOfBits (ratToBits num den) * den)
      ≤ dist (num * 2 ^ 1074) (m * 2 ^ i * den) := by
  rw [ratToBits_scaled num den hd hfin]
  generalize hN : num * 2 ^ 1074 = N
  generalize hj : spacing N den = j
  have hP : 0 < den * 2 ^ j := Nat.mul_pos hd (two_pow_pos _)
  by_cases hij : j ≤ i
  · -- the competitor is a multiple of the spacing
    have e2 : m * 2 ^ i * den = (m * 2 ^ (i - j)) * (den * 2 ^ j) := by
      have : i = (i - j) + j := by omega
      rw [this, Nat.pow_add, Nat.add_sub_cancel]
      simp only [Nat.mul_assoc, Nat.mul_comm, Nat.mul_left_comm]
    rw [e2]
    exact roundDivEven_nearest N (den * 2 ^ j) _ hP
  · -- the competitor lies in a lower binade: it is below `2^52 · 2^j`, itself a multiple and below `N`
    have hjpos : 0 < j := by omega
    have hlo : 2 ^ 52 * (den * 2 ^ j) ≤ N := by
      have := spacing_lo N den hd (by rw [hj]; exact hjpos)
      rw [hj] at this; exact this
    have hstep := roundDivEven_nearest N (den * 2 ^ j) (2 ^ 52) hP
    have hy : m * 2 ^ i * den ≤ 2 ^ 52 * (den * 2 ^ j) := by
      have h1 : m * 2 ^ i ≤ 2 ^ 53 * 2 ^ i := Nat.mul_le_mul_right _ (Nat.le_of_lt hm)
      have h2 : 2 ^ i * 2 ≤ 2 ^ j := by
        rw [← Nat.pow_succ]; exact Nat.pow_le_pow_right (by decide) (by omega)
      have h3 : 2 ^ 53 * 2 ^ i ≤ 2 ^ 52 * 2 ^ j := by
        have : 2 ^ 53 * 2 ^ i = 2 ^ 52 * (2 ^ i * 2) := by
          generalize 2 ^ i = X; omega
        rw [this]; exact Nat.mul_le_mul_left _ h2
      have h4 : m * 2 ^ i * den ≤ 2 ^ 52 * 2 ^ j * den := Nat.mul_le_mul_right _ (Nat.le_trans h1 h3)
      have h5 : 2 ^ 52 * 2 ^ j * den = 2 ^ 52 * (den * 2 ^ j) := by
        rw [Nat.mul_assoc, Nat.mul_comm (2 ^ j) den]
      omega
    exact dist_le_of_le hstep hlo hy

/-- **within half a unit of the spacing** (`P = den · 2^j` is one unit, cross-multiplied) -/
theorem ratToBits_half_unit (num den : Nat) (hd : 0 < den) (hfin : ratToBits num den < infBits) :
    2 * dist (num * 2 ^ 1074) (scaledOfBits (ratToBits num den) * den)
      ≤ den * 2 ^ spacing (num * 2 ^ 1074) den := by
  rw [ratToBits_scaled num den hd hfin]
  generalize num * 2 ^ 1074 = N
  generalize spacing N den = j
  have hP : 0 < den * 2 ^ j := Nat.mul_pos hd (two_pow_pos _)
  have ⟨h1, h2⟩ := roundDivEven_near N (den * 2 ^ j) hP
  generalize roundDivEven N (den * 2 ^ j) * (den * 2 ^ j) = S at *
  unfold dist; omega

/-- **ties to even**: when `num/den` is exactly halfway between two adjacent grid points the pattern is even -/
theorem ratToBits_tie_even (num den : Nat) (hfin : ratToBits num den < infBits)
    (htie : 2 * ((num * 2 ^ 1074) % (den * 2 ^ spacing (num * 2 ^ 1074) den))
              = den * 2 ^ spacing (num * 2 ^ 1074) den) :
    ratToBits num den % 2 = 0 := by
  rw [ratToBits_eq] at *
  rw [assemble_parity _ _ hfin]
  exact roundDivEven_tie_even _ _ htie

theorem withSign_magOf (b : Nat) (hb : b < 2 ^ 64) : withSign (isNeg b) (magOf b) = b := by
  unfold withSign isNeg magOf signBit
  by_cases h : 2 ^ 63 ≤ b
  · simp only [h, decide_true, if_true]; omega
  · simp only [h, decide_false]
    have : b % 2 ^ 63 = b := Nat.mod_eq_of_lt (by omega)
    simp [this]

theorem magOf_withSign (neg : Bool) (mag : Nat) (h : mag < signBit) : magOf (withSign neg mag) = mag := by
  unfold withSign magOf; split
  · rw [Nat.add_mod_left]; exact Nat.mod_eq_of_lt h
  · exact Nat.mod_eq_of_lt h

theorem isNeg_withSign (neg : Bool) (mag : Nat) (h : mag < signBit) : isNeg (withSign neg mag) = neg := by
  unfold withSign isNeg; cases neg <;> simp <;> omega

theorem withSign_lt (neg : Bool) (mag : Nat) (h : mag ≤ infBits) : withSign neg mag < 2 ^ 64 := by
  have : infBits < 2 ^ 63 := by decide
  unfold withSign signBit; split <;> omega

end C14
