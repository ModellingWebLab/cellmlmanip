import Cellml.Load.Loader

/-! # What each stage of the loader has checked when it returns

    For the functions of `Load/Loader.lean` that walk over components, connections and maths: if the function returned
    `.ok`, every site it walked over is free of the fault it tests for, and the accumulator is what the walk collected.
    Nothing here depends on how the units were obtained (`reg`, `ust` arbitrary). The contrapositives are the refusals
    of C17. -/

namespace Load

/-- the two interfaces through which the ends of a connection see each other: public/public for siblings, the parent's
    private and the child's public interface otherwise; `none` when the components are not adjacent -/
def faces (par : ParentMap) (c : Conn) (i1 i2 : VarInfo) : Option (Iface × Iface) :=
  if par.lookup c.c1 = par.lookup c.c2 then some (i1.pub, i2.pub)
  else if par.lookup c.c2 = some c.c1 then some (i1.priv, i2.pub)
  else if par.lookup c.c1 = some c.c2 then some (i1.pub, i2.priv)
  else none

/-- `direction` in closed form: both ends declared, and the facing interfaces are `out`/`in` or `in`/`out` -/
theorem direction_eq (par : ParentMap) (vt : VarTable) (c : Conn) : direction par vt c =
    match vt.lookup c.end1, vt.lookup c.end2 with
    | none, _ => .error (.keyError (c.c1 ++ "$" ++ c.v1))
    | _, none => .error (.keyError (c.c2 ++ "$" ++ c.v2))
    | some i1, some i2 =>
      match faces par c i1 i2 with
      | some (.out, .inn) => .ok (c.end1, c.end2)
      | some (.inn, .out) => .ok (c.end2, c.end1)
      | _ => .error (.valueError "Cannot determine the source & target for connection") := by
  unfold direction
  cases vt.lookup c.end1 with
  | none => rfl
  | some i1 =>
    cases vt.lookup c.end2 with
    | none => rfl
    | some i2 =>
      dsimp only
      unfold faces directionPC
      by_cases hs : par.lookup c.c1 = par.lookup c.c2
      · simp only [if_pos hs]; cases i1.pub <;> cases i2.pub <;> rfl
      simp only [if_neg hs]
      by_cases hp : par.lookup c.c2 = some c.c1
      · simp only [if_pos hp]; cases i1.priv <;> cases i2.pub <;> rfl
      simp only [if_neg hp]
      by_cases hq : par.lookup c.c1 = some c.c2
      · simp only [if_pos hq]; cases i1.pub <;> cases i2.priv <;> rfl
      · simp only [if_neg hq]

/-- `_add_variables` of one component has registered the identities of its variables, which stay distinct, and has
    found every unit -/
theorem checkVars_ok {ust : Units.Store} {cname : String} : ∀ (ds : List VarDecl) (names : List VRef)
    (ids : List String) (r : List VRef × List String), checkVars ust cname ds (names, ids) = .ok r →
    r.1 = (ds.map (fun d => (entry ust cname d).1)).reverse ++ names ∧ (names.Nodup → r.1.Nodup) ∧
      ∀ d ∈ ds, ∃ k, Units.getUnit ust d.units = .ok k
  | [], _, _, _, h => by cases h; simp
  | d0 :: ds, names, ids, r, h => by
      unfold checkVars at h
      split at h
      · cases h
      · rename_i k hk
        split at h
        · cases h
        · rename_i hn
          -- with or without a cmeta id, the walk goes on from the same names
          obtain ⟨ids', h'⟩ : ∃ ids', checkVars ust cname ds ((cname, d0.name) :: names, ids') = .ok r := by
            split at h
            · split at h
              · cases h
              · exact ⟨_, h⟩
            · exact ⟨_, h⟩
          obtain ⟨h1, h2, h3⟩ := checkVars_ok ds _ ids' r h'
          exact ⟨by rw [h1]; simp [entry], fun hnd => h2 (List.nodup_cons.mpr ⟨by simpa using hn, hnd⟩),
            List.forall_mem_cons.mpr ⟨⟨k, hk⟩, h3⟩⟩

/-- `_add_components`: distinct component names, every unit found, and the identities of the variable table
    registered, pairwise distinct if those before were -/
theorem checkComps_ok {ust : Units.Store} : ∀ (cs : List Comp) (seen : List String) (names : List VRef)
    (ids : List String) (r : List VRef × List String), checkComps ust cs seen (names, ids) = .ok r →
    (cs.map (·.name)).Nodup ∧ (∀ c ∈ cs, c.name ∉ seen) ∧
      (∀ c ∈ cs, ∀ d ∈ c.vars, ∃ k, Units.getUnit ust d.units = .ok k) ∧
      r.1 = ((varTable ust cs).map (·.1)).reverse ++ names ∧ (names.Nodup → r.1.Nodup)
  | [], _, _, _, _, h => by cases h; simp [varTable]
  | c :: cs, seen, names, ids, r, h => by
      unfold checkComps at h
      split at h
      · cases h
      · rename_i hseen
        split at h
        · cases h
        · rename_i acc' hv
          obtain ⟨n1, i1⟩ := acc'
          obtain ⟨v1, v2, v3⟩ := checkVars_ok _ _ _ _ hv
          obtain ⟨ih1, ih2, ih3, ih4, ih5⟩ := checkComps_ok cs (c.name :: seen) n1 i1 r h
          simp only at v1
          refine ⟨?_, ?_, List.forall_mem_cons.mpr ⟨v3, ih3⟩, ?_, fun hnd => ih5 (v2 hnd)⟩
          · simp only [List.map_cons, List.nodup_cons]
            refine ⟨?_, ih1⟩
            intro hm
            obtain ⟨c', hc', he⟩ := List.mem_map.mp hm
            exact ih2 c' hc' (by rw [he]; exact List.mem_cons_self)
          · intro c' hc'
            rcases List.mem_cons.mp hc' with rfl | hc'
            · simpa using hseen
            · exact fun hm => ih2 c' hc' (List.mem_cons_of_mem _ hm)
          · rw [ih4, v1]
            simp [varTable]

theorem directAll_ok {comps : List String} {par : ParentMap} {vt : VarTable} :
    ∀ {ks : List Conn} {dl : List (VRef × VRef)}, directAll comps par vt ks = .ok dl →
      ks.map (direction par vt) = dl.map Except.ok ∧
      ∀ k ∈ ks, comps.contains k.c1 = true ∧ comps.contains k.c2 = true
  | [], dl, h => by simp only [directAll, Except.ok.injEq] at h; subst h; simp
  | k :: ks, dl, h => by
      unfold directAll at h
      split at h
      · cases h
      · rename_i h1
        split at h
        · cases h
        · rename_i h2
          split at h
          · cases h
          · rename_i d hd
            split at h
            · cases h
            · rename_i ds hds
              simp only [Except.ok.injEq] at h; subst h
              obtain ⟨ih1, ih2⟩ := directAll_ok hds
              refine ⟨by simp only [List.map_cons, hd, ih1], ?_⟩
              intro k' hk'
              rcases List.mem_cons.mp hk' with rfl | hk'
              · exact ⟨by simpa using h1, by simpa using h2⟩
              · exact ih2 k' hk'

theorem directAll_of_map {comps : List String} {par : ParentMap} {vt : VarTable} :
    ∀ {ks : List Conn} {dl : List (VRef × VRef)},
      (∀ k ∈ ks, comps.contains k.c1 = true ∧ comps.contains k.c2 = true) →
      ks.map (direction par vt) = dl.map Except.ok → directAll comps par vt ks = .ok dl
  | [], [], _, _ => rfl
  | [], _ :: _, _, h => by cases h
  | _ :: _, [], _, h => by cases h
  | k :: ks, d :: ds, hc, h => by
      simp only [List.map_cons, List.cons.injEq] at h
      obtain ⟨h1, h2⟩ := hc k List.mem_cons_self
      unfold directAll
      simp only [h1, h2, Bool.not_true, Bool.false_eq_true, if_false, h.1,
        directAll_of_map (fun k' hk' => hc k' (List.mem_cons_of_mem _ hk')) h.2]

theorem checkIdent_ok {vt : VarTable} {cname x : String} (h : checkIdent vt cname x = .ok ()) :
    (vt.lookup (cname, x)).isSome = true := by
  unfold checkIdent at h
  split at h
  · assumption
  · cases h

theorem checkLhs_ok {vt : VarTable} {cname : String} {l : Lhs String} (h : checkLhs vt cname l = .ok ()) :
    ∀ x ∈ l.idents, (vt.lookup (cname, x)).isSome = true := by
  cases l with
  | var a =>
      simp only [checkLhs] at h
      simp only [Lhs.idents]
      simpa using checkIdent_ok h
  | diff x t =>
      simp only [checkLhs] at h
      split at h
      · rename_i ht
        intro y hy
        simp only [Lhs.idents, List.mem_cons, List.not_mem_nil, or_false] at hy
        rcases hy with rfl | rfl
        · exact checkIdent_ok h
        · exact checkIdent_ok ht
      · cases h

theorem checkExpr_ok {ust : Units.Store} {vt : VarTable} {cname : String} :
    ∀ (e : Expr String String), checkExpr ust vt cname e = .ok () →
      (∀ x ∈ e.idents, (vt.lookup (cname, x)).isSome = true) ∧
      (∀ u ∈ e.unitsUsed, ∃ k, Units.getUnit ust u = .ok k) := by
  intro e
  induction e with
  | num q u =>
      intro h
      unfold checkExpr at h
      split at h
      · rename_i k hk; simp only [Expr.idents, Expr.unitsUsed]; exact ⟨by simp, by simpa using ⟨k, hk⟩⟩
      · cases h
  | var a => intro h; exact ⟨checkLhs_ok (l := .var a) h, by simp [Expr.unitsUsed]⟩
  | diff x t => intro h; exact ⟨checkLhs_ok (l := .diff x t) h, by simp [Expr.unitsUsed]⟩
  | add a b iha ihb | sub a b iha ihb | mul a b iha ihb | div a b iha ihb =>
      intro h
      simp only [checkExpr] at h
      split at h
      · rename_i ha
        obtain ⟨a1, a2⟩ := iha ha
        obtain ⟨b1, b2⟩ := ihb h
        simp only [Expr.idents, Expr.unitsUsed, List.mem_append]
        exact ⟨fun x hx => hx.elim (a1 x) (b1 x), fun u hu => hu.elim (a2 u) (b2 u)⟩
      · cases h
  | neg a iha => intro h; simp only [checkExpr] at h; exact iha h
  | powi a n iha => intro h; simp only [checkExpr] at h; exact iha h

/-- the flat variable an equation of component `cname` defines -/
def lhsRoot (st : CState) (cname : String) (e : Eqn String String) : VRef := rootOf st (cname, e.lhs.defines)

theorem transcribe_defines (ust : Units.Store) (st : CState) (cname : String) (e : Eqn String String) :
    (transcribe ust st cname e).lhs.defines = lhsRoot st cname e := by
  unfold transcribe lhsRoot Eqn.map
  cases e.lhs <;> rfl

theorem transcribe_isDiff (ust : Units.Store) (st : CState) (cname : String) (e : Eqn String String) :
    (transcribe ust st cname e).lhs.isDiff = e.lhs.isDiff := by
  unfold transcribe Eqn.map
  cases e.lhs <;> rfl

/-- an equation site is clean: identifiers declared, units known -/
def EqClean (ust : Units.Store) (vt : VarTable) (cname : String) (e : Eqn String String) : Prop :=
  (∀ x ∈ e.lhs.idents ++ e.rhs.idents, (vt.lookup (cname, x)).isSome = true) ∧
  ∀ u ∈ e.rhs.unitsUsed, ∃ k, Units.getUnit ust u = .ok k

theorem checkEqs_ok {ust : Units.Store} {vt : VarTable} {st : CState} {cname : String} :
    ∀ (es : List (Eqn String String)) (d0 d : List VRef), checkEqs ust vt st cname es d0 = .ok d →
      d = (es.map (lhsRoot st cname)).reverse ++ d0 ∧
      ((es.map (lhsRoot st cname)).Nodup ∧ ∀ v ∈ es.map (lhsRoot st cname), v ∉ d0) ∧
      ∀ e ∈ es, EqClean ust vt cname e
  | [], d0, d, h => by simp only [checkEqs, Except.ok.injEq] at h; subst h; simp
  | e :: es, d0, d, h => by
      unfold checkEqs at h
      split at h
      · cases h
      · rename_i hl
        split at h
        · cases h
        · rename_i hr
          simp only at h
          split at h
          · cases h
          · rename_i hnc
            rw [transcribe_defines] at hnc h
            have hnc' : lhsRoot st cname e ∉ d0 := by simpa using hnc
            obtain ⟨ih1, ⟨ih2, ih2'⟩, ih3⟩ := checkEqs_ok es _ d h
            refine ⟨?_, ⟨?_, ?_⟩, ?_⟩
            · rw [ih1]; simp
            · simp only [List.map_cons, List.nodup_cons]
              refine ⟨fun hm => ?_, ih2⟩
              exact ih2' _ hm List.mem_cons_self
            · intro v hv
              simp only [List.map_cons, List.mem_cons] at hv
              rcases hv with rfl | hv
              · exact hnc'
              · exact fun hd => ih2' v hv (List.mem_cons_of_mem _ hd)
            · intro e' he'
              rcases List.mem_cons.mp he' with rfl | he'
              · obtain ⟨r1, r2⟩ := checkExpr_ok _ hr
                refine ⟨?_, r2⟩
                intro x hx
                rcases List.mem_append.mp hx with hx | hx
                · exact checkLhs_ok hl x hx
                · exact r1 x hx
              · exact ih3 e' he'

/-- the flat variables the equations of the components define, in the order `_add_maths` adds them -/
def lhsRoots (st : CState) (cs : List Comp) : List VRef := cs.flatMap (fun c => c.eqs.map (lhsRoot st c.name))

theorem checkMaths_ok {ust : Units.Store} {vt : VarTable} {st : CState} :
    ∀ (cs : List Comp) (d0 d : List VRef), checkMaths ust vt st cs d0 = .ok d →
      d = (lhsRoots st cs).reverse ++ d0 ∧ ((lhsRoots st cs).Nodup ∧ ∀ v ∈ lhsRoots st cs, v ∉ d0) ∧
      ∀ c ∈ cs, ∀ e ∈ c.eqs, EqClean ust vt c.name e
  | [], d0, d, h => by simp only [checkMaths, Except.ok.injEq] at h; subst h; simp [lhsRoots]
  | c :: cs, d0, d, h => by
      unfold checkMaths at h
      split at h
      · cases h
      · rename_i d1 h1
        obtain ⟨a1, ⟨a2, a2'⟩, a3⟩ := checkEqs_ok _ _ _ h1
        obtain ⟨b1, ⟨b2, b2'⟩, b3⟩ := checkMaths_ok cs d1 d h
        have hsplit : lhsRoots st (c :: cs) = c.eqs.map (lhsRoot st c.name) ++ lhsRoots st cs := by
          simp [lhsRoots]
        refine ⟨?_, ⟨?_, ?_⟩, ?_⟩
        · rw [b1, a1, hsplit]; simp
        · rw [hsplit, List.nodup_append]
          refine ⟨a2, b2, ?_⟩
          intro x hx y hy hxy
          subst hxy
          exact b2' x hy (by rw [a1]; simp [hx])
        · intro v hv
          rw [hsplit, List.mem_append] at hv
          rcases hv with hv | hv
          · exact a2' v hv
          · exact fun hd => b2' v hv (by rw [a1]; simp [hd])
        · intro c' hc'
          rcases List.mem_cons.mp hc' with rfl | hc'
          · exact a3
          · exact b3 c' hc'

theorem checkConstants_ok {states defined : List VRef} : ∀ (vt : VarTable), checkConstants states defined vt = .ok () →
    ∀ v i, (v, i) ∈ vt → (states.contains v = true → i.init.isSome = true) ∧
      (states.contains v = false → i.init.isSome = true → defined.contains v = false)
  | [], _, v, i, hm => by simp at hm
  | (v0, i0) :: vt, h, v, i, hm => by
      unfold checkConstants at h
      split at h
      · rename_i hs
        split at h
        · cases h
        · rename_i hi
          rcases List.mem_cons.mp hm with he | hm
          · simp only [Prod.mk.injEq] at he
            obtain ⟨rfl, rfl⟩ := he
            refine ⟨fun _ => ?_, fun hc => by rw [hs] at hc; cases hc⟩
            cases hx : i.init with
            | none => rw [hx] at hi; simp at hi
            | some q => rfl
          · exact checkConstants_ok vt h v i hm
      · rename_i hs
        split at h
        · cases h
        · rename_i hd
          rcases List.mem_cons.mp hm with he | hm
          · simp only [Prod.mk.injEq] at he
            obtain ⟨rfl, rfl⟩ := he
            refine ⟨fun hc => absurd hc hs, fun _ hi => ?_⟩
            cases hc : defined.contains v with
            | false => rfl
            | true => rw [hi, hc] at hd; simp at hd
          · exact checkConstants_ok vt h v i hm

end Load
