import Cellml.Units.Conv

/-! # CellML documents, arithmetic expressions with units, and their physical meaning

    Shared model of the loader (parser.py 119-572), used by C01 (flattening fidelity), C17 (rejection of broken
    documents), C15 (order independence), C13 (annotation moves). Core Lean only.

    * `Expr α υ`  : +, −, ×, ÷, unary minus, integer powers over variables `α`, derivative references and numbers that
                    carry a unit `υ`. In a document `α = String` (local name) and `υ = String` (unit name); in the flat
                    model `α = VRef` (component, name) and `υ = FUnit` (magnitude scale × container).
    * `Expr.eval` : the PHYSICAL value (SI magnitude) of an expression under a valuation of variables (`σ`) and
                    of derivatives (`δ`), given the SI scale of every unit leaf (`usc`). -/

namespace Load

inductive Iface where
  | none | inn | out
deriving DecidableEq, Repr

/-- (component, local name). The flat name is `component ++ "$" ++ name`. -/
abbrev VRef := String × String

inductive Expr (α υ : Type) where
  | num (q : Rat) (u : υ)
  | var (a : α)
  | diff (x t : α)
  | add (a b : Expr α υ)
  | sub (a b : Expr α υ)
  | mul (a b : Expr α υ)
  | div (a b : Expr α υ)
  | neg (a : Expr α υ)
  | powi (a : Expr α υ) (n : Int)
deriving Repr, DecidableEq

inductive Lhs (α : Type) where
  | var (a : α)
  | diff (x t : α)
deriving Repr, DecidableEq

structure Eqn (α υ : Type) where
  lhs : Lhs α
  rhs : Expr α υ
deriving Repr, DecidableEq

namespace Expr
variable {α β υ φ : Type}

/-- rename variables and re-express units -/
def map (f : α → β) (g : υ → φ) : Expr α υ → Expr β φ
  | num q u => num q (g u)
  | var a => var (f a)
  | diff x t => diff (f x) (f t)
  | add a b => add (map f g a) (map f g b)
  | sub a b => sub (map f g a) (map f g b)
  | mul a b => mul (map f g a) (map f g b)
  | div a b => div (map f g a) (map f g b)
  | neg a => neg (map f g a)
  | powi a n => powi (map f g a) n

/-- physical (SI) value. `usc u` is the SI value of one unit `u`; `σ` the SI value of each variable; `δ x t` the SI
    value of the derivative of `x` with respect to `t`. -/
def eval (usc : υ → Rat) (σ : α → Rat) (δ : α → α → Rat) : Expr α υ → Rat
  | num q u => q * usc u
  | var a => σ a
  | diff x t => δ x t
  | add a b => eval usc σ δ a + eval usc σ δ b
  | sub a b => eval usc σ δ a - eval usc σ δ b
  | mul a b => eval usc σ δ a * eval usc σ δ b
  | div a b => eval usc σ δ a / eval usc σ δ b
  | neg a => - eval usc σ δ a
  | powi a n => eval usc σ δ a ^ n

/-- variable and derivative leaves, left to right (derivatives are opaque: their variables are not listed) -/
def leaves : Expr α υ → List (Lhs α)
  | num _ _ => []
  | var a => [.var a]
  | diff x t => [.diff x t]
  | add a b | sub a b | mul a b | div a b => leaves a ++ leaves b
  | neg a => leaves a
  | powi a _ => leaves a

/-- all identifiers (including those under derivatives), in traversal order -/
def idents : Expr α υ → List α
  | num _ _ => []
  | var a => [a]
  | diff x t => [x, t]
  | add a b | sub a b | mul a b | div a b => idents a ++ idents b
  | neg a => idents a
  | powi a _ => idents a

def unitsUsed : Expr α υ → List υ
  | num _ u => [u]
  | var _ => []
  | diff _ _ => []
  | add a b | sub a b | mul a b | div a b => unitsUsed a ++ unitsUsed b
  | neg a => unitsUsed a
  | powi a _ => unitsUsed a

end Expr

namespace Lhs
variable {α β : Type}
def map (f : α → β) : Lhs α → Lhs β
  | var a => var (f a)
  | diff x t => diff (f x) (f t)
def eval (σ : α → Rat) (δ : α → α → Rat) : Lhs α → Rat
  | var a => σ a
  | diff x t => δ x t
/-- the variable an equation with this left-hand side defines -/
def defines : Lhs α → α
  | var a => a
  | diff x _ => x
def isDiff : Lhs α → Bool
  | var _ => false
  | diff _ _ => true
def idents : Lhs α → List α
  | var a => [a]
  | diff x t => [x, t]
end Lhs

namespace Eqn
variable {α β υ φ : Type}
def map (f : α → β) (g : υ → φ) (e : Eqn α υ) : Eqn β φ := ⟨e.lhs.map f, e.rhs.map f g⟩
/-- the equation holds physically -/
def Sat (usc : υ → Rat) (σ : α → Rat) (δ : α → α → Rat) (e : Eqn α υ) : Prop :=
  e.lhs.eval σ δ = e.rhs.eval usc σ δ
instance (usc : υ → Rat) (σ : α → Rat) (δ : α → α → Rat) (e : Eqn α υ) : Decidable (e.Sat usc σ δ) :=
  inferInstanceAs (Decidable (_ = _))
end Eqn

/-! ## Documents -/

structure VarDecl where
  name  : String
  units : String
  pub   : Iface
  priv  : Iface
  init  : Option Rat
  cmeta : Option String
deriving Repr, DecidableEq

structure Comp where
  name : String
  vars : List VarDecl
  eqs  : List (Eqn String String)
deriving Repr, DecidableEq

/-- one `<map_variables>` of a `<connection>` with its `<map_components>` -/
structure Conn where
  c1 : String
  v1 : String
  c2 : String
  v2 : String
deriving Repr, DecidableEq

def Conn.end1 (c : Conn) : VRef := (c.c1, c.v1)
def Conn.end2 (c : Conn) : VRef := (c.c2, c.v2)

inductive UnitDecl where
  | base (name : String)
  | derived (name : String) (elems : List Units.UnitElem)
deriving Repr, DecidableEq

structure Doc where
  /-- unit definitions, already in dependency order (the unit work list is modelled by C03) -/
  units  : List UnitDecl
  /-- components in file order -/
  comps  : List Comp
  /-- `<component_ref>` elements of the encapsulation groups in document (pre-)order: (enclosing ref, component) -/
  encaps : List (Option String × String)
  /-- `<map_variables>` in document order -/
  conns  : List Conn
  /-- cmeta:id of the `<model>` element -/
  cmeta  : Option String := none
deriving Repr

/-- exception classes of the loader -/
inductive Err where
  | valueError (what : String)
  | keyError (what : String)
  | assertion (what : String)
  | dimensionality
  | unsupported (what : String)     -- outside the modelled fragment
deriving Repr, DecidableEq

def Err.className : Err → String
  | .valueError _ => "ValueError"
  | .keyError _ => "KeyError"
  | .assertion _ => "AssertionError"
  | .dimensionality => "DimensionalityError"
  | .unsupported _ => "Unsupported"

def Err.what : Err → String
  | .valueError w | .keyError w | .assertion w | .unsupported w => w
  | .dimensionality => "dimensionality"

/-- unit carried by a number of the flat model: a magnitude multiplier (the conversion factor of a connection
    equation is a scale, not a rational) and the pint unit -/
abbrev FUnit := Scale × Container

/-- SI value of one flat unit under an interpretation `den` of scales -/
def uscF (den : Scale → Rat) (reg : Registry) (u : FUnit) : Rat :=
  den (PMap.add u.1 (Units.toRoot reg u.2).1)

end Load
