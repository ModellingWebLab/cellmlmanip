import Cellml.Load.Connect

/-! # The loader: `Parser.parse` (parser.py 119-167) after XML/RELAX NG validation

    units → components and variables → encapsulation → connections (direction, work list) → maths with every
    identifier resolved to the ULTIMATE SOURCE of its connection chain → `transform_constants`.
    The flat model is `conversion equations ++ component maths ++ constant equations`; the checks that can raise are
    kept apart from the construction (`checkMaths`, `checkConstants`), in the order the code performs them.
    Core Lean only. -/

namespace Load

abbrev FlatEq := Eqn VRef FUnit

structure FlatVar where
  ref   : VRef
  units : Container
  init  : Option Rat        -- after transform_constants: only states keep one
  cmeta : Option String
deriving Repr, DecidableEq

structure Flat where
  reg  : Registry
  vars : List FlatVar
  eqs  : List FlatEq
deriving Repr

def addErr : Units.AddErr → Err
  | .valueError w => .valueError w
  | .undefinedUnit => .valueError "Cannot create units. Cycles or unknown units."
  | .badDefinition w => .valueError w
  | .unsupported w => .unsupported w

/-- `_add_units` on definitions that are already in dependency order -/
def buildUnits : List UnitDecl → Registry × Units.Store → Except Err (Registry × Units.Store)
  | [], rs => .ok rs
  | .base n :: r, (reg, st) =>
      match Units.addBaseUnit reg st n with
      | .ok rs => buildUnits r rs
      | .error e => .error (addErr e)
  | .derived n es :: r, (reg, st) =>
      match Units.addUnit reg st n es with
      | .ok rs => buildUnits r rs
      | .error e => .error (addErr e)

/-- the table entry `Model.add_variable` creates for a `<variable>` -/
def entry (ust : Units.Store) (cname : String) (d : VarDecl) : VRef × VarInfo :=
  ((cname, d.name),
   ⟨match Units.getUnit ust d.units with | .ok c => c | .error _ => [], d.pub, d.priv, d.init, d.cmeta, d.units⟩)

/-- all variables of the document, in file order -/
def varTable (ust : Units.Store) (comps : List Comp) : VarTable :=
  comps.flatMap (fun c => c.vars.map (entry ust c.name))

/-- `_add_variables` of one component, the part that can raise: unit lookup, then `Model.add_variable`
    (name clash, cmeta clash). `names`: variables so far, `ids`: cmeta ids so far (the model's own id included). -/
def checkVars (ust : Units.Store) (cname : String) : List VarDecl → List VRef × List String →
    Except Err (List VRef × List String)
  | [], acc => .ok acc
  | d :: r, (names, ids) =>
      match Units.getUnit ust d.units with
      | .error _ => .error (.keyError ("Unknown unit " ++ d.units))
      | .ok _ =>
        if names.contains (cname, d.name) then .error (.valueError ("Variable already exists " ++ d.name))
        else match d.cmeta with
          | some id =>
              if ids.contains id then .error (.valueError ("The cmeta id is already in use " ++ id))
              else checkVars ust cname r ((cname, d.name) :: names, id :: ids)
          | none => checkVars ust cname r ((cname, d.name) :: names, ids)

/-- `_add_components`, the part that can raise -/
def checkComps (ust : Units.Store) : List Comp → List String → List VRef × List String →
    Except Err (List VRef × List String)
  | [], _, acc => .ok acc
  | c :: r, seen, acc =>
      if seen.contains c.name then .error (.valueError ("Duplicate component name " ++ c.name))
      else match checkVars ust c.name c.vars acc with
        | .error e => .error e
        | .ok acc' => checkComps ust r (c.name :: seen) acc'

/-- `_add_relationships` / `_handle_component_ref` on the `<component_ref>` edges in document order -/
def buildParents (comps : List String) : List (Option String × String) → ParentMap → List (String × String) →
    Except Err ParentMap
  | [], par, _ => .ok par
  | (none, _) :: r, par, enc => buildParents comps r par enc
  | (some p, c) :: r, par, enc =>
      if !comps.contains p then .error (.keyError p)
      else if enc.contains (p, c) then .error (.valueError ("Encapsulated component already added " ++ c))
      else if !comps.contains c then .error (.keyError c)
      else if (par.lookup c).isSome then .error (.valueError ("multiple parents not allowed " ++ c))
      else buildParents comps r ((c, p) :: par) ((p, c) :: enc)

/-- first half of `_add_connections`: existence of the components, then the direction of every `<map_variables>` -/
def directAll (comps : List String) (par : ParentMap) (vt : VarTable) : List Conn → Except Err (List (VRef × VRef))
  | [] => .ok []
  | c :: r =>
      if !comps.contains c.c1 then .error (.valueError ("Cannot connect components that do not exist: " ++ c.c1))
      else if !comps.contains c.c2 then .error (.valueError ("Cannot connect components that do not exist: " ++ c.c2))
      else match direction par vt c with
        | .error e => .error e
        | .ok d => match directAll comps par vt r with
          | .error e => .error e
          | .ok ds => .ok (d :: ds)

def checkIdent (vt : VarTable) (cname x : String) : Except Err Unit :=
  if (vt.lookup (cname, x)).isSome then .ok () else .error (.assertion (cname ++ "$" ++ x ++ " not found in symbol dict"))

/-- what the transpiler can raise on an expression: unknown identifier (the `assert` of `symbol_generator`), unknown unit
    of a number (`get_unit`), in traversal order (`<bvar>` precedes the differentiated variable) -/
def checkExpr (ust : Units.Store) (vt : VarTable) (cname : String) : Expr String String → Except Err Unit
  | .num _ u => match Units.getUnit ust u with
      | .ok _ => .ok ()
      | .error _ => .error (.keyError ("Unknown unit " ++ u))
  | .var a => checkIdent vt cname a
  | .diff x t => match checkIdent vt cname t with
      | .ok () => checkIdent vt cname x
      | .error e => .error e
  | .add a b | .sub a b | .mul a b | .div a b =>
      match checkExpr ust vt cname a with
      | .ok () => checkExpr ust vt cname b
      | .error e => .error e
  | .neg a => checkExpr ust vt cname a
  | .powi a _ => checkExpr ust vt cname a

def checkLhs (vt : VarTable) (cname : String) : Lhs String → Except Err Unit
  | .var a => checkIdent vt cname a
  | .diff x t => match checkIdent vt cname t with
      | .ok () => checkIdent vt cname x
      | .error e => .error e

/-- the unit of a number of the document as a flat unit -/
def unitF (ust : Units.Store) (u : String) : FUnit :=
  ([], match Units.getUnit ust u with | .ok c => c | .error _ => [])

/-- `symbol_generator` + transpiler on one equation of component `cname` -/
def transcribe (ust : Units.Store) (st : CState) (cname : String) (e : Eqn String String) : FlatEq :=
  e.map (fun x => rootOf st (cname, x)) (unitF ust)

def mathsOf (ust : Units.Store) (st : CState) (comps : List Comp) : List FlatEq :=
  comps.flatMap (fun c => c.eqs.map (transcribe ust st c.name))

/-- the conversion equation as an equation of the flat model -/
def ConvEq.toEq (e : ConvEq) : FlatEq :=
  ⟨.var e.target, .mul (.var e.src) (.num 1 (e.cf, PMap.sub e.tu e.su))⟩

/-- `add_equation` one at a time: transpile (may raise), then `_check_duplicate_definitions` -/
def checkEqs (ust : Units.Store) (vt : VarTable) (st : CState) (cname : String) :
    List (Eqn String String) → List VRef → Except Err (List VRef)
  | [], defined => .ok defined
  | e :: r, defined =>
      match checkLhs vt cname e.lhs with
      | .error err => .error err
      | .ok () =>
        match checkExpr ust vt cname e.rhs with
        | .error err => .error err
        | .ok () =>
          let v := (transcribe ust st cname e).lhs.defines
          if defined.contains v then .error (.valueError ("The variable is defined twice " ++ v.1 ++ "$" ++ v.2))
          else checkEqs ust vt st cname r (v :: defined)

def checkMaths (ust : Units.Store) (vt : VarTable) (st : CState) : List Comp → List VRef → Except Err (List VRef)
  | [], defined => .ok defined
  | c :: r, defined =>
      match checkEqs ust vt st c.name c.eqs defined with
      | .error e => .error e
      | .ok d => checkMaths ust vt st r d

/-- variables defined by an ODE (`get_state_variables`) -/
def statesOf (eqs : List FlatEq) : List VRef :=
  (eqs.filter (fun e => e.lhs.isDiff)).map (fun e => e.lhs.defines)

/-- `transform_constants`, the part that can raise -/
def checkConstants (states defined : List VRef) : VarTable → Except Err Unit
  | [] => .ok ()
  | (v, i) :: r =>
      if states.contains v then
        if i.init.isNone then .error (.assertion ("State variable has no initial_value set " ++ v.1 ++ "$" ++ v.2))
        else checkConstants states defined r
      else if i.init.isSome && defined.contains v then
        .error (.valueError ("The variable is defined twice " ++ v.1 ++ "$" ++ v.2))
      else checkConstants states defined r

/-- `transform_constants`, the equations it adds -/
def constsOf (states : List VRef) (vt : VarTable) : List FlatEq :=
  vt.filterMap (fun (v, i) =>
    if states.contains v then none
    else i.init.map (fun q => (⟨.var v, .num q ([], i.units)⟩ : FlatEq)))

def flatVars (states : List VRef) (st : CState) (vt : VarTable) : List FlatVar :=
  vt.map (fun (v, i) => ⟨v, i.units, if states.contains v then i.init else none, cmetaOf st v⟩)

/-- everything `parse` computes before the equations are assembled -/
structure Loaded where
  reg : Registry
  ust : Units.Store
  vt  : VarTable
  par : ParentMap
  dl  : List (VRef × VRef)
  st  : CState
deriving Repr

def Loaded.maths (L : Loaded) (doc : Doc) : List FlatEq := mathsOf L.ust L.st doc.comps
def Loaded.states (L : Loaded) (doc : Doc) : List VRef := statesOf (L.maths doc)
def Loaded.flat (L : Loaded) (doc : Doc) : Flat :=
  { reg := L.reg
    vars := flatVars (L.states doc) L.st L.vt
    eqs := L.st.convs.map ConvEq.toEq ++ L.maths doc ++ constsOf (L.states doc) L.vt }

def prepare (doc : Doc) : Except Err Loaded :=
  match buildUnits doc.units (Units.builtinRegistry, { id := 0, known := [] }) with
  | .error e => .error e
  | .ok (reg, ust) =>
    match checkComps ust doc.comps [] ([], doc.cmeta.toList) with
    | .error e => .error e
    | .ok _ =>
      let vt := varTable ust doc.comps
      let names := doc.comps.map (·.name)
      match buildParents names doc.encaps [] [] with
      | .error e => .error e
      | .ok par =>
        match directAll names par vt doc.conns with
        | .error e => .error e
        | .ok dl =>
          match connect reg vt dl with
          | .error e => .error e
          | .ok st => .ok ⟨reg, ust, vt, par, dl, st⟩

/-- `Parser.parse` -/
def load (doc : Doc) : Except Err Flat :=
  match prepare doc with
  | .error e => .error e
  | .ok L =>
    match checkMaths L.ust L.vt L.st doc.comps (L.st.convs.map (·.target)) with
    | .error e => .error e
    | .ok defined =>
      match checkConstants (L.states doc) defined L.vt with
      | .error e => .error e
      | .ok () => .ok (L.flat doc)

/-! ## Exact evaluation of a flat model (used by the driver; the theorems do not depend on it) -/

/-- ∏ pᵉ for integer exponents (the numerator of a non-integer exponent is used: exact only for integer scales) -/
def denInt (s : Scale) : Rat :=
  (PMap.norm s).foldl (fun acc (p, e) => acc * ((p : Rat) ^ e.num)) 1

inductive Key where
  | v (r : VRef)
  | d (x : VRef)
deriving DecidableEq, Repr

abbrev Table := List (Key × Rat)

def tget (tb : Table) (k : Key) : Rat := (tb.lookup k).getD 0

/-- one round: every defined quantity from the previous table -/
def evalRound (F : Flat) (tb : Table) : Table :=
  F.eqs.map (fun e =>
    let k := match e.lhs with | .var a => Key.v a | .diff x _ => Key.d x
    (k, e.rhs.eval (uscF denInt F.reg) (fun a => tget tb (.v a)) (fun x _ => tget tb (.d x))))

/-- states at their initial value, free variables at `free` (SI), then `F.eqs.length + 1` rounds -/
def evalFlat (F : Flat) (free : Rat) : Table :=
  let states := statesOf F.eqs
  let defined := F.eqs.filterMap (fun e => match e.lhs with | .var a => some a | _ => none)
  let base : Table := F.vars.filterMap (fun v =>
    if states.contains v.ref then some (Key.v v.ref, (v.init.getD 0) * uscF denInt F.reg ([], v.units))
    else if defined.contains v.ref then none
    else some (Key.v v.ref, free))
  let step (tb : Table) : Table := base ++ (evalRound F tb).filter (fun (k, _) => match k with
    | .v a => !states.contains a
    | .d _ => true)
  iter step (F.eqs.length + 1) base
where
  iter (f : Table → Table) : Nat → Table → Table
    | 0, t => t
    | n + 1, t => iter f n (f t)

end Load
