import Cellml.Load.Cmeta
import Cellml.Basic.Rotation

/-! # The outcome of the connection work list does not depend on the order of the connections

    `Resolvable reg vt cs` describes, without reference to any order, the connection sets the work list accepts. The
    loop invariant `J` records that the mapping is a forest on which `assigned_to` lies, what was fired, with which
    factor, and where the cmeta ids are (`Inv` of Load/Lemmas.lean is projected out of it: `J.toInv`, `connect_inv`;
    `CmInv` of Load/Cmeta.lean is one of its fields: `J.cm`); from it a successful run is `Resolvable` (soundness) and its result a function of the set
    (`J.asg_iff_anchor`, `J.mem_convs_iff`), and on a `Resolvable` set no iteration raises and the `assert` never
    fires (completeness): `resolvable_of_connect`, `connect_of_resolvable`. Two runs on the same set agree on every root
    (`connect_perm_root`, `connect_of_perm`). -/

namespace Load

/-- the cmeta id a variable has in the document (`docId` of Load/Cmeta.lean under a second name) -/
def cmeta0 (vt : VarTable) (v : VRef) : Option String := cmetaOf (initState vt) v

/-- `v` receives a value: it has no `in` interface, or it is the target of a connection whose source does -/
inductive Fed (vt : VarTable) (cs : List (VRef × VRef)) : VRef → Prop where
  | src {v : VRef} : Src vt v → Fed vt cs v
  | step {s t : VRef} : (s, t) ∈ cs → Fed vt cs s → Fed vt cs t

/-- `Anchor v a`: `a` is the variable the maths use for `v` up to a unit factor of one (`assigned_to`): a source,
    or the target of a unit-changing connection, reached from `v` through factor-one connections -/
inductive Anchor (reg : Registry) (vt : VarTable) (cs : List (VRef × VRef)) : VRef → VRef → Prop where
  | src {v : VRef} : Src vt v → Anchor reg vt cs v v
  | conv {s t : VRef} {f : Scale} : (s, t) ∈ cs → Fac reg vt (s, t) = .ok f → f ≠ [] → Anchor reg vt cs t t
  | pass {s t a : VRef} : (s, t) ∈ cs → Fac reg vt (s, t) = .ok [] → Anchor reg vt cs s a → Anchor reg vt cs t a

/-- The connection sets the work list accepts, stated without reference to any order:
    (i) no variable is the target of two connections, no variable without `in` interface is a target;
    (ii) every source is fed from a variable without `in` interface (no unfed relay, no cycle);
    (iii) the two ends of every connection have convertible units;
    (iv) among the variables that share one `assigned_to` at most one carries a cmeta id. -/
structure Resolvable (reg : Registry) (vt : VarTable) (cs : List (VRef × VRef)) : Prop where
  targets_nodup  : (cs.map Prod.snd).Nodup
  target_not_src : ∀ c ∈ cs, ¬ Src vt c.2
  fed            : ∀ c ∈ cs, Fed vt cs c.1
  units_ok       : ∀ c ∈ cs, ∃ f, Fac reg vt c = .ok f
  one_id         : ∀ v w a, Anchor reg vt cs v a → Anchor reg vt cs w a →
                     (cmeta0 vt v).isSome → (cmeta0 vt w).isSome → v = w

theorem Fed.congr {vt : VarTable} {cs cs' : List (VRef × VRef)} (h : ∀ c, c ∈ cs → c ∈ cs') {v : VRef}
    (hv : Fed vt cs v) : Fed vt cs' v := by
  induction hv with
  | src hs => exact .src hs
  | step hm _ ih => exact .step (h _ hm) ih

theorem Anchor.congr {reg : Registry} {vt : VarTable} {cs cs' : List (VRef × VRef)} (h : ∀ c, c ∈ cs → c ∈ cs')
    {v a : VRef} (hv : Anchor reg vt cs v a) : Anchor reg vt cs' v a := by
  induction hv with
  | src hs => exact .src hs
  | conv hm hf hne => exact .conv (h _ hm) hf hne
  | pass hm hf _ ih => exact .pass (h _ hm) hf ih

theorem Resolvable.perm {reg : Registry} {vt : VarTable} {cs cs' : List (VRef × VRef)} (hp : cs.Perm cs')
    (R : Resolvable reg vt cs) : Resolvable reg vt cs' where
  targets_nodup := (hp.map Prod.snd).nodup_iff.mp R.targets_nodup
  target_not_src := fun c hc => R.target_not_src c (hp.mem_iff.mpr hc)
  fed := fun c hc => (R.fed c (hp.mem_iff.mpr hc)).congr (fun _ h => hp.mem_iff.mp h)
  units_ok := fun c hc => R.units_ok c (hp.mem_iff.mpr hc)
  one_id := fun v w a hv hw => R.one_id v w a (hv.congr (fun _ h => hp.mem_iff.mpr h)) (hw.congr (fun _ h => hp.mem_iff.mpr h))

/-- What holds at every iteration, whatever the connection set: the mapping is a forest and `assigned_to` lies on it
    (the part of `Inv` that has to be carried along), what was fired (as a multiset) and with which factor, and where
    the cmeta ids are (`CmInv`). -/
structure J (reg : Registry) (vt : VarTable) (cs dq : List (VRef × VRef)) (st : CState) : Prop where
  wf       : WF (Src vt) st.mapping
  asg_iff  : ∀ v, (st.asg v).isSome ↔ (Src vt v ∨ v ∈ keys st.mapping)
  asg_self : ∀ v a, st.asg v = some a → st.asg a = some a
  asg_root : ∀ v a, st.asg v = some a → root st.mapping a = root st.mapping v
  perm    : (st.mapping.map Prod.swap ++ dq).Perm cs
  src_asg : ∀ v, Src vt v → st.asg v = some v
  /-- a connected target is assigned to what its source is assigned to (factor 1), or to itself (conversion) -/
  entry   : ∀ t s, (t, s) ∈ st.mapping → ∃ a f, st.asg s = some a ∧ Fac reg vt (s, t) = .ok f ∧
              st.asg t = some (if f = [] then a else t)
  convs   : ∀ e, e ∈ st.convs ↔ ∃ t s a f, (t, s) ∈ st.mapping ∧ st.asg s = some a ∧ Fac reg vt (s, t) = .ok f ∧
              f ≠ [] ∧ e = ⟨t, a, f, unitsOf vt t, unitsOf vt s⟩
  /-- `assigned_to` is an anchor in the sense of `Resolvable.one_id` -/
  anchor : ∀ v a, st.asg v = some a → Anchor reg vt cs v a
  /-- among the variables assigned to one anchor at most one was annotated in the document -/
  one_id : ∀ v w a, st.asg v = some a → st.asg w = some a → (cmeta0 vt v).isSome → (cmeta0 vt w).isSome → v = w
  cm      : CmInv vt st

section
variable {reg : Registry} {vt : VarTable} {cs dq : List (VRef × VRef)} {st : CState}

theorem J.toInv (h : J reg vt cs dq st) : Inv reg vt cs dq st where
  wf := h.wf
  asg_iff := h.asg_iff
  asg_self := h.asg_self
  asg_root := h.asg_root
  conn_in := fun c hc => by
    rcases List.mem_append.mp (h.perm.mem_iff.mpr hc) with hm | hd
    · obtain ⟨p, hp, rfl⟩ := List.mem_map.mp hm
      exact Or.inr hp
    · exact Or.inl hd
  map_from := fun t s hm => h.perm.mem_iff.mp (List.mem_append_left _ (List.mem_map.mpr ⟨(t, s), hm, rfl⟩))
  dq_sub := fun c hc => h.perm.mem_iff.mp (List.mem_append_right _ hc)
  conv_ok := fun e he => by
    obtain ⟨t, s, a, f, hm, h1, h2, _, rfl⟩ := (h.convs e).mp he
    exact ⟨h.asg_self s a h1, mem_keys_of_mem hm, (h.asg_root s a h1).trans (h.wf.root_mem t s hm).symm, h2⟩

theorem J.id_origin (h : J reg vt cs dq st) (a : VRef) (ha : st.asg a = some a) (hc : (cmetaOf st a).isSome) :
    ∃ w, st.asg w = some a ∧ (cmeta0 vt w).isSome := by
  obtain ⟨c, hc⟩ := Option.isSome_iff_exists.mp hc
  obtain ⟨w, hd, hh⟩ := (h.cm.ids a c).mp hc
  refine ⟨w, ?_, by show (docId vt w).isSome; rw [hd]; rfl⟩
  cases hw : st.asg w with
  | none => rw [home_target hw] at hh; rw [hh] at hw; rw [hw] at ha; cases ha
  | some b => rw [home_of_asg hw] at hh; rw [hh]

theorem J.unassigned_id (h : J reg vt cs dq st) (v : VRef) (hv : st.asg v = none) : cmetaOf st v = cmeta0 vt v := by
  apply Option.ext
  intro c
  rw [h.cm.ids v c]
  constructor
  · rintro ⟨w, hd, hh⟩
    rw [home_eq_target h.asg_self hv hh] at hd; exact hd
  · intro hd; exact ⟨v, hd, home_target hv⟩

/-- if a variable assigned to an anchor was annotated, the anchor carries an id now (so a second transfer to it is
    refused) -/
theorem J.anchor_has_id (h : J reg vt cs dq st) (w a : VRef) (hw : st.asg w = some a) (hi : (cmeta0 vt w).isSome) :
    (cmetaOf st a).isSome := by
  obtain ⟨c, hc⟩ := Option.isSome_iff_exists.mp hi
  rw [(h.cm.ids a c).mpr ⟨w, hc, home_of_asg hw⟩]; rfl

end

theorem J_init (reg : Registry) (vt : VarTable) (cs : List (VRef × VRef)) : J reg vt cs cs (initState vt) where
  wf := (inv_init reg vt cs).wf
  asg_iff := (inv_init reg vt cs).asg_iff
  asg_self := (inv_init reg vt cs).asg_self
  asg_root := (inv_init reg vt cs).asg_root
  perm := by simp [initState]
  src_asg := fun v hv => src_lookup hv
  entry := by intro t s h; simp [initState] at h
  convs := by intro e; simp [initState]
  anchor := by
    intro v a h
    have e := initAssigned_lookup vt v a h
    subst e
    exact .src (Option.isSome_iff_exists.mpr ⟨a, h⟩)
  one_id := by
    intro v w a hv hw _ _
    have e1 := initAssigned_lookup vt v a hv
    have e2 := initAssigned_lookup vt w a hw
    rw [← e1, ← e2]
  cm := cm_init vt

theorem J_requeue {reg : Registry} {vt : VarTable} {cs rest : List (VRef × VRef)} {c : VRef × VRef} {st : CState}
    (h : J reg vt cs (c :: rest) st) : J reg vt cs (rest ++ [c]) st :=
  { h with perm := ((List.perm_append_singleton c rest).append_left _).trans h.perm }

theorem J_step {reg : Registry} {vt : VarTable} {cs rest : List (VRef × VRef)} {s t : VRef} {st st' : CState}
    (h : J reg vt cs ((s, t) :: rest) st) (hstep : stepConn reg vt st (s, t) = .ok (some st')) :
    J reg vt cs rest st' := by
  obtain ⟨ht, a, a', hs, hmap, hasg, hkind⟩ := stepConn_shape hstep
  have hin : (s, t) ∈ cs := h.toInv.dq_sub _ List.mem_cons_self
  have htS : ¬ Src vt t := fun hS => by
    have := (h.asg_iff t).mpr (Or.inl hS); rw [ht] at this; simp at this
  have htK : t ∉ keys st.mapping := fun hK => by
    have := (h.asg_iff t).mpr (Or.inr hK); rw [ht] at this; simp at this
  have hsOK : Src vt s ∨ s ∈ keys st.mapping := (h.asg_iff s).mp (by rw [hs]; rfl)
  have haa : st.asg a = some a := h.asg_self s a hs
  have hat : a ≠ t := fun e => by rw [e, ht] at haa; simp at haa
  have ha' : a' = a ∨ a' = t := hkind.elim (fun k => Or.inl k.1) (fun k => Or.inr k.1)
  have hne : ∀ v b, st.asg v = some b → v ≠ t := fun v b hv e => by rw [e, ht] at hv; simp at hv
  have hasg' : ∀ v, st'.asg v = if v = t then some a' else st.asg v := by
    intro v; simp only [CState.asg, hasg, List.lookup_cons_ite]
  have hasg_old : ∀ v b, st.asg v = some b → st'.asg v = some b := by
    intro v b hv; rw [hasg', if_neg (hne v b hv)]; exact hv
  have hroot' : ∀ v, root st'.mapping v = if v = t then root st.mapping s else root st.mapping v := by
    intro v; rw [hmap]; rfl
  -- a fact about every `assigned_to`: one new case, `t ↦ a'`; the old ones do not involve `t`
  have push : ∀ {Q : VRef → VRef → Prop}, Q t a' → (∀ v b, st.asg v = some b → v ≠ t → b ≠ t → Q v b) →
      ∀ v b, st'.asg v = some b → Q v b := by
    intro Q hnew hold v b hv
    rw [hasg'] at hv
    by_cases hvt : v = t
    · rw [if_pos hvt] at hv; cases hv; exact hvt ▸ hnew
    · rw [if_neg hvt] at hv; exact hold v b hv hvt (hne b b (h.asg_self v b hv))
  have hcm0 : cmetaOf st t = cmeta0 vt t := h.unassigned_id t ht
  -- the factor of the fired connection, and what it decides
  have hfac : ∃ f, Fac reg vt (s, t) = .ok f ∧ a' = (if f = [] then a else t) ∧
      st'.convs = if f = [] then st.convs else st.convs ++ [⟨t, a, f, unitsOf vt t, unitsOf vt s⟩] := by
    rcases hkind with ⟨e, hf, hc, _⟩ | ⟨e, ⟨f, hf, hne, hc⟩, _⟩
    · exact ⟨[], hf, e, hc⟩
    · exact ⟨f, hf, by rw [if_neg hne]; exact e, by rw [if_neg hne]; exact hc⟩
  exact {
    wf := by rw [hmap]; exact ⟨h.wf, htS, htK, hsOK⟩
    asg_iff := by
      intro v
      rw [hasg', hmap, keys_cons, List.mem_cons]
      by_cases hv : v = t
      · simp [hv]
      · rw [if_neg hv, h.asg_iff v]; simp [hv]
    asg_self := push
      (by rcases ha' with e | e <;> rw [hasg', e]
          · rw [if_neg hat]; exact haa
          · rw [if_pos rfl])
      (fun v b hv _ hb => by rw [hasg', if_neg hb]; exact h.asg_self v b hv)
    asg_root := push
      (by rw [hroot', hroot', if_pos rfl]
          rcases ha' with e | e <;> rw [e]
          · rw [if_neg hat]; exact h.asg_root s a hs
          · rw [if_pos rfl])
      (fun v b hv hvt hb => by rw [hroot', hroot', if_neg hb, if_neg hvt]; exact h.asg_root v b hv)
    perm := by
      rw [hmap]
      have : ((t, s) :: st.mapping).map Prod.swap ++ rest = (s, t) :: (st.mapping.map Prod.swap ++ rest) := rfl
      rw [this]
      exact (List.perm_middle.symm).trans h.perm
    src_asg := by
      intro v hv
      exact hasg_old v v (h.src_asg v hv)
    entry := by
      intro t' s' hm
      rw [hmap] at hm
      rcases List.mem_cons.mp hm with he | hm
      · cases he
        obtain ⟨f, hf, ha', _⟩ := hfac
        exact ⟨a, f, hasg_old _ _ hs, hf, by rw [hasg', if_pos rfl, ha']⟩
      · obtain ⟨a0, f0, h1, h2, h3⟩ := h.entry t' s' hm
        exact ⟨a0, f0, hasg_old _ _ h1, h2, hasg_old _ _ h3⟩
    convs := by
      intro e
      obtain ⟨f, hf, _, hc⟩ := hfac
      have hiff : (∃ t0 s0 a0 f0, (t0, s0) ∈ st'.mapping ∧ st'.asg s0 = some a0 ∧ Fac reg vt (s0, t0) = .ok f0 ∧
            f0 ≠ [] ∧ e = ⟨t0, a0, f0, unitsOf vt t0, unitsOf vt s0⟩) ↔
          (e ∈ st.convs ∨ (f ≠ [] ∧ e = ⟨t, a, f, unitsOf vt t, unitsOf vt s⟩)) := by
        constructor
        · rintro ⟨t0, s0, a0, f0, hm, h1, h2, h3, h4⟩
          rw [hmap] at hm
          rcases List.mem_cons.mp hm with he | hm
          · cases he
            rw [hasg_old _ _ hs] at h1
            rw [hf] at h2
            cases h1
            cases h2
            exact Or.inr ⟨h3, h4⟩
          · obtain ⟨a1, _, g1, _, _⟩ := h.entry t0 s0 hm
            rw [hasg_old _ _ g1] at h1
            cases h1
            exact Or.inl ((h.convs e).mpr ⟨t0, s0, a0, f0, hm, g1, h2, h3, h4⟩)
        · rintro (he | ⟨hne, he⟩)
          · obtain ⟨t0, s0, a0, f0, hm, h1, h2, h3, h4⟩ := (h.convs e).mp he
            exact ⟨t0, s0, a0, f0, by rw [hmap]; exact List.mem_cons_of_mem _ hm, hasg_old _ _ h1, h2, h3, h4⟩
          · exact ⟨t, s, a, f, by rw [hmap]; exact List.mem_cons_self, hasg_old _ _ hs, hf, hne, he⟩
      rw [hiff, hc]
      by_cases hf0 : f = []
      · simp [hf0]
      · simp [hf0]
    anchor := push
      (by rcases hkind with ⟨e, hf, _⟩ | ⟨e, ⟨f, hf1, hf2, _⟩, _⟩ <;> rw [e]
          · exact .pass hin hf (h.anchor s a hs)
          · exact .conv hin hf1 hf2)
      (fun v b hv _ _ => h.anchor v b hv)
    one_id := by
      intro v w b hv hw hiv hiw
      rw [hasg'] at hv hw
      -- the new variable `t` and an old annotated variable with the same anchor cannot both carry an id
      have key : ∀ x, st.asg x = some a' → (cmeta0 vt x).isSome → (cmeta0 vt t).isSome → False := by
        intro x hx hix hit
        rcases hkind with ⟨e, _, _, ⟨hct, _⟩ | ⟨id, _, hca, _⟩⟩ | ⟨e, _⟩
        · rw [← hcm0, hct] at hit; simp at hit
        · have := h.anchor_has_id x a (e ▸ hx) hix
          rw [hca] at this; simp at this
        · have := h.asg_self x a' hx
          rw [e, ht] at this; cases this
      by_cases hvt : v = t
      · by_cases hwt : w = t
        · rw [hvt, hwt]
        · exfalso
          rw [if_pos hvt] at hv; rw [if_neg hwt] at hw
          simp only [Option.some.injEq] at hv
          exact key w (hv ▸ hw) hiw (hvt ▸ hiv)
      · by_cases hwt : w = t
        · exfalso
          rw [if_pos hwt] at hw; rw [if_neg hvt] at hv
          simp only [Option.some.injEq] at hw
          exact key v (hw ▸ hv) hiv (hwt ▸ hiw)
        · rw [if_neg hvt] at hv; rw [if_neg hwt] at hw
          exact h.one_id v w b hv hw hiv hiw
    cm := by
      rcases hkind with ⟨rfl, -, hconv, ⟨hta, hcm⟩ | ⟨id, hid, hna, hcm⟩⟩ | ⟨rfl, ⟨f, -, -, hconv⟩, hcm⟩
      · exact cm_plain h.cm ht hat hta hcm hasg hconv
      · exact cm_move h.cm h.asg_self ht hat hid hna hcm hasg hconv
      · exact cm_conv h.cm ht rfl hcm hasg hconv }

theorem connect_J {reg : Registry} {vt : VarTable} {cs : List (VRef × VRef)} {st : CState}
    (h : connect reg vt cs = .ok st) : J reg vt cs [] st :=
  connect_induct h (J_init reg vt cs) (fun _ _ _ => J_requeue) (fun _ _ _ _ _ => J_step)

theorem connect_inv {reg : Registry} {vt : VarTable} {l : List (VRef × VRef)} {st : CState}
    (h : connect reg vt l = .ok st) : Inv reg vt l [] st :=
  (connect_J h).toInv

theorem connect_rootOf {reg : Registry} {vt : VarTable} {l : List (VRef × VRef)} {st : CState}
    (h : connect reg vt l = .ok st) (v : VRef) : rootOf st v = root st.mapping v :=
  (connect_J h).wf.resolve_eq_root _ v (Nat.le_refl _)

theorem rootOf_src {reg : Registry} {vt : VarTable} {l : List (VRef × VRef)} {st : CState}
    (h : connect reg vt l = .ok st) {v : VRef} (hv : Src vt v) : rootOf st v = v :=
  (connect_rootOf h v).trans ((connect_J h).wf.root_src hv)

theorem rootOf_ends {reg : Registry} {vt : VarTable} {l : List (VRef × VRef)} {st : CState}
    (h : connect reg vt l = .ok st) {s t : VRef} (hm : (s, t) ∈ l) : rootOf st t = rootOf st s := by
  rw [connect_rootOf h, connect_rootOf h]
  exact (connect_J h).wf.root_mem t s (((connect_inv h).conn_in (s, t) hm).resolve_left List.not_mem_nil)

theorem map_snd_swap (m : List (VRef × VRef)) : (m.map Prod.swap).map Prod.snd = keys m :=
  List.map_map

theorem fed_of_wf {vt : VarTable} {cs : List (VRef × VRef)} : ∀ (m : List (VRef × VRef)), WF (Src vt) m →
    (∀ t s, (t, s) ∈ m → (s, t) ∈ cs) → ∀ v, (Src vt v ∨ v ∈ keys m) → Fed vt cs v
  | [], _, _, v, hv => by
      rcases hv with hv | hv
      · exact .src hv
      · simp at hv
  | (t, s) :: m, hwf, hsub, v, hv => by
      have ih := fed_of_wf m hwf.1 (fun t' s' hm => hsub t' s' (List.mem_cons_of_mem _ hm))
      rcases hv with hv | hv
      · exact .src hv
      · simp only [keys_cons, List.mem_cons] at hv
        rcases hv with rfl | hv
        · exact .step (hsub _ _ List.mem_cons_self) (ih s hwf.2.2.2)
        · exact ih v (Or.inr hv)

/-- when the work list has finished, `assigned_to` is the anchor: a function of the SET of connections -/
theorem J.asg_iff_anchor {reg : Registry} {vt : VarTable} {cs : List (VRef × VRef)} {st : CState}
    (h : J reg vt cs [] st) (v a : VRef) : st.asg v = some a ↔ Anchor reg vt cs v a := by
  have hmem : ∀ c, c ∈ cs → (c.2, c.1) ∈ st.mapping := fun c hc => (h.toInv.mem_mapping_iff c.2 c.1).mpr hc
  refine ⟨h.anchor v a, fun hva => ?_⟩
  induction hva with
  | src hs => exact h.src_asg _ hs
  | @conv s t f hm hf hne =>
      obtain ⟨a, f', _, hf', he⟩ := h.entry t s (hmem (s, t) hm)
      rw [hf] at hf'
      cases hf'
      rw [he, if_neg hne]
  | @pass s t a hm hf _ ih =>
      obtain ⟨a', f', hs, hf', he⟩ := h.entry t s (hmem (s, t) hm)
      rw [hf] at hf'
      cases hf'
      rw [ih] at hs
      rw [he, Option.some.inj hs]
      rfl

/-- when the work list has finished, the conversion equations are a function of the SET of connections too -/
theorem J.mem_convs_iff {reg : Registry} {vt : VarTable} {cs : List (VRef × VRef)} {st : CState}
    (h : J reg vt cs [] st) (e : ConvEq) :
    e ∈ st.convs ↔ ∃ s t a f, (s, t) ∈ cs ∧ Anchor reg vt cs s a ∧ Fac reg vt (s, t) = .ok f ∧ f ≠ [] ∧
      e = ⟨t, a, f, unitsOf vt t, unitsOf vt s⟩ := by
  rw [h.convs]
  constructor
  · rintro ⟨t, s, a, f, hm, h1, h2⟩
    exact ⟨s, t, a, f, h.toInv.map_from t s hm, (h.asg_iff_anchor s a).mp h1, h2⟩
  · rintro ⟨s, t, a, f, hm, h1, h2⟩
    exact ⟨t, s, a, f, (h.toInv.mem_mapping_iff t s).mpr hm, (h.asg_iff_anchor s a).mpr h1, h2⟩

theorem resolvable_of_J {reg : Registry} {vt : VarTable} {cs : List (VRef × VRef)} {st : CState}
    (h : J reg vt cs [] st) : Resolvable reg vt cs := by
  have hmem : ∀ c, c ∈ cs → (c.2, c.1) ∈ st.mapping := fun c hc => (h.toInv.mem_mapping_iff c.2 c.1).mpr hc
  have hperm : (st.mapping.map Prod.swap).Perm cs := by simpa using h.perm
  refine ⟨?_, ?_, ?_, ?_, ?_⟩
  · have := (hperm.map Prod.snd).nodup_iff.mp (by rw [map_snd_swap]; exact h.wf.keys_nodup)
    exact this
  · intro c hc
    exact h.wf.key_not_src c.2 (mem_keys_of_mem (hmem c hc))
  · intro c hc
    exact fed_of_wf st.mapping h.wf h.toInv.map_from c.1 (h.wf.val_ok c.2 c.1 (hmem c hc))
  · intro c hc
    obtain ⟨_, f, _, hf, _⟩ := h.entry c.2 c.1 (hmem c hc)
    exact ⟨f, hf⟩
  · intro v w a hv hw hiv hiw
    exact h.one_id v w a ((h.asg_iff_anchor v a).mpr hv) ((h.asg_iff_anchor w a).mpr hw) hiv hiw

theorem resolvable_of_connect {reg : Registry} {vt : VarTable} {cs : List (VRef × VRef)} {st : CState}
    (h : connect reg vt cs = .ok st) : Resolvable reg vt cs :=
  resolvable_of_J (connect_J h)

theorem dq_target_unassigned {reg : Registry} {vt : VarTable} {cs dq : List (VRef × VRef)} {st : CState}
    (R : Resolvable reg vt cs) (h : J reg vt cs dq st) {s t : VRef} (hc : (s, t) ∈ dq) : st.asg t = none := by
  cases hx : st.asg t with
  | none => rfl
  | some b =>
      exfalso
      rcases (h.asg_iff t).mp (by rw [hx]; rfl) with hsrc | hk
      · exact R.target_not_src (s, t) (h.toInv.dq_sub _ hc) hsrc
      · have hnd : ((st.mapping.map Prod.swap ++ dq).map Prod.snd).Nodup :=
          (h.perm.map Prod.snd).nodup_iff.mpr R.targets_nodup
        rw [List.map_append, map_snd_swap] at hnd
        have hdis := (List.nodup_append.mp hnd).2.2
        exact hdis t hk t (List.mem_map.mpr ⟨(s, t), hc, rfl⟩) rfl

theorem progress_of_fed {reg : Registry} {vt : VarTable} {cs dq : List (VRef × VRef)} {st : CState}
    (h : J reg vt cs dq st) {v : VRef} (hf : Fed vt cs v) :
    st.asg v = none → ∃ c ∈ dq, (st.asg c.1).isSome := by
  induction hf with
  | src hs => intro hv; rw [h.src_asg _ hs] at hv; cases hv
  | @step s t hm _ ih =>
      intro hv
      cases hx : st.asg s with
      | none => exact ih hx
      | some b =>
          rcases h.toInv.conn_in (s, t) hm with hd | hmap
          · exact ⟨(s, t), hd, by show (st.asg s).isSome; rw [hx]; rfl⟩
          · exfalso
            have := (h.asg_iff t).mpr (Or.inr (mem_keys_of_mem hmap))
            rw [hv] at this; simp at this

theorem step_no_error {reg : Registry} {vt : VarTable} {cs rest : List (VRef × VRef)} {st : CState} {s t : VRef}
    (R : Resolvable reg vt cs) (h : J reg vt cs ((s, t) :: rest) st) (e : Err) :
    stepConn reg vt st (s, t) ≠ .error e := by
  intro herr
  have hin : (s, t) ∈ cs := h.toInv.dq_sub _ List.mem_cons_self
  have ht : st.asg t = none := dq_target_unassigned R h List.mem_cons_self
  obtain ⟨f, hf⟩ := R.units_ok (s, t) hin
  have hsp := stepConn_spec reg vt st s t
  rw [herr] at hsp
  cases hsp with
  | assigned hx => rw [ht] at hx; cases hx
  | dim _ _ hf' => rw [hf'] at hf; cases hf
  | unit _ _ hf' _ => rw [hf'] at hf; cases hf
  | @clash a id _ hs hf1 hct hca =>
      -- `a` already carries an id: some assigned `w` with anchor `a` is annotated, and so is `t`
      obtain ⟨w, hw, hiw⟩ := h.id_origin a (h.asg_self s a hs) hca
      have hit : (cmeta0 vt t).isSome := by rw [← h.unassigned_id t ht, hct]; rfl
      have := R.one_id w t a (h.anchor w a hw) (.pass hin hf1 (h.anchor s a hs)) hiw hit
      rw [this, ht] at hw; cases hw

/-- the loop on a resolvable set: no iteration raises, and the `assert` cannot fire because a deque whose
    connections are all waiting would contain a fed, unassigned target -/
theorem loop_complete {reg : Registry} {vt : VarTable} {cs : List (VRef × VRef)} (R : Resolvable reg vt cs) :
    ∀ (dq : List (VRef × VRef)) (unch : Nat) (hu : unch ≤ dq.length) (st : CState),
      J reg vt cs dq st → dq.Blocked (fun c => st.asg c.1 = none) unch →
      ∃ st', connectLoop reg vt dq unch hu st = .ok st' := by
  intro dq unch hu st
  fun_induction connectLoop reg vt dq unch hu st with
  | case1 unch st hu _ => intro _ _; exact ⟨st, rfl⟩
  | case2 unch st c rest hu e he _ =>
      intro hj _
      obtain ⟨s, t⟩ := c
      exact absurd he (step_no_error R hj e)
  | case3 unch st c rest hu he hlt _ ih =>
      intro hj hb
      exact ih (J_requeue hj) (hb.rotate (stepConn_none he) (Nat.not_lt.mpr hlt))
  | case4 unch st c rest hu he hlt _ =>
      intro hj hb
      exfalso
      obtain ⟨s, t⟩ := c
      -- every connection of the deque is waiting
      have hall := hb.all (Nat.lt_of_not_le hlt)
      have ht : st.asg t = none := dq_target_unassigned R hj List.mem_cons_self
      have hin : (s, t) ∈ cs := hj.toInv.dq_sub _ List.mem_cons_self
      have hfed : Fed vt cs t := .step hin (R.fed (s, t) hin)
      obtain ⟨c, hc, hsome⟩ := progress_of_fed hj hfed ht
      rw [hall c hc] at hsome; simp at hsome
  | case5 unch st c rest hu st1 he _ ih =>
      intro hj _
      obtain ⟨s, t⟩ := c
      exact ih (J_step hj he) (.zero rest)

theorem connect_of_resolvable {reg : Registry} {vt : VarTable} {cs : List (VRef × VRef)} (R : Resolvable reg vt cs) :
    ∃ st, connect reg vt cs = .ok st :=
  loop_complete R cs 0 (Nat.zero_le _) (initState vt) (J_init reg vt cs) (.zero cs)

theorem connect_perm_root {reg : Registry} {vt : VarTable} {l l' : List (VRef × VRef)} {st st' : CState}
    (hl : ∀ c, c ∈ l ↔ c ∈ l') (h : connect reg vt l = .ok st) (h' : connect reg vt l' = .ok st') :
    ∀ v, rootOf st v = rootOf st' v := by
  have inv := connect_inv h
  have inv' := connect_inv h'
  have hlk : ∀ t s, st.mapping.lookup t = some s ↔ (s, t) ∈ l := fun t s => by
    rw [inv.wf.lookup_iff, inv.mem_mapping_iff]
  have hlk' : ∀ t s, st'.mapping.lookup t = some s ↔ (s, t) ∈ l' := fun t s => by
    rw [inv'.wf.lookup_iff, inv'.mem_mapping_iff]
  have hlook : ∀ v, st.mapping.lookup v = st'.mapping.lookup v := fun v =>
    Option.ext fun s => by rw [hlk, hlk', hl]
  intro v
  let n := max st.mapping.length st'.mapping.length
  have e1 : rootOf st v = resolve st.mapping n v :=
    (connect_rootOf h v).trans (inv.wf.resolve_eq_root n v (Nat.le_max_left _ _)).symm
  have e2 : rootOf st' v = resolve st'.mapping n v :=
    (connect_rootOf h' v).trans (inv'.wf.resolve_eq_root n v (Nat.le_max_right _ _)).symm
  rw [e1, e2]
  exact resolve_congr hlook n v

theorem connect_of_perm {reg : Registry} {vt : VarTable} {cs₁ cs₂ : List (VRef × VRef)} {st₁ : CState}
    (hp : cs₁.Perm cs₂) (h : connect reg vt cs₁ = .ok st₁) :
    ∃ st₂, connect reg vt cs₂ = .ok st₂ ∧ ∀ v, rootOf st₁ v = rootOf st₂ v := by
  obtain ⟨st₂, h₂⟩ := connect_of_resolvable ((resolvable_of_connect h).perm hp)
  exact ⟨st₂, h₂, connect_perm_root (fun _ => hp.mem_iff) h h₂⟩

theorem loaded_facts {doc : Doc} {L : Loaded} (hprep : prepare doc = .ok L) :
    (∀ k ∈ doc.conns, rootOf L.st k.end1 = rootOf L.st k.end2) ∧
    (∀ t s, (t, s) ∈ L.st.mapping → ∃ k ∈ doc.conns, (t = k.end1 ∧ s = k.end2) ∨ (t = k.end2 ∧ s = k.end1)) := by
  obtain ⟨_, _, _, _, hdir, hconn⟩ := prepare_parts hprep
  obtain ⟨hd1, hd2⟩ := directAll_spec hdir
  have inv := connect_inv hconn
  constructor
  · intro k hk
    obtain ⟨⟨s, t⟩, hd, hdk⟩ := hd1 k hk
    have := rootOf_ends hconn hd
    rcases direction_ends hdk with ⟨rfl, rfl⟩ | ⟨rfl, rfl⟩
    · exact this.symm
    · exact this
  · intro t s hm
    obtain ⟨k, hk, hdk⟩ := hd2 (s, t) (inv.map_from t s hm)
    refine ⟨k, hk, ?_⟩
    rcases direction_ends hdk with ⟨rfl, rfl⟩ | ⟨rfl, rfl⟩
    · exact Or.inr ⟨rfl, rfl⟩
    · exact Or.inl ⟨rfl, rfl⟩


end Load
