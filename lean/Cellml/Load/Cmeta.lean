import Cellml.Load.Lemmas

/-! # Where connection resolution leaves the cmeta ids (the `cf == 1` branch of `Parser._add_connections`, which calls `Model.transfer_cmeta_id`; `Load.stepConn`)

    `CmInv`: the ids sit exactly on the `assigned_to` of the variables they were written on. What each kind of
    successful iteration (`stepConn_shape`: no id, id moved, conversion equation) does to it. Core Lean only. -/

namespace Load

/-- the id written on a variable in the document -/
def docId (vt : VarTable) (v : VRef) : Option String := cmetaOf (initState vt) v

/-- `v.assigned_to` if it has one, else `v` -/
def home (st : CState) (v : VRef) : VRef := (st.asg v).getD v

theorem home_target {st : CState} {t : VRef} (ht : st.asg t = none) : home st t = t := by
  unfold home; rw [ht]; rfl

theorem home_of_asg {st : CState} {w a : VRef} (hw : st.asg w = some a) : home st w = a := by
  unfold home; rw [hw]; rfl

/-- `selfAsg`: a variable assigned to itself is a source proper or the left-hand side of a conversion equation -/
structure CmInv (vt : VarTable) (st : CState) : Prop where
  ids : ∀ w c, cmetaOf st w = some c ↔ ∃ v0, docId vt v0 = some c ∧ home st v0 = w
  selfAsg : ∀ v, st.asg v = some v → Src vt v ∨ ∃ e ∈ st.convs, e.target = v

theorem cm_init (vt : VarTable) : CmInv vt (initState vt) where
  ids := by
    intro w c
    have hh : ∀ v0, home (initState vt) v0 = v0 := by
      intro v0
      cases h : (initState vt).asg v0 with
      | none => exact home_target h
      | some a => rw [home_of_asg h]; exact initAssigned_lookup vt v0 a h
    constructor
    · intro h; exact ⟨w, h, hh w⟩
    · rintro ⟨v0, h1, h2⟩; rw [hh] at h2; subst h2; exact h1
  selfAsg := by
    intro v h
    left
    unfold Src
    have : (initAssigned vt).lookup v = some v := h
    rw [this]; rfl

theorem home_eq_target {st : CState} (hself : ∀ v a, st.asg v = some a → st.asg a = some a) {t : VRef}
    (ht : st.asg t = none) {v0 : VRef} (h : home st v0 = t) : v0 = t := by
  cases hv : st.asg v0 with
  | none => exact (home_target hv).symm.trans h
  | some b =>
    rw [home_of_asg hv] at h
    subst h
    have := hself v0 b hv
    rw [ht] at this; cases this

theorem home_cons {st st' : CState} {t a : VRef} (hasg : st'.assigned = (t, a) :: st.assigned) (v0 : VRef) :
    home st' v0 = if v0 = t then a else home st v0 := by
  unfold home CState.asg
  rw [hasg, List.lookup_cons_ite]
  split <;> rfl

theorem selfAsg_cons {vt : VarTable} {st st' : CState} {t a : VRef} (hc : CmInv vt st) (hat : a ≠ t)
    (hasg : st'.assigned = (t, a) :: st.assigned) (hconv : st'.convs = st.convs) (v : VRef) (hv : st'.asg v = some v) :
    Src vt v ∨ ∃ e ∈ st'.convs, e.target = v := by
  have : st'.asg v = if v = t then some a else st.asg v := by
    unfold CState.asg; rw [hasg, List.lookup_cons_ite]
  rw [this] at hv
  by_cases hvt : v = t
  · rw [if_pos hvt] at hv; simp only [Option.some.injEq] at hv; exact absurd (hv.trans hvt) hat
  · rw [if_neg hvt] at hv; rw [hconv]; exact hc.selfAsg v hv

/-- factor 1, the target carries no id -/
theorem cm_plain {vt : VarTable} {st st' : CState} {t a : VRef} (hc : CmInv vt st)
    (ht : st.asg t = none) (hat : a ≠ t) (hta : cmetaOf st t = none)
    (hcm : ∀ v, cmetaOf st' v = cmetaOf st v) (hasg : st'.assigned = (t, a) :: st.assigned)
    (hconv : st'.convs = st.convs) : CmInv vt st' where
  ids := by
    intro w c
    rw [hcm, hc.ids]
    have hnot : ∀ c, docId vt t ≠ some c := by
      intro c hd
      have := (hc.ids t c).mpr ⟨t, hd, home_target ht⟩
      rw [hta] at this; cases this
    refine exists_congr fun v0 => and_congr_right fun h1 => ?_
    rw [home_cons hasg, if_neg]
    rintro rfl; exact hnot c h1
  selfAsg := selfAsg_cons hc hat hasg hconv

/-- factor 1, the id of the target moves to `a` -/
theorem cm_move {vt : VarTable} {st st' : CState} {t a : VRef} {id : String} (hc : CmInv vt st)
    (hself : ∀ v a, st.asg v = some a → st.asg a = some a)
    (ht : st.asg t = none) (hat : a ≠ t) (hid : cmetaOf st t = some id) (hna : cmetaOf st a = none)
    (hcm : ∀ v, cmetaOf st' v = if v = a then some id else if v = t then none else cmetaOf st v)
    (hasg : st'.assigned = (t, a) :: st.assigned) (hconv : st'.convs = st.convs) : CmInv vt st' where
  ids := by
    intro w c
    rw [hcm]
    have hdt : docId vt t = some id := by
      obtain ⟨v0, h1, h2⟩ := (hc.ids t id).mp hid
      have := home_eq_target hself ht h2
      subst this; exact h1
    by_cases h1 : w = a
    · subst h1
      rw [if_pos rfl]
      constructor
      · intro h
        simp only [Option.some.injEq] at h; subst h
        exact ⟨t, hdt, by rw [home_cons hasg, if_pos rfl]⟩
      · rintro ⟨v0, d1, d2⟩
        rw [home_cons hasg] at d2
        by_cases hv : v0 = t
        · subst hv; rw [hdt] at d1; exact d1
        · rw [if_neg hv] at d2
          have := (hc.ids w c).mpr ⟨v0, d1, d2⟩
          rw [hna] at this; cases this
    · rw [if_neg h1]
      by_cases h2 : w = t
      · subst h2
        rw [if_pos rfl]
        constructor
        · intro h; cases h
        · rintro ⟨v0, d1, d2⟩
          rw [home_cons hasg] at d2
          by_cases hv : v0 = w
          · rw [if_pos hv] at d2; exact absurd d2 hat
          · rw [if_neg hv] at d2; exact absurd (home_eq_target hself ht d2) hv
      · rw [if_neg h2, hc.ids]
        constructor
        · rintro ⟨v0, d1, d2⟩
          refine ⟨v0, d1, ?_⟩
          rw [home_cons hasg, if_neg]; exact d2
          rintro rfl; rw [home_target ht] at d2; exact h2 d2.symm
        · rintro ⟨v0, d1, d2⟩
          rw [home_cons hasg] at d2
          by_cases hv : v0 = t
          · rw [if_pos hv] at d2; exact absurd d2.symm h1
          · rw [if_neg hv] at d2; exact ⟨v0, d1, d2⟩
  selfAsg := selfAsg_cons hc hat hasg hconv

/-- a conversion equation is added: the target is assigned to itself and keeps its id -/
theorem cm_conv {vt : VarTable} {st st' : CState} {t : VRef} {e : ConvEq} (hc : CmInv vt st)
    (ht : st.asg t = none) (he : e.target = t)
    (hcm : ∀ v, cmetaOf st' v = cmetaOf st v) (hasg : st'.assigned = (t, t) :: st.assigned)
    (hconv : st'.convs = st.convs ++ [e]) : CmInv vt st' where
  ids := by
    intro w c
    have e1 := hcm w
    have e2 : ∀ v0, home st' v0 = home st v0 := by
      intro v0
      rw [home_cons hasg]
      split
      · rename_i h; subst h; exact (home_target ht).symm
      · rfl
    simp only [e1, hc.ids, e2]
  selfAsg := by
    intro v hv
    by_cases hvt : v = t
    · right; exact ⟨e, by rw [hconv]; simp, by rw [he, hvt]⟩
    · have : st'.asg v = st.asg v := by
        unfold CState.asg; rw [hasg, List.lookup_cons_ite, if_neg hvt]
      rw [this] at hv
      rcases hc.selfAsg v hv with h | ⟨e', he1, he2⟩
      · exact Or.inl h
      · exact Or.inr ⟨e', by rw [hconv]; exact List.mem_append_left _ he1, he2⟩

end Load
