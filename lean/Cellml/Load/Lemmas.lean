import Cellml.Load.Loader
import Cellml.Load.Stages
import Cellml.Basic.Assoc

/-! # The connection work list: mappings, the loop invariant, and reading the loader's stages back

    `connected_variable_mapping` as built by the work list is a well-formed forest (`WF`), on which the `while` loop of
    `symbol_generator` (`resolve`) computes the structural `root`. `Inv` is what holds of the work-list state at every
    iteration (proved in Load/PermOutcome.lean, from the loop invariant `J`); `Step` lists what one iteration can do
    (`stepConn_shape`: what a successful one does), `connect_induct` is induction along the loop. -/

namespace Load

def keys (m : List (VRef × VRef)) : List VRef := m.map Prod.fst

@[simp] theorem keys_nil : keys [] = [] := rfl
@[simp] theorem keys_cons (t s : VRef) (m : List (VRef × VRef)) : keys ((t, s) :: m) = t :: keys m := rfl

theorem mem_keys_of_mem {m : List (VRef × VRef)} {t s : VRef} (h : (t, s) ∈ m) : t ∈ keys m :=
  List.mem_map.mpr ⟨(t, s), h, rfl⟩

@[simp] theorem lookup_nil {β : Type} (v : VRef) : ([] : List (VRef × β)).lookup v = none := rfl

/-- a mapping built by the work list: every new target is fresh and not a source, every new source is a source
    variable or an earlier target. `S` = "has an `assigned_to` from the start" (no `in` interface). -/
def WF (S : VRef → Prop) : List (VRef × VRef) → Prop
  | [] => True
  | (t, s) :: m => WF S m ∧ ¬ S t ∧ t ∉ keys m ∧ (S s ∨ s ∈ keys m)

theorem WF.key_not_src {S : VRef → Prop} : ∀ {m : List (VRef × VRef)}, WF S m → ∀ v, v ∈ keys m → ¬ S v
  | [], _, v, hv => by simp at hv
  | (t, s) :: m, h, v, hv => by
      simp only [keys_cons, List.mem_cons] at hv
      rcases hv with rfl | hv
      · exact h.2.1
      · exact WF.key_not_src h.1 v hv

theorem WF.val_ok {S : VRef → Prop} : ∀ {m : List (VRef × VRef)}, WF S m → ∀ t s, (t, s) ∈ m → S s ∨ s ∈ keys m
  | [], _, t, s, hm => by simp at hm
  | (t0, s0) :: m, h, t, s, hm => by
      simp only [List.mem_cons, Prod.mk.injEq] at hm
      rcases hm with ⟨_, rfl⟩ | hm
      · rcases h.2.2.2 with hs | hs
        · exact Or.inl hs
        · exact Or.inr (List.mem_cons_of_mem _ hs)
      · rcases WF.val_ok h.1 t s hm with hs | hs
        · exact Or.inl hs
        · exact Or.inr (List.mem_cons_of_mem _ hs)

theorem WF.keys_nodup {S : VRef → Prop} : ∀ {m : List (VRef × VRef)}, WF S m → (keys m).Nodup
  | [], _ => List.nodup_nil
  | (t, s) :: m, h => by
      simp only [keys_cons, List.nodup_cons]
      exact ⟨h.2.2.1, WF.keys_nodup h.1⟩

theorem WF.lookup_iff {S : VRef → Prop} {m : List (VRef × VRef)} (h : WF S m) (t s : VRef) :
    m.lookup t = some s ↔ (t, s) ∈ m :=
  List.lookup_eq_some_iff_mem h.keys_nodup

theorem root_of_not_key : ∀ {m : List (VRef × VRef)} {v : VRef}, v ∉ keys m → root m v = v
  | [], _, _ => rfl
  | (t, s) :: m, v, h => by
      simp only [keys_cons, List.mem_cons, not_or] at h
      simp only [root, if_neg h.1]
      exact root_of_not_key h.2

theorem WF.root_src {S : VRef → Prop} {m : List (VRef × VRef)} (h : WF S m) {v : VRef} (hv : S v) : root m v = v :=
  root_of_not_key (fun hk => WF.key_not_src h v hk hv)

theorem WF.root_is_src {S : VRef → Prop} : ∀ {m : List (VRef × VRef)}, WF S m → ∀ v, v ∈ keys m → S (root m v)
  | [], _, v, hv => by simp at hv
  | (t, s) :: m, h, v, hv => by
      simp only [keys_cons, List.mem_cons] at hv
      by_cases hvt : v = t
      · subst hvt
        simp only [root, if_true]
        rcases h.2.2.2 with hs | hs
        · rw [WF.root_src h.1 hs]; exact hs
        · exact WF.root_is_src h.1 s hs
      · simp only [root, if_neg hvt]
        rcases hv with e | hv
        · exact absurd e hvt
        · exact WF.root_is_src h.1 v hv

theorem WF.root_not_key {S : VRef → Prop} {m : List (VRef × VRef)} (h : WF S m) (v : VRef) : root m v ∉ keys m := by
  by_cases hv : v ∈ keys m
  · exact fun hk => WF.key_not_src h _ hk (WF.root_is_src h v hv)
  · rw [root_of_not_key hv]; exact hv

theorem ne_of_val {S : VRef → Prop} {m : List (VRef × VRef)} {t s : VRef} (hs : S s ∨ s ∈ keys m)
    (ht1 : ¬ S t) (ht2 : t ∉ keys m) : s ≠ t := by
  rintro rfl
  rcases hs with hs | hs
  · exact ht1 hs
  · exact ht2 hs

theorem WF.root_mem {S : VRef → Prop} : ∀ {m : List (VRef × VRef)}, WF S m → ∀ t s, (t, s) ∈ m → root m t = root m s
  | [], _, t, s, hm => by simp at hm
  | (t0, s0) :: m, h, t, s, hm => by
      simp only [List.mem_cons, Prod.mk.injEq] at hm
      rcases hm with ⟨rfl, rfl⟩ | hm
      · have : s ≠ t := ne_of_val h.2.2.2 h.2.1 h.2.2.1
        simp only [root, if_true, if_neg this]
      · have ht : t ≠ t0 := fun e => h.2.2.1 (e ▸ mem_keys_of_mem hm)
        have hs : s ≠ t0 := ne_of_val (WF.val_ok h.1 t s hm) h.2.1 h.2.2.1
        simp only [root, if_neg ht, if_neg hs]
        exact WF.root_mem h.1 t s hm

theorem resolve_cons_ne {m : List (VRef × VRef)} {t s : VRef} (hvals : ∀ a b, (a, b) ∈ m → b ≠ t) :
    ∀ (n : Nat) (v : VRef), v ≠ t → resolve ((t, s) :: m) n v = resolve m n v
  | 0, _, _ => rfl
  | n + 1, v, hv => by
      simp only [resolve, List.lookup_cons_ite, if_neg hv]
      cases hl : m.lookup v with
      | none => rfl
      | some s' => exact resolve_cons_ne hvals n s' (hvals v s' (List.mem_of_lookup _ _ _ hl))

/-- with fuel = length of the mapping the loop has finished: it computes `root` -/
theorem WF.resolve_eq_root {S : VRef → Prop} : ∀ {m : List (VRef × VRef)}, WF S m → ∀ (n : Nat) (v : VRef),
    m.length ≤ n → resolve m n v = root m v
  | [], _, n, v, _ => by cases n <;> rfl
  | (t, s) :: m, h, n, v, hn => by
      have hvals : ∀ a b, (a, b) ∈ m → b ≠ t := fun a b hab => ne_of_val (WF.val_ok h.1 a b hab) h.2.1 h.2.2.1
      by_cases hv : v = t
      · subst hv
        cases n with
        | zero => simp at hn
        | succ n =>
            have hs : s ≠ v := ne_of_val h.2.2.2 h.2.1 h.2.2.1
            simp only [resolve, List.lookup_cons_ite, if_true, root]
            rw [resolve_cons_ne hvals n s hs]
            exact WF.resolve_eq_root h.1 n s (by simp only [List.length_cons] at hn; omega)
      · rw [resolve_cons_ne hvals n v hv]
        simp only [root, if_neg hv]
        exact WF.resolve_eq_root h.1 n v (by simp only [List.length_cons] at hn; omega)

theorem resolve_congr {m m' : List (VRef × VRef)} (h : ∀ v, m.lookup v = m'.lookup v) :
    ∀ (n : Nat) (v : VRef), resolve m n v = resolve m' n v
  | 0, _ => rfl
  | n + 1, v => by
      simp only [resolve, h v]
      cases m'.lookup v with
      | none => rfl
      | some s => exact resolve_congr h n s

/-- position of a key counted from the oldest entry (sources: 0): strictly decreasing along the mapping -/
def rank : List (VRef × VRef) → VRef → Nat
  | [], _ => 0
  | (t, _) :: m, v => if v = t then m.length + 1 else rank m v

theorem rank_le : ∀ (m : List (VRef × VRef)) (v : VRef), rank m v ≤ m.length
  | [], _ => Nat.le_refl _
  | (t, _) :: m, v => by
      simp only [rank, List.length_cons]
      split
      · omega
      · have := rank_le m v; omega

/-- acyclicity: every recorded connection goes from a strictly lower rank to a higher one -/
theorem WF.rank_lt {S : VRef → Prop} : ∀ {m : List (VRef × VRef)}, WF S m → ∀ t s, (t, s) ∈ m → rank m s < rank m t
  | [], _, t, s, hm => by simp at hm
  | (t0, s0) :: m, h, t, s, hm => by
      simp only [List.mem_cons, Prod.mk.injEq] at hm
      rcases hm with ⟨rfl, rfl⟩ | hm
      · have : s ≠ t := ne_of_val h.2.2.2 h.2.1 h.2.2.1
        simp only [rank, if_true, if_neg this]
        have := rank_le m s; omega
      · have ht : t ≠ t0 := fun e => h.2.2.1 (e ▸ mem_keys_of_mem hm)
        have hs : s ≠ t0 := ne_of_val (WF.val_ok h.1 t s hm) h.2.1 h.2.2.1
        simp only [rank, if_neg ht, if_neg hs]
        exact WF.rank_lt h.1 t s hm

theorem root_respects {β : Type} (f : VRef → β) : ∀ (m : List (VRef × VRef)), (∀ t s, (t, s) ∈ m → f t = f s) →
    ∀ v, f (root m v) = f v
  | [], _, _ => rfl
  | (t0, s0) :: m, h, v => by
      have ih := root_respects f m (fun t s hm => h t s (List.mem_cons_of_mem _ hm))
      simp only [root]
      split
      · rename_i hv; rw [ih s0, hv]; exact (h t0 s0 List.mem_cons_self).symm
      · exact ih v

theorem root_ind (P : VRef → Prop) : ∀ (m : List (VRef × VRef)) (v : VRef),
    (∀ t s, (t, s) ∈ m → P s) → P v → P (root m v)
  | [], _, _, hv => hv
  | (t, s) :: m, v, hm, hv => by
      unfold root
      split
      · exact root_ind P m s (fun t' s' h => hm t' s' (List.mem_cons_of_mem _ h)) (hm t s List.mem_cons_self)
      · exact root_ind P m v (fun t' s' h => hm t' s' (List.mem_cons_of_mem _ h)) hv

/-! ## the state of the work list: what holds of it, what one iteration does, induction along the loop -/

/-- a variable that has an `assigned_to` from the start: no `in` interface -/
def Src (vt : VarTable) (v : VRef) : Prop := ((initAssigned vt).lookup v).isSome

theorem initAssigned_lookup (vt : VarTable) (v a : VRef) (h : (initAssigned vt).lookup v = some a) : a = v := by
  obtain ⟨⟨r, i⟩, _, hx⟩ := List.mem_filterMap.mp (List.mem_of_lookup _ _ _ h)
  dsimp only at hx
  split at hx <;> cases hx
  rfl

theorem src_lookup {vt : VarTable} {v : VRef} (h : Src vt v) : (initAssigned vt).lookup v = some v := by
  obtain ⟨a, ha⟩ := Option.isSome_iff_exists.mp h
  cases initAssigned_lookup vt v a ha
  exact ha

theorem isSrc_of_ne_inn {i : VarInfo} (h1 : i.pub ≠ .inn) (h2 : i.priv ≠ .inn) : i.isSrc = true := by
  unfold VarInfo.isSrc
  rw [beq_false_of_ne h2, beq_false_of_ne h1]; rfl

theorem src_of_mem {vt : VarTable} {v : VRef} {i : VarInfo} (hm : (v, i) ∈ vt) (hs : i.isSrc = true) : Src vt v :=
  List.lookup_isSome_iff_mem_keys.mpr
    (List.mem_map.mpr ⟨(v, v), List.mem_filterMap.mpr ⟨(v, i), hm, if_pos hs⟩, rfl⟩)

theorem mem_of_src : ∀ {vt : VarTable} {v : VRef}, Src vt v → ∃ i, (v, i) ∈ vt ∧ i.isSrc = true := by
  intro vt v h
  obtain ⟨p, hp, rfl⟩ := List.mem_map.mp (List.lookup_isSome_iff_mem_keys.mp h)
  obtain ⟨⟨r, i⟩, hm, hx⟩ := List.mem_filterMap.mp hp
  dsimp only at hx
  split at hx <;> cases hx
  rename_i hi
  exact ⟨i, hm, hi⟩

/-- what holds of the state of the work list at every iteration. `l` = all directed connections, `dq` = the deque.
    It is what C01, C13 and C15 read of a finished run (`connect_inv`), and is projected out of the loop invariant `J`
    of `Load/PermOutcome.lean` (`J.toInv`; `inv_init` below is the base case `J_init` takes its first fields from). -/
structure Inv (reg : Registry) (vt : VarTable) (l dq : List (VRef × VRef)) (st : CState) : Prop where
  wf       : WF (Src vt) st.mapping
  asg_iff  : ∀ v, (st.asg v).isSome ↔ (Src vt v ∨ v ∈ keys st.mapping)
  asg_self : ∀ v a, st.asg v = some a → st.asg a = some a
  asg_root : ∀ v a, st.asg v = some a → root st.mapping a = root st.mapping v
  conn_in  : ∀ c ∈ l, c ∈ dq ∨ (c.2, c.1) ∈ st.mapping
  map_from : ∀ t s, (t, s) ∈ st.mapping → (s, t) ∈ l
  dq_sub   : ∀ c ∈ dq, c ∈ l
  conv_ok  : ∀ e ∈ st.convs, st.asg e.src = some e.src ∧ e.target ∈ keys st.mapping ∧
               root st.mapping e.src = root st.mapping e.target ∧ Units.factor reg e.su e.tu = .ok e.cf

theorem inv_init (reg : Registry) (vt : VarTable) (l : List (VRef × VRef)) : Inv reg vt l l (initState vt) where
  wf := trivial
  asg_iff := by intro v; simp [CState.asg, initState, Src]
  asg_self := by
    intro v a h
    have := initAssigned_lookup vt v a h
    subst this; exact h
  asg_root := by
    intro v a h
    have := initAssigned_lookup vt v a h
    subst this; rfl
  conn_in := fun c hc => Or.inl hc
  map_from := by intro t s h; simp [initState] at h
  dq_sub := fun c hc => hc
  conv_ok := by intro e h; simp [initState] at h

theorem Inv.mem_mapping_iff {reg : Registry} {vt : VarTable} {l : List (VRef × VRef)} {st : CState}
    (h : Inv reg vt l [] st) (t s : VRef) : (t, s) ∈ st.mapping ↔ (s, t) ∈ l :=
  ⟨h.map_from t s, fun hl => (h.conn_in (s, t) hl).resolve_left List.not_mem_nil⟩

/-- the conversion factor of a directed connection (source, target) -/
def Fac (reg : Registry) (vt : VarTable) (c : VRef × VRef) : Except Units.UErr Scale :=
  Units.factor reg (unitsOf vt c.1) (unitsOf vt c.2)

/-- everything one iteration of the work list can do on the connection `s → t`, branch by branch in the order the
    code tests; `stepConn` always returns one of these (`stepConn_spec`) -/
inductive Step (reg : Registry) (vt : VarTable) (st : CState) (s t : VRef) : Except Err (Option CState) → Prop
  | assigned : (st.asg t).isSome → Step reg vt st s t (.error (.valueError "Target already assigned"))
  | wait : st.asg t = none → st.asg s = none → Step reg vt st s t (.ok none)
  | dim {a : VRef} : st.asg t = none → st.asg s = some a →
      Fac reg vt (s, t) = .error .dimensionality → Step reg vt st s t (.error .dimensionality)
  | unit {a : VRef} {e : Units.UErr} : st.asg t = none → st.asg s = some a →
      Fac reg vt (s, t) = .error e → e ≠ .dimensionality →
      Step reg vt st s t (.error (.keyError "undefined unit"))
  | plain {a : VRef} : st.asg t = none → st.asg s = some a → Fac reg vt (s, t) = .ok [] →
      cmetaOf st t = none →
      Step reg vt st s t (.ok (some { st with mapping := (t, s) :: st.mapping, assigned := (t, a) :: st.assigned }))
  | clash {a : VRef} {id : String} : st.asg t = none → st.asg s = some a →
      Fac reg vt (s, t) = .ok [] → cmetaOf st t = some id → (cmetaOf st a).isSome →
      Step reg vt st s t (.error (.valueError "Cannot transfer cmeta id: target variable already has a cmeta id"))
  | move {a : VRef} {id : String} : st.asg t = none → st.asg s = some a →
      Fac reg vt (s, t) = .ok [] → cmetaOf st t = some id → cmetaOf st a = none →
      Step reg vt st s t (.ok (some { st with mapping := (t, s) :: st.mapping, assigned := (t, a) :: st.assigned,
                                              cmeta := (a, some id) :: (t, none) :: st.cmeta }))
  | conv {a : VRef} {f : Scale} : st.asg t = none → st.asg s = some a →
      Fac reg vt (s, t) = .ok f → f ≠ [] →
      Step reg vt st s t (.ok (some { st with mapping := (t, s) :: st.mapping, assigned := (t, t) :: st.assigned,
                                              convs := st.convs ++ [⟨t, a, f, unitsOf vt t, unitsOf vt s⟩] }))

theorem stepConn_spec (reg : Registry) (vt : VarTable) (st : CState) (s t : VRef) :
    Step reg vt st s t (stepConn reg vt st (s, t)) := by
  unfold stepConn
  simp only
  cases ht : st.asg t with
  | some b => exact .assigned (by rw [ht]; rfl)
  | none =>
    simp only [Option.isSome_none, Bool.false_eq_true, if_false]
    cases hs : st.asg s with
    | none => exact .wait ht hs
    | some a =>
      simp only
      cases hf : Units.factor reg (unitsOf vt s) (unitsOf vt t) with
      | error e =>
        cases e with
        | dimensionality => exact .dim ht hs hf
        | _ => exact .unit ht hs hf (by simp)
      | ok f =>
        simp only
        by_cases hf1 : f = []
        · subst hf1
          rw [if_pos rfl]
          cases hct : cmetaOf st t with
          | none => exact .plain ht hs hf hct
          | some id =>
            simp only
            by_cases hca : (cmetaOf st a).isSome = true
            · rw [if_pos hca]; exact .clash ht hs hf hct hca
            · rw [if_neg hca]; exact .move ht hs hf hct (Option.not_isSome_iff_eq_none.mp hca)
        · rw [if_neg hf1]; exact .conv ht hs hf hf1

/-- what a successful iteration does to the state. Factor one: the target is assigned to `a = source.assigned_to`, and
    either (A) the target has no annotation or (B) its annotation moves to `a`, which had none. Otherwise (C) the
    target is assigned to itself and a conversion equation is added. -/
theorem stepConn_shape {reg : Registry} {vt : VarTable} {st st' : CState} {s t : VRef}
    (h : stepConn reg vt st (s, t) = .ok (some st')) :
    st.asg t = none ∧ ∃ a a', st.asg s = some a ∧
      st'.mapping = (t, s) :: st.mapping ∧ st'.assigned = (t, a') :: st.assigned ∧
      ((a' = a ∧ Fac reg vt (s, t) = .ok [] ∧ st'.convs = st.convs ∧
          ((cmetaOf st t = none ∧ ∀ v, cmetaOf st' v = cmetaOf st v) ∨
           ∃ id, cmetaOf st t = some id ∧ cmetaOf st a = none ∧
             ∀ v, cmetaOf st' v = if v = a then some id else if v = t then none else cmetaOf st v)) ∨
       (a' = t ∧ (∃ f, Fac reg vt (s, t) = .ok f ∧ f ≠ [] ∧
          st'.convs = st.convs ++ [⟨t, a, f, unitsOf vt t, unitsOf vt s⟩]) ∧ ∀ v, cmetaOf st' v = cmetaOf st v)) := by
  have hsp := stepConn_spec reg vt st s t
  rw [h] at hsp
  cases hsp with
  | @plain a ht hs hf hct => exact ⟨ht, a, a, hs, rfl, rfl, Or.inl ⟨rfl, hf, rfl, Or.inl ⟨hct, fun _ => rfl⟩⟩⟩
  | @move a id ht hs hf hct hca =>
      refine ⟨ht, a, a, hs, rfl, rfl, Or.inl ⟨rfl, hf, rfl, Or.inr ⟨id, hct, hca, fun v => ?_⟩⟩⟩
      simp only [cmetaOf, List.lookup_cons_ite]
      by_cases hva : v = a
      · simp [hva]
      · by_cases hvt : v = t
        · subst hvt; simp [hva]
        · simp [hva, hvt]
  | @conv a f ht hs hf hne => exact ⟨ht, a, t, hs, rfl, rfl, Or.inr ⟨rfl, ⟨f, hf, hne, rfl⟩, fun _ => rfl⟩⟩

theorem stepConn_none {reg : Registry} {vt : VarTable} {st : CState} {s t : VRef}
    (h : stepConn reg vt st (s, t) = .ok none) : st.asg s = none := by
  have hsp := stepConn_spec reg vt st s t
  rw [h] at hsp
  cases hsp with
  | wait _ hs => exact hs

theorem connect_induct {reg : Registry} {vt : VarTable} {P : List (VRef × VRef) → CState → Prop}
    {l : List (VRef × VRef)} {st' : CState} (h : connect reg vt l = .ok st') (init : P l (initState vt))
    (requeue : ∀ c rest st, P (c :: rest) st → P (rest ++ [c]) st)
    (step : ∀ s t rest st st₁, P ((s, t) :: rest) st → stepConn reg vt st (s, t) = .ok (some st₁) → P rest st₁) :
    P [] st' := by
  suffices loop : ∀ dq unch hu st, P dq st → connectLoop reg vt dq unch hu st = .ok st' → P [] st' from
    loop l 0 (Nat.zero_le _) _ init h
  intro dq unch hu st
  fun_induction connectLoop reg vt dq unch hu st with
  | case1 => intro hp h; cases h; exact hp
  | case2 => intro _ h; cases h
  | case3 unch st c rest hu he hlt _ ih => intro hp h; exact ih (requeue c rest st hp) h
  | case4 => intro _ h; cases h
  | case5 unch st c rest hu st1 he _ ih => intro hp h; exact ih (step c.1 c.2 rest st st1 hp he) h

def Conn.swap (c : Conn) : Conn := ⟨c.c2, c.v2, c.c1, c.v1⟩

theorem direction_ends {par : ParentMap} {vt : VarTable} {c : Conn} {s t : VRef}
    (h : direction par vt c = .ok (s, t)) :
    (s = c.end1 ∧ t = c.end2) ∨ (s = c.end2 ∧ t = c.end1) := by
  rw [direction_eq] at h
  split at h
  · cases h
  · cases h
  · split at h
    · cases h; exact Or.inl ⟨rfl, rfl⟩
    · cases h; exact Or.inr ⟨rfl, rfl⟩
    · cases h

theorem directAll_spec {comps : List String} {par : ParentMap} {vt : VarTable} {ks : List Conn}
    {dl : List (VRef × VRef)} (h : directAll comps par vt ks = .ok dl) :
    (∀ k ∈ ks, ∃ d ∈ dl, direction par vt k = .ok d) ∧ (∀ d ∈ dl, ∃ k ∈ ks, direction par vt k = .ok d) := by
  have hm := (directAll_ok h).1
  constructor
  · intro k hk
    obtain ⟨d, hd, e⟩ := List.mem_map.mp (hm ▸ List.mem_map_of_mem (f := direction par vt) hk)
    exact ⟨d, hd, e.symm⟩
  · intro d hd
    obtain ⟨k, hk, e⟩ := List.mem_map.mp (hm ▸ List.mem_map_of_mem (f := Except.ok) hd)
    exact ⟨k, hk, e⟩

theorem directAll_mem_iff {comps : List String} {par : ParentMap} {vt : VarTable} {ks ks' : List Conn}
    {dl dl' : List (VRef × VRef)} (hk : ∀ k, k ∈ ks ↔ k ∈ ks') (h1 : directAll comps par vt ks = .ok dl)
    (h2 : directAll comps par vt ks' = .ok dl') (d : VRef × VRef) : d ∈ dl ↔ d ∈ dl' := by
  have half : ∀ {ks ks' dl dl'}, (∀ k, k ∈ ks → k ∈ ks') → directAll comps par vt ks = .ok dl →
      directAll comps par vt ks' = .ok dl' → d ∈ dl → d ∈ dl' := by
    intro ks ks' dl dl' hk h1 h2 hd
    obtain ⟨k, hkm, hdk⟩ := (directAll_spec h1).2 d hd
    obtain ⟨d', hd', hdk'⟩ := (directAll_spec h2).1 k (hk k hkm)
    rw [hdk] at hdk'
    exact Except.ok.inj hdk' ▸ hd'
  exact ⟨half (fun k => (hk k).mp) h1 h2, half (fun k => (hk k).mpr) h2 h1⟩

/-! ## evaluating the work list on concrete inputs

    `connectLoop` is defined by well-founded recursion, which the kernel does not unfold; `connectLoopF` is the same loop
    with fuel (structural), and whenever it returns, `connectLoop` returns the same. Concrete witnesses are then
    checked with `decide +kernel` on `connectLoopF`. -/

def connectLoopF (reg : Registry) (vt : VarTable) : Nat → List (VRef × VRef) → Nat → CState → Option (Except Err CState)
  | 0, _, _, _ => none
  | _ + 1, [], _, st => some (.ok st)
  | n + 1, c :: rest, unch, st =>
    match stepConn reg vt st c with
    | .error e => some (.error e)
    | .ok none =>
        if unch + 1 ≤ (rest ++ [c]).length then connectLoopF reg vt n (rest ++ [c]) (unch + 1) st
        else some (.error (.assertion "Unable to add connections to the model"))
    | .ok (some st') => connectLoopF reg vt n rest 0 st'

theorem connectLoop_of_fuel {reg : Registry} {vt : VarTable} : ∀ (n : Nat) (dq : List (VRef × VRef)) (unch : Nat)
    (st : CState) (r : Except Err CState), connectLoopF reg vt n dq unch st = some r →
    ∀ h : unch ≤ dq.length, connectLoop reg vt dq unch h st = r
  | 0, _, _, _, _, hf, _ => by simp [connectLoopF] at hf
  | n + 1, [], unch, st, r, hf, h => by
      simp only [connectLoopF, Option.some.injEq] at hf
      rw [connectLoop.eq_1]; exact hf
  | n + 1, c :: rest, unch, st, r, hf, h => by
      rw [connectLoop.eq_2]
      simp only [connectLoopF] at hf
      cases hs : stepConn reg vt st c with
      | error e => rw [hs] at hf; simp only [Option.some.injEq] at hf; exact hf
      | ok o =>
          rw [hs] at hf
          cases o with
          | none =>
              simp only at hf ⊢
              by_cases hlt : unch + 1 ≤ (rest ++ [c]).length
              · rw [if_pos hlt] at hf; rw [dif_pos hlt]
                exact connectLoop_of_fuel n _ _ _ _ hf hlt
              · rw [if_neg hlt] at hf; rw [dif_neg hlt]
                simp only [Option.some.injEq] at hf; exact hf
          | some st' =>
              simp only at hf ⊢
              exact connectLoop_of_fuel n _ _ _ _ hf (Nat.zero_le _)

theorem connect_of_fuel {reg : Registry} {vt : VarTable} {l : List (VRef × VRef)} {r : Except Err CState} (n : Nat)
    (h : connectLoopF reg vt n l 0 (initState vt) = some r) : connect reg vt l = r :=
  connectLoop_of_fuel n l 0 (initState vt) r h (Nat.zero_le _)

/-- the work-list loop over an arbitrary loop body, on fuel (`none`: out of fuel) -/
def loopF (step : CState → VRef × VRef → Except Err (Option CState)) :
    Nat → List (VRef × VRef) → Nat → CState → Option (Except Err CState)
  | 0, _, _, _ => none
  | _ + 1, [], _, st => some (.ok st)
  | n + 1, c :: rest, unch, st =>
    match step st c with
    | .error e => some (.error e)
    | .ok none =>
        if unch + 1 ≤ (rest ++ [c]).length then loopF step n (rest ++ [c]) (unch + 1) st
        else some (.error (.assertion "Unable to add connections to the model"))
    | .ok (some st') => loopF step n rest 0 st'

theorem loopF_stepConn (reg : Registry) (vt : VarTable) : ∀ (n : Nat) (dq : List (VRef × VRef)) (unch : Nat) (st : CState),
    loopF (stepConn reg vt) n dq unch st = connectLoopF reg vt n dq unch st
  | 0, _, _, _ => rfl
  | _ + 1, [], _, _ => rfl
  | n + 1, c :: rest, unch, st => by
    simp only [loopF, connectLoopF]
    cases stepConn reg vt st c with
    | error e => rfl
    | ok o =>
      cases o with
      | none => simp only; split; exact loopF_stepConn reg vt n _ _ _; rfl
      | some st' => exact loopF_stepConn reg vt n _ _ _

theorem loopF_congr {step step' : CState → VRef × VRef → Except Err (Option CState)} :
    ∀ (n : Nat) (dq : List (VRef × VRef)) (unch : Nat) (st : CState), (∀ c ∈ dq, ∀ st, step st c = step' st c) →
      loopF step n dq unch st = loopF step' n dq unch st
  | 0, _, _, _, _ => rfl
  | _ + 1, [], _, _, _ => rfl
  | n + 1, c :: rest, unch, st, h => by
    have hr : ∀ c' ∈ rest ++ [c], ∀ st, step st c' = step' st c' := fun c' hc' =>
      h c' (by simpa [or_comm] using hc')
    simp only [loopF, ← h c List.mem_cons_self,
      loopF_congr n _ _ _ hr, loopF_congr n _ _ _ fun c' hc' => h c' (List.mem_cons_of_mem _ hc')]

theorem stepConn_reg {reg reg' : Registry} {vt : VarTable} {c : VRef × VRef}
    (h : Units.factor reg (unitsOf vt c.1) (unitsOf vt c.2) = Units.factor reg' (unitsOf vt c.1) (unitsOf vt c.2))
    (st : CState) : stepConn reg vt st c = stepConn reg' vt st c := by
  obtain ⟨s, t⟩ := c; unfold stepConn; simp only [h]

/-! ## `prepare` / `load` assembled from their stages (for concrete witnesses) and read back into them

    `C17/Model.lean` writes the cascade of `prepare` / `load` a second time after the unit stage (`prepareFrom`,
    `finishFrom`); the two are joined by `C17.prepare_eq`, `C17.load_eq`, and the generated `parse` reaches
    `Load.prepare` only through them (`Tie/LoaderUnitsOrder.lean`: `load_agrees`). -/

theorem prepare_of_parts {doc : Doc} {reg : Registry} {ust : Units.Store} {chk : List VRef × List String}
    {par : ParentMap} {dl : List (VRef × VRef)} {st : CState}
    (h1 : buildUnits doc.units (Units.builtinRegistry, { id := 0, known := [] }) = .ok (reg, ust))
    (h2 : checkComps ust doc.comps [] ([], doc.cmeta.toList) = .ok chk)
    (h3 : buildParents (doc.comps.map (·.name)) doc.encaps [] [] = .ok par)
    (h4 : directAll (doc.comps.map (·.name)) par (varTable ust doc.comps) doc.conns = .ok dl)
    (h5 : connect reg (varTable ust doc.comps) dl = .ok st) :
    prepare doc = .ok ⟨reg, ust, varTable ust doc.comps, par, dl, st⟩ := by
  unfold prepare
  rw [h1]; simp only
  rw [h2]; simp only
  rw [h3]; simp only
  rw [h4]; simp only
  rw [h5]

theorem load_of_parts {doc : Doc} {L : Loaded} {defined : List VRef} (h1 : prepare doc = .ok L)
    (h2 : checkMaths L.ust L.vt L.st doc.comps (L.st.convs.map (·.target)) = .ok defined)
    (h3 : checkConstants (L.states doc) defined L.vt = .ok ()) :
    load doc = .ok (L.flat doc) := by
  unfold load
  rw [h1]; simp only
  rw [h2]; simp only
  rw [h3]

theorem mem_constsOf {states : List VRef} {vt : VarTable} {e : FlatEq} :
    e ∈ constsOf states vt ↔
      ∃ v i q, (v, i) ∈ vt ∧ v ∉ states ∧ i.init = some q ∧ e = ⟨.var v, .num q ([], i.units)⟩ := by
  unfold constsOf
  rw [List.mem_filterMap]
  constructor
  · rintro ⟨⟨v, i⟩, hm, hx⟩
    simp only at hx
    by_cases hs : states.contains v = true
    · rw [if_pos hs] at hx
      cases hx
    · rw [if_neg hs] at hx
      obtain ⟨q, hq, he⟩ := Option.map_eq_some_iff.mp hx
      exact ⟨v, i, q, hm, fun hv => hs (List.contains_iff_mem.mpr hv), hq, he.symm⟩
  · rintro ⟨v, i, q, hm, hs, hq, rfl⟩
    refine ⟨(v, i), hm, ?_⟩
    simp only
    rw [if_neg (fun h => hs (List.contains_iff_mem.mp h)), hq]
    rfl

theorem mem_varTable {ust : Units.Store} {comps : List Comp} {v : VRef} {i : VarInfo} :
    (v, i) ∈ varTable ust comps ↔ ∃ c ∈ comps, ∃ d ∈ c.vars, (v, i) = entry ust c.name d := by
  simp only [varTable, List.mem_flatMap, List.mem_map, @eq_comm _ _ (v, i)]

theorem mem_statesOf {eqs : List FlatEq} {v : VRef} :
    v ∈ statesOf eqs ↔ ∃ e ∈ eqs, e.lhs.isDiff = true ∧ e.lhs.defines = v := by
  simp only [statesOf, List.mem_map, List.mem_filter, and_assoc]

theorem mem_mathsOf {ust : Units.Store} {st : CState} {comps : List Comp} {e : FlatEq} :
    e ∈ mathsOf ust st comps ↔ ∃ c ∈ comps, ∃ e0 ∈ c.eqs, e = transcribe ust st c.name e0 := by
  simp only [mathsOf, List.mem_flatMap, List.mem_map, @eq_comm _ _ e]

theorem prepare_parts {doc : Doc} {L : Loaded} (h : prepare doc = .ok L) :
    buildUnits doc.units (Units.builtinRegistry, { id := 0, known := [] }) = .ok (L.reg, L.ust) ∧
    (∃ chk, checkComps L.ust doc.comps [] ([], doc.cmeta.toList) = .ok chk) ∧
    L.vt = varTable L.ust doc.comps ∧
    buildParents (doc.comps.map (·.name)) doc.encaps [] [] = .ok L.par ∧
    directAll (doc.comps.map (·.name)) L.par L.vt doc.conns = .ok L.dl ∧
    connect L.reg L.vt L.dl = .ok L.st := by
  unfold prepare at h
  split at h
  · cases h
  · rename_i reg ust hu
    split at h
    · cases h
    · rename_i chk hc
      simp only at h
      split at h
      · cases h
      · rename_i par hp
        split at h
        · cases h
        · rename_i dl hd
          split at h
          · cases h
          · rename_i st hs
            simp only [Except.ok.injEq] at h
            subst h
            exact ⟨hu, ⟨chk, hc⟩, rfl, hp, hd, hs⟩

theorem load_parts {doc : Doc} {F : Flat} (h : load doc = .ok F) :
    ∃ L defined, prepare doc = .ok L ∧
      checkMaths L.ust L.vt L.st doc.comps (L.st.convs.map (·.target)) = .ok defined ∧
      checkConstants (L.states doc) defined L.vt = .ok () ∧ F = L.flat doc := by
  unfold load at h
  split at h
  · cases h
  · rename_i L hL
    split at h
    · cases h
    · rename_i defined hdef
      split at h
      · cases h
      · rename_i hcon
        exact ⟨L, defined, hL, hdef, hcon, (Except.ok.inj h).symm⟩

theorem prepare_connect {doc : Doc} {L : Loaded} (h : prepare doc = .ok L) : connect L.reg L.vt L.dl = .ok L.st :=
  (prepare_parts h).2.2.2.2.2

theorem load_prepare {doc : Doc} {F : Flat} (h : load doc = .ok F) : ∃ L, prepare doc = .ok L ∧ F = L.flat doc :=
  let ⟨L, _, hL, _, _, e⟩ := load_parts h
  ⟨L, hL, e⟩

end Load
