import Cellml.Props.C04

/-! Outcome classes of the C04 model of `UnitCalculator.traverse` (lean/Cellml/Expr/Infer.lean): the only failures that
    are not `UnitError`s are the three magnitude-arithmetic exceptions (Python arithmetic on the magnitudes that
    `traverse` carries along), and they need a power, a derivative, floor / ceiling or exp. -/

namespace C18.InferClass
open Infer

structure Fine (P : UnitErr → Prop) {α : Type} (x : Except UnitErr α) : Prop where
  h : ∀ err, x = .error err → P err

theorem Fine.pure {P : UnitErr → Prop} {α : Type} (a : α) : Fine P (pure a : Except UnitErr α) :=
  ⟨fun _ h => by cases h⟩

/-- no power, derivative, floor, ceiling or exp anywhere in the tree -/
def noMagnitudeOps : E → Bool
  | .pow _ _ | .deriv _ _ | .floor _ | .ceil _ => false
  | .fn1 f a => f != "exp" && noMagnitudeOps a
  | .add a b | .mul a b | .fnN _ a b | .rel _ a b | .and a b | .or a b => noMagnitudeOps a && noMagnitudeOps b
  | .abs a | .not a => noMagnitudeOps a
  | .ite c t el => noMagnitudeOps c && noMagnitudeOps t && noMagnitudeOps el
  | _ => true

theorem pyErrors_of_noMagnitudeOps (x : E) (hm : noMagnitudeOps x = true) : pyErrors x = [] := by
  induction x with
  | pow _ _ | deriv _ _ | floor _ | ceil _ => cases hm
  | fn1 f a ih =>
      simp only [noMagnitudeOps, Bool.and_eq_true, bne_iff_ne, ne_eq] at hm
      simp only [pyErrors, hm.1, if_false, ih hm.2, List.append_nil]
  | add a b iha ihb | mul a b iha ihb | fnN _ a b iha ihb | rel _ a b iha ihb | and a b iha ihb | or a b iha ihb =>
      simp only [noMagnitudeOps, Bool.and_eq_true] at hm
      simp only [pyErrors, iha hm.1, ihb hm.2, List.append_nil]
  | abs a ih | not a ih => exact ih hm
  | ite c t el _ iht ihe =>
      simp only [noMagnitudeOps, Bool.and_eq_true] at hm
      simp only [pyErrors, iht hm.1.2, ihe hm.2, List.append_nil]
  | _ => rfl

end C18.InferClass
