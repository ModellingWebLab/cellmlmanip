import Cellml.C02.Table
import Cellml.Basic.Assoc
import Cellml.Basic.ListLemmas

/-! Lemmas about `C02.transpile` that `Props/C02` and the transpiler ties share. -/
namespace C02
open Cellml

/-- what the soundness proofs need of each entry of the GENERATED table, as one kernel-evaluated check -/
def tableCheck : Bool :=
  Gen.mathmlOps.all fun (t, c) =>
    !(specialHeads.contains c) &&
    (!(syMeaning c).isConst || sympyConstants.contains c && !Gen.naryRelations.contains t) &&
    (t == "rem" || mmlMeaning t == some (syMeaning c))

theorem tableCheck_ok : tableCheck = true := by decide +kernel

theorem entry_facts {t c : String} (h : Gen.mathmlOps.lookup t = some c) :
    c ∉ specialHeads ∧ ((syMeaning c).isConst = true → c ∈ sympyConstants ∧ t ∉ Gen.naryRelations) ∧
    (t = "rem" ∨ mmlMeaning t = some (syMeaning c)) := by
  have := List.all_eq_true.1 tableCheck_ok _ (List.mem_of_lookup _ _ _ h)
  simp only [Bool.and_eq_true, Bool.or_eq_true, beq_iff_eq, List.contains_iff_mem, Bool.not_eq_eq_eq_not,
    Bool.not_true] at this
  obtain ⟨⟨h1, h2⟩, h3⟩ := this
  exact ⟨by simpa using h1, fun hc => by simpa [hc] using h2, h3⟩

theorem mml_key {t : String} {m : Meaning} (h : mmlMeaning t = some m) : ∃ c, Gen.mathmlOps.lookup t = some c :=
  Option.isSome_iff_exists.1 (List.all_eq_true.1 Cellml.Props.C02.table_keys.2.2 _ (List.mem_of_lookup _ _ _ h))

section
open Cellml.Props.C02 (expectedHandlers handler_keys_sound)

theorem handlerOf_expected {tag m : String} (h : (tag, m) ∈ expectedHandlers) : handlerOf tag = some m := by
  obtain ⟨_, h1, h2⟩ := handler_keys_sound
  have hk : Gen.handlerKeys.lookup tag = some m := by simpa using List.all_eq_true.1 h1 _ h
  have hn := List.all_eq_true.1 h2 _ (List.mem_of_lookup _ _ _ hk)
  simp only [Option.isNone_iff_eq_none] at hn
  simp only [handlerOf, hn, hk]

theorem handlerOf_minus : handlerOf "minus" = some "_minus_handler" :=
  handlerOf_expected (by simp [expectedHandlers])
theorem handlerOf_divide : handlerOf "divide" = some "_divide_handler" :=
  handlerOf_expected (by simp [expectedHandlers])
theorem handlerOf_power : handlerOf "power" = some "_power_handler" :=
  handlerOf_expected (by simp [expectedHandlers])
theorem handlerOf_root : handlerOf "root" = some "_root_handler" :=
  handlerOf_expected (by simp [expectedHandlers])
theorem handlerOf_log : handlerOf "log" = some "_log_handler" :=
  handlerOf_expected (by simp [expectedHandlers])
theorem handlerOf_diff : handlerOf "diff" = some "_diff_handler" :=
  handlerOf_expected (by simp [expectedHandlers])
theorem handlerOf_degree : handlerOf "degree" = some "_degree_handler" :=
  handlerOf_expected (by simp [expectedHandlers])
theorem handlerOf_logbase : handlerOf "logbase" = some "_logbase_handler" :=
  handlerOf_expected (by simp [expectedHandlers])
theorem handlerOf_bvar : handlerOf "bvar" = some "_bvar_handler" :=
  handlerOf_expected (by simp [expectedHandlers])
theorem handlerOf_apply : handlerOf "apply" = some "_apply_handler" :=
  handlerOf_expected (by simp [expectedHandlers])
theorem handlerOf_piecewise : handlerOf "piecewise" = some "_piecewise_handler" :=
  handlerOf_expected (by simp [expectedHandlers])
theorem handlerOf_piece : handlerOf "piece" = some "_piece_handler" :=
  handlerOf_expected (by simp [expectedHandlers])
theorem handlerOf_otherwise : handlerOf "otherwise" = some "_otherwise_handler" :=
  handlerOf_expected (by simp [expectedHandlers])
theorem handlerOf_ci : handlerOf "ci" = some "_ci_handler" :=
  handlerOf_expected (by simp [expectedHandlers])
theorem handlerOf_cn : handlerOf "cn" = some "_cn_handler" :=
  handlerOf_expected (by simp [expectedHandlers])

end

theorem transpile_simple (op : String) (k : Mml) (c : String) (h : Gen.mathmlOps.lookup op = some c) :
    transpile (.el op k) =
      .ok (if op ∈ Gen.naryRelations then .rel c else if c ∈ sympyConstants then .const c else .cls c) := by
  simp only [transpile, handlerOf, h, simpleOperator, beq_self_eq_true, if_true]
  split
  · rfl
  · split <;> rfl

theorem transpile_wrapped (op m : String) (k : Mml) (h : handlerOf op = some m) (hm : m ∈ wrappedHandlers) :
    transpile (.el op k) = .ok (.wrapped m) := by
  have h1 : (m == "_simple_operator_handler") = false := by
    rw [beq_eq_false_iff_ne]; rintro rfl; simp [wrappedHandlers] at hm
  simp only [transpile, h, h1, hm, Bool.false_eq_true, if_false, if_true]

theorem transpile_container (tag m : String) (kids : Mml) (h : handlerOf tag = some m)
    (h1 : (m == "_simple_operator_handler") = false) (h2 : m ∉ wrappedHandlers) (h3 : (m == "transpile") = false) :
    transpile (.el tag kids) = (match transpile kids with | .error e => .error e | .ok r => assemble m r) := by
  simp only [transpile, h, h1, h2, h3, Bool.false_eq_true, if_false]
  cases transpile kids <;> rfl

theorem transpile_cons_ok {h t : Mml} {r : Sy} (hr : transpile (.cons h t) = .ok r) :
    ∃ a r', r = .cons a r' ∧ transpile h = .ok a ∧ transpile t = .ok r' := by
  simp only [transpile] at hr
  split at hr
  · cases hr
  · rename_i a ha
    split at hr
    · cases hr
    · rename_i r' hr'
      cases hr
      exact ⟨a, r', rfl, ha, hr'⟩

theorem transpile_cons_of_ok {h t : Mml} {a r : Sy} (ha : transpile h = .ok a) (hr : transpile t = .ok r) :
    transpile (.cons h t) = .ok (.cons a r) := by
  simp only [transpile, ha, hr]

theorem transpile_apply (kids : Mml) : transpile (.el "apply" kids) =
    (match transpile kids with | .error e => .error e | .ok r => assemble "_apply_handler" r) :=
  transpile_container _ _ _ handlerOf_apply (by simp) (by simp [wrappedHandlers]) (by simp)
theorem transpile_piecewise (kids : Mml) : transpile (.el "piecewise" kids) =
    (match transpile kids with | .error e => .error e | .ok r => assemble "_piecewise_handler" r) :=
  transpile_container _ _ _ handlerOf_piecewise (by simp) (by simp [wrappedHandlers]) (by simp)
theorem transpile_piece (kids : Mml) : transpile (.el "piece" kids) =
    (match transpile kids with | .error e => .error e | .ok r => assemble "_piece_handler" r) :=
  transpile_container _ _ _ handlerOf_piece (by simp) (by simp [wrappedHandlers]) (by simp)
theorem transpile_otherwise (kids : Mml) : transpile (.el "otherwise" kids) =
    (match transpile kids with | .error e => .error e | .ok r => assemble "_otherwise_handler" r) :=
  transpile_container _ _ _ handlerOf_otherwise (by simp) (by simp [wrappedHandlers]) (by simp)
theorem transpile_degree (kids : Mml) : transpile (.el "degree" kids) =
    (match transpile kids with | .error e => .error e | .ok r => assemble "_degree_handler" r) :=
  transpile_container _ _ _ handlerOf_degree (by simp) (by simp [wrappedHandlers]) (by simp)
theorem transpile_bvar (kids : Mml) : transpile (.el "bvar" kids) =
    (match transpile kids with | .error e => .error e | .ok r => assemble "_bvar_handler" r) :=
  transpile_container _ _ _ handlerOf_bvar (by simp) (by simp [wrappedHandlers]) (by simp)
theorem transpile_logbase (kids : Mml) : transpile (.el "logbase" kids) =
    (match transpile kids with | .error e => .error e | .ok r => assemble "_logbase_handler" r) :=
  transpile_container _ _ _ handlerOf_logbase (by simp) (by simp [wrappedHandlers]) (by simp)

theorem assemble_apply (r : Sy) : assemble "_apply_handler" r =
    match r with
    | .cons f .nil => .ok f
    | .cons f rest => call f rest
    | _ => .error .index := by
  unfold assemble
  simp only [String.reduceBEq, ↓reduceIte]
  rfl

theorem assemble_piecewise (r : Sy) : assemble "_piecewise_handler" r =
    match r with
    | .cons _ _ =>
      if !(r.all isTuple && r.all tupleExprOk) then .error (.outside "piecewise operand")
      else if r.any tupleCondHasPiecewise then .error (.outside "piecewise inside a piecewise condition")
      else if !r.all tupleCondOk then .error .type
      else .ok (.app "Piecewise" r)
    | _ => .error .type := by
  unfold assemble
  simp only [String.reduceBEq, Bool.false_eq_true, ↓reduceIte]
  rfl
theorem assemble_piece (r : Sy) : assemble "_piece_handler" r =
    match r with
    | .cons a (.cons b .nil) => .ok (.tuple a b)
    | _ => .error .value := by
  unfold assemble
  simp only [String.reduceBEq, Bool.false_eq_true, ↓reduceIte]
  rfl
theorem assemble_otherwise (r : Sy) : assemble "_otherwise_handler" r =
    match r with
    | .cons a .nil => .ok (.tuple a (.const "true"))
    | _ => .error .value := by
  unfold assemble
  simp only [String.reduceBEq, Bool.false_eq_true, ↓reduceIte]
  rfl
theorem assemble_degree (r : Sy) : assemble "_degree_handler" r =
    match r with
    | .cons a .nil => .ok a
    | _ => .error .value := by
  unfold assemble
  simp only [String.reduceBEq, Bool.false_eq_true, ↓reduceIte]
  rfl
theorem assemble_bvar (r : Sy) : assemble "_bvar_handler" r =
    match r with
    | .cons a .nil => .ok a
    | .cons a (.cons b .nil) => .ok (.pylist (.cons a (.cons b .nil)))
    | _ => .error .value := by
  unfold assemble
  simp only [String.reduceBEq, Bool.false_eq_true, ↓reduceIte]
  rfl
theorem assemble_logbase (r : Sy) : assemble "_logbase_handler" r =
    match r with
    | .cons a _ => .ok a
    | _ => .error .index := by
  unfold assemble
  simp only [String.reduceBEq, Bool.false_eq_true, ↓reduceIte]
  rfl

theorem callWrapped_minus (r : Sy) : callWrapped "_minus_handler" r =
    match r with
    | .cons a .nil => arith1 "neg" a
    | .cons a (.cons b .nil) => arith2 "sub" a b
    | _ => .error .type := by
  unfold callWrapped
  simp only [String.reduceBEq, ↓reduceIte]
  rfl
theorem callWrapped_divide (r : Sy) : callWrapped "_divide_handler" r =
    match r with
    | .cons a (.cons b .nil) => arith2 "div" a b
    | _ => .error .type := by
  unfold callWrapped
  simp only [String.reduceBEq, Bool.false_eq_true, ↓reduceIte]
  rfl
theorem callWrapped_power (r : Sy) : callWrapped "_power_handler" r =
    match r with
    | .cons a (.cons b .nil) => arith2 "pow" a b
    | _ => .error .type := by
  unfold callWrapped
  simp only [String.reduceBEq, Bool.false_eq_true, ↓reduceIte]
  rfl
theorem callWrapped_root (r : Sy) : callWrapped "_root_handler" r =
    match r with
    | .cons a .nil => arith2 "root" a (.int 2)
    | .cons a (.cons b .nil) => arith2 "root" b a
    | _ => .error .type := by
  unfold callWrapped
  simp only [String.reduceBEq, Bool.false_eq_true, ↓reduceIte]
  rfl
theorem callWrapped_log (r : Sy) : callWrapped "_log_handler" r =
    match r with
    | .cons a .nil => arith2 "logb" a (.int 10)
    | .cons a (.cons b .nil) => arith2 "logb" b a
    | _ => .error .type := by
  unfold callWrapped
  simp only [String.reduceBEq, Bool.false_eq_true, ↓reduceIte]
  rfl
theorem callWrapped_diff (r : Sy) : callWrapped "_diff_handler" r =
    match r with
    | .cons x (.cons y .nil) => diffCb x y none
    | .cons x (.cons y (.cons f .nil)) => diffCb x y (some f)
    | _ => .error .type := by
  unfold callWrapped
  simp only [String.reduceBEq, Bool.false_eq_true, ↓reduceIte]
  rfl

theorem transpile_ofList (ks : List Mml) : transpile (Mml.ofList ks) = (ks.mapM transpile).map Sy.ofList := by
  induction ks with
  | nil => rfl
  | cons k ks ih =>
    simp only [Mml.ofList, transpile, ih, List.mapM_cons, bind, Except.bind]
    cases transpile k with
    | error e => rfl
    | ok a => cases ks.mapM transpile <;> rfl

theorem transpile_ofList_ok (ks : List Mml) (r : Sy) (h : transpile (Mml.ofList ks) = .ok r) :
    ∃ rs : List Sy, r = Sy.ofList rs ∧ rs.length = ks.length := by
  rw [transpile_ofList] at h
  cases hm : ks.mapM transpile with
  | error e => rw [hm] at h; cases h
  | ok rs => rw [hm] at h; cases h; exact ⟨rs, rfl, List.length_of_mapM_ok hm⟩

theorem pairs_ofList (c : String) : ∀ l : List Sy, pairs c (Sy.ofList l) =
    ((l.dropLast.zip (l.drop 1)).mapM fun p => callClass c (Sy.ofList [p.1, p.2])).map Sy.ofList
  | [] => rfl
  | [a] => rfl
  | a :: b :: rest => by
    have ih := pairs_ofList c (b :: rest)
    simp only [Sy.ofList, List.drop_one, List.tail_cons] at ih
    simp only [List.dropLast_cons_cons, List.drop_one, List.tail_cons, List.zip_cons_cons, List.mapM_cons, Sy.ofList, pairs, ih,
      bind, Except.bind]
    cases callClass c (.cons a (.cons b .nil)) with
    | error e => rfl
    | ok r =>
      generalize List.mapM (m := Except Err) _ ((b :: rest).dropLast.zip rest) = m
      cases m <;> rfl

theorem transpile_apply_call {o : Mml} {f : Sy} {ks : Mml} {r : Sy} (ho : transpile o = .ok f) (hr : transpile ks = .ok r) :
    transpile (.el "apply" (.cons o ks)) = (match (generalizing := false) r with | .nil => .ok f | _ => call f r) := by
  simp only [transpile_apply, transpile_cons_of_ok ho hr, assemble_apply]
  cases r <;> rfl

theorem ofList_len (rs : List Sy) : (Sy.ofList rs).len = rs.length := by
  induction rs with
  | nil => rfl
  | cons a r ih => simp [Sy.ofList, Sy.len, ih]

theorem evalSyArgs_nil_inv {I : Interp} {r : Sy} (h : evalSyArgs I r = some []) : r = .nil := by
  cases r <;> simp [evalSyArgs] at h
  · rfl
  · split at h <;> simp at h

theorem evalSyArgs_cons_inv {I : Interp} {r : Sy} {v : Val} {vs : List Val} (h : evalSyArgs I r = some (v :: vs)) :
    ∃ x r', r = .cons x r' ∧ evalSy I x = some v ∧ evalSyArgs I r' = some vs := by
  cases r <;> simp [evalSyArgs] at h
  rename_i x r'
  refine ⟨x, r', rfl, ?_⟩
  split at h <;> simp at h
  rename_i v' vs' h1 h2
  obtain ⟨rfl, rfl⟩ := h
  exact ⟨h1, h2⟩

theorem evalSyArgs_one {I : Interp} {r : Sy} {a : Val} (h : evalSyArgs I r = some [a]) :
    ∃ x, r = .cons x .nil ∧ evalSy I x = some a := by
  obtain ⟨x, r', rfl, hx, hr'⟩ := evalSyArgs_cons_inv h
  cases evalSyArgs_nil_inv hr'
  exact ⟨x, rfl, hx⟩

theorem evalSyArgs_two {I : Interp} {r : Sy} {a b : Val} (h : evalSyArgs I r = some [a, b]) :
    ∃ x y, r = .cons x (.cons y .nil) ∧ evalSy I x = some a ∧ evalSy I y = some b := by
  obtain ⟨x, r', rfl, hx, hr'⟩ := evalSyArgs_cons_inv h
  obtain ⟨y, rfl, hy⟩ := evalSyArgs_one hr'
  exact ⟨x, y, rfl, hx, hy⟩

theorem evalSyArgs_pair {I : Interp} {x y : Sy} {a b : Val} (hx : evalSy I x = some a) (hy : evalSy I y = some b) :
    evalSyArgs I (.cons x (.cons y .nil)) = some [a, b] := by
  simp only [evalSyArgs, hx, hy]

theorem evalSyArgs_len {I : Interp} : ∀ {r : Sy} {vs : List Val}, evalSyArgs I r = some vs → r.len = vs.length
  | r, [], h => by cases evalSyArgs_nil_inv h; rfl
  | r, _ :: _, h => by
    obtain ⟨x, r', rfl, _, h'⟩ := evalSyArgs_cons_inv h
    simp only [Sy.len, List.length_cons, evalSyArgs_len h']

theorem evalSy_app {I : Interp} {h : String} {r : Sy} {vs : List Val} (hp : h ≠ "Piecewise")
    (ha : evalSyArgs I r = some vs) : evalSy I (.app h r) = syApply I h vs := by
  simp only [evalSy, hp, ha, if_false]

theorem callClass_ok {c : String} {r e : Sy} (h : callClass c r = .ok e) : e = .app c r := by
  simp only [callClass] at h
  repeat' (split at h)
  all_goals (cases h; try rfl)

theorem arith1_sound {I : Interp} {h : String} {a e : Sy} {va : Val} (hh : arith1 h a = .ok e)
    (hp : h ≠ "Piecewise") (ha : evalSy I a = some va) : evalSy I e = syApply I h [va] := by
  unfold arith1 at hh; split at hh
  · cases hh; exact evalSy_app hp (by simp only [evalSyArgs, ha])
  · cases hh

theorem arith2_sound {I : Interp} {h : String} {a b e : Sy} {va vb : Val} (hh : arith2 h a b = .ok e)
    (hp : h ≠ "Piecewise") (ha : evalSy I a = some va) (hb : evalSy I b = some vb) :
    evalSy I e = syApply I h [va, vb] := by
  unfold arith2 at hh; split at hh
  · cases hh; exact evalSy_app hp (evalSyArgs_pair ha hb)
  · cases hh

/-- the wrapped callbacks: minus, divide, power, root (degree first, default 2), log (logbase first, default 10) -/
theorem call_sound_wrapped (I : Interp) (op : String) (opk : Mml) (f r e : Sy) (items : List (Role × Val)) (v : Val)
    (hop : op ∈ ["minus", "divide", "power", "root", "log"])
    (hf : transpile (.el op opk) = .ok f) (hc : call f r = .ok e)
    (hargs : evalSyArgs I r = some (items.map (·.2)))
    (hv : applyOp I op items = some v) : evalSy I e = some v := by
  simp only [List.mem_cons, List.mem_nil_iff, or_false] at hop
  unfold applyOp at hv
  rcases hop with rfl | rfl | rfl | rfl | rfl
  · rw [transpile_wrapped _ _ _ handlerOf_minus (by simp [wrappedHandlers])] at hf; cases hf
    simp only [call, callWrapped_minus] at hc
    rw [if_pos rfl] at hv
    split at hv
    · obtain ⟨x, rfl, hx⟩ := evalSyArgs_one hargs
      rw [arith1_sound hc (by simp) hx]; simpa [syApply] using hv
    · obtain ⟨x, y, rfl, hx, hy⟩ := evalSyArgs_two hargs
      rw [arith2_sound hc (by simp) hx hy]; simpa [syApply] using hv
    · cases hv
  · rw [transpile_wrapped _ _ _ handlerOf_divide (by simp [wrappedHandlers])] at hf; cases hf
    simp only [call, callWrapped_divide] at hc
    simp only [String.reduceEq, ↓reduceIte] at hv
    split at hv
    · obtain ⟨x, y, rfl, hx, hy⟩ := evalSyArgs_two hargs
      rw [arith2_sound hc (by simp) hx hy]; simpa [syApply] using hv
    · cases hv
  · rw [transpile_wrapped _ _ _ handlerOf_power (by simp [wrappedHandlers])] at hf; cases hf
    simp only [call, callWrapped_power] at hc
    simp only [String.reduceEq, ↓reduceIte] at hv
    split at hv
    · obtain ⟨x, y, rfl, hx, hy⟩ := evalSyArgs_two hargs
      rw [arith2_sound hc (by simp) hx hy]; simpa [syApply] using hv
    · cases hv
  · rw [transpile_wrapped _ _ _ handlerOf_root (by simp [wrappedHandlers])] at hf; cases hf
    simp only [call, callWrapped_root] at hc
    simp only [String.reduceEq, ↓reduceIte] at hv
    split at hv
    · obtain ⟨x, rfl, hx⟩ := evalSyArgs_one hargs
      rw [arith2_sound hc (by simp) hx (show evalSy I (.int 2) = some (.num 2) by simp [evalSy])]
      simpa [syApply] using hv
    · obtain ⟨x, y, rfl, hx, hy⟩ := evalSyArgs_two hargs
      rw [arith2_sound hc (by simp) hy hx]; simpa [syApply] using hv
    · cases hv
  · rw [transpile_wrapped _ _ _ handlerOf_log (by simp [wrappedHandlers])] at hf; cases hf
    simp only [call, callWrapped_log] at hc
    simp only [String.reduceEq, ↓reduceIte] at hv
    split at hv
    · obtain ⟨x, rfl, hx⟩ := evalSyArgs_one hargs
      rw [arith2_sound hc (by simp) hx (show evalSy I (.int 10) = some (.num 10) by simp [evalSy])]
      simpa [syApply] using hv
    · obtain ⟨x, y, rfl, hx, hy⟩ := evalSyArgs_two hargs
      rw [arith2_sound hc (by simp) hy hx]; simpa [syApply] using hv
    · cases hv

theorem plainVals_map : ∀ {items : List (Role × Val)} {vs : List Val}, plainVals items = some vs → items.map (·.2) = vs
  | [], vs, h => by cases h; rfl
  | (.plain, v) :: r, vs, h => by
    simp only [plainVals, Option.map_eq_some_iff] at h
    obtain ⟨vs', h', rfl⟩ := h
    simp only [List.map_cons, plainVals_map h']
  | (.degree, _) :: _, _, h => by cases h
  | (.logbase, _) :: _, _, h => by cases h

theorem bools_map (bs : List Bool) : bools (bs.map Val.bool) = some bs := by
  induction bs with
  | nil => rfl
  | cons b r ih => simp [bools, ih]

theorem apply_fn_two (I : Interp) (n : String) (a b : Val) (rest : List Val) :
    (Meaning.fn n).apply I (a :: b :: rest) = none := by
  cases a <;> rfl

/-- a class of the table applied to values computes its `Meaning` (`ln`/`log` with two arguments, which SymPy reads
    as a logarithm to a base, has none) -/
theorem syApply_eq_apply (I : Interp) (c : String) (vs : List Val) (v : Val) (hc : c ∉ specialHeads)
    (h : (syMeaning c).apply I vs = some v) : syApply I c vs = some v := by
  simp only [specialHeads, List.mem_cons, List.mem_nil_iff, or_false, not_or] at hc
  obtain ⟨_, h1, h2, h3, h4, h5, h6⟩ := hc
  unfold syApply
  simp only [h1, h2, h3, h4, h5, h6, if_false]
  split
  · rename_i hl
    obtain ⟨hcl, hlen⟩ := hl
    have hm : syMeaning c = .fn "log" := by rcases hcl with rfl | rfl <;> decide +kernel
    rw [hm] at h
    match vs, hlen with
    | [a, b], _ => rw [apply_fn_two] at h; cases h
  · exact h

theorem not_special_ne_piecewise {c : String} (hc : c ∉ specialHeads) : c ≠ "Piecewise" := by
  rintro rfl; simp [specialHeads] at hc

theorem pairs_sound (I : Interp) (c : String) (hc : c ∉ specialHeads) :
    ∀ (vs : List Val) (r ps : Sy) (v : Val),
      pairs c r = .ok ps → evalSyArgs I r = some vs → chain I (syMeaning c) vs = some v →
      ∃ bs : List Bool, evalSyArgs I ps = some (bs.map Val.bool) ∧ v = .bool (bs.foldr (· && ·) true) := by
  intro vs
  induction vs with
  | nil => intro r ps v _ _ h; simp [chain] at h
  | cons a vs' ih =>
    intro r ps v hp hr hch
    cases vs' with
    | nil => simp [chain] at hch
    | cons b rest =>
      obtain ⟨x, r1, rfl, hx, hr1⟩ := evalSyArgs_cons_inv hr
      obtain ⟨y, r2, rfl, hy, hr2⟩ := evalSyArgs_cons_inv hr1
      simp only [pairs] at hp
      split at hp
      · cases hp
      · rename_i p hpc
        cases callClass_ok hpc
        split at hp
        · cases hp
        · rename_i ps' hps'
          cases hp
          simp only [chain] at hch
          split at hch
          · rename_i p0 hap
            have hev : evalSy I (.app c (.cons x (.cons y .nil))) = some (.bool p0) := by
              rw [evalSy_app (not_special_ne_piecewise hc) (evalSyArgs_pair hx hy)]
              exact syApply_eq_apply I c _ _ hc hap
            cases rest with
            | nil =>
              cases hch
              cases evalSyArgs_nil_inv hr2
              simp only [pairs] at hps'; cases hps'
              exact ⟨[p0], by simp [evalSyArgs, hev], by simp⟩
            | cons z rest' =>
              simp only at hch
              split at hch
              · rename_i q hq
                cases hch
                obtain ⟨bs, hbs, hq'⟩ := ih (.cons y r2) ps' (.bool q) hps' hr1 hq
                cases hq'
                exact ⟨p0 :: bs, by simp [evalSyArgs, hev, hbs], by simp⟩
              · cases hch
          · cases hch

theorem callRel_sound (I : Interp) (c : String) (hc : c ∉ specialHeads) (r e : Sy) (vs : List Val) (v : Val)
    (hcall : callRel c r = .ok e) (hr : evalSyArgs I r = some vs) (hch : chain I (syMeaning c) vs = some v) :
    evalSy I e = some v := by
  have hlen := evalSyArgs_len hr
  unfold callRel at hcall
  split at hcall
  · -- more than two operands: And of the adjacent pairs
    split at hcall
    · cases hcall
    · rename_i ps hps
      cases hcall
      obtain ⟨bs, hbs, rfl⟩ := pairs_sound I c hc vs r ps v hps hr hch
      rw [evalSy_app (by simp) hbs]
      simp [syApply, syMeaning, syTable, List.lookup, Meaning.apply, bools_map]
  · rename_i hle
    have hcc : callClass c r = .ok e := by
      split at hcall
      · split at hcall <;> cases hcall
      · split at hcall
        · cases hcall
        · exact hcall
    cases callClass_ok hcc
    rw [evalSy_app (not_special_ne_piecewise hc) hr]
    -- chain on at most two values: exactly two
    match vs, hch, hlen with
    | [a, b], hch, _ =>
      simp only [chain] at hch
      split at hch
      · rename_i p hp
        cases hch
        exact syApply_eq_apply I c _ _ hc hp
      · cases hch
    | a :: b :: z :: rest, _, hlen => simp [hlen] at hle
    | [], hch, _ => simp [chain] at hch
    | [a], hch, _ => simp [chain] at hch

theorem nary_relations_eq : Gen.naryRelations = mmlNaryRelations := Cellml.Props.C02.nary_relations_sound

theorem call_sound_simple (I : Interp) (op : String) (opk : Mml) (f r e : Sy) (items : List (Role × Val)) (v : Val)
    (hop : op ∉ ["minus", "divide", "power", "root", "log"]) (hrem : op ≠ "rem")
    (hf : transpile (.el op opk) = .ok f) (hc : call f r = .ok e)
    (hargs : evalSyArgs I r = some (items.map (·.2)))
    (hv : applyOp I op items = some v) : evalSy I e = some v := by
  simp only [List.mem_cons, List.mem_nil_iff, or_false, not_or] at hop
  simp only [applyOp, hop, if_false] at hv
  cases hp : plainVals items with
  | none => simp [hp] at hv
  | some vs =>
    cases hm : mmlMeaning op with
    | none => simp [hp, hm] at hv
    | some m =>
      simp only [hp, hm] at hv
      rw [plainVals_map hp] at hargs
      obtain ⟨c, hcl⟩ := mml_key hm
      obtain ⟨hsp, _, hmean⟩ := entry_facts hcl
      obtain rfl : m = syMeaning c := by
        rw [hm] at hmean; exact Option.some.inj (hmean.resolve_left hrem)
      rw [transpile_simple _ _ _ hcl] at hf
      cases hf
      rw [← nary_relations_eq] at hv
      by_cases hn : op ∈ Gen.naryRelations
      · simp only [hn, if_true, call] at hc hv
        exact callRel_sound I c hsp r e vs v hc hargs hv
      · simp only [hn, if_false] at hc hv
        by_cases hcon : c ∈ sympyConstants
        · simp [hcon, call] at hc
        · simp only [hcon, if_false, call] at hc
          cases callClass_ok hc
          rw [evalSy_app (not_special_ne_piecewise hsp) hargs]
          exact syApply_eq_apply I c _ _ hsp hv

/-- `result[0](*result[1:])` computes what MathML 2 says the operator applied to those operands means -/
theorem call_sound (I : Interp) (op : String) (opk : Mml) (f r e : Sy) (items : List (Role × Val)) (v : Val)
    (hrem : op ≠ "rem")
    (hf : transpile (.el op opk) = .ok f) (hc : call f r = .ok e)
    (hargs : evalSyArgs I r = some (items.map (·.2)))
    (hv : applyOp I op items = some v) : evalSy I e = some v := by
  by_cases hop : op ∈ ["minus", "divide", "power", "root", "log"]
  · exact call_sound_wrapped I op opk f r e items v hop hf hc hargs hv
  · exact call_sound_simple I op opk f r e items v hop hrem hf hc hargs hv

def Mml.size : Mml → Nat
  | .cons h t => 1 + h.size + t.size
  | .el _ kids => 1 + kids.size
  | _ => 1

/-- no `<rem/>` anywhere (known finding: sympy.Mod has the divisor's sign) -/
def Mml.remFree : Mml → Bool
  | .cons h t => h.remFree && t.remFree
  | .el tag kids => tag != "rem" && kids.remFree
  | _ => true

/-- no `<apply>` with exactly one child (known finding: it returns the child itself) -/
def Mml.noNullary : Mml → Bool
  | .cons h t => h.noNullary && t.noNullary
  | .el tag kids => !(tag == "apply" && kids.len == 1) && kids.noNullary
  | _ => true

theorem cn_sound (ty : Option String) (text : Option String) (kids : List (Bool × Option String)) (e : Sy) (q : Rat)
    (h : cnHandler ty text kids = .ok e) (hq : cnMeaning ty text kids = some q) : e = .num q := by
  unfold cnMeaning at hq
  split at hq
  · rename_i s
    simp only [specNumeral] at hq
    split at hq
    · cases hq
    · split at hq
      · rename_i q' hf
        cases hq
        simp [cnHandler, hf, ofFVal] at h
        exact h.symm
      · cases hq
  · rename_i t m k
    split at hq
    · rename_i ht
      subst ht
      simp only [specNumeralExp] at hq
      split at hq
      · cases hq
      · split at hq
        · cases hq
        · rename_i ex hex
          split at hq
          · rename_i q' hf
            cases hq
            simp [cnHandler, hex, hf, ofFVal] at h
            exact h.symm
          · cases hq
    · cases hq
  · cases hq

/-- `transpile_sound_partial` at one tree: the statement the induction carries -/
abbrev SoundAt (I : Interp) (k : Mml) : Prop :=
  k.noNullary = true → k.remFree = true → ∀ e v, transpile k = .ok e → evalMml I k = some v → evalSy I e = some v

theorem transpile_one_ok {d : Mml} {r : Sy} (h : transpile (.cons d .nil) = .ok r) :
    ∃ a, r = .cons a .nil ∧ transpile d = .ok a := by
  obtain ⟨a, r', rfl, ha, hr'⟩ := transpile_cons_ok h
  cases hr'
  exact ⟨a, rfl, ha⟩

theorem transpile_qualifier_ok {tag : String} {d : Mml} {a : Sy} (ht : tag = "degree" ∨ tag = "logbase")
    (h : transpile (.el tag (.cons d .nil)) = .ok a) : transpile d = .ok a := by
  rcases ht with rfl | rfl
  · rw [transpile_degree] at h
    split at h
    · cases h
    · rename_i r hr
      obtain ⟨a', rfl, ha'⟩ := transpile_one_ok hr
      rw [assemble_degree] at h; cases h; exact ha'
  · rw [transpile_logbase] at h
    split at h
    · cases h
    · rename_i r hr
      obtain ⟨a', rfl, ha'⟩ := transpile_one_ok hr
      rw [assemble_logbase] at h; cases h; exact ha'

theorem transpile_piece_ok {e c : Mml} {a : Sy} (h : transpile (.el "piece" (.cons e (.cons c .nil))) = .ok a) :
    ∃ e' c', a = .tuple e' c' ∧ transpile e = .ok e' ∧ transpile c = .ok c' := by
  rw [transpile_piece] at h
  split at h
  · cases h
  · rename_i r hr
    obtain ⟨e', r1, rfl, he', hr1⟩ := transpile_cons_ok hr
    obtain ⟨c', rfl, hc'⟩ := transpile_one_ok hr1
    rw [assemble_piece] at h; cases h; exact ⟨e', c', rfl, he', hc'⟩

theorem transpile_otherwise_ok {e : Mml} {a : Sy} (h : transpile (.el "otherwise" (.cons e .nil)) = .ok a) :
    ∃ e', a = .tuple e' (.const "true") ∧ transpile e = .ok e' := by
  rw [transpile_otherwise] at h
  split at h
  · cases h
  · rename_i r hr
    obtain ⟨e', rfl, he'⟩ := transpile_one_ok hr
    rw [assemble_otherwise] at h; cases h; exact ⟨e', rfl, he'⟩

theorem evalMml_apply (I : Interp) (op : String) (opk rest : Mml) :
    evalMml I (.el "apply" (.cons (.el op opk) rest)) = applySem I op (evalItems I rest) := by
  simp only [evalMml, if_true]

theorem evalMml_piecewise (I : Interp) (kids : Mml) : evalMml I (.el "piecewise" kids) = evalPieces I kids := by
  cases kids with
  | cons k t => cases k <;> simp [evalMml]
  | _ => simp [evalMml]

theorem qualifierRole_some {k : Mml} {ro : Role} (h : k.qualifierRole = some ro) :
    ∃ tag kids, k = .el tag kids ∧ (tag = "degree" ∨ tag = "logbase") := by
  unfold Mml.qualifierRole at h
  split at h
  · refine ⟨_, _, rfl, ?_⟩
    split at h
    · exact Or.inl ‹_›
    · split at h
      · exact Or.inr ‹_›
      · cases h
  · cases h

theorem evalSy_true (I : Interp) : evalSy I (.const "true") = some (.bool true) := by
  simp [evalSy, syMeaning, syTable, List.lookup, Meaning.constVal]

theorem constVal_isConst {I : Interp} {m : Meaning} {v : Val} (h : m.constVal I = some v) : m.isConst = true := by
  cases m <;> first | rfl | cases h

/-- a constant element (`<pi/>`, `<true/>` …): the table gives a SymPy constant of the same meaning -/
theorem const_sound (I : Interp) {tag : String} {kids : Mml} {e : Sy} {m : Meaning} {v : Val}
    (hm : mmlMeaning tag = some m) (hcv : m.constVal I = some v) (ht : transpile (.el tag kids) = .ok e) :
    evalSy I e = some v := by
  obtain ⟨c, hcl⟩ := mml_key hm
  obtain ⟨_, hconst, hmean⟩ := entry_facts hcl
  obtain rfl : m = syMeaning c := by
    rcases hmean with rfl | hmm
    · -- `rem` is no constant
      cases (show mmlMeaning "rem" = some .rem by decide +kernel).symm.trans hm
      cases hcv
    · exact Option.some.inj (hm.symm.trans hmm)
  obtain ⟨h2, h1⟩ := hconst (constVal_isConst hcv)
  rw [transpile_simple _ _ _ hcl, if_neg h1, if_pos h2] at ht
  cases ht
  simpa only [evalSy] using hcv

theorem assemble_piecewise_ok {r e : Sy} (h : assemble "_piecewise_handler" r = .ok e) : e = .app "Piecewise" r := by
  rw [assemble_piecewise] at h
  repeat' split at h
  all_goals cases h
  rfl

/-- what the induction carries for the pieces of a `<piecewise>` and for the operands of an `<apply>` -/
abbrev PiecesAt (I : Interp) (t : Mml) : Prop :=
  t.noNullary = true → t.remFree = true → ∀ r v, transpile t = .ok r → evalPieces I t = some v → evalSyPieces I r = some v
abbrev ItemsAt (I : Interp) (t : Mml) : Prop :=
  t.noNullary = true → t.remFree = true →
    ∀ r items, transpile t = .ok r → evalItems I t = some items → evalSyArgs I r = some (items.map (·.2))

theorem piecewise_sound {I : Interp} {kids : Mml} (ih : PiecesAt I kids) : SoundAt I (.el "piecewise" kids) := by
  intro hn hrf e v ht hv
  simp only [Mml.noNullary, Mml.remFree, Bool.and_eq_true] at hn hrf
  rw [evalMml_piecewise] at hv
  rw [transpile_piecewise] at ht
  split at ht
  · cases ht
  · rename_i r hr
    cases assemble_piecewise_ok ht
    simp [evalSy, ih hn.2 hrf.2 r v hr hv]

theorem constant_sound {I : Interp} {tag : String} {kids : Mml} (ha : tag ≠ "apply") (hp : tag ≠ "piecewise") :
    SoundAt I (.el tag kids) := by
  intro _ _ e v ht hv
  have : evalMml I (.el tag kids) = constSem I tag := by
    cases kids with
    | cons k t => cases k <;> simp [evalMml, ha, hp]
    | _ => simp [evalMml, ha, hp]
  rw [this, constSem] at hv
  cases hm : mmlMeaning tag with
  | none => simp [hm] at hv
  | some m => rw [hm] at hv; exact const_sound I hm hv ht


/-- one operand: a plain child contributes its own value, a `<degree>` / `<logbase>` that of its only child -/
theorem item_sound {I : Interp} {k : Mml} {a : Sy} {inner : Option Val} {it : Role × Val}
    (hn : k.noNullary = true) (hrf : k.remFree = true) (ha : transpile k = .ok a) (ihk : SoundAt I k)
    (hin : ∀ v, inner = some v → ∃ tag d, k = .el tag (.cons d .nil) ∧ evalMml I d = some v ∧ SoundAt I d)
    (hit : itemOf k (evalMml I k) inner = some it) : evalSy I a = some it.2 := by
  unfold itemOf at hit
  split at hit
  · cases hk : evalMml I k with
    | none => simp [hk] at hit
    | some v => simp [hk] at hit; subst hit; exact ihk hn hrf a v ha hk
  · rename_i ro hro
    cases hi : inner with
    | none => simp [hi] at hit
    | some v =>
      simp [hi] at hit; subst hit
      obtain ⟨tag, d, rfl, hd, ihd⟩ := hin v hi
      obtain ⟨_, _, hk', ht⟩ := qualifierRole_some hro
      cases hk'
      simp only [Mml.noNullary, Mml.remFree, Bool.and_eq_true] at hn hrf
      exact ihd hn.2.1 hrf.2.1 a v (transpile_qualifier_ok ht ha) hd

theorem items_cons_sound {I : Interp} {k rest : Mml} {inner : Option Val}
    (heq : evalItems I (.cons k rest) = consItem (itemOf k (evalMml I k) inner) (evalItems I rest))
    (ihk : SoundAt I k)
    (hin : ∀ v, inner = some v → ∃ tag d, k = .el tag (.cons d .nil) ∧ evalMml I d = some v ∧ SoundAt I d)
    (ihr : ItemsAt I rest) : ItemsAt I (.cons k rest) := by
  intro hn hrf r items hr hi
  obtain ⟨a, r', rfl, ha, hr'⟩ := transpile_cons_ok hr
  simp only [Mml.noNullary, Mml.remFree, Bool.and_eq_true] at hn hrf
  rw [heq] at hi
  unfold consItem at hi
  split at hi
  · rename_i it its hit hits
    cases hi
    simp only [evalSyArgs, item_sound hn.1 hrf.1 ha ihk hin hit, ihr hn.2 hrf.2 r' its hr' hits, List.map_cons]
  · cases hi

/-- soundness for every tree, every list of pieces and every operand list, by the recursion of `evalMml` itself -/
theorem sound_all (I : Interp) : (∀ t, SoundAt I t) ∧ (∀ t, PiecesAt I t) ∧ (∀ t, ItemsAt I t) := by
  -- one case per equation of `evalMml` / `evalPieces` / `evalItems`, in the order of the definitions; an element whose
  -- first child is an element has equations of its own there (`…Op`), and every catch-all equation (`no…`) comes with
  -- the hypotheses that the earlier patterns did not match
  refine evalMml.mutual_induct (SoundAt I) (PiecesAt I) (ItemsAt I)
    ?ci ?cn ?apply ?piecewiseOp ?constantOp ?applyNoOp ?piecewise ?constant ?noElement
    ?piece ?pieceTag ?otherwise ?otherwiseTag ?noPiece ?itemsNil ?qualifier ?plain ?noItems
  case ci => intro n _ _ e v ht hv; cases ht; simpa [evalMml, evalSy] using hv
  case cn =>
    intro ty text kids _ _ e v ht hv
    simp only [transpile] at ht
    simp only [evalMml, Option.map_eq_some_iff] at hv
    obtain ⟨q, hq, rfl⟩ := hv
    cases cn_sound ty text kids e q ht hq
    simp only [evalSy]
  case apply =>
    intro op opk rest ih hn hrf e v ht hv
    rw [evalMml_apply] at hv
    cases hi : evalItems I rest with
    | none => simp [hi, applySem] at hv
    | some items =>
      simp only [hi, applySem] at hv
      simp only [Mml.noNullary, Mml.remFree, Bool.and_eq_true, Mml.len] at hn hrf
      rw [transpile_apply] at ht
      split at ht
      · cases ht
      · rename_i rr hrr
        obtain ⟨f, r, rfl, hf, hr⟩ := transpile_cons_ok hrr
        have hargs := ih hn.2.2 hrf.2.2 r items hr hi
        have hrem : op ≠ "rem" := by simpa using hrf.2.1.1
        cases rest with
        | nil => simp [Mml.len] at hn
        | cons k rest' =>
          obtain ⟨a, r', rfl, _, _⟩ := transpile_cons_ok hr
          rw [assemble_apply] at ht
          exact call_sound I op opk f _ e items v hrem hf ht hargs hv
        | _ => simp [evalItems] at hi
  case piecewiseOp => intro op opk rest _ ih; exact piecewise_sound ih
  case constantOp => intro tag op opk rest ha hp; exact constant_sound ha hp
  case applyNoOp =>
    intro kids hk _ _ e v _ hv
    cases kids with
    | cons k t =>
      cases k with
      | el op opk => exact (hk _ _ _ rfl).elim
      | _ => simp [evalMml] at hv
    | _ => simp [evalMml] at hv
  case piecewise => intro kids _ _ ih; exact piecewise_sound ih
  case constant => intro tag kids _ ha hp; exact constant_sound ha hp
  case noElement =>
    intro t h1 h2 _ h4 _ _ e v _ hv
    cases t with
    | nil | cons _ _ => simp [evalMml] at hv
    | ci n => exact (h1 n rfl).elim
    | cn ty text kids => exact (h2 _ _ _ rfl).elim
    | el tag kids => exact (h4 _ _ rfl).elim
  case piece =>
    intro e c rest ihc ihe ihr hn hrf r v hr hv
    obtain ⟨a, r', rfl, ha, hr'⟩ := transpile_cons_ok hr
    simp only [Mml.noNullary, Mml.remFree, Bool.and_eq_true] at hn hrf
    obtain ⟨e', c', rfl, he', hc'⟩ := transpile_piece_ok ha
    simp only [evalPieces, if_true] at hv
    unfold pieceSem at hv
    split at hv
    · rename_i hcv
      simp only [evalSyPieces, ihc hn.1.2.2.1 hrf.1.2.2.1 c' _ hc' hcv]
      exact ihe hn.1.2.1 hrf.1.2.1 e' v he' hv
    · rename_i hcv
      simp only [evalSyPieces, ihc hn.1.2.2.1 hrf.1.2.2.1 c' _ hc' hcv]
      exact ihr hn.2 hrf.2 r' v hr' hv
    · cases hv
  case pieceTag => intro tag e c rest ht _ _ r v _ hv; simp [evalPieces, ht] at hv
  case otherwise =>
    intro e ihe hn hrf r v hr hv
    obtain ⟨a, r', rfl, ha, hr'⟩ := transpile_cons_ok hr
    cases hr'
    simp only [Mml.noNullary, Mml.remFree, Bool.and_eq_true] at hn hrf
    obtain ⟨e', rfl, he'⟩ := transpile_otherwise_ok ha
    simp only [evalPieces, if_true] at hv
    simp only [evalSyPieces, evalSy_true]
    exact ihe hn.1.2.1 hrf.1.2.1 e' v he' hv
  case otherwiseTag => intro tag e ht _ _ r v _ hv; simp [evalPieces, ht] at hv
  case noPiece =>
    intro t h1 h2 _ _ r v _ hv
    unfold evalPieces at hv
    split at hv
    · exact (h1 _ _ _ _ rfl).elim
    · exact (h2 _ _ rfl).elim
    · cases hv
  case itemsNil => intro _ _ r items hr hi; cases hr; cases hi; rfl
  case qualifier =>
    intro tag d rest ihk ihd ihr
    exact items_cons_sound (by simp only [evalItems]) ihk (fun v hv => ⟨tag, d, rfl, hv, ihd⟩) ihr
  case plain =>
    intro k rest hk ihk ihr
    refine items_cons_sound (inner := none) ?_ ihk (fun v hv => by cases hv) ihr
    -- `evalItems` on a child that is not an element with exactly one child
    cases k with
    | el tag kids =>
      cases kids with
      | cons d t =>
        cases t with
        | nil => exact (hk _ _ rfl).elim
        | _ => simp only [evalItems]
      | _ => simp only [evalItems]
    | _ => simp only [evalItems]
  case noItems =>
    intro t h1 _ h3 _ _ r items _ hi
    cases t with
    | nil => exact (h1 rfl).elim
    | cons k rest => exact (h3 _ _ rfl).elim
    | _ => simp [evalItems] at hi

end C02
