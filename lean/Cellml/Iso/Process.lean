import Cellml.Iso.Namespace

/-! # The process state of cellmlmanip: everything that outlives a call and is not owned by one Model / UnitStore

    `Iso/Namespace.lean` models the unit-store half of C16 (`Units.Wire.World`: registries, stores, the class counter
    `UnitStore._next_id`). This file puts the MODELS on top of it (core Lean only):

    * the global cells of the inventory (notes/reports/TIE2_Iso2.md): `world` (registries, stores, `_next_id` = number
      of stores), `heap` (every `sympy.Dummy` the process created, i.e. every `Quantity` / `Variable`; the class
      counter `sympy.Dummy._count` is its length; a Dummy is equal to another one only if it IS the other one, so the
      heap index is the identity AND the equality of the object), `one` (the module constant
      `_singularity_fixes.ONE`), `handlers` (the mutable module table `parser.SIMPLE_MATHML_TO_SYMPY_CLASSES`, written
      by `Transpiler.set_mathml_handler`), `singCache` / `pwCache` (the two `functools.lru_cache(maxsize=128)` of
      `_get_singularity` / `_generate_piecewise`);
    * a list of models, each with a reference to its own store (`Model.__init__` always creates a NEW `UnitStore`,
      which may share the registry of the store it is given), its variables (`_name_to_variable`), its equations, its
      cmeta registry (`_cmeta_id_to_variable`), and the quantities `create_quantity` handed out (`qtys`: no python
      attribute, the contract of `add_equation`: "all numbers and variables used in the equation must have been
      obtained from this model");
    * quantities and variables name the store of their unit (`QUnit.ofStore s factors`: a pint `Unit` made of names
      looked up in store `s`; `QUnit.bare`: a python `str`, the placeholder of `ONE` and `_float_dummies`);
    * operations indexed by the model they act on (`POp`), `step`, `run`.

    SymPy itself is a parameter (`Sym`): the pure analysis behind `_get_singularity` and the expression built by
    `_generate_piecewise`, as functions of their positional arguments (the memo keys). Expressions are token lists in
    prefix order (enough to speak about the atoms of an expression, `xreplace` on atoms, and equality of keys).

    The lemmas through which `step` is used — the invariant `PInv`, `Owns`, `LocalStep`, one `_spec` per operation — are
    in `Props/C16Process.lean`, because every one of them has `PInv` as hypothesis or conclusion. -/

namespace Iso.Process
open Units Units.Wire Iso

/-- what hangs on `.units` of a Quantity / Variable -/
inductive QUnit where
  /-- a pint `Unit` built from names of store `store` (`get_unit(name)`, or `units / original_variable.units`) -/
  | ofStore (store : Nat) (factors : List (String × Int))
  /-- a python `str`: `Quantity(1.0, 'dimensionless')`, `Quantity(f, 'dimensionless')` -/
  | bare (text : String)
deriving Repr, DecidableEq

/-- a `sympy.Dummy` object on the heap -/
inductive Obj where
  /-- `Quantity(value, units)`: attributes `_value`, `units` (symbol name `'_' + '{:g}'.format(value)`, real) -/
  | qty (value : Rat) (units : QUnit)
  /-- `Variable(name, units, model, …, cmeta_id)`: `_model` is the index of the owning model -/
  | var (name : String) (units : QUnit) (model : Nat) (cmeta : Option String)
  /-- any other Dummy (it only advances the counter) -/
  | other
deriving Repr, DecidableEq

inductive Tok where
  | v (id : Nat)                       -- a Variable (heap index)
  | q (id : Nat)                       -- a Quantity (heap index)
  | num (r : Rat)                      -- a plain sympy number
  | op (name : String) (arity : Nat)   -- function / operator head
deriving Repr, DecidableEq

abbrev Ex := List Tok

structure Eqn where
  lhs : Nat
  rhs : Ex
deriving Repr, DecidableEq

structure MModel where
  /-- `self.units`: index of the model's own store in `World.stores` -/
  store : Nat
  /-- `self._name_to_variable.values()`, in the order added -/
  vars : List Nat := []
  /-- what `self.create_quantity` returned so far -/
  qtys : List Nat := []
  /-- `self.equations` -/
  eqs : List Eqn := []
  /-- `self._cmeta_id_to_variable` -/
  cmeta : List (String × Nat) := []
deriving Repr, DecidableEq

/-- the positional arguments of `_get_singularity(expr, V, U_offset, exp_function)` = its `lru_cache` key -/
structure SingKey where
  expr : Ex
  V : Nat
  uOffset : Rat
  expFn : String
deriving Repr, DecidableEq

/-- the positional arguments of `_generate_piecewise(expr, V, sp, Vmin, Vmax)` = its `lru_cache` key. The three
    quantities are placeholders made by `_float_dummies` inside the `_get_singularity` call that found them; they are
    represented by their values -/
structure PwKey where
  expr : Ex
  V : Nat
  sp : Rat
  vmin : Rat
  vmax : Rat
deriving Repr, DecidableEq

/-- `[(Vmin, Vmax, sp), …]` -/
abbrev SingRes := List (Rat × Rat × Rat)

/-- SymPy: the two memoised functions as pure functions of their keys -/
structure Sym where
  analyse : SingKey → SingRes
  piecewise : PwKey → Ex

structure Proc where
  world : World := {}
  /-- `_singularity_fixes.py` 36 and 38 create `ONE` twice at import; the name is bound to the second object -/
  heap : List Obj := [.qty 1 (.bare "dimensionless"), .qty 1 (.bare "dimensionless")]
  one : Nat := 1
  models : List MModel := []
  /-- `parser.SIMPLE_MATHML_TO_SYMPY_CLASSES` as the list of overrides (latest first) of the original table -/
  handlers : List (String × String) := []
  singCache : List (SingKey × SingRes) := []
  pwCache : List (PwKey × Ex) := []
deriving Repr

/-! ### the memoising decorator -/

/-- `maxsize=128` of both decorators -/
def maxsize : Nat := 128

/-- `functools.lru_cache(maxsize)`: a hit returns the stored value; a miss computes, stores, and evicts beyond
    `maxsize` (which entry is evicted does not matter for anything proved here: every sub-list of a sound table is
    sound) -/
def lruCall {κ ν : Type} [BEq κ] (f : κ → ν) (cache : List (κ × ν)) (k : κ) : ν × List (κ × ν) :=
  ((cachedCall f cache k).1, (cachedCall f cache k).2.take maxsize)

/-- memoised calls threaded through the table -/
def lruCalls {κ ν : Type} [BEq κ] (f : κ → ν) : List (κ × ν) → List κ → List ν × List (κ × ν)
  | cache, [] => ([], cache)
  | cache, k :: ks =>
      let r := lruCall f cache k
      let rs := lruCalls f r.2 ks
      (r.1 :: rs.1, rs.2)

/-! ### reading the state -/

/-- `parser.SIMPLE_MATHML_TO_SYMPY_CLASSES[tag]` for a tag of the original table whose class is printed `tag` -/
def handlerOf (p : Proc) (tag : String) : String := (p.handlers.lookup tag).getD tag

/-- `store.get_unit(name)` succeeds -/
def unitOk (w : World) (s : Nat) (name : String) : Bool :=
  match w.stores[s]? with
  | some (st, _) => match getUnit st name with | .ok _ => true | .error _ => false
  | none => false

/-- `expr.xreplace({d: d.evalf(FLOAT_PRECISION) for d in expr.atoms(Quantity)})` (`check_U_expr`) -/
def evalf (heap : List Obj) (e : Ex) : Ex :=
  e.map (fun t => match t with
    | .q id => match heap[id]? with
      | some (.qty x _) => .num x
      | _ => t
    | t => t)

def isPiecewise : Ex → Bool
  | .op "Piecewise" _ :: _ => true
  | _ => false

/-- operators and plain numbers of an expression (its atoms are re-created by the caller) -/
def skeleton (e : Ex) : Ex := e.filter (fun t => match t with | .op _ _ => true | .num _ => true | _ => false)

def varName (heap : List Obj) (id : Nat) : Option String :=
  match heap[id]? with
  | some (.var n _ _ _) => some n
  | _ => none

/-- `cmeta_id = get_display_name(variable); while self.has_cmeta_id(cmeta_id): cmeta_id += '_'` -/
def freshCmeta (taken : List String) : Nat → String → String
  | 0, c => c
  | fuel + 1, c => if taken.contains c then freshCmeta taken fuel (c ++ "_") else c

/-- the token belongs to the model: "obtained from this model" -/
def TokOk (vars qtys : List Nat) : Tok → Prop
  | .v id => id ∈ vars
  | .q id => id ∈ qtys
  | _ => True

instance (vars qtys : List Nat) (t : Tok) : Decidable (TokOk vars qtys t) := by
  cases t <;> simp only [TokOk] <;> infer_instance

/-! ### operations -/

inductive POp where
  /-- `UnitStore()`, `UnitStore(other)`, `stores[s].add_unit(…)`, `stores[s].add_base_unit(…)` on store index `s`
      (a model's store included: `model.units.add_unit`) -/
  | units (op : Iso.Op)
  /-- `Model(name[, unit_store=stores[share]])` / `load_model(path[, unit_store=…])` before its contents are added -/
  | newModel (share : Option Nat)
  /-- `models[m].add_variable(name, unit)` -/
  | addVariable (m : Nat) (name unit : String)
  /-- `models[m].create_quantity(value, unit)` -/
  | createQuantity (m : Nat) (value : Rat) (unit : String)
  /-- `models[m].add_equation(Eq(lhs, rhs))` within its contract -/
  | addEquation (m : Nat) (lhs : Nat) (rhs : Ex)
  /-- `models[m].convert_variable(v, unit, OUTPUT)` with conversion factor `cf ≠ 1` -/
  | convertVariable (m : Nat) (v : Nat) (unit : String) (cf : Rat)
  /-- `models[m].remove_fixable_singularities(V, exclude)` -/
  | removeSing (m : Nat) (V : Nat) (excl : List Nat)
  /-- `models[m].add_cmeta_id(v)` -/
  | addCmetaId (m : Nat) (v : Nat)
  /-- `Transpiler.set_mathml_handler(tag, cls)` -/
  | setHandler (tag cls : String)
deriving Repr

/-- does the operation act on model `j`, whose store is `s`? -/
def POp.actsOn : POp → (j s : Nat) → Bool
  | .units op, _, s => op.actsOn s
  | .newModel _, _, _ => false
  | .addVariable m _ _, j, _ => m == j
  | .createQuantity m _ _, j, _ => m == j
  | .addEquation m _ _, j, _ => m == j
  | .convertVariable m _ _ _, j, _ => m == j
  | .removeSing m _ _, j, _ => m == j
  | .addCmetaId m _, j, _ => m == j
  | .setHandler _ _, _, _ => false

def setModel (p : Proc) (m : Nat) (mm : MModel) : Proc := { p with models := p.models.set m mm }

/-- `Model.__init__`: a NEW `UnitStore(unit_store)` (the counter `_next_id` advances; the registry is shared or new),
    empty maps, no equations -/
def newModel (p : Proc) (share : Option Nat) : Proc :=
  { p with world := p.world.newStore share, models := p.models ++ [{ store := p.world.stores.length }] }

def addVariable (p : Proc) (m : Nat) (name unit : String) : Proc :=
  match p.models[m]? with
  | some mm =>
      if unitOk p.world mm.store unit && !(mm.vars.filterMap (varName p.heap)).contains name then
        { p with heap := p.heap ++ [.var name (.ofStore mm.store [(unit, 1)]) m none],
                 models := p.models.set m { mm with vars := mm.vars ++ [p.heap.length] } }
      else p
  | none => p

def createQuantity (p : Proc) (m : Nat) (value : Rat) (unit : String) : Proc :=
  match p.models[m]? with
  | some mm =>
      if unitOk p.world mm.store unit then
        { p with heap := p.heap ++ [.qty value (.ofStore mm.store [(unit, 1)])],
                 models := p.models.set m { mm with qtys := mm.qtys ++ [p.heap.length] } }
      else p
  | none => p

def addEquation (p : Proc) (m : Nat) (lhs : Nat) (rhs : Ex) : Proc :=
  match p.models[m]? with
  | some mm =>
      if lhs ∈ mm.vars ∧ ∀ t ∈ rhs, TokOk mm.vars mm.qtys t then
        setModel p m { mm with eqs := mm.eqs ++ [⟨lhs, rhs⟩] }
      else p
  | none => p

/-- model.py 764-897 (direction OUTPUT): `cf = create_quantity(cf, units / original_variable.units)`,
    `new = add_variable(name + '_converted', units)`, `add_equation(Eq(new, original * cf))`. The unit of the new
    quantity is a quotient of two units of the acting model's store. -/
def convertVariable (p : Proc) (m : Nat) (v : Nat) (unit : String) (cf : Rat) : Proc :=
  match p.models[m]?, p.heap[v]? with
  | some mm, some (.var name (.ofStore s fs) _ _) =>
      if v ∈ mm.vars ∧ s = mm.store ∧ unitOk p.world mm.store unit = true then
        let h := p.heap.length
        { p with heap := p.heap ++ [.qty cf (.ofStore mm.store ((unit, 1) :: fs.map (fun f => (f.1, -f.2)))),
                                    .var (name ++ "_converted") (.ofStore mm.store [(unit, 1)]) m none],
                 models := p.models.set m { mm with vars := mm.vars ++ [h + 1], qtys := mm.qtys ++ [h],
                                                    eqs := mm.eqs ++ [⟨h + 1, [.op "Mul" 2, .v v, .q h]⟩] } }
      else p
  | _, _ => p

/-- the state threaded through the loop of `_singularity_fixes.remove_fixable_singularities` -/
structure FixSt where
  heap : List Obj
  qtys : List Nat
  sing : List (SingKey × SingRes)
  pw : List (PwKey × Ex)
  eqs : List Eqn

/-- the placeholders `_float_dummies` creates for one analysis result (on a cache miss) -/
def placeholders (r : SingRes) : List Obj :=
  r.flatMap (fun t => [.qty t.1 (.bare "dimensionless"), .qty t.2.1 (.bare "dimensionless"),
                       .qty t.2.2 (.bare "dimensionless")])

/-- what the re-unit step creates with `model.create_quantity(q._value, dimensionless if q is ONE else V.units)`:
    one copy of the template `ONE` with the model's own `dimensionless`, and the range bounds / singular points with
    the unit of `V` -/
def replanted (s : Nat) (vu : QUnit) (oneValue : Rat) (r : SingRes) : List Obj :=
  .qty oneValue (.ofStore s [("dimensionless", 1)]) ::
    r.flatMap (fun t => [.qty t.1 vu, .qty t.2.1 vu, .qty t.2.2 vu])

/-- one iteration of the loop on equation `e` -/
def fixEq (sym : Sym) (s V : Nat) (vu : QUnit) (oneValue uOffset : Rat) (expFn : String) (excl : List Nat)
    (st : FixSt) (e : Eqn) : FixSt :=
  if isPiecewise e.rhs || excl.contains e.lhs then { st with eqs := st.eqs ++ [e] }
  else
    let key : SingKey := ⟨evalf st.heap e.rhs, V, uOffset, expFn⟩
    let miss := (st.sing.lookup key).isNone
    let r := lruCall sym.analyse st.sing key
    let heap1 := if miss then st.heap ++ placeholders r.1 else st.heap
    if r.1.isEmpty then { st with heap := heap1, sing := r.2, eqs := st.eqs ++ [e] }
    else
      let pws := lruCalls sym.piecewise st.pw (r.1.map (fun t => (⟨e.rhs, V, t.2.2, t.1, t.2.1⟩ : PwKey)))
      let news := replanted s vu oneValue r.1
      let ids := (List.range news.length).map (· + heap1.length)
      { heap := heap1 ++ news, qtys := st.qtys ++ ids, sing := r.2, pw := pws.2,
        eqs := st.eqs ++ [⟨e.lhs, .op "Piecewise" 2 :: ids.map .q ++ .v V :: (pws.1.flatMap skeleton) ++ e.rhs⟩] }

/-- `Model.remove_fixable_singularities(V, exclude)`: `exp_function` is read from the global handler table at call
    time; `ONE` is read (its value) but never written -/
def removeSing (sym : Sym) (p : Proc) (m : Nat) (V : Nat) (excl : List Nat) : Proc :=
  match p.models[m]?, p.heap[V]?, p.heap[p.one]? with
  | some mm, some (.var _ vu _ _), some (.qty oneValue _) =>
      if V ∈ mm.vars then
        let st := mm.eqs.foldl (fixEq sym mm.store V vu oneValue (1 / 10000000) (handlerOf p "exp") excl)
          { heap := p.heap, qtys := mm.qtys, sing := p.singCache, pw := p.pwCache, eqs := [] }
        { p with heap := st.heap, singCache := st.sing, pwCache := st.pw,
                 models := p.models.set m { mm with qtys := st.qtys, eqs := st.eqs } }
      else p
  | _, _, _ => p

def addCmetaId (p : Proc) (m : Nat) (v : Nat) : Proc :=
  match p.models[m]?, p.heap[v]? with
  | some mm, some (.var name u owner none) =>
      if v ∈ mm.vars then
        let cid := freshCmeta (mm.cmeta.map (·.1)) (mm.cmeta.length + 1) name
        { p with heap := p.heap.set v (.var name u owner (some cid)),
                 models := p.models.set m { mm with cmeta := (cid, v) :: mm.cmeta } }
      else p
  | _, _ => p

def step (sym : Sym) (p : Proc) : POp → Proc
  | .units op => { p with world := Iso.step p.world op }
  | .newModel share => newModel p share
  | .addVariable m name unit => addVariable p m name unit
  | .createQuantity m value unit => createQuantity p m value unit
  | .addEquation m lhs rhs => addEquation p m lhs rhs
  | .convertVariable m v unit cf => convertVariable p m v unit cf
  | .removeSing m V excl => removeSing sym p m V excl
  | .addCmetaId m v => addCmetaId p m v
  | .setHandler tag cls => { p with handlers := (tag, cls) :: p.handlers }

def run (sym : Sym) (p : Proc) (ops : List POp) : Proc := ops.foldl (step sym) p

/-! ### observations -/

inductive QUnitObs where
  | ofStore (store : Nat) (factors : List (String × Int × Option (Bool × Option UnitObs)))
  | bare (text : String)
deriving Repr, DecidableEq

/-- the unit of a quantity as its store shows it: every factor with `is_defined` and root form -/
def obsQUnit (w : World) : QUnit → QUnitObs
  | .ofStore s fs => .ofStore s (fs.map (fun f => (f.1, f.2, probe w s f.1)))
  | .bare t => .bare t

inductive ObjObs where
  | qty (value : Rat) (units : QUnitObs)
  | var (name : String) (units : QUnitObs) (model : Nat) (cmeta : Option String)
  | other
  | dangling
deriving Repr, DecidableEq

def obsObj (p : Proc) (id : Nat) : ObjObs :=
  match p.heap[id]? with
  | some (.qty x u) => .qty x (obsQUnit p.world u)
  | some (.var n u m c) => .var n (obsQUnit p.world u) m c
  | some .other => .other
  | none => .dangling

/-- a token with the object it refers to -/
def obsTok (p : Proc) : Tok → Tok × Option ObjObs
  | .v id => (.v id, some (obsObj p id))
  | .q id => (.q id, some (obsObj p id))
  | t => (t, none)

structure ModelObs where
  /-- everything observable through the model's unit store (`Iso.obsStore`) -/
  units : Option StoreObs
  /-- the variables: name, units (resolved through the store), owner, cmeta id -/
  vars : List (Nat × ObjObs)
  /-- the equations; every atom with its object, hence the units of every quantity -/
  eqs : List (Nat × List (Tok × Option ObjObs))
  /-- the cmeta registry -/
  cmeta : List (String × Nat)
deriving Repr, DecidableEq

def obsModel (p : Proc) (j : Nat) : Option ModelObs :=
  match p.models[j]? with
  | some mj => some { units := obsStore p.world mj.store,
                      vars := mj.vars.map (fun v => (v, obsObj p v)),
                      eqs := mj.eqs.map (fun e => (e.lhs, e.rhs.map (obsTok p))),
                      cmeta := mj.cmeta }
  | none => none

/-- the answer of the memoised analysis `_get_singularity(check_U_expr, V, U_offset, exp_function)` in the current
    process state (whatever other calls filled the table before) -/
def analysisAnswer (sym : Sym) (p : Proc) (e : Ex) (V : Nat) (uOffset : Rat) (expFn : String) : SingRes :=
  (lruCall sym.analyse p.singCache ⟨evalf p.heap e, V, uOffset, expFn⟩).1

end Iso.Process
