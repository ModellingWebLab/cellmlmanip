import Cellml.Units.Wire

/-! Namespacing of unit names per store, and the process state in which several stores live side by side (the models
    that own them: `Iso/Process.lean`): units.py 64-69 (`_STORE_PREFIX`), 113-141 (`_next_id`, `_prefix`, shared registry),
    143-238 (`add_unit`, `add_base_unit`, `is_defined`, `get_unit`, `format`), 393-406 (`_prefix_name`).

    The process state is `Units.Wire.World`: the list of registries and the list of stores `(id, known names)` each
    pointing at its registry; the store counter `UnitStore._next_id` is the length of the store list (stores are never
    destroyed in the model, so the next id is the number of stores created so far).
    An operation is indexed by the store it acts on. `obsStore w i` is everything that can be observed through store
    `i`. The last section is the look-up-or-compute step of `functools.lru_cache` (`cachedCall`, `CacheOk`); the eviction
    beyond `maxsize` is added by `Iso.Process.lruCall`.
    Core Lean only (linked into the driver). -/

namespace Iso
open Units Units.Wire

/-! ### `_STORE_PREFIX.sub('', text)` for `_STORE_PREFIX = (?<![a-zA-Z0-9_])store[0-9]+_` -/

/-- does the text start with `store[0-9]+_` ? Returns what follows the match. The digits are matched greedily; the
    character after them must be `_` (which is not a digit, so there is nothing to backtrack into). -/
def matchStorePrefix : List Char → Option (List Char)
  | 's' :: 't' :: 'o' :: 'r' :: 'e' :: ds =>
      let digits := ds.takeWhile Char.isDigit
      match digits, ds.dropWhile Char.isDigit with
      | _ :: _, '_' :: rest => some rest
      | _, _ => none
  | _ => none

/-- left-to-right scan with the previous character of the ORIGINAL text (the look-behind sees the original text,
    also directly after a removed match, where it sees the `_` that ended the match). Fuel, because the recursion does
    not see that `rest` is shorter; every step consumes a character, so `length + 1` is enough. -/
def stripGo : Nat → Char → List Char → List Char
  | 0, _, cs => cs
  | _, _, [] => []
  | fuel + 1, prev, c :: r =>
      if isWordChar prev then c :: stripGo fuel c r
      else match matchStorePrefix (c :: r) with
        | some rest => stripGo fuel '_' rest
        | none => c :: stripGo fuel c r

/-- `_STORE_PREFIX.sub('', s)`; at the start of the text the look-behind succeeds -/
def strip (s : String) : String := String.ofList (stripGo (s.length + 1) ' ' s.toList)

/-- `store.format(store.get_unit(name))`: the registry key of the unit (pint prints the canonical spelling of a
    built-in alias, `metre` ↦ `meter`) with store prefixes removed -/
def formatName (id : Nat) (name : String) : String :=
  match nameContainer (prefixName id name) with
  | [] => "dimensionless"
  | (k, _) :: _ => strip k

/-! ### operations, indexed by the store they act on -/

inductive Op where
  /-- `UnitStore()` / `UnitStore(other)` / `Model(name)` / `Model(name, unit_store=other)` / `load_model(path, unit_store=…)` -/
  | newStore (share : Option Nat)
  /-- `stores[s].add_unit(name, _make_pint_unit_definition(name, elems))` -/
  | addUnit (s : Nat) (name : String) (elems : List UnitElem)
  /-- `stores[s].add_base_unit(name)` -/
  | addBase (s : Nat) (name : String)
deriving Repr, DecidableEq

/-- the operation acts on the (already existing) store `j` -/
def Op.actsOn : Op → Nat → Bool
  | .newStore _, _ => false
  | .addUnit s _ _, j => s == j
  | .addBase s _, j => s == j

/-- apply a definition to store `s`; a rejected definition changes nothing, and neither does an `s` that names no store -/
def applyTo (w : World) (s : Nat) (f : Registry → Store → Except AddErr (Registry × Store)) : World :=
  match w.regOf s with
  | some (st, ri, reg) =>
      match f reg st with
      | .ok (reg', st') => w.update s ri reg' st'
      | .error _ => w
  | none => w

def step (w : World) : Op → World
  | .newStore share => w.newStore share
  | .addUnit s name elems => applyTo w s (fun reg st => addUnit reg st name elems)
  | .addBase s name => applyTo w s (fun reg st => addBaseUnit reg st name)

def run (w : World) (ops : List Op) : World := ops.foldl step w

/-- what `format(unit, base_units=True)` shows (before prefix stripping) plus the dimensionality used by conversion -/
structure UnitObs where
  scale : Scale
  root  : Container
  dims  : Dims
deriving Repr, DecidableEq, BEq

def obsUnit (reg : Registry) (c : Container) : UnitObs :=
  let r := toRoot reg c          -- one expansion, shared by the three fields
  let root := PMap.norm r.2
  { scale := PMap.norm r.1, root := root, dims := PMap.norm (dimsOfRoot reg root) }

theorem obsUnit_eq (reg : Registry) (c : Container) :
    obsUnit reg c = { scale := scaleOf reg c, root := rootOf reg c, dims := dimsOf reg c } := rfl

/-- `get_unit(name)` then its root form; `none` is the `KeyError` -/
def obsName (reg : Registry) (st : Store) (name : String) : Option UnitObs :=
  match getUnit st name with
  | .ok c => some (obsUnit reg c)
  | .error _ => none

structure StoreObs where
  /-- user names, newest first: determines `is_defined` of EVERY name -/
  known : List String
  /-- root form of every known name (user names and built-ins) -/
  units : List (String × Option UnitObs)
deriving Repr, DecidableEq, BEq

def obsStore (w : World) (i : Nat) : Option StoreObs :=
  match w.regOf i with
  | some (st, _, reg) =>
      some { known := st.known,
             units := (st.known ++ Cellml.Gen.cellmlUnits).map (fun n => (n, obsName reg st n)) }
  | none => none

/-- probe with an arbitrary name (e.g. a name only another store knows): `(is_defined, get_unit + root form)` -/
def probe (w : World) (i : Nat) (name : String) : Option (Bool × Option UnitObs) :=
  match w.regOf i with
  | some (st, _, reg) => some (st.isDefined name, obsName reg st name)
  | none => none

inductive XErr where
  | noStore
  | crossRegistry      -- units of different registries: pint raises ValueError / the asserts fire
  | keyError           -- `get_unit` failed
  | unit (e : UErr)
deriving Repr, DecidableEq

/-- `stores[i].get_conversion_factor(stores[i].get_unit(x), stores[j].get_unit(y))` (as a scale; `[]` is one) -/
def crossFactor (w : World) (i : Nat) (x : String) (j : Nat) (y : String) : Except XErr Scale :=
  match w.regOf i, w.regOf j with
  | some (sti, ri, reg), some (stj, rj, _) =>
      match getUnit sti x, getUnit stj y with
      | .ok a, .ok b =>
          if ri ≠ rj then .error .crossRegistry
          else match factor reg a b with
            | .ok f => .ok f
            | .error e => .error (.unit e)
      | _, _ => .error .keyError
  | _, _ => .error .noStore

/-! ### memoisation (`functools.lru_cache` on `_get_singularity` and `_generate_piecewise`) -/

/-- a memoised call: look the key up, else compute and remember -/
def cachedCall {κ ν : Type} [BEq κ] (f : κ → ν) (cache : List (κ × ν)) (k : κ) : ν × List (κ × ν) :=
  match cache.lookup k with
  | some v => (v, cache)
  | none => (f k, (k, f k) :: cache)

/-- every entry of the cache is the function's value at its key -/
def CacheOk {κ ν : Type} (f : κ → ν) (cache : List (κ × ν)) : Prop := ∀ k v, (k, v) ∈ cache → v = f k

/-- a sequence of memoised calls threaded through the cache -/
def cachedCalls {κ ν : Type} [BEq κ] (f : κ → ν) : List (κ × ν) → List κ → List ν
  | _, [] => []
  | cache, k :: ks => (cachedCall f cache k).1 :: cachedCalls f (cachedCall f cache k).2 ks

end Iso
