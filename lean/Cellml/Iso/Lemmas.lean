import Cellml.Iso.Namespace
import Cellml.Units.Local
import Cellml.Units.WorklistComplete

/-! Lemmas behind the C16 theorems (`Props/C16.lean`). Prefixed names: `prefixName` is injective on (store id, user
    name) and `_STORE_PREFIX` stripping undoes it. Registries: a new entry under a key outside a closed name set is
    invisible to containers over that set (`obsUnit_cons_fresh`, by `Units/Local.lean`). Process states: the invariant
    `Inv` is kept by every operation (`step_cases` says what an operation can do); `SameView` (a store looks the same in
    two states) gives the frame property; stores that share a registry convert into each other with `Units.factor`. -/

namespace Iso
open Units Units.Wire PMap

theorem prefixName_toList (id : Nat) (n : String) (h : Cellml.Gen.cellmlUnits.contains n = false) :
    (prefixName id n).toList = ['s','t','o','r','e'] ++ (Nat.toDigits 10 id ++ '_' :: n.toList) := by
  simp only [prefixName, h, Bool.false_eq_true, if_false, String.toList_append, Nat.toString_eq_repr, Nat.toList_repr,
    (by decide : "store".toList = ['s','t','o','r','e']), (by decide : "_".toList = ['_']), List.append_assoc,
    List.singleton_append]

theorem toDigits_inj {i j : Nat} (h : Nat.toDigits 10 i = Nat.toDigits 10 j) : i = j := by
  have := congrArg (fun l => Nat.ofDigitChars 10 l 0) h
  simpa [Nat.ofDigitChars_ten_toDigits] using this

def startsStore (s : String) : Bool :=
  match s.toList with
  | 's' :: 't' :: 'o' :: 'r' :: 'e' :: _ => true
  | _ => false

theorem prefixName_startsStore (id : Nat) (n : String) (h : Cellml.Gen.cellmlUnits.contains n = false) :
    startsStore (prefixName id n) = true := by
  simp [startsStore, prefixName_toList id n h]

/-- the same test as `Units.storeLike` -/
theorem startsStore_eq (q : String) : startsStore q = storeLike q := by
  unfold startsStore storeLike
  split
  · rename_i h; rw [h]; rfl
  · rename_i hno
    cases hb : q.toList.take 5 == ['s', 't', 'o', 'r', 'e'] with
    | false => rfl
    | true =>
        refine absurd ?_ (hno (q.toList.drop 5))
        rw [← List.take_append_drop 5 q.toList, beq_iff_eq.mp hb]
        simp

theorem canonName_of_startsStore (q : String) (h : startsStore q = true) : canonName q = q :=
  canonName_storeLike (startsStore_eq q ▸ h)

theorem startsStore_ne_dimensionless (q : String) (h : startsStore q = true) : (q == "dimensionless") = false :=
  storeLike_ne_dimensionless (startsStore_eq q ▸ h)

theorem not_startsStore_of_builtin {n : String} (h : Cellml.Gen.cellmlUnits.contains n = true) : startsStore n = false := by
  cases hs : startsStore n with
  | false => rfl
  | true =>
      -- a built-in name that looked like a prefixed one would be its own key in the built-in registry
      have hl : storeLike n = true := startsStore_eq n ▸ hs
      have hk := (toRoot_builtin h).1
      rw [nameContainer_storeLike hl] at hk
      have := List.all_eq_true.mp builtin_keys_not_storeLike n (Units.allKnown_iff.mp hk (n, 1) List.mem_cons_self)
      rw [hl] at this
      cases this

theorem prefixName_eq (i j : Nat) (n₁ n₂ : String) (h₁ : Cellml.Gen.cellmlUnits.contains n₁ = false)
    (h : prefixName i n₁ = prefixName j n₂) : i = j ∧ n₁ = n₂ := by
  cases h₂ : Cellml.Gen.cellmlUnits.contains n₂ with
  | true =>
      have hs := prefixName_startsStore i n₁ h₁
      rw [h] at hs
      simp only [prefixName, h₂, if_true] at hs
      rw [not_startsStore_of_builtin h₂] at hs
      cases hs
  | false =>
      have := congrArg String.toList h
      rw [prefixName_toList i n₁ h₁, prefixName_toList j n₂ h₂] at this
      have := List.append_cancel_left this
      obtain ⟨hd, hn⟩ := List.append_sep_inj '_' _ _ _ _ Nat.underscore_not_in_toDigits Nat.underscore_not_in_toDigits this
      exact ⟨toDigits_inj hd, String.toList_inj.mp hn⟩

theorem stripGo_word : ∀ (fuel : Nat) (prev : Char) (cs : List Char), isWordChar prev = true →
    cs.all isWordChar = true → stripGo fuel prev cs = cs := by
  intro fuel
  induction fuel with
  | zero => intro prev cs _ _; rfl
  | succ f ih =>
      intro prev cs hp hcs
      cases cs with
      | nil => rfl
      | cons c r =>
          simp only [List.all_cons, Bool.and_eq_true] at hcs
          simp only [stripGo, hp, if_true, ih c r hcs.1 hcs.2]

theorem takeWhile_digits_sep (ds rest : List Char) (h : ∀ c ∈ ds, c.isDigit = true) :
    (ds ++ '_' :: rest).takeWhile Char.isDigit = ds ∧ (ds ++ '_' :: rest).dropWhile Char.isDigit = '_' :: rest := by
  rw [List.takeWhile_append_of_pos h, List.dropWhile_append_of_pos h]; simp [show Char.isDigit '_' = false by decide]

theorem matchStorePrefix_prefixed (ds rest : List Char) (hne : ds ≠ []) (h : ∀ c ∈ ds, c.isDigit = true) :
    matchStorePrefix ('s' :: 't' :: 'o' :: 'r' :: 'e' :: (ds ++ '_' :: rest)) = some rest := by
  obtain ⟨h1, h2⟩ := takeWhile_digits_sep ds rest h
  simp only [matchStorePrefix, h1, h2]
  cases ds with
  | nil => exact absurd rfl hne
  | cons d ds' => rfl

/-- user names: identifiers -/
def isIdent (n : String) : Bool := n.toList.all isWordChar

/-- after the store prefix is removed the scan goes on inside the name, with `_` as look-behind -/
theorem strip_prefixName (id : Nat) (n : String) (hb : Cellml.Gen.cellmlUnits.contains n = false) :
    strip (prefixName id n) = String.ofList (stripGo ((prefixName id n).length) '_' n.toList) := by
  unfold strip
  rw [prefixName_toList id n hb]
  have hm := matchStorePrefix_prefixed (Nat.toDigits 10 id) n.toList Nat.toDigits_ne_nil
    (fun c hc => Nat.isDigit_of_mem_toDigits (by decide) (by decide) hc)
  simp only [List.cons_append, List.nil_append] at hm ⊢
  rw [stripGo]
  simp only [show isWordChar ' ' = false by decide, Bool.false_eq_true, if_false, hm]

theorem strip_prefixName_user (id : Nat) (n : String) (hb : Cellml.Gen.cellmlUnits.contains n = false)
    (hn : isIdent n = true) : strip (prefixName id n) = n := by
  rw [strip_prefixName id n hb, stripGo_word _ '_' _ (by decide) hn, String.ofList_toList]

/-- an identifier that does not begin like a store prefix contains no match of `_STORE_PREFIX`: after its first
    character the look-behind always sees a word character -/
theorem strip_ident (n : String) (hn : isIdent n = true) (hs : startsStore n = false) : strip n = n := by
  unfold strip
  cases hl : n.toList with
  | nil => rw [← String.ofList_toList (s := n), hl]; rfl
  | cons c r =>
      have hm : matchStorePrefix (c :: r) = none := by
        unfold startsStore at hs
        rw [hl] at hs
        unfold matchStorePrefix
        split
        · rename_i heq; rw [heq] at hs; cases hs
        · rfl
      simp only [isIdent, hl, List.all_cons, Bool.and_eq_true] at hn
      rw [stripGo]
      simp only [show isWordChar ' ' = false by decide, Bool.false_eq_true, if_false, hm,
        stripGo_word _ c r hn.1 hn.2]
      rw [← hl, String.ofList_toList]

def keys (reg : Registry) : List String := reg.map Prod.fst

def Unmentioned (reg : Registry) (n : String) : Prop :=
  ∀ m k c, (m, UnitDef.derived k c) ∈ reg → get c n = 0

theorem expand_cons_unused (n : String) (d : UnitDef) (reg : Registry) (s : Scale) (c : Container)
    (h : get c n = 0) : expand ((n, d) :: reg) (s, c) ≃₂ expand reg (s, c) :=
  expand_cons_zero n d reg s c h

/-- **a new entry under a key outside `S` is invisible to containers over `S`** when `S` is closed under "is defined
    by": the registry with and without it have the same entries over `S` (`Units/Local.lean`) -/
theorem obsUnit_cons_fresh {S : List String} {reg : Registry} {n : String} (d : UnitDef) (hS : Closed S reg)
    (hn : n ∉ S) {c : Container} (hc : Within S c) : obsUnit ((n, d) :: reg) c = obsUnit reg c := by
  have hS' : Closed S ((n, d) :: reg) := fun m k of hm hmS =>
    (List.mem_cons.mp hm).elim (fun e => absurd ((Prod.mk.inj e).1 ▸ hmS) hn) fun hm => hS m k of hm hmS
  simp only [obsUnit_eq, scaleOf_restrict hS' hc, rootOf_restrict hS' hc, dimsOf_restrict hS' hc,
    restrict_cons_not_mem d reg hn, ← scaleOf_restrict hS hc, ← rootOf_restrict hS hc, ← dimsOf_restrict hS hc]

def mentioned (reg : Registry) (c : Container) (n : String) : List String :=
  (c.map (·.1) ++ reg.flatMap fun e => match e.2 with | .derived _ of => of.map (·.1) | .base _ => []).filter (· ≠ n)

theorem obsUnit_cons_unused (n : String) (d : UnitDef) (reg : Registry) (c : Container)
    (h : get c n = 0) (hreg : Unmentioned reg n) : obsUnit ((n, d) :: reg) c = obsUnit reg c := by
  refine obsUnit_cons_fresh (S := mentioned reg c n) d (fun m k of hm _ x hx => ?_) (by simp [mentioned]) fun x hx => ?_
  · obtain ⟨e, he⟩ := mem_of_get_ne_zero of x hx
    have hxn : x ≠ n := fun e' => hx (e' ▸ hreg m k of hm)
    simp only [mentioned, List.mem_filter, List.mem_append, List.mem_flatMap, decide_eq_true_eq]
    exact ⟨.inr ⟨_, hm, List.mem_map.mpr ⟨_, he, rfl⟩⟩, hxn⟩
  · obtain ⟨e, he⟩ := mem_of_get_ne_zero c x hx
    simp only [mentioned, List.mem_filter, List.mem_append, decide_eq_true_eq]
    exact ⟨.inl (List.mem_map.mpr ⟨_, he, rfl⟩), fun e' => hx (e' ▸ h)⟩

theorem getUnit_ok {st : Store} {x : String} {c : Container} (h : getUnit st x = .ok c) :
    c = nameContainer (prefixName st.id x) ∧ st.isDefined x = true := by
  unfold getUnit at h
  split at h
  · cases h
  · split at h
    · cases h
    · rename_i h2
      simp only [Except.ok.injEq] at h
      exact ⟨h.symm, by simpa using h2⟩

theorem regOf_eq_some {w : World} {s : Nat} {st : Store} {ri : Nat} {reg : Registry} :
    w.regOf s = some (st, ri, reg) ↔ w.stores[s]? = some (st, ri) ∧ w.regs[ri]? = some reg := by
  unfold World.regOf
  cases h1 : w.stores[s]? with
  | none => simp
  | some p =>
      obtain ⟨st', ri'⟩ := p
      cases h2 : w.regs[ri']? <;> simp [h2] <;> grind

/-- what a successful definition does to the registry and the store -/
structure Extends (reg : Registry) (st : Store) (name : String) (reg' : Registry) (st' : Store) : Prop where
  notBuiltin : Cellml.Gen.cellmlUnits.contains name = false
  fresh : st.known.contains name = false
  regEq : ∃ d, reg' = (prefixName st.id name, d) :: reg ∧ ∀ k c, d = UnitDef.derived k c → ∀ p ∈ c, p.1 ∈ keys reg
  stEq : st' = { st with known := name :: st.known }

theorem addBaseUnit_ok {reg : Registry} {st : Store} {name : String} {reg' : Registry} {st' : Store}
    (h : addBaseUnit reg st name = .ok (reg', st')) : Extends reg st name reg' st' := by
  obtain ⟨hnew, hr⟩ := Units.addBaseUnit_ok h
  rw [isDefined_eq_false_iff] at hnew
  simp only [Prod.mk.injEq] at hr
  exact ⟨hnew.1, hnew.2, ⟨_, hr.1, fun _ _ hd => by cases hd⟩, hr.2⟩

theorem addUnit_ok {reg : Registry} {st : Store} {name : String} {elems : List UnitElem} {reg' : Registry} {st' : Store}
    (h : addUnit reg st name elems = .ok (reg', st')) : Extends reg st name reg' st' := by
  obtain ⟨k, c, md, hdm, h1, h2, _, hrefs, _, hr⟩ := Units.addUnit_ok h
  simp only [Prod.mk.injEq] at hr
  refine ⟨h1, h2, ⟨_, hr.1, ?_⟩, hr.2⟩
  intro k' c' hd
  cases hd
  have hall : allKnown reg c = true :=
    Units.defMeaning_allKnown elems k c md hdm (fun e he => List.all_eq_true.mp hrefs e he)
  exact Units.allKnown_iff.mp (Units.allKnown_norm hall)

theorem getElem?_snoc {α} (l : List α) (x p : α) (s : Nat) :
    (l ++ [x])[s]? = some p ↔ l[s]? = some p ∨ (s = l.length ∧ p = x) := by
  rw [List.getElem?_snoc]
  split
  · rename_i h; subst h; simp [eq_comm]
  · rename_i h; simp [h]

theorem getElem?_set' {α} (l : List α) (i j : Nat) (a p : α) :
    (l.set i a)[j]? = some p ↔ (i = j ∧ j < l.length ∧ p = a) ∨ (i ≠ j ∧ l[j]? = some p) := by
  grind

/-- the namespace invariant of a process state: store `s` has id `s` and points at an existing registry; a registry key
    that looks like a prefixed name IS `prefixName` of a name known to a store on that registry (so the prefix names the
    owner); definitions mention keys of their own registry only; what a store knows is no built-in name and is in its
    registry under its prefix; every registry holds the built-in keys -/
structure Inv (w : World) : Prop where
  ids : ∀ (s : Nat) (st : Store) (ri : Nat), w.stores[s]? = some (st, ri) → st.id = s
  regIdx : ∀ (s : Nat) (st : Store) (ri : Nat), w.stores[s]? = some (st, ri) → ri < w.regs.length
  keysOk : ∀ (ri : Nat) (reg : Registry), w.regs[ri]? = some reg → ∀ key ∈ keys reg,
      startsStore key = false ∨
      ∃ (s : Nat) (st : Store), w.stores[s]? = some (st, ri) ∧ ∃ x ∈ st.known, key = prefixName st.id x
  closed : ∀ (ri : Nat) (reg : Registry), w.regs[ri]? = some reg →
      ∀ m k c, (m, UnitDef.derived k c) ∈ reg → ∀ p ∈ c, p.1 ∈ keys reg
  knownOk : ∀ (s : Nat) (st : Store) (ri : Nat) (reg : Registry), w.stores[s]? = some (st, ri) →
      w.regs[ri]? = some reg → ∀ x ∈ st.known,
      Cellml.Gen.cellmlUnits.contains x = false ∧ prefixName st.id x ∈ keys reg
  builtins : ∀ (ri : Nat) (reg : Registry), w.regs[ri]? = some reg → ∀ k ∈ keys builtinRegistry, k ∈ keys reg

theorem inv_empty : Inv ({} : World) := by
  constructor <;> intros <;> simp_all

def freshStore (w : World) : Store := { id := w.stores.length, known := [] }

theorem newStore_length (w : World) (share : Option Nat) :
    (w.newStore share).stores.length = w.stores.length + 1 := by
  unfold World.newStore
  split <;> simp

theorem newStore_cases (w : World)
    (hidx : ∀ (s : Nat) (st : Store) (ri : Nat), w.stores[s]? = some (st, ri) → ri < w.regs.length)
    (share : Option Nat) :
    (∃ ri, ri < w.regs.length ∧
        w.newStore share = { regs := w.regs, stores := w.stores ++ [(freshStore w, ri)] }) ∨
    w.newStore share = { regs := w.regs ++ [builtinRegistry], stores := w.stores ++ [(freshStore w, w.regs.length)] } := by
  unfold World.newStore
  split
  · rename_i st ri h
    left
    refine ⟨ri, ?_, rfl⟩
    cases share with
    | none => simp at h
    | some k => exact hidx k st ri (by simpa using h)
  · right; rfl

theorem builtin_keys_not_startsStore : (keys builtinRegistry).all (fun k => !startsStore k) = true := by
  simp only [startsStore_eq]
  exact builtin_keys_not_storeLike

theorem builtin_keys_ident : (keys builtinRegistry).all isIdent = true := by rw [builtinRegistry_eq]; decide +kernel

/-- the built-in definitions are written in the root units (`Units.builtin_rootForm`), which are entries themselves -/
theorem builtin_closed {m : String} {k : Scale} {c : Container} (hm : (m, UnitDef.derived k c) ∈ builtinRegistry) :
    ∀ p ∈ c, p.1 ∈ keys builtinRegistry := fun p hp => by
  have hr := (rootForm_mem builtin_rootForm hm).2 p hp
  rw [builtinRegistry_eq]
  simp only [keys, List.map_append, List.map_cons, List.map_map, List.mem_append, List.mem_cons]
  exact .inr (.inr (by simpa [Function.comp_def] using hr))

/-- a new store pointing at registry `ri`, after `extra` fresh registries (none, or one holding the built-ins) were added -/
theorem inv_addStore (w : World) (h : Inv w) (extra : List Registry) (hex : ∀ reg ∈ extra, reg = builtinRegistry)
    (ri : Nat) (hri : ri < (w.regs ++ extra).length) :
    Inv { regs := w.regs ++ extra, stores := w.stores ++ [(freshStore w, ri)] } := by
  have hreg : ∀ (ri' : Nat) (reg : Registry), (w.regs ++ extra)[ri']? = some reg →
      w.regs[ri']? = some reg ∨ reg = builtinRegistry := by
    intro ri' reg hr
    rw [List.getElem?_append] at hr
    split at hr
    · exact Or.inl hr
    · exact Or.inr (hex reg (List.mem_of_getElem? hr))
  constructor
  · intro s st ri' hs
    rcases (getElem?_snoc _ _ _ _).mp hs with hs | ⟨rfl, hp⟩
    · exact h.ids s st ri' hs
    · simp only [Prod.mk.injEq] at hp; rw [hp.1]; rfl
  · intro s st ri' hs
    rcases (getElem?_snoc _ _ _ _).mp hs with hs | ⟨rfl, hp⟩
    · have := h.regIdx s st ri' hs
      simp only [List.length_append]
      omega
    · simp only [Prod.mk.injEq] at hp; rw [hp.2]; exact hri
  · intro ri' reg hr key hk
    rcases hreg ri' reg hr with hr | hb
    · rcases h.keysOk ri' reg hr key hk with h1 | ⟨s, st, hs, hx⟩
      · exact Or.inl h1
      · exact Or.inr ⟨s, st, (getElem?_snoc _ _ _ _).mpr (Or.inl hs), hx⟩
    · left
      rw [hb] at hk
      simpa using List.all_eq_true.mp builtin_keys_not_startsStore key hk
  · intro ri' reg hr m k c hm p hp
    rcases hreg ri' reg hr with hr | hb
    · exact h.closed ri' reg hr m k c hm p hp
    · rw [hb] at hm ⊢
      exact builtin_closed hm p hp
  · intro s st ri' reg hs hr x hx
    rcases (getElem?_snoc _ _ _ _).mp hs with hs | ⟨rfl, hp⟩
    · rw [List.getElem?_append_left (h.regIdx s st ri' hs)] at hr
      exact h.knownOk s st ri' reg hs hr x hx
    · simp only [Prod.mk.injEq] at hp; rw [hp.1] at hx; simp [freshStore] at hx
  · intro ri' reg hr k hk
    rcases hreg ri' reg hr with hr | hb
    · exact h.builtins ri' reg hr k hk
    · rw [hb]; exact hk

theorem keys_cons (n : String) (d : UnitDef) (reg : Registry) : keys ((n, d) :: reg) = n :: keys reg := rfl

theorem inv_update (w : World) (h : Inv w) (s ri : Nat) (st st' : Store) (reg reg' : Registry) (name : String)
    (hs : w.stores[s]? = some (st, ri)) (hr : w.regs[ri]? = some reg) (ext : Extends reg st name reg' st') :
    Inv (w.update s ri reg' st') := by
  obtain ⟨hnb, hfresh, ⟨d, hreg', hd⟩, hst'⟩ := ext
  have hslt : s < w.stores.length := by
    have := List.getElem?_eq_some_iff.mp hs; exact this.1
  have hrlt : ri < w.regs.length := by
    have := List.getElem?_eq_some_iff.mp hr; exact this.1
  have hid : st'.id = st.id := by rw [hst']
  have hknown : st'.known = name :: st.known := by rw [hst']
  have hkeys : keys reg' = prefixName st.id name :: keys reg := by rw [hreg']; rfl
  unfold World.update
  constructor
  · intro s2 st2 r2 hs2
    rcases (getElem?_set' _ _ _ _ _).mp hs2 with ⟨rfl, _, hp⟩ | ⟨_, hs2⟩
    · simp only [Prod.mk.injEq] at hp; rw [hp.1, hid]; exact h.ids _ st ri hs
    · exact h.ids s2 st2 r2 hs2
  · intro s2 st2 r2 hs2
    simp only [List.length_set]
    rcases (getElem?_set' _ _ _ _ _).mp hs2 with ⟨rfl, _, hp⟩ | ⟨_, hs2⟩
    · simp only [Prod.mk.injEq] at hp; rw [hp.2]; exact hrlt
    · exact h.regIdx s2 st2 r2 hs2
  · intro r2 reg2 hr2 key hk
    rcases (getElem?_set' _ _ _ _ _).mp hr2 with ⟨rfl, _, hp⟩ | ⟨hne, hr2⟩
    · rw [hp, hkeys] at hk
      have hself : (w.stores.set s (st', ri))[s]? = some (st', ri) :=
        (getElem?_set' _ _ _ _ _).mpr (Or.inl ⟨rfl, hslt, rfl⟩)
      rcases List.mem_cons.mp hk with rfl | hk
      · exact Or.inr ⟨s, st', hself, name, by rw [hknown]; simp, by rw [hid]⟩
      · rcases h.keysOk ri reg hr key hk with h1 | ⟨s2, st2, hs2, x, hx, hkey⟩
        · exact Or.inl h1
        · by_cases hss : s = s2
          · subst hss
            rw [hs] at hs2
            simp only [Option.some.injEq, Prod.mk.injEq] at hs2
            refine Or.inr ⟨s, st', hself, x, ?_, ?_⟩
            · rw [hknown, hs2.1]; simp [hx]
            · rw [hid, hs2.1]; exact hkey
          · exact Or.inr ⟨s2, st2, (getElem?_set' _ _ _ _ _).mpr (Or.inr ⟨hss, hs2⟩), x, hx, hkey⟩
    · rcases h.keysOk r2 reg2 hr2 key hk with h1 | ⟨s2, st2, hs2, x, hx, hkey⟩
      · exact Or.inl h1
      · have hss : s ≠ s2 := by
          intro hss; subst hss; rw [hs] at hs2
          simp only [Option.some.injEq, Prod.mk.injEq] at hs2; exact hne hs2.2
        exact Or.inr ⟨s2, st2, (getElem?_set' _ _ _ _ _).mpr (Or.inr ⟨hss, hs2⟩), x, hx, hkey⟩
  · intro r2 reg2 hr2 m k c hm p hp
    rcases (getElem?_set' _ _ _ _ _).mp hr2 with ⟨rfl, _, hq⟩ | ⟨hne, hr2⟩
    · rw [hq, hkeys]
      rw [hq, hreg'] at hm
      rcases List.mem_cons.mp hm with hm | hm
      · simp only [Prod.mk.injEq] at hm
        exact List.mem_cons_of_mem _ (hd k c hm.2.symm p hp)
      · exact List.mem_cons_of_mem _ (h.closed ri reg hr m k c hm p hp)
    · exact h.closed r2 reg2 hr2 m k c hm p hp
  · intro s2 st2 r2 reg2 hs2 hr2 x hx
    rcases (getElem?_set' _ _ _ _ _).mp hs2 with ⟨rfl, _, hp⟩ | ⟨hss, hs2⟩
    · simp only [Prod.mk.injEq] at hp
      obtain ⟨rfl, rfl⟩ := hp
      rcases (getElem?_set' _ _ _ _ _).mp hr2 with ⟨_, _, hq⟩ | ⟨hne, _⟩
      · rw [hq, hkeys, hid]
        rw [hknown] at hx
        rcases List.mem_cons.mp hx with rfl | hx
        · exact ⟨hnb, by simp⟩
        · have := h.knownOk _ st _ reg hs hr x hx
          exact ⟨this.1, List.mem_cons_of_mem _ this.2⟩
      · exact absurd rfl hne
    · rcases (getElem?_set' _ _ _ _ _).mp hr2 with ⟨rfl, _, hq⟩ | ⟨hne, hr2⟩
      · have := h.knownOk s2 st2 _ reg hs2 hr x hx
        rw [hq, hkeys]
        exact ⟨this.1, List.mem_cons_of_mem _ this.2⟩
      · exact h.knownOk s2 st2 r2 reg2 hs2 hr2 x hx
  · intro r2 reg2 hr2 k hk
    rcases (getElem?_set' _ _ _ _ _).mp hr2 with ⟨rfl, _, hq⟩ | ⟨hne, hr2⟩
    · rw [hq, hkeys]; exact List.mem_cons_of_mem _ (h.builtins _ reg hr k hk)
    · exact h.builtins r2 reg2 hr2 k hk

theorem applyTo_cases (w : World) (s : Nat) (f : Registry → Store → Except AddErr (Registry × Store)) :
    applyTo w s f = w ∨
    ∃ (st : Store) (ri : Nat) (reg reg' : Registry) (st' : Store), w.stores[s]? = some (st, ri) ∧ w.regs[ri]? = some reg ∧
      f reg st = .ok (reg', st') ∧ applyTo w s f = w.update s ri reg' st' := by
  unfold applyTo
  split
  · rename_i st ri reg hro
    have := regOf_eq_some.mp hro
    split
    · rename_i reg' st' hf
      exact Or.inr ⟨st, ri, reg, reg', st', this.1, this.2, hf, rfl⟩
    · exact Or.inl rfl
  · exact Or.inl rfl

theorem step_cases (w : World) (op : Op) :
    step w op = w ∨ (∃ share, op = .newStore share ∧ step w op = w.newStore share) ∨
    ∃ (s : Nat) (name : String) (st : Store) (ri : Nat) (reg reg' : Registry) (st' : Store),
      op.actsOn s = true ∧ w.stores[s]? = some (st, ri) ∧ w.regs[ri]? = some reg ∧
      Extends reg st name reg' st' ∧ step w op = w.update s ri reg' st' := by
  cases op with
  | newStore share => exact Or.inr (Or.inl ⟨share, rfl, rfl⟩)
  | addUnit s name elems =>
      rcases applyTo_cases w s (fun reg st => addUnit reg st name elems) with h | ⟨st, ri, reg, reg', st', hs, hr, hf, hw⟩
      · exact Or.inl h
      · exact Or.inr (Or.inr ⟨s, name, st, ri, reg, reg', st', by simp [Op.actsOn], hs, hr, addUnit_ok hf, hw⟩)
  | addBase s name =>
      rcases applyTo_cases w s (fun reg st => addBaseUnit reg st name) with h | ⟨st, ri, reg, reg', st', hs, hr, hf, hw⟩
      · exact Or.inl h
      · exact Or.inr (Or.inr ⟨s, name, st, ri, reg, reg', st', by simp [Op.actsOn], hs, hr, addBaseUnit_ok hf, hw⟩)

theorem inv_step (w : World) (op : Op) (h : Inv w) : Inv (step w op) := by
  rcases step_cases w op with h0 | ⟨share, _, h1⟩ | ⟨s, name, st, ri, reg, reg', st', _, hs, hr, ext, h2⟩
  · rw [h0]; exact h
  · rw [h1]
    rcases newStore_cases w h.regIdx share with ⟨ri, hri, hw⟩ | hw
    · rw [hw]; simpa using inv_addStore w h [] (by simp) ri (by simpa using hri)
    · rw [hw]; exact inv_addStore w h [builtinRegistry] (by simp) _ (by simp)
  · rw [h2]; exact inv_update w h s ri st st' reg reg' name hs hr ext

theorem inv_run (w : World) (ops : List Op) (h : Inv w) : Inv (run w ops) :=
  List.foldl_inv step Inv ops w h fun w op _ hw => inv_step w op hw

theorem key_fresh (w : World) (h : Inv w) (s ri : Nat) (st : Store) (reg : Registry) (name : String)
    (hs : w.stores[s]? = some (st, ri)) (hr : w.regs[ri]? = some reg)
    (hnb : Cellml.Gen.cellmlUnits.contains name = false) (hfresh : st.known.contains name = false) :
    prefixName st.id name ∉ keys reg := by
  intro hk
  rcases h.keysOk ri reg hr _ hk with h1 | ⟨s2, st2, hs2, x, hx, hkey⟩
  · rw [prefixName_startsStore _ _ hnb] at h1; cases h1
  · obtain ⟨hid, hname⟩ := prefixName_eq _ _ _ _ hnb hkey
    have e1 := h.ids s st ri hs
    have e2 := h.ids s2 st2 ri hs2
    have : s = s2 := by omega
    subst this
    rw [hs] at hs2
    simp only [Option.some.injEq, Prod.mk.injEq] at hs2
    rw [← hs2.1, ← hname] at hx
    have : st.known.contains name = true := by simpa using hx
    rw [hfresh] at this; cases this

theorem getUnit_allKnown (w : World) (h : Inv w) (s ri : Nat) (st : Store) (reg : Registry)
    (hs : w.stores[s]? = some (st, ri)) (hr : w.regs[ri]? = some reg) (x : String) (c : Container)
    (hg : getUnit st x = .ok c) : allKnown reg c = true := by
  obtain ⟨hc, hdef⟩ := getUnit_ok hg
  subst hc
  cases hb : Cellml.Gen.cellmlUnits.contains x with
  | true =>
      -- a built-in name is defined in the built-in registry (`Units.toRoot_builtin`), whose keys every registry keeps
      rw [prefixName_builtin st.id hb]
      exact Units.allKnown_iff.mpr fun p hp =>
        h.builtins ri reg hr _ (Units.allKnown_iff.mp (toRoot_builtin hb).1 p hp)
  | false =>
      have hk := (h.knownOk s st ri reg hs hr x ((isDefined_iff.mp hdef).resolve_left (by rw [hb]; simp))).2
      simp only [nameContainer_storeLike (prefixName_storeLike st.id hb), allKnown, List.all_cons, List.all_nil,
        Bool.and_true]
      exact Units.lookup_isSome_iff.mpr hk

/-- through a store `j` nothing changes when another store extends the registry they share: the new key is none of the
    registry's keys, among which the units of `j` and the definitions of the registry stay (`obsUnit_cons_fresh`) -/
theorem obsName_frame (w : World) (h : Inv w) (s j ri : Nat) (st st' stj : Store) (reg reg' : Registry)
    (name : String) (hs : w.stores[s]? = some (st, ri)) (hj : w.stores[j]? = some (stj, ri))
    (hr : w.regs[ri]? = some reg) (ext : Extends reg st name reg' st') (n : String) :
    obsName reg' stj n = obsName reg stj n := by
  obtain ⟨hnb, hfresh, ⟨d, hreg', _⟩, _⟩ := ext
  unfold obsName
  cases hg : getUnit stj n with
  | error e => rfl
  | ok c =>
      simp only
      rw [hreg']
      congr 1
      exact obsUnit_cons_fresh d (fun m k of hm _ => within_of_keys (h.closed ri reg hr m k of hm))
        (key_fresh w h s ri st reg name hs hr hnb hfresh)
        (within_of_keys (Units.allKnown_iff.mp (getUnit_allKnown w h j ri stj reg hj hr n c hg)))

/-- store `j` looks the same in `w'` as in `w`: same store record, same registry index, and a registry through which
    every name (known or not) has the same root form -/
def SameView (w w' : World) (j : Nat) : Prop :=
  ∃ (st : Store) (rj : Nat) (reg reg' : Registry), w.regOf j = some (st, rj, reg) ∧ w'.regOf j = some (st, rj, reg') ∧
    ∀ n, obsName reg' st n = obsName reg st n

theorem regOf_of_lt (w : World) (h : Inv w) (j : Nat) (hj : j < w.stores.length) :
    ∃ (st : Store) (rj : Nat) (reg : Registry), w.stores[j]? = some (st, rj) ∧ w.regs[rj]? = some reg := by
  obtain ⟨⟨st, rj⟩, hs⟩ : ∃ p, w.stores[j]? = some p := ⟨_, List.getElem?_eq_getElem hj⟩
  have hlt := h.regIdx j st rj hs
  exact ⟨st, rj, _, hs, List.getElem?_eq_getElem hlt⟩

theorem sameView_refl (w : World) (h : Inv w) (j : Nat) (hj : j < w.stores.length) : SameView w w j := by
  obtain ⟨st, rj, reg, hs, hr⟩ := regOf_of_lt w h j hj
  exact ⟨st, rj, reg, reg, regOf_eq_some.mpr ⟨hs, hr⟩, regOf_eq_some.mpr ⟨hs, hr⟩, fun _ => rfl⟩

theorem step_view (w : World) (h : Inv w) (op : Op) (j : Nat) (hj : j < w.stores.length)
    (hop : op.actsOn j = false) : SameView w (step w op) j := by
  obtain ⟨stj, rj, regj, hsj, hrj⟩ := regOf_of_lt w h j hj
  have hrjlt : rj < w.regs.length := h.regIdx j stj rj hsj
  rcases step_cases w op with h0 | ⟨share, _, h1⟩ | ⟨s, name, st, ri, reg, reg', st', hact, hs, hr, ext, h2⟩
  · rw [h0]; exact sameView_refl w h j hj
  · rw [h1]
    refine ⟨stj, rj, regj, regj, regOf_eq_some.mpr ⟨hsj, hrj⟩, regOf_eq_some.mpr ?_, fun _ => rfl⟩
    rcases newStore_cases w h.regIdx share with ⟨ri, hri, hw⟩ | hw
    · rw [hw]; exact ⟨(getElem?_snoc _ _ _ _).mpr (Or.inl hsj), hrj⟩
    · rw [hw]; exact ⟨(getElem?_snoc _ _ _ _).mpr (Or.inl hsj), (getElem?_snoc _ _ _ _).mpr (Or.inl hrj)⟩
  · have hne : s ≠ j := by
      intro heq; subst heq; rw [hact] at hop; cases hop
    rw [h2]
    have hsj' : (w.update s ri reg' st').stores[j]? = some (stj, rj) :=
      (getElem?_set' _ _ _ _ _).mpr (Or.inr ⟨hne, hsj⟩)
    by_cases hri : ri = rj
    · subst hri
      rw [hr] at hrj
      simp only [Option.some.injEq] at hrj
      subst hrj
      refine ⟨stj, ri, reg, reg', regOf_eq_some.mpr ⟨hsj, hr⟩, regOf_eq_some.mpr ⟨hsj', ?_⟩, ?_⟩
      · exact (getElem?_set' _ _ _ _ _).mpr (Or.inl ⟨rfl, hrjlt, rfl⟩)
      · exact obsName_frame w h s j ri st st' stj reg reg' name hs hsj hr ext
    · refine ⟨stj, rj, regj, regj, regOf_eq_some.mpr ⟨hsj, hrj⟩, regOf_eq_some.mpr ⟨hsj', ?_⟩, fun _ => rfl⟩
      exact (getElem?_set' _ _ _ _ _).mpr (Or.inr ⟨hri, hrj⟩)

theorem SameView.trans {w w' w'' : World} {j : Nat} (h₁ : SameView w w' j) (h₂ : SameView w' w'' j) :
    SameView w w'' j := by
  obtain ⟨st, rj, reg, reg', e1, e2, hn⟩ := h₁
  obtain ⟨st2, rj2, reg2, reg2', e3, e4, hn2⟩ := h₂
  rw [e2] at e3
  simp only [Option.some.injEq, Prod.mk.injEq] at e3
  obtain ⟨rfl, rfl, rfl⟩ := e3
  exact ⟨st, rj, reg, reg2', e1, e4, fun n => (hn2 n).trans (hn n)⟩

theorem SameView.obsStore {w w' : World} {j : Nat} (h : SameView w w' j) : obsStore w' j = obsStore w j := by
  obtain ⟨st, rj, reg, reg', e1, e2, hn⟩ := h
  simp only [Iso.obsStore, e1, e2, hn]

theorem SameView.probe {w w' : World} {j : Nat} (h : SameView w w' j) (n : String) : probe w' j n = probe w j n := by
  obtain ⟨st, rj, reg, reg', e1, e2, hn⟩ := h
  simp only [Iso.probe, e1, e2, hn]

theorem stores_length_step (w : World) (op : Op) : w.stores.length ≤ (step w op).stores.length := by
  rcases step_cases w op with h0 | ⟨share, _, h1⟩ | ⟨s, name, st, ri, reg, reg', st', _, hs, hr, ext, h2⟩
  · rw [h0]; exact Nat.le_refl _
  · rw [h1, newStore_length]; exact Nat.le_succ _
  · rw [h2]; simp [World.update]

theorem run_view (w : World) (h : Inv w) (ops : List Op) (j : Nat) (hj : j < w.stores.length)
    (hops : ∀ op ∈ ops, op.actsOn j = false) : SameView w (run w ops) j := by
  induction ops generalizing w with
  | nil => exact sameView_refl w h j hj
  | cons op ops ih =>
      have h1 := step_view w h op j hj (hops op (by simp))
      have h2 := ih (step w op) (inv_step w op h) (Nat.lt_of_lt_of_le hj (stores_length_step w op))
        (fun o ho => hops o (by simp [ho]))
      exact h1.trans h2

/-! ### the positive half: stores sharing a registry can convert into each other -/

theorem getUnit_user (st : Store) (x : String) (c : Container) (hb : Cellml.Gen.cellmlUnits.contains x = false)
    (hg : getUnit st x = .ok c) : c = [(prefixName st.id x, 1)] := by
  rw [(getUnit_ok hg).1, nameContainer_storeLike (prefixName_storeLike st.id hb)]

theorem crossFactor_shared (w : World) (i j ri : Nat) (sti stj : Store) (reg : Registry) (x y : String) (a b : Container)
    (hi : w.stores[i]? = some (sti, ri)) (hj : w.stores[j]? = some (stj, ri)) (hr : w.regs[ri]? = some reg)
    (ha : getUnit sti x = .ok a) (hb : getUnit stj y = .ok b) :
    crossFactor w i x j y = match factor reg a b with | .ok f => .ok f | .error e => .error (.unit e) := by
  simp only [crossFactor, regOf_eq_some.mpr ⟨hi, hr⟩, regOf_eq_some.mpr ⟨hj, hr⟩, ha, hb, ne_eq, not_true_eq_false,
    if_false]
  cases factor reg a b <;> rfl

theorem crossFactor_separate (w : World) (i j ri rj : Nat) (sti stj : Store) (regi regj : Registry) (x y : String)
    (hi : w.stores[i]? = some (sti, ri)) (hj : w.stores[j]? = some (stj, rj))
    (hri : w.regs[ri]? = some regi) (hrj : w.regs[rj]? = some regj) (hne : ri ≠ rj) :
    ∃ e, crossFactor w i x j y = .error e ∧ (e = .crossRegistry ∨ e = .keyError) := by
  simp only [crossFactor, regOf_eq_some.mpr ⟨hi, hri⟩, regOf_eq_some.mpr ⟨hj, hrj⟩]
  cases getUnit sti x <;> cases getUnit stj y <;> simp [hne]

end Iso
