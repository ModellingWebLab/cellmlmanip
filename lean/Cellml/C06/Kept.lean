import Cellml.Model.ConvertVar
import Cellml.Basic.ListLemmas

/-! `convert_variable` is built from four primitive calls — `add_equation`, `remove_equation`, `add_variable` with a
    name from `get_unique_name`, raising — and, inside `_convert_variable_instance` only, `transfer_cmeta_id` and an
    update of the variable list. A property of the state that these keep is kept by every helper (`Kept`), resp. by
    `convert_variable` itself (`KeptAll`). Instances: the flag `raised` once it is up (`Tie/ConvertVarHelpers.lean`), the
    shape of `_ode_definition_map` (`Tie/ConvertVarDriver.lean`), distinct names and `Ext` (`C06/Meta.lean`). -/

namespace Model.CV

/-- kept by the calls made after `_convert_variable_instance` -/
structure Kept (P : CState → Prop) : Prop where
  addEq : ∀ {s : CState} (e : CEqn) (c : Bool), P s → P (addEq s e c)
  removeEq : ∀ {s : CState} (e : CEqn), P s → P (removeEq s e)
  addFresh : ∀ {s : CState} (base : String) (u : U) (i : Option Rat), P s → P (addVariable s (freshName s base) u i).1
  raise : ∀ {s : CState}, P s → P { s with raised := true }

/-- kept by every call `convert_variable` makes -/
structure KeptAll (P : CState → Prop) : Prop extends Kept P where
  transferCmeta : ∀ {s : CState} (a b : Nat), P s → P (transferCmeta s a b)
  /-- ANY replacement of the variable list: why `Ext` and distinct names are `Kept` only (`Kept.afterInstance`) -/
  setVars : ∀ {s : CState} (vs : List CVar), P s → P { s with vars := vs }

variable {P : CState → Prop}

theorem Kept.removeOdeAssign (k : Kept P) {s : CState} (h : P s) (ode : CEqn) (x : Nat) :
    P (CV.removeOdeAssign s ode x).1 := by
  unfold CV.removeOdeAssign
  have h1 := k.addFresh (nameOfV s x ++ "_orig_deriv") (lhsUnit s ode.lhs) none h
  generalize addVariable s (freshName s (nameOfV s x ++ "_orig_deriv")) (lhsUnit s ode.lhs) none = p at h1 ⊢
  obtain ⟨s1, w⟩ := p
  dsimp only at h1 ⊢
  exact k.addEq _ _ (k.removeEq ode h1)

theorem Kept.convertFreeDeriv (k : Kept P) {s : CState} (h : P s) (ode : CEqn) (nv : Nat) (cfq : X) :
    P (convertFreeDeriv s ode nv cfq).1 := by
  unfold CV.convertFreeDeriv
  cases ode.lhs with
  | var _ => exact h
  | deriv x _ => dsimp only; exact k.addEq _ _ (k.removeOdeAssign h ode x)

theorem Kept.convertStateDeriv (k : Kept P) {s : CState} (h : P s) (v nv : Nat) (cfq : X) :
    P (convertStateDeriv s v nv cfq).1 := by
  unfold CV.convertStateDeriv
  cases s.odeDef.lookup v with
  | none => exact k.raise h
  | some ode =>
    dsimp only
    cases ode.lhs with
    | var _ => exact h
    | deriv _ _ => dsimp only; exact k.addEq _ _ (k.removeOdeAssign h ode v)

theorem Kept.freeStep (k : Kept P) {acc : CState × Rep} (h : P acc.1) (v nv : Nat) (cfq : X) (ode : CEqn) :
    P (freeStep v nv cfq acc ode).1 := by
  unfold CV.freeStep
  cases ode.lhs with
  | var _ => exact h
  | deriv _ t =>
    dsimp only
    split
    · exact k.convertFreeDeriv h ode nv cfq
    · exact k.raise h

theorem Kept.replaceRefs (k : Kept P) {s : CState} (h : P s) (rep : Rep) : P (replaceRefs s rep) := by
  refine List.foldl_inv _ P _ _ h fun st e _ hst => ?_
  split
  · exact k.addEq _ _ (k.removeEq _ hst)
  · exact hst

theorem Kept.statePhase (k : Kept P) {s1 : CState} (h : P s1) (b : Bool) (v nv : Nat) (cfq : X) :
    P (statePhase b s1 v nv cfq).1 := by
  unfold CV.statePhase; split
  · exact k.convertStateDeriv h v nv cfq
  · exact h

theorem Kept.freePhase (k : Kept P) {acc : CState × Rep} (h : P acc.1) (b : Bool) (v nv : Nat) (cfq : X) :
    P (freePhase b acc v nv cfq).1 := by
  unfold CV.freePhase; split
  · exact List.foldl_inv _ (fun a : CState × Rep => P a.1) _ _ h fun a e _ ha => k.freeStep ha v nv cfq e
  · exact h

theorem Kept.replacePhase (k : Kept P) {acc : CState × Rep} (h : P acc.1) : P (replacePhase acc) := by
  unfold CV.replacePhase; split
  · exact h
  · exact k.replaceRefs h _

theorem Kept.afterInstance (k : Kept P) {s : CState} {v : Nat} {u : U} {cf : Rat} {dir : Dir} {move : Bool}
    (hcf : cf ≠ 1) (h : P (convertInstance s v cf u dir move).1) : P (convertVariable s v u cf dir move).1 := by
  unfold CV.convertVariable
  rw [if_neg hcf]
  cases dir with
  | output => exact h
  | input => exact k.replacePhase (k.freePhase (k.statePhase h _ v _ _) _ v _ _)

theorem KeptAll.instInput (k : KeptAll P) {s2 : CState} (h : P s2) (v nv : Nat) (cfq : X) :
    P (instInput s2 v nv cfq) := by
  unfold CV.instInput
  refine k.addEq _ _ (k.setVars _ ?_)
  cases s2.varDef.lookup v with
  | none => exact h
  | some oe => exact k.addEq _ _ (k.removeEq _ h)

theorem KeptAll.convertInstance_of_added (k : KeptAll P) {s : CState} {v : Nat} {cf : Rat} {u : U} {dir : Dir}
    {move : Bool} (h1 : P (addVariable s (freshName s (nameOfV s v ++ "_converted")) u (newInit s v cf dir)).1) :
    P (convertInstance s v cf u dir move).1 := by
  unfold CV.convertInstance
  generalize addVariable s (freshName s (nameOfV s v ++ "_converted")) u (newInit s v cf dir) = p at h1 ⊢
  have h2 : P (if (cmetaOfV p.1 v).isSome && move then CV.transferCmeta p.1 v p.2 else p.1) := by
    split
    · exact k.transferCmeta _ _ h1
    · exact h1
  cases dir with
  | input => exact k.instInput h2 v p.2 _
  | output => dsimp only; exact k.addEq _ _ h2

theorem KeptAll.convertInstance (k : KeptAll P) {s : CState} (h : P s) (v : Nat) (cf : Rat) (u : U) (dir : Dir)
    (move : Bool) : P (convertInstance s v cf u dir move).1 :=
  k.convertInstance_of_added (k.addFresh _ u _ h)

theorem KeptAll.convertVariable (k : KeptAll P) {s : CState} (h : P s) (v : Nat) (u : U) (cf : Rat) (dir : Dir)
    (move : Bool) : P (convertVariable s v u cf dir move).1 := by
  by_cases hcf : cf = 1
  · unfold CV.convertVariable; rw [if_pos hcf]; exact h
  · exact k.afterInstance hcf (k.convertInstance h v cf u dir move)

theorem keptAll_of_odeDef (Q : List (Nat × CEqn) → Prop)
    (hins : ∀ m e x t, e.lhs = CLhs.deriv x t → Q m → Q (insertKey x e m))
    (hers : ∀ m x, Q m → Q (eraseKey x m)) : KeptAll (fun s => Q s.odeDef) where
  addEq {s} e c h := by
    unfold CV.addEq
    cases hl : e.lhs with
    | var v => dsimp only; split <;> exact h
    | deriv x t =>
      dsimp only; split
      · exact h
      · exact hins _ e x t hl h
  removeEq {s} e h := by
    unfold CV.removeEq
    split
    · cases e.lhs with
      | var v => dsimp only; split <;> exact h
      | deriv x t =>
        dsimp only; split
        · exact hers _ x h
        · exact h
    · exact h
  addFresh _ u i h := by
    unfold CV.addVariable; split <;> exact h
  raise h := h
  transferCmeta {s} a b h := by
    unfold CV.transferCmeta
    cases cmetaOfV s a with
    | none => exact h
    | some c => dsimp only; cases cmetaOfV s b <;> exact h
  setVars _ h := h

end Model.CV
