import Cellml.C06.Spec
import Cellml.C06.Kept

/-! C06 (core Lean only): what `convert_variable` does to the variable list — names, units, initial values, cmeta ids.
    No invariant is needed here: after `_convert_variable_instance` variables are only appended. -/

namespace Model.CV

def Ext (s s' : CState) : Prop := (∃ l, s'.vars = s.vars ++ l) ∧ s'.cmetaMap = s.cmetaMap

theorem Ext.refl (s : CState) : Ext s s := ⟨⟨[], by simp⟩, rfl⟩

theorem Ext.trans {a b c : CState} (h₁ : Ext a b) (h₂ : Ext b c) : Ext a c := by
  obtain ⟨⟨l₁, e₁⟩, m₁⟩ := h₁
  obtain ⟨⟨l₂, e₂⟩, m₂⟩ := h₂
  exact ⟨⟨l₁ ++ l₂, by rw [e₂, e₁, List.append_assoc]⟩, m₂.trans m₁⟩

theorem Ext.of_eq {s s' : CState} (hv : s'.vars = s.vars) (hc : s'.cmetaMap = s.cmetaMap) : Ext s s' :=
  ⟨⟨[], by simp [hv]⟩, hc⟩

theorem addEq_vars (s : CState) (e : CEqn) (c : Bool) : (addEq s e c).vars = s.vars ∧ (addEq s e c).cmetaMap = s.cmetaMap := by
  unfold addEq; split <;> split <;> exact ⟨rfl, rfl⟩

theorem removeEq_vars (s : CState) (e : CEqn) :
    (removeEq s e).vars = s.vars ∧ (removeEq s e).cmetaMap = s.cmetaMap := by
  unfold removeEq
  split
  · split <;> split <;> exact ⟨rfl, rfl⟩
  · exact ⟨rfl, rfl⟩

theorem kept_ext (s0 : CState) : Kept (Ext s0) where
  addEq e c h := h.trans (Ext.of_eq (addEq_vars _ e c).1 (addEq_vars _ e c).2)
  removeEq e h := h.trans (Ext.of_eq (removeEq_vars _ e).1 (removeEq_vars _ e).2)
  addFresh base u i h := h.trans (by rw [addVariable_eq _ _ _ _ (freshName_fresh _ base)]; exact ⟨⟨_, rfl⟩, rfl⟩)
  raise h := h.trans (Ext.of_eq rfl rfl)

theorem ext_convertVariable (s : CState) (v : Nat) (u : U) (cf : Rat) (dir : Dir) (move : Bool) (hcf : cf ≠ 1) :
    Ext (convertInstance s v cf u dir move).1 (convertVariable s v u cf dir move).1 :=
  (kept_ext _).afterInstance hcf (Ext.refl _)

theorem removeOdeAssign_vars (s : CState) (ode : CEqn) (x : Nat) :
    (removeOdeAssign s ode x).1.vars =
      s.vars ++ [⟨freshName s (nameOfV s x ++ "_orig_deriv"), lhsUnit s ode.lhs, none, none⟩] := by
  unfold removeOdeAssign
  rw [addVariable_eq _ _ _ _ (freshName_fresh s _)]
  dsimp only
  rw [(addEq_vars _ _ _).1, (removeEq_vars _ _).1]

theorem cmetaOfV_append (s : CState) (x : CVar) (v : Nat) (hv : v < s.vars.length) :
    cmetaOfV { s with vars := s.vars ++ [x] } v = cmetaOfV s v := by
  simp [cmetaOfV, List.getElem?_append_left hv]

theorem instInput_vars (s2 : CState) (v nv : Nat) (cfq : X) :
    (instInput s2 v nv cfq).vars = setV s2.vars v (fun x => { x with init := none }) ∧
    (instInput s2 v nv cfq).cmetaMap = s2.cmetaMap := by
  unfold instInput
  cases s2.varDef.lookup v with
  | none => exact ⟨(addEq_vars _ _ _).1, (addEq_vars _ _ _).2⟩
  | some oe =>
    refine ⟨(addEq_vars _ _ _).1.trans ?_, (addEq_vars _ _ _).2.trans ?_⟩
    · show setV (addEq (removeEq s2 oe) _ true).vars v _ = _
      rw [(addEq_vars _ _ _).1, (removeEq_vars _ _).1]
    · show (addEq (removeEq s2 oe) _ true).cmetaMap = _
      rw [(addEq_vars _ _ _).2, (removeEq_vars _ _).2]

/-- a variable that has no cmeta id is not changed by taking its cmeta id away -/
theorem map_cmeta_none {s : CState} {v : Nat} (hc : cmetaOfV s v = none) (f : CVar → Option String)
    (hf : ∀ y : CVar, y.cmeta = none → f y = none) :
    (s.vars[v]?).map (fun y => ({ y with cmeta := f y } : CVar)) = s.vars[v]? := by
  unfold cmetaOfV at hc
  cases hg : s.vars[v]? with
  | none => rfl
  | some y =>
    rw [hg] at hc
    obtain ⟨yn, yu, yi, yc⟩ := y
    simp only [Option.bind_some] at hc
    subst hc
    simp [hf]

theorem afterTransfer_getElem? (s : CState) (v : Nat) (hv : v < s.vars.length) (x : CVar) (hx : x.cmeta = none)
    (move : Bool) (i : Nat) :
    (afterTransfer s v x move).vars[i]? =
      if i = s.vars.length then some { x with cmeta := if move then cmetaOfV s v else none }
      else if i = v then (s.vars[v]?).map (fun y => { y with cmeta := if move then none else y.cmeta })
      else s.vars[i]? := by
  have hvn : v ≠ s.vars.length := by omega
  have hxe : x = { x with cmeta := none } := by
    obtain ⟨xn, xu, xi, xc⟩ := x
    simp only at hx; subst hx; rfl
  unfold afterTransfer
  rw [cmetaOfV_append s x v hv]
  by_cases hm : ((cmetaOfV s v).isSome && move) = true
  · obtain ⟨c, hc⟩ := Option.isSome_iff_exists.mp (Bool.and_eq_true_iff.mp hm).1
    have hmv : move = true := (Bool.and_eq_true_iff.mp hm).2
    rw [if_pos hm, transferCmeta_eq _ v s.vars.length c (by rw [cmetaOfV_append s x v hv]; exact hc) (cmetaOfV_new s x hx)]
    subst hmv
    simp only [getElem?_setV, List.getElem?_snoc, hc, if_true]
    by_cases h1 : i = s.vars.length
    · subst h1; simp [Ne.symm hvn]
    · by_cases h2 : i = v
      · subst h2; simp [h1, hv]
      · simp [h1, h2]
  · -- no transfer: the list is `s.vars ++ [x]`, and what the statement takes away was not there
    have hnone : move = true → cmetaOfV s v = none := by
      intro hmv; subst hmv
      cases hc : cmetaOfV s v with
      | none => rfl
      | some c => rw [hc] at hm; exact absurd rfl hm
    have h1 : (if move then cmetaOfV s v else none) = none := by
      cases move with
      | false => rfl
      | true => exact hnone rfl
    have h2 : (s.vars[v]?).map (fun y => ({ y with cmeta := if move then none else y.cmeta } : CVar)) = s.vars[v]? := by
      cases move with
      | false => cases s.vars[v]? <;> rfl
      | true => exact map_cmeta_none (hnone rfl) _ (fun _ _ => rfl)
    rw [if_neg hm, List.getElem?_snoc, h1, ← hxe, h2]
    by_cases h3 : i = v
    · rw [h3, if_pos rfl]
    · rw [if_neg h3]

theorem afterTransfer_cmetaMap (s : CState) (v : Nat) (hv : v < s.vars.length) (x : CVar) (hx : x.cmeta = none)
    (move : Bool) :
    (afterTransfer s v x move).cmetaMap =
      (match cmetaOfV s v, move with
       | some c, true => insertKey c s.vars.length s.cmetaMap
       | _, _ => s.cmetaMap) := by
  unfold afterTransfer
  rw [cmetaOfV_append s x v hv]
  cases hc : cmetaOfV s v with
  | none => rfl
  | some c =>
    cases move with
    | false => rfl
    | true =>
      simp only [Option.isSome_some, Bool.and_self, if_true]
      rw [transferCmeta_eq _ v s.vars.length c (by rw [cmetaOfV_append s x v hv]; exact hc) (cmetaOfV_new s x hx)]

theorem convertInstance_getElem? (s : CState) (v : Nat) (hv : v < s.vars.length) (cf : Rat) (u : U) (dir : Dir)
    (move : Bool) (i : Nat) :
    (convertInstance s v cf u dir move).1.vars[i]? =
      if i = s.vars.length then
        some ⟨freshName s (nameOfV s v ++ "_converted"), u, newInit s v cf dir, if move then cmetaOfV s v else none⟩
      else if i = v then
        (s.vars[v]?).map (fun y => ⟨y.name, y.unit, (match dir with | .input => none | .output => y.init),
                                    if move then none else y.cmeta⟩)
      else s.vars[i]? := by
  have hvn : v ≠ s.vars.length := by omega
  rw [convertInstance_eq]
  cases dir with
  | output =>
    show (instOutput _ v _ _).vars[i]? = _
    rw [instOutput, (addEq_vars _ _ _).1, afterTransfer_getElem? s v hv _ rfl]
  | input =>
    show (instInput _ v _ _).vars[i]? = _
    rw [(instInput_vars _ _ _ _).1, getElem?_setV, afterTransfer_getElem? s v hv _ rfl]
    by_cases h1 : i = s.vars.length
    · subst h1; rw [if_neg (Ne.symm hvn), if_pos rfl, if_pos rfl]
    · by_cases h2 : i = v
      · subst h2; rw [if_pos rfl, if_neg h1, if_pos rfl, if_neg h1, if_pos rfl]; cases s.vars[i]? <;> rfl
      · simp only [if_neg h1, if_neg h2]

theorem convertInstance_cmetaMap (s : CState) (v : Nat) (hv : v < s.vars.length) (cf : Rat) (u : U) (dir : Dir)
    (move : Bool) :
    (convertInstance s v cf u dir move).1.cmetaMap =
      (match cmetaOfV s v, move with
       | some c, true => insertKey c s.vars.length s.cmetaMap
       | _, _ => s.cmetaMap) := by
  rw [convertInstance_eq]
  cases dir with
  | output => exact (addEq_vars _ _ _).2.trans (afterTransfer_cmetaMap s v hv _ rfl move)
  | input => exact (instInput_vars _ _ _ _).2.trans (afterTransfer_cmetaMap s v hv _ rfl move)

theorem nodup_names_append_fresh {s : CState} (hn : (names s).Nodup) (base : String) :
    (names s ++ [freshName s base]).Nodup :=
  List.nodup_snoc hn (freshName_fresh s base)

theorem kept_names_nodup : Kept (fun s => (names s).Nodup) where
  addEq e c h := by unfold names; rw [(addEq_vars _ e c).1]; exact h
  removeEq e h := by unfold names; rw [(removeEq_vars _ e).1]; exact h
  addFresh base u i h := by
    rw [addVariable_eq _ _ _ _ (freshName_fresh _ base)]
    show (List.map CVar.name (_ ++ [_])).Nodup
    rw [List.map_append]; exact nodup_names_append_fresh h base
  raise h := h

theorem names_convertInstance (s : CState) (v : Nat) (hv : v < s.vars.length) (cf : Rat) (u : U) (dir : Dir)
    (move : Bool) :
    names (convertInstance s v cf u dir move).1 = names s ++ [freshName s (nameOfV s v ++ "_converted")] := by
  unfold names
  apply List.ext_getElem?
  intro i
  rw [List.getElem?_map, convertInstance_getElem? s v hv, List.getElem?_snoc, List.length_map, List.getElem?_map]
  by_cases h1 : i = s.vars.length
  · rw [if_pos h1, if_pos h1]; rfl
  · rw [if_neg h1, if_neg h1]
    by_cases h2 : i = v
    · rw [h2, if_pos rfl]; cases s.vars[v]? <;> rfl
    · rw [if_neg h2]

theorem nodup_names_convertVariable (s : CState) (v : Nat) (hv : v < s.vars.length) (u : U) (cf : Rat) (dir : Dir)
    (move : Bool) (hn : (names s).Nodup) : (names (convertVariable s v u cf dir move).1).Nodup := by
  by_cases hcf : cf = 1
  · unfold convertVariable; rw [if_pos hcf]; exact hn
  · apply kept_names_nodup.afterInstance hcf
    rw [names_convertInstance s v hv cf u dir move]
    exact nodup_names_append_fresh hn _

end Model.CV
