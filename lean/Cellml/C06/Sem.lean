import Cellml.C06.Replace
import Mathlib.Algebra.Field.Basic
import Mathlib.Tactic.Ring
import Mathlib.Tactic.FieldSimp

/-! C06, semantic part: point solutions of an equation system over a field, and how they move along the list
    operations `convert_variable` performs. -/

namespace Model.CV

variable {K : Type} [Field K]

/-- a valuation of the variables and of the derivative atoms `d x / d t` -/
structure Val (K : Type) where
  v : Nat → K
  d : Nat → Nat → K

/-- how numbers and the uninterpreted function symbols are read in `K` -/
structure Interp (K : Type) where
  lit : Rat → K
  F1 : String → K → K
  F2 : String → K → K → K

/-- plain evaluation of a right-hand side -/
def ev (I : Interp K) (σ : Val K) (e : X) : K := e.eval I.lit I.F1 I.F2 σ.v σ.d

def lhsVal (σ : Val K) : CLhs → K
  | .var v => σ.v v
  | .deriv x t => σ.d x t

/-- the valuation satisfies the equation -/
def Holds (I : Interp K) (σ : Val K) (e : CEqn) : Prop := lhsVal σ e.lhs = ev I σ e.rhs

/-- the valuation is a point solution of the list of equations -/
def SatL (I : Interp K) (σ : Val K) (E : List CEqn) : Prop := ∀ e ∈ E, Holds I σ e

/-- the valuation is a point solution of the model -/
def Sat (I : Interp K) (σ : Val K) (s : CState) : Prop := SatL I σ s.equations

/-- `τ` gives the same values as `σ` to everything built from the first `n` variables -/
def Agree (n : Nat) (σ τ : Val K) : Prop :=
  (∀ i, i < n → τ.v i = σ.v i) ∧ (∀ x t, x < n → t < n → τ.d x t = σ.d x t)

theorem Agree.refl (n : Nat) (σ : Val K) : Agree n σ σ := ⟨fun _ _ => rfl, fun _ _ _ _ => rfl⟩

theorem Agree.trans {n m : Nat} {σ τ ρ : Val K} (h₁ : Agree n σ τ) (h₂ : Agree m τ ρ) (hnm : n ≤ m) :
    Agree n σ ρ :=
  ⟨fun i hi => (h₂.1 i (by omega)).trans (h₁.1 i hi),
   fun x t hx ht => (h₂.2 x t (by omega) (by omega)).trans (h₁.2 x t hx ht)⟩

@[simp] theorem ev_var (I : Interp K) (σ : Val K) (v : Nat) : ev I σ (.var v) = σ.v v := rfl
@[simp] theorem ev_deriv (I : Interp K) (σ : Val K) (x t : Nat) : ev I σ (.deriv x t) = σ.d x t := rfl
@[simp] theorem ev_lit (I : Interp K) (σ : Val K) (q : Rat) (u : U) : ev I σ (.lit q u) = I.lit q := rfl
@[simp] theorem ev_add (I : Interp K) (σ : Val K) (a b : X) : ev I σ (.add a b) = ev I σ a + ev I σ b := rfl
@[simp] theorem ev_sub (I : Interp K) (σ : Val K) (a b : X) : ev I σ (.sub a b) = ev I σ a - ev I σ b := rfl
@[simp] theorem ev_mul (I : Interp K) (σ : Val K) (a b : X) : ev I σ (.mul a b) = ev I σ a * ev I σ b := rfl
@[simp] theorem ev_div (I : Interp K) (σ : Val K) (a b : X) : ev I σ (.div a b) = ev I σ a / ev I σ b := rfl
@[simp] theorem ev_fn1 (I : Interp K) (σ : Val K) (f : String) (a : X) : ev I σ (.fn1 f a) = I.F1 f (ev I σ a) := rfl
@[simp] theorem ev_fn2 (I : Interp K) (σ : Val K) (f : String) (a b : X) :
    ev I σ (.fn2 f a b) = I.F2 f (ev I σ a) (ev I σ b) := rfl

theorem ev_congr (I : Interp K) (σ τ : Val K) (e : X) (hv : ∀ i ∈ e.vars, τ.v i = σ.v i)
    (hd : ∀ p ∈ e.derivs, τ.d p.1 p.2 = σ.d p.1 p.2) : ev I τ e = ev I σ e := by
  induction e with
  | var v => exact hv v (by simp [X.vars])
  | deriv x t => exact hd (x, t) (by simp [X.derivs])
  | lit q u => rfl
  | add a b iha ihb | sub a b iha ihb | mul a b iha ihb | div a b iha ihb =>
    simp only [X.vars, X.derivs, List.mem_append] at hv hd
    simp only [ev_add, ev_sub, ev_mul, ev_div]
    rw [iha (fun i hi => hv i (Or.inl hi)) (fun p hp => hd p (Or.inl hp)),
        ihb (fun i hi => hv i (Or.inr hi)) (fun p hp => hd p (Or.inr hp))]
  | fn1 f a iha =>
    simp only [X.vars, X.derivs] at hv hd
    simp only [ev_fn1]; rw [iha hv hd]
  | fn2 f a b iha ihb =>
    simp only [X.vars, X.derivs, List.mem_append] at hv hd
    simp only [ev_fn2]
    rw [iha (fun i hi => hv i (Or.inl hi)) (fun p hp => hd p (Or.inl hp)),
        ihb (fun i hi => hv i (Or.inr hi)) (fun p hp => hd p (Or.inr hp))]

theorem derivs_sub_vars (e : X) : ∀ p ∈ e.derivs, p.1 ∈ e.vars ∧ p.2 ∈ e.vars := by
  induction e with
  | var v => simp [X.derivs]
  | deriv x t => simp [X.derivs, X.vars]
  | lit q u => simp [X.derivs]
  | add a b iha ihb | sub a b iha ihb | mul a b iha ihb | div a b iha ihb | fn2 f a b iha ihb =>
    intro p hp
    simp only [X.derivs, X.vars, List.mem_append] at hp ⊢
    rcases hp with hp | hp
    · exact ⟨Or.inl (iha p hp).1, Or.inl (iha p hp).2⟩
    · exact ⟨Or.inr (ihb p hp).1, Or.inr (ihb p hp).2⟩
  | fn1 f a iha => simpa [X.derivs, X.vars] using iha

theorem holds_of_agree (I : Interp K) {n : Nat} {σ τ : Val K} {e : CEqn} (hs : EqScoped n e) (ha : Agree n σ τ) :
    Holds I τ e ↔ Holds I σ e := by
  obtain ⟨hl, hr⟩ := (eqScoped_iff n e).mp hs
  have h1 : ev I τ e.rhs = ev I σ e.rhs := by
    apply ev_congr
    · intro i hi; exact ha.1 i (hr i hi)
    · intro p hp
      have := derivs_sub_vars e.rhs p hp
      exact ha.2 p.1 p.2 (hr _ this.1) (hr _ this.2)
  have h2 : lhsVal τ e.lhs = lhsVal σ e.lhs := by
    cases hle : e.lhs with
    | var v => exact ha.1 v (hl v (by simp [hle, CLhs.vars]))
    | deriv x t => exact ha.2 x t (hl x (by simp [hle, CLhs.vars])) (hl t (by simp [hle, CLhs.vars]))
  unfold Holds; rw [h1, h2]

theorem satL_of_agree (I : Interp K) {n : Nat} {σ τ : Val K} {E : List CEqn} (hs : ∀ e ∈ E, EqScoped n e)
    (ha : Agree n σ τ) : SatL I τ E ↔ SatL I σ E :=
  forall₂_congr fun e he => holds_of_agree I (hs e he) ha

theorem satL_append (I : Interp K) (σ : Val K) (E F : List CEqn) : SatL I σ (E ++ F) ↔ SatL I σ E ∧ SatL I σ F :=
  List.forall_mem_append

theorem satL_cons (I : Interp K) (σ : Val K) (e : CEqn) (E : List CEqn) :
    SatL I σ (e :: E) ↔ Holds I σ e ∧ SatL I σ E :=
  List.forall_mem_cons

theorem satL_nil (I : Interp K) (σ : Val K) : SatL I σ [] := fun _ h => by cases h

theorem satL_erase (I : Interp K) (σ : Val K) (E : List CEqn) (e : CEqn) (he : e ∈ E) :
    SatL I σ E ↔ SatL I σ (E.erase e) ∧ Holds I σ e := by
  constructor
  · intro h; exact ⟨fun e' he' => h e' (List.mem_of_mem_erase he'), h e he⟩
  · rintro ⟨h1, h2⟩ e' he'
    by_cases hee : e' = e
    · rw [hee]; exact h2
    · exact h1 e' ((List.mem_erase_of_ne hee).mpr he')

def Val.setV (σ : Val K) (i : Nat) (c : K) : Val K := ⟨fun j => if j = i then c else σ.v j, σ.d⟩

theorem setV_self (σ : Val K) (i : Nat) (c : K) : (σ.setV i c).v i = c := by simp [Val.setV]

/-- the valuation with the derivative atoms on which `f` answers set to that answer -/
def Val.setD (σ : Val K) (f : Nat → Nat → Option K) : Val K :=
  ⟨σ.v, fun x t => match f x t with | some c => c | none => σ.d x t⟩

theorem agree_setV (n : Nat) (σ : Val K) (i : Nat) (c : K) (hi : n ≤ i) : Agree n σ (σ.setV i c) :=
  ⟨fun j hj => by simp only [Val.setV]; rw [if_neg (by omega)], fun _ _ _ _ => rfl⟩

/-- read the replaced derivative atoms from the variables that replace them -/
def pull (rep : Rep) (τ : Val K) : Val K :=
  ⟨τ.v, fun x t => match rep.lookup (x, t) with | some w => τ.v w | none => τ.d x t⟩

theorem ev_subst (I : Interp K) (rep : Rep) (τ : Val K) (e : X) : ev I τ (e.subst rep) = ev I (pull rep τ) e := by
  induction e with
  | var v => rfl
  | deriv x t =>
    simp only [X.subst, ev_deriv, pull]
    cases rep.lookup (x, t) <;> rfl
  | lit q u => rfl
  | add a b iha ihb | sub a b iha ihb | mul a b iha ihb | div a b iha ihb =>
    simp only [X.subst, ev_add, ev_sub, ev_mul, ev_div, iha, ihb]
  | fn1 f a iha => simp only [X.subst, ev_fn1, iha]
  | fn2 f a b iha ihb => simp only [X.subst, ev_fn2, iha, ihb]

theorem holds_substEq (I : Interp K) (rep : Rep) (τ : Val K) (e : CEqn) :
    Holds I τ (substEq rep e) ↔ Holds I (pull rep τ) e := by
  unfold Holds substEq
  simp only [ev_subst]
  cases hl : e.lhs with
  | var v => simp [substLhs, lhsVal, pull]
  | deriv x t =>
    simp only [substLhs, lhsVal, pull]
    cases rep.lookup (x, t) <;> simp

theorem instEqs_iff (I : Interp K) {s : CState} (h : Inv0 s) (v : Nat) (cf : Rat) (uu : U) (hcf : I.lit cf ≠ 0)
    (dir : Dir) (τ : Val K) :
    SatL I τ (instEqs s v (.lit cf uu) dir) ↔ SatL I τ s.equations ∧ τ.v s.vars.length = I.lit cf * τ.v v := by
  have e1 : ∀ a : K, a = τ.v v * I.lit cf ↔ a = I.lit cf * τ.v v := fun a => by rw [mul_comm]
  have e2 : τ.v v = τ.v s.vars.length / I.lit cf ↔ τ.v s.vars.length = I.lit cf * τ.v v := by
    rw [eq_div_iff hcf, eq_comm, mul_comm]
  cases dir with
  | output =>
    simp only [instEqs, satL_append, satL_cons, Holds, lhsVal, ev_mul, ev_var, ev_lit, e1]
    exact and_congr_right fun _ => and_iff_left (satL_nil I τ)
  | input =>
    simp only [instEqs]
    cases hlk : s.varDef.lookup v with
    | none =>
      simp only [satL_append, satL_cons, Holds, lhsVal, ev_div, ev_var, ev_lit, e2]
      exact and_congr_right fun _ => and_iff_left (satL_nil I τ)
    | some oe =>
      obtain ⟨hoe, hoel⟩ := (h.lookup_varDef v oe).mp hlk
      rw [satL_erase I τ s.equations oe hoe]
      simp only [satL_append, satL_cons, Holds, hoel, lhsVal, ev_div, ev_mul, ev_var, ev_lit, e2]
      constructor
      · rintro ⟨h1, h2, h3, _⟩
        refine ⟨⟨h1, ?_⟩, h3⟩
        exact mul_right_cancel₀ hcf (by rw [← h2, h3, mul_comm])
      · rintro ⟨⟨h1, h2⟩, h3⟩
        exact ⟨h1, by rw [h3, h2, mul_comm], h3, satL_nil I τ⟩

theorem holds_pull_of_not_mentions (I : Interp K) (rep : Rep) (τ : Val K) (e : CEqn) (hm : mentions rep e = false)
    (hn : NoLhs rep e) : Holds I (pull rep τ) e ↔ Holds I τ e := by
  have h1 : ev I (pull rep τ) e.rhs = ev I τ e.rhs := by
    apply ev_congr
    · intro i _; rfl
    · intro p hp
      have := (List.any_eq_false.mp hm) p hp
      have hk : hasKey p rep = false := by simpa using this
      simp only [pull, (lookup_eq_none_iff_hasKey _ _).mpr hk]
  have h2 : lhsVal (pull rep τ) e.lhs = lhsVal τ e.lhs := by
    cases hl : e.lhs with
    | var v => rfl
    | deriv x t => simp only [lhsVal, pull, (lookup_eq_none_iff_hasKey _ _).mpr (hn x t hl)]
  unfold Holds; rw [h1, h2]

theorem pull_eq_self (rep : Rep) (τ : Val K) (h : ∀ k w, rep.lookup k = some w → τ.v w = τ.d k.1 k.2) :
    pull rep τ = τ := by
  cases τ with
  | mk tv td =>
    simp only [pull, Val.mk.injEq, true_and]
    funext x t
    cases hl : rep.lookup (x, t) with
    | none => rfl
    | some w => exact h (x, t) w hl

theorem replaceRefs_sem (I : Interp K) {s : CState} {rep : Rep} (h : Inv0 s) (hc : Cross s.equations)
    (hn : ∀ e ∈ s.equations, NoLhs rep e) (hr : ∀ p ∈ rep, p.2 < s.vars.length) :
    (∀ τ : Val K, (∀ k w, rep.lookup k = some w → τ.v w = τ.d k.1 k.2) → SatL I τ s.equations →
        SatL I τ (replaceRefs s rep).equations) ∧
    (∀ τ : Val K, SatL I τ (replaceRefs s rep).equations → SatL I (pull rep τ) s.equations) := by
  obtain ⟨_, _, _, hd⟩ := replaceRefs_spec h hc hn hr
  refine ⟨?_, ?_⟩
  · intro τ hτ hs e' he'
    rcases (hd e').mp he' with ⟨h1, _⟩ | ⟨e, h2, _, rfl⟩
    · exact hs e' h1
    · rw [holds_substEq, pull_eq_self rep τ hτ]; exact hs e h2
  · intro τ hs e he
    cases hm : mentions rep e with
    | false => exact (holds_pull_of_not_mentions I rep τ e hm (hn e he)).mpr (hs e ((hd e).mpr (Or.inl ⟨he, hm⟩)))
    | true => exact (holds_substEq I rep τ e).mp (hs _ ((hd _).mpr (Or.inr ⟨e, he, hm, rfl⟩)))

end Model.CV
