import Cellml.C06.Loop

/-! C06: `convert_variable(…, INPUT)` of any kind of variable is `_convert_variable_instance`, one `odeStep` for every ODE
    that has `v` on its left-hand side, then the replacement of the references to the old derivatives (`input_shape`);
    the result is well-formed again (`input_wf`, and for any direction `convertVariable_wf`). Core Lean only: what the
    call does to the SOLUTIONS is in `LoopSem.lean`. -/

namespace Model.CV

theorem ode_init {s : CState} (hwf : WF s) (v : Nat) (hv : v < s.vars.length) (u : U) (cf : Rat) (move : Bool)
    (t0 : Nat) (ht0 : t0 < s.vars.length) (L : List CEqn) (hnd : L.Nodup)
    (hfree : ∀ e ∈ s.equations, ∀ x t, e.lhs = .deriv x t → t = t0)
    (hL : ∀ e, e ∈ L ↔ e ∈ s.equations ∧ ∃ x, e.lhs = .deriv x t0 ∧ (x = v ∨ t0 = v)) :
    OdeInv v s.vars.length t0 (convertInstance s v cf u .input move).1 [] L ∧
    (∀ e ∈ s.equations, ∀ x t, e.lhs = .deriv x t → t = t0 ∧ ((x = v ∨ t = v) → e ∈ L)) := by
  obtain ⟨_, c2, c3, c4⟩ := convertInstance_spec hwf.inv v hv cf u .input move
  have hxlt : ∀ e ∈ s.equations, ∀ x t, e.lhs = .deriv x t → x < s.vars.length := fun e he x t hl => by
    have := hwf.inv.defKey_lt he; rwa [defKey_deriv hl] at this
  -- the ODEs of the state after `_convert_variable_instance` are those of the model
  have hode1 : ∀ e ∈ (convertInstance s v cf u .input move).1.equations, ∀ x t, e.lhs = .deriv x t →
      e ∈ s.equations := by
    rw [c2]; intro e he x t hl
    rcases instEqs_lhs s v _ .input e he with h | h | ⟨_, h⟩
    · exact h
    · rw [h] at hl; cases hl
    · rw [h] at hl; cases hl
  refine ⟨?_, fun e he x t hl => ?_⟩
  · exact
      { inv := c4, vlt := hv, t0lt := ht0, nvlt := by rw [c3]; omega, nodup := hnd,
        noLhs := fun _ _ _ _ _ => rfl, repKeys := fun p hp => (by cases hp),
        inL := by
          intro ode ho
          obtain ⟨h1, x, h2, h3⟩ := (hL ode).mp ho
          exact ⟨by rw [c2]; exact ode_mem_instEqs hwf.inv h1 h2 v _ .input, x, h2, h3, hwf.noSelf ode h1 x t0 h2,
            hxlt ode h1 x t0 h2⟩
        odes := by
          intro e he x t hl
          have hm := hode1 e he x t hl
          have ht := hfree e hm x t hl
          subst ht
          by_cases hxt : x = v ∨ t = v
          · exact Or.inl ((hL e).mpr ⟨hm, x, hl, hxt⟩)
          · exact Or.inr ⟨fun h => hxt (Or.inl h), (moved_ne (fun h => hxt (Or.inr h))).symm, hwf.noSelf e hm x t hl⟩
        nvFree := by
          intro ode ho t hl e he
          obtain ⟨h1, _⟩ := (hL ode).mp ho
          -- `v` has an ODE, so it has no other definition: only `v = nv / cf` was added
          have hvn : s.varDef.lookup v = none := by
            cases hlk : s.varDef.lookup v with
            | none => rfl
            | some oe =>
              obtain ⟨q1, q2⟩ := (hwf.inv.lookup_varDef v oe).mp hlk
              exact absurd rfl (hwf.cross oe q1 ode h1 v v t q2 hl)
          rw [c2] at he; simp only [instEqs, hvn] at he
          rcases List.mem_append.mp he with he | he
          · exact Nat.ne_of_lt (hwf.inv.defKey_lt he)
          · simp only [List.mem_cons, List.not_mem_nil, or_false] at he
            rw [he, defKey_var rfl]; omega
        cross := by
          intro e₁ h₁ e₂ h₂ a t ha hd
          have hm2 := hode1 e₂ h₂ a t hd
          rw [c2] at h₁
          rcases instEqs_lhs s v _ .input e₁ h₁ with h | h | ⟨_, h⟩
          · exact absurd rfl (hwf.cross e₁ h e₂ hm2 a a t ha hd)
          · rw [h] at ha; cases ha
            have := hxlt e₂ hm2 _ t hd; omega
          · rw [h] at ha; cases ha
            have ht := hfree e₂ hm2 v t hd
            subst ht
            exact ⟨rfl, (hL e₂).mpr ⟨hm2, v, hd, Or.inl rfl⟩⟩ }
  · have ht := hfree e he x t hl
    subst ht
    exact ⟨rfl, fun hxt => (hL e).mpr ⟨he, x, hl, hxt⟩⟩

/-- the INPUT branch of the driver, with `replacePhase` read as `replaceRefs` -/
theorem convertVariable_input (s : CState) (v : Nat) (u : U) (cf : Rat) (move : Bool) (hcf : cf ≠ 1) :
    convertVariable s v u cf .input move =
      (let ci := convertInstance s v cf u .input move
       let b := freePhase (getFree s == some v) (statePhase (hasKey v s.odeDef) ci.1 v ci.2 (cfQ s v u cf)) v ci.2
         (cfQ s v u cf)
       (replaceRefs b.1 b.2, ci.2, b.2)) := by
  simp only [convertVariable, hcf, if_false, replacePhase_eq, cfQ]

/-- the three kinds of variable differ in the list `L` of ODEs that have `v` on the left — the one of `v`, all of them,
    none; `t0` is the free variable of the model (any variable if there is no ODE) -/
theorem input_shape {s : CState} (hwf : WF s) (v : Nat) (hv : v < s.vars.length) (u : U) (cf : Rat) (hcf1 : cf ≠ 1)
    (move : Bool) : ∃ (t0 : Nat) (L : List CEqn) (lp : CState × Rep),
    L.foldl (odeStep v s.vars.length (cfQ s v u cf)) ((convertInstance s v cf u .input move).1, []) = lp ∧
    convertVariable s v u cf .input move = (replaceRefs lp.1 lp.2, s.vars.length, lp.2) ∧
    OdeInv v s.vars.length t0 (convertInstance s v cf u .input move).1 [] L ∧
    (∀ e ∈ s.equations, ∀ x t, e.lhs = .deriv x t → t = t0 ∧ ((x = v ∨ t = v) → e ∈ L)) := by
  obtain ⟨c1, c2, c3, c4⟩ := convertInstance_spec hwf.inv v hv cf u .input move
  have hr0 := convertVariable_input s v u cf move hcf1
  -- `t0`: the bound variable of the ODEs, if there is one
  obtain ⟨t0, ht0⟩ : ∃ t0, t0 = (getFree s).getD v := ⟨_, rfl⟩
  have hfree : ∀ e ∈ s.equations, ∀ x t, e.lhs = .deriv x t → t = t0 := fun e he x t hl => by
    rw [ht0, getFree_of_ode hwf.inv hwf.oneFree he hl]; rfl
  have ht0lt : t0 < s.vars.length := by
    cases hg : getFree s with
    | none => rw [ht0, hg]; exact hv
    | some t =>
      obtain ⟨e, he, x, hl⟩ := getFree_some hwf.inv hg
      rw [ht0, hg]
      exact ((eqScoped_iff _ _).mp (hwf.inv.scopedE e he)).1 t (by simp [hl, CLhs.vars])
  -- it remains to name `L`: it lists the ODEs with `v` on the left once each, and the two phases are the loop over it
  suffices h : ∃ L : List CEqn, L.Nodup ∧
      (∀ e, e ∈ L ↔ e ∈ s.equations ∧ ∃ x, e.lhs = .deriv x t0 ∧ (x = v ∨ t0 = v)) ∧
      freePhase (getFree s == some v) (statePhase (hasKey v s.odeDef) (convertInstance s v cf u .input move).1 v
          (convertInstance s v cf u .input move).2 (cfQ s v u cf)) v (convertInstance s v cf u .input move).2 (cfQ s v u cf) =
        L.foldl (odeStep v (convertInstance s v cf u .input move).2 (cfQ s v u cf))
          ((convertInstance s v cf u .input move).1, []) by
    obtain ⟨L, hnd, hL, hfold⟩ := h
    obtain ⟨J, ha⟩ := ode_init hwf v hv u cf move t0 ht0lt L hnd hfree hL
    exact ⟨t0, L, _, rfl, by rw [hr0]; dsimp only; rw [hfold, c1], J, ha⟩
  cases hst : hasKey v s.odeDef with
  | true =>
    -- a state variable: `L` is its ODE
    obtain ⟨ode, hode, t, hlt⟩ := (hwf.inv.hasKey_odeDef v).mp hst
    cases hfree ode hode v t hlt
    have htv : t0 ≠ v := Ne.symm (hwf.noSelf ode hode v t0 hlt)
    have hfr : (getFree s == some v) = false := by
      rw [getFree_of_ode hwf.inv hwf.oneFree hode hlt]; simpa using htv
    have hlk : (convertInstance s v cf u .input move).1.odeDef.lookup v = some ode :=
      (c4.lookup_odeDef v ode).mpr ⟨by rw [c2]; exact ode_mem_instEqs hwf.inv hode hlt v _ .input, t0, hlt⟩
    refine ⟨[ode], by simp, fun e => ?_, ?_⟩
    · simp only [List.mem_singleton]
      constructor
      · rintro rfl; exact ⟨hode, v, hlt, Or.inl rfl⟩
      · rintro ⟨he, x, hl, rfl | h⟩
        · exact hwf.inv.key_inj he hode (by rw [keyKind_deriv hl, keyKind_deriv hlt])
        · exact absurd h htv
    · simp only [hfr, statePhase, freePhase, if_true, Bool.false_eq_true, if_false,
        convertStateDeriv_eq_odeStep _ v _ _ ode t0 hlk hlt htv, List.foldl_cons, List.foldl_nil]
  | false =>
    by_cases hfr : getFree s = some v
    · -- the free variable: `L` is all ODEs
      have htv : v = t0 := by rw [ht0, hfr]; rfl
      subst htv
      have hmem : ∀ e, e ∈ sortedOdes (convertInstance s v cf u .input move).1 ↔
          e ∈ s.equations ∧ ∃ x, e.lhs = .deriv x v ∧ (x = v ∨ v = v) := by
        intro e
        rw [mem_sortedOdes c4, c2]
        constructor
        · rintro ⟨he, x, t, hl⟩
          have hm : e ∈ s.equations := by
            rcases instEqs_lhs s v _ .input e he with h | h | ⟨_, h⟩
            · exact h
            · rw [h] at hl; cases hl
            · rw [h] at hl; cases hl
          cases hfree e hm x t hl
          exact ⟨hm, x, hl, Or.inr rfl⟩
        · rintro ⟨he, x, hl, _⟩
          exact ⟨ode_mem_instEqs hwf.inv he hl v _ .input, x, v, hl⟩
      refine ⟨_, nodup_sortedOdes c4, hmem, ?_⟩
      simp only [hfr, statePhase, freePhase, beq_self_eq_true, if_true, Bool.false_eq_true, if_false]
      rw [foldl_freeStep_eq_odeStep v _ _ _ _ (fun ode ho => ?_)]
      obtain ⟨he, x, hl, _⟩ := (hmem ode).mp ho
      exact ⟨x, hl, hwf.noSelf ode he x v hl⟩
    · -- neither: `L` is empty
      refine ⟨[], List.nodup_nil, fun e => ⟨fun h => (by cases h), fun ⟨he, x, hl, hxt⟩ => ?_⟩, ?_⟩
      · rcases hxt with rfl | rfl
        · have := (hwf.inv.hasKey_odeDef x).mpr ⟨e, he, t0, hl⟩
          rw [hst] at this; cases this
        · exact absurd (getFree_of_ode hwf.inv hwf.oneFree he hl) hfr
      · have hfr' : (getFree s == some v) = false := by simpa using hfr
        simp only [hfr', statePhase, freePhase, Bool.false_eq_true, if_false, List.foldl_nil]

/-- no semantics needed -/
theorem input_wf {s : CState} (hwf : WF s) (v : Nat) (hv : v < s.vars.length) (u : U) (cf : Rat) (hcf1 : cf ≠ 1)
    (move : Bool) : WF (convertVariable s v u cf .input move).1 ∧
      s.vars.length < (convertVariable s v u cf .input move).1.vars.length := by
  obtain ⟨t0, L, lp, hlp, hr, J, _⟩ := input_shape hwf v hv u cf hcf1 move
  obtain ⟨_, _, c3, _⟩ := convertInstance_spec hwf.inv v hv cf u .input move
  obtain ⟨i1, i2⟩ := ode_loop_inv v s.vars.length t0 (cfQ s v u cf) (cfQ_vars ..) L _ [] J
  rw [hlp] at i1 i2
  have hrep := fun p hp => (i1.repKeys p hp).2.2.1
  obtain ⟨r1, r2, r3, _⟩ := replaceRefs_spec i1.inv i1.cross_nil i1.noLhs hrep
  -- the ODEs that are left avoid `v`
  have hfin : ∀ e' ∈ (replaceRefs lp.1 lp.2).equations, ∀ x t, e'.lhs = .deriv x t →
      x ≠ v ∧ t = moved v s.vars.length t0 ∧ x ≠ t := by
    intro e' he' x t hl
    obtain ⟨e, he, hle⟩ := replaceRefs_lhs i1.inv i1.cross_nil i1.noLhs hrep e' he'
    exact (i1.odes e he x t (hle ▸ hl)).resolve_left (fun h => by cases h)
  rw [hr]
  exact ⟨⟨r1, r2, oneFree_of_all _ (fun e' he' x t hl => (hfin e' he' x t hl).2.1),
    fun e' he' x t hl => (hfin e' he' x t hl).2.2⟩, by simp only [r3]; rw [c3] at i2; omega⟩

/-- from a well-formed model no call made by `convert_variable` raises, and the result is well-formed -/
theorem convertVariable_wf {s : CState} (hwf : WF s) (v : Nat) (hv : v < s.vars.length) (u : U) (cf : Rat) (dir : Dir)
    (move : Bool) : WF (convertVariable s v u cf dir move).1 := by
  by_cases hcf1 : cf = 1
  · subst hcf1; rw [convertVariable_noop]; exact hwf
  · cases dir with
    | output =>
      rw [convertVariable_output s v u cf move hcf1]
      dsimp only
      exact instance_wf hwf v hv u cf .output move (fun h => by cases h)
    | input => exact (input_wf hwf v hv u cf hcf1 move).1

end Model.CV
