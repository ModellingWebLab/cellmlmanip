import Cellml.C06.Replace
import Cellml.Model.Sort

/-! `sortedOdes` lists the ODEs of a state that satisfies the invariant, each once; and the step that
    `convert_variable(v, …, INPUT)` applies to every ODE with `v` on its left-hand side, whether `v` is its state variable
    (`_convert_state_variable_deriv`, the one-element loop) or its bound variable (one turn of the loop over the ODEs):
    what holds before each turn (`OdeInv`) and what one turn does to the equations. -/

namespace Model.CV

theorem nodup_filterMap {α β : Type} (f : α → Option β) (hf : ∀ a a' b, f a = some b → f a' = some b → a = a') :
    ∀ {l : List α}, l.Nodup → (l.filterMap f).Nodup
  | [], _ => List.nodup_nil
  | a :: l, h => by
    have h' := List.nodup_cons.mp h
    cases hfa : f a with
    | none => rw [List.filterMap_cons_none hfa]; exact nodup_filterMap f hf h'.2
    | some b =>
      rw [List.filterMap_cons_some hfa]
      refine List.nodup_cons.mpr ⟨?_, nodup_filterMap f hf h'.2⟩
      intro hb
      obtain ⟨a', ha', hfa'⟩ := List.mem_filterMap.mp hb
      exact h'.1 (hf a a' b hfa hfa' ▸ ha')

theorem mem_sortedOdes {s : CState} (h : Inv0 s) (ode : CEqn) :
    ode ∈ sortedOdes s ↔ ode ∈ s.equations ∧ ∃ x t, ode.lhs = .deriv x t := by
  unfold sortedOdes
  rw [List.mem_filterMap]
  constructor
  · rintro ⟨x, _, hlk⟩
    obtain ⟨h1, t, h2⟩ := (h.lookup_odeDef x ode).mp hlk
    exact ⟨h1, x, t, h2⟩
  · rintro ⟨h1, x, t, h2⟩
    refine ⟨x, ?_, (h.lookup_odeDef x ode).mpr ⟨h1, t, h2⟩⟩
    apply (sortByKey_perm id _).mem_iff.mpr
    exact List.mem_map.mpr ⟨(x, ode), (h.od x ode).mpr ⟨h1, t, h2⟩, rfl⟩

theorem nodup_sortedOdes {s : CState} (h : Inv0 s) : (sortedOdes s).Nodup := by
  unfold sortedOdes
  apply nodup_filterMap
  · intro a a' b ha ha'
    obtain ⟨_, t, h2⟩ := (h.lookup_odeDef a b).mp ha
    obtain ⟨_, t', h2'⟩ := (h.lookup_odeDef a' b).mp ha'
    rw [h2] at h2'; cases h2'; rfl
  · exact ((sortByKey_perm id _).nodup_iff).mpr h.odKeys

/-- the right-hand side of the new ODE: `w · cf` if `v` is the state variable `x`, `w / cf` if it is the bound one -/
def newRhs (v x w : Nat) (cfq : X) : X := if x = v then .mul (.var w) cfq else .div (.var w) cfq

theorem newRhs_vars (v x w : Nat) (cfq : X) (hq : cfq.vars = []) : (newRhs v x w cfq).vars = [w] := by
  unfold newRhs; split <;> simp [X.vars, hq]

/-- the ODE `d x / d t = r` becomes `w = r`, `d x' / d t' = newRhs`, where `x'`, `t'` are `x`, `t` with `v` replaced
    by `nv` -/
def odeStep (v nv : Nat) (cfq : X) (acc : CState × Rep) (ode : CEqn) : CState × Rep :=
  match ode.lhs with
  | .deriv x t =>
      let (s1, w) := removeOdeAssign acc.1 ode x
      (addEq s1 ⟨.deriv (moved v nv x) (moved v nv t), newRhs v x w cfq⟩ true, insertKey (x, t) w acc.2)
  | .var _ => acc

theorem freeStep_eq_odeStep (v nv : Nat) (cfq : X) (acc : CState × Rep) (ode : CEqn) (x : Nat)
    (hl : ode.lhs = .deriv x v) (hx : x ≠ v) : freeStep v nv cfq acc ode = odeStep v nv cfq acc ode := by
  simp only [freeStep, odeStep, newRhs, convertFreeDeriv, hl, if_true, moved_ne hx, moved_eq, if_neg hx,
    List.foldl_cons, List.foldl_nil]

theorem foldl_freeStep_eq_odeStep (v nv : Nat) (cfq : X) (L : List CEqn) : ∀ acc : CState × Rep,
    (∀ ode ∈ L, ∃ x, ode.lhs = .deriv x v ∧ x ≠ v) →
    L.foldl (freeStep v nv cfq) acc = L.foldl (odeStep v nv cfq) acc := by
  induction L with
  | nil => intro _ _; rw [List.foldl_nil, List.foldl_nil]
  | cons ode L ih =>
    intro acc h
    obtain ⟨x, hl, hx⟩ := h ode (List.mem_cons_self ..)
    rw [List.foldl_cons, List.foldl_cons, ← freeStep_eq_odeStep v nv cfq acc ode x hl hx]
    exact ih _ fun o ho => h o (List.mem_cons_of_mem _ ho)

theorem convertStateDeriv_eq_odeStep (s : CState) (v nv : Nat) (cfq : X) (ode : CEqn) (t : Nat)
    (hlk : s.odeDef.lookup v = some ode) (hl : ode.lhs = .deriv v t) (ht : t ≠ v) :
    convertStateDeriv s v nv cfq = odeStep v nv cfq (s, []) ode := by
  simp only [convertStateDeriv, odeStep, newRhs, hlk, hl, moved_ne ht, moved_eq, if_true]
  rfl

/-- what holds before each turn: `L` is what is still to be processed, `t0` the free variable of the model, `nv` the new
    variable (the number of variables before the call), `rep` the replacement dict built so far -/
structure OdeInv (v nv t0 : Nat) (st : CState) (rep : Rep) (L : List CEqn) : Prop where
  inv : Inv0 st
  /-- no variable is defined twice, but for `v` while its ODE is pending (`_convert_variable_instance` has defined `v`) -/
  cross : ∀ e₁ ∈ st.equations, ∀ e₂ ∈ st.equations, ∀ a t, e₁.lhs = .var a → e₂.lhs = .deriv a t → a = v ∧ e₂ ∈ L
  vlt : v < nv
  t0lt : t0 < nv
  nvlt : nv < st.vars.length
  inL : ∀ ode ∈ L, ode ∈ st.equations ∧ ∃ x, ode.lhs = .deriv x t0 ∧ (x = v ∨ t0 = v) ∧ x ≠ t0 ∧ x < nv
  nodup : L.Nodup
  /-- every ODE is pending, or already over the moved free variable -/
  odes : ∀ e ∈ st.equations, ∀ x t, e.lhs = .deriv x t → e ∈ L ∨ (x ≠ v ∧ t = moved v nv t0 ∧ x ≠ t)
  /-- while the ODE of `v` is pending nothing defines `nv`: its turn adds `d nv / d t` -/
  nvFree : ∀ ode ∈ L, ∀ t, ode.lhs = .deriv v t → ∀ e ∈ st.equations, defKey e ≠ nv
  noLhs : ∀ e ∈ st.equations, NoLhs rep e
  /-- a replaced derivative is over old variables, one of them `v`: so the new left-hand sides miss the old keys -/
  repKeys : ∀ p ∈ rep, p.1.1 < nv ∧ p.1.2 < nv ∧ p.2 < st.vars.length ∧ (p.1.1 = v ∨ p.1.2 = v)

theorem OdeInv.cross_nil {v nv t0 : Nat} {st : CState} {rep : Rep} (J : OdeInv v nv t0 st rep []) :
    Cross st.equations := by
  intro e₁ h₁ e₂ h₂ a x t ha hx hax
  subst hax
  cases (J.cross e₁ h₁ e₂ h₂ a t ha hx).2

theorem odeStep_eq (v nv : Nat) (cfq : X) (st : CState) (rep : Rep) (ode : CEqn) (x t : Nat)
    (hl : ode.lhs = .deriv x t) :
    odeStep v nv cfq (st, rep) ode =
      (addEq (removeOdeAssign st ode x).1
          ⟨.deriv (moved v nv x) (moved v nv t), newRhs v x (removeOdeAssign st ode x).2 cfq⟩ true,
       insertKey (x, t) (removeOdeAssign st ode x).2 rep) := by
  simp only [odeStep, hl]

theorem forall_mem_erase_append {E : List CEqn} {o a b : CEqn} {P : CEqn → Prop} (h : ∀ e ∈ E.erase o, P e)
    (ha : P a) (hb : P b) : ∀ e ∈ E.erase o ++ [a, b], P e := by
  intro e he
  simp only [List.mem_append, List.mem_cons, List.not_mem_nil, or_false] at he
  rcases he with he | rfl | rfl
  · exact h e he
  · exact ha
  · exact hb

/-- `∃ st1 rep1, … = (st1, rep1)` only names the two components of the turn's result -/
theorem odeStep_spec {v nv t0 : Nat} {st : CState} {rep : Rep} {ode : CEqn} {L : List CEqn} (cfq : X)
    (hq : cfq.vars = []) (J : OdeInv v nv t0 st rep (ode :: L)) (x : Nat) (hl : ode.lhs = .deriv x t0) :
    ∃ st1 rep1, odeStep v nv cfq (st, rep) ode = (st1, rep1) ∧ rep1 = insertKey (x, t0) st.vars.length rep ∧
      st1.equations = st.equations.erase ode ++ [⟨.var st.vars.length, ode.rhs⟩,
        ⟨.deriv (moved v nv x) (moved v nv t0), newRhs v x st.vars.length cfq⟩] ∧
      st1.vars.length = st.vars.length + 1 ∧ OdeInv v nv t0 st1 rep1 L := by
  obtain ⟨ho, x', hl', hxt, hxt0, hxnv⟩ := J.inL ode (List.mem_cons_self ..)
  rw [hl] at hl'; cases hl'
  have hxlt : x < st.vars.length := Nat.lt_trans hxnv J.nvlt
  have ht0lt : t0 < st.vars.length := Nat.lt_trans J.t0lt J.nvlt
  have hodeL : ode ∉ L := (List.nodup_cons.mp J.nodup).1
  -- no equation that stays defines the variable the new ODE defines
  have hfree : ∀ e0 ∈ st.equations.erase ode, defKey e0 ≠ moved v nv x := by
    intro e0 he0
    by_cases hx : x = v
    · subst hx; rw [moved_eq]
      exact J.nvFree ode (List.mem_cons_self ..) t0 hl e0 (List.mem_of_mem_erase he0)
    · rw [moved_ne hx]
      obtain ⟨hne, hm⟩ := J.inv.nodup.mem_erase_iff.mp he0
      intro hk
      cases hl0 : e0.lhs with
      | var a =>
        rw [defKey_var hl0] at hk; subst hk
        exact hx (J.cross e0 hm ode ho a t0 hl0 hl).1
      | deriv y t' =>
        rw [defKey_deriv hl0] at hk; subst hk
        exact hne (J.inv.key_inj hm ho (by rw [keyKind_deriv hl0, keyKind_deriv hl]))
  have hw := (removeOdeAssign_spec J.inv ode x ho).1
  obtain ⟨f2, f3, f4⟩ := removeOdeAssign_addEq_spec J.inv ode x ho (moved v nv x) (moved v nv t0)
    (newRhs v x st.vars.length cfq) (moved_lt hxlt J.nvlt) (moved_lt ht0lt J.nvlt) (newRhs_vars _ _ _ _ hq) hfree
  rw [odeStep_eq v nv cfq st rep ode x t0 hl, hw]
  -- `v` is one of `x`, `t0`, so the new left-hand side differs from the old one and from every key of `rep`
  have hnew : moved v nv x = nv ∨ moved v nv t0 = nv := by
    rcases hxt with h | h
    · left; rw [h, moved_eq]
    · right; rw [h, moved_eq]
  have hvlt := J.vlt
  have ht0 := J.t0lt
  have hnv := J.nvlt
  have hmx : moved v nv x < st.vars.length := moved_lt hxlt hnv
  refine ⟨_, _, rfl, rfl, f2, f3, ?_⟩
  refine { inv := f4, cross := ?_, vlt := hvlt, t0lt := ht0, nvlt := by rw [f3]; omega, inL := ?_,
           nodup := (List.nodup_cons.mp J.nodup).2, odes := ?_, nvFree := ?_, noLhs := ?_, repKeys := ?_ }
  · -- each of `e₁`, `e₂` is an old equation, `w = r` or the new ODE; `e₂` has a derivative on the left, so it is not
    -- `w = r`; against an old ODE only an old assignment counts (`w` is new), against the new ODE none (`hfree`)
    intro e₁ h₁ e₂ h₂ a t ha hd
    rw [f2] at h₁ h₂
    simp only [List.mem_append, List.mem_cons, List.not_mem_nil, or_false] at h₁ h₂
    rcases h₂ with h2 | rfl | rfl
    · have hm2 := List.mem_of_mem_erase h2
      rcases h₁ with h1 | rfl | rfl
      · obtain ⟨q1, q2⟩ := J.cross e₁ (List.mem_of_mem_erase h1) e₂ hm2 a t ha hd
        exact ⟨q1, (List.mem_cons.mp q2).resolve_left (J.inv.nodup.mem_erase_iff.mp h2).1⟩
      · cases ha
        have := J.inv.defKey_lt hm2; rw [defKey_deriv hd] at this; omega
      · cases ha
    · cases hd
    · obtain ⟨e1, _⟩ := CLhs.deriv.inj hd
      rcases h₁ with h1 | rfl | rfl
      · exact absurd (by rw [defKey_var ha, e1]) (hfree e₁ h1)
      · cases ha; omega
      · cases ha
  · intro o ho'
    obtain ⟨h1, h2⟩ := J.inL o (List.mem_cons_of_mem _ ho')
    refine ⟨?_, h2⟩
    rw [f2]
    exact List.mem_append_left _ ((List.mem_erase_of_ne (fun hh : o = ode => hodeL (hh ▸ ho'))).mpr h1)
  · rw [f2]
    refine forall_mem_erase_append (fun e h y t' hy => ?_) (fun _ _ hy => CLhs.noConfusion hy) (fun y t' hy => ?_)
    · rcases J.odes e (List.mem_of_mem_erase h) y t' hy with h' | h'
      · exact Or.inl ((List.mem_cons.mp h').resolve_left (J.inv.nodup.mem_erase_iff.mp h).1)
      · exact Or.inr h'
    · obtain ⟨rfl, rfl⟩ := CLhs.deriv.inj hy
      right
      rcases hxt with h | h
      · subst h; rw [moved_eq, moved_ne (Ne.symm hxt0)]; omega
      · subst h; rw [moved_eq, moved_ne hxt0]; omega
  · intro o ho' t hlo
    -- the ODE of `v` has just been processed, so no other one is pending
    rw [f2]
    refine forall_mem_erase_append
      (fun e h => J.nvFree o (List.mem_cons_of_mem _ ho') t hlo e (List.mem_of_mem_erase h)) ?_ ?_
    · rw [defKey_var rfl]; omega
    · rw [defKey_deriv rfl]
      by_cases hx : x = v
      · subst hx
        have := J.inv.key_inj (J.inL o (List.mem_cons_of_mem _ ho')).1 ho (by rw [keyKind_deriv hlo, keyKind_deriv hl])
        exact absurd (this ▸ ho') hodeL
      · rw [moved_ne hx]; omega
  · rw [f2]
    refine forall_mem_erase_append (fun e h y t' hy => ?_) (fun _ _ hy => CLhs.noConfusion hy) (fun y t' hy => ?_)
    · have hne : (y, t') ≠ (x, t0) := by
        intro hh; cases hh
        exact (J.inv.nodup.mem_erase_iff.mp h).1
          (J.inv.key_inj (List.mem_of_mem_erase h) ho (by rw [keyKind_deriv hy, keyKind_deriv hl]))
      simp [hasKey_insertKey, J.noLhs e (List.mem_of_mem_erase h) y t' hy, hne]
    · obtain ⟨rfl, rfl⟩ := CLhs.deriv.inj hy
      have hne : (moved v nv x, moved v nv t0) ≠ (x, t0) := by
        intro hh
        obtain ⟨e1, e2⟩ := Prod.mk.inj hh
        rcases hnew with h' | h' <;> omega
      have hold : hasKey (moved v nv x, moved v nv t0) rep = false := by
        cases hk : hasKey (moved v nv x, moved v nv t0) rep with
        | false => rfl
        | true =>
          obtain ⟨w, hw⟩ := (hasKey_iff _ _).mp hk
          have := J.repKeys _ hw
          simp only at this
          rcases hnew with h' | h' <;> (rw [h'] at this; omega)
      simp [hasKey_insertKey, hold, hne]
  · intro p hp
    rcases mem_insertKey_weak _ _ _ _ hp with h | h
    · rw [h]; exact ⟨hxnv, ht0, by simp only [f3]; omega, hxt⟩
    · obtain ⟨a, b, c, d⟩ := J.repKeys p h
      exact ⟨a, b, by simp only [f3]; omega, d⟩

theorem ode_loop_inv (v nv t0 : Nat) (cfq : X) (hq : cfq.vars = []) : ∀ (L : List CEqn) (st : CState) (rep : Rep),
    OdeInv v nv t0 st rep L →
    OdeInv v nv t0 (L.foldl (odeStep v nv cfq) (st, rep)).1 (L.foldl (odeStep v nv cfq) (st, rep)).2 [] ∧
    st.vars.length ≤ (L.foldl (odeStep v nv cfq) (st, rep)).1.vars.length := by
  intro L
  induction L with
  | nil => intro st rep J; exact ⟨J, Nat.le_refl _⟩
  | cons ode L ih =>
    intro st rep J
    obtain ⟨_, x, hl, _⟩ := J.inL ode (List.mem_cons_self ..)
    obtain ⟨st1, rep1, hacc, _, _, s3, J1⟩ := odeStep_spec cfq hq J x hl
    rw [List.foldl_cons, hacc]
    obtain ⟨a, b⟩ := ih st1 rep1 J1
    exact ⟨a, by omega⟩

end Model.CV
