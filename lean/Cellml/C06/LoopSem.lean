import Cellml.C06.CaseInput
import Cellml.C06.Cases

/-! C06: the loop of `odeStep` over the ODEs that have `v` on the left — both directions of the correspondence of
    solutions — and with it the case INPUT of the soundness statement. -/

namespace Model.CV

variable {K : Type} [Field K]

theorem ode_fold_lookup_stable (v nv : Nat) (cfq : X) (k : Nat × Nat) : ∀ (L : List CEqn) (acc : CState × Rep),
    (∀ ode ∈ L, ∀ x t, ode.lhs = .deriv x t → (x, t) ≠ k) →
    (L.foldl (odeStep v nv cfq) acc).2.lookup k = acc.2.lookup k := by
  intro L
  induction L with
  | nil => intro acc _; rfl
  | cons ode L ih =>
    intro acc h
    simp only [List.foldl_cons]
    rw [ih _ (fun o ho => h o (List.mem_cons_of_mem _ ho))]
    cases hl : ode.lhs with
    | var a => simp only [odeStep, hl]
    | deriv x t =>
      simp only [odeStep, hl]
      rw [lookup_insertKey, if_neg]
      exact fun hk => h ode (List.mem_cons_self ..) x t hl hk.symm

theorem ev_newRhs (I : Interp K) (τ : Val K) {v x t0 : Nat} (w : Nat) (cf : Rat) (uu : U) (hxt : x = v ∨ t0 = v)
    (hne : x ≠ t0) :
    ev I τ (newRhs v x w (.lit cf uu)) = factorOf (I.lit cf) v x * τ.v w / factorOf (I.lit cf) v t0 := by
  unfold newRhs
  by_cases hx : x = v
  · subst hx
    rw [if_pos rfl, factorOf_eq, factorOf_ne (Ne.symm hne), ev_mul, ev_var, ev_lit]; ring
  · have ht : t0 = v := hxt.resolve_left hx
    subst ht
    rw [if_neg hx, factorOf_ne hx, factorOf_eq, ev_div, ev_var, ev_lit, one_mul]

/-- Forward: from a `τ` whose derivative atoms over the moved pair are ALREADY the rescaled ones (`Val.rescale` provides
    it), only the `…_orig_deriv` variables are set. Backward: for a `τ` that reads each replaced atom from its variable
    (`pull` provides it). -/
theorem ode_loop_sem (I : Interp K) (v nv t0 : Nat) (cf : Rat) (uu : U) :
    ∀ (L : List CEqn) (st : CState) (rep : Rep) (lp : CState × Rep), OdeInv v nv t0 st rep L →
    L.foldl (odeStep v nv (.lit cf uu)) (st, rep) = lp →
    (∀ τ : Val K, SatL I τ st.equations →
      (∀ ode ∈ L, ∀ x, ode.lhs = .deriv x t0 → τ.d (moved v nv x) (moved v nv t0) =
        factorOf (I.lit cf) v x * τ.d x t0 / factorOf (I.lit cf) v t0) →
      ∃ τ' : Val K, SatL I τ' lp.1.equations ∧ Agree st.vars.length τ τ' ∧ τ'.d = τ.d ∧
        ∀ p ∈ lp.2, p ∈ rep ∨ τ'.v p.2 = τ.d p.1.1 p.1.2) ∧
    (∀ τ : Val K, SatL I τ lp.1.equations → (∀ k w, lp.2.lookup k = some w → τ.d k.1 k.2 = τ.v w) →
      SatL I τ st.equations ∧ ∀ ode ∈ L, ∀ x, ode.lhs = .deriv x t0 → τ.d (moved v nv x) (moved v nv t0) =
        factorOf (I.lit cf) v x * τ.d x t0 / factorOf (I.lit cf) v t0) := by
  intro L
  induction L with
  | nil =>
    rintro st rep _ J rfl
    exact ⟨fun τ hτ _ => ⟨τ, hτ, Agree.refl _ _, rfl, fun p hp => Or.inl hp⟩,
      fun τ hτ _ => ⟨hτ, fun o ho => by cases ho⟩⟩
  | cons ode L ih =>
    intro st rep lp J hlp
    obtain ⟨ho, x, hl, hxt, hxt0, hxnv⟩ := J.inL ode (List.mem_cons_self ..)
    obtain ⟨st1, rep1, hacc, s1, s2, s3, J1⟩ := odeStep_spec (.lit cf uu) rfl J x hl
    rw [List.foldl_cons, hacc] at hlp
    obtain ⟨i4, i5⟩ := ih st1 rep1 lp J1 hlp
    have hscoped : EqScoped st.vars.length ode := J.inv.scopedE ode ho
    -- no later turn touches the entry this turn makes: the ODEs are filed under distinct keys
    have hk : lp.2.lookup (x, t0) = some st.vars.length := by
      rw [← hlp, ode_fold_lookup_stable v nv (.lit cf uu) (x, t0) L (st1, rep1)]
      · show rep1.lookup (x, t0) = _
        rw [s1, lookup_insertKey, if_pos rfl]
      · intro o ho' x' t' hl' hxx
        cases hxx
        have := J.inv.key_inj (J.inL o (List.mem_cons_of_mem _ ho')).1 ho
          (by rw [keyKind_deriv hl', keyKind_deriv hl])
        exact (List.nodup_cons.mp J.nodup).1 (this ▸ ho')
    refine ⟨?_, ?_⟩
    · intro τ hτ hd
      have hag := agree_setV st.vars.length τ st.vars.length (τ.d x t0) (Nat.le_refl _)
      have h1 : SatL I (τ.setV st.vars.length (τ.d x t0)) st1.equations := by
        rw [s2]
        simp only [satL_append, satL_cons]
        refine ⟨fun e he => (holds_of_agree I (J.inv.scopedE e (List.mem_of_mem_erase he)) hag).mpr
                  (hτ e (List.mem_of_mem_erase he)), ?_, ?_, satL_nil I _⟩
        · have := (holds_of_agree I hscoped hag).mpr (hτ ode ho)
          simp only [Holds, hl, lhsVal] at this
          simp only [Holds, lhsVal, setV_self, ← this]; rfl
        · simp only [Holds, lhsVal, ev_newRhs I _ _ cf uu hxt hxt0, setV_self]
          exact hd ode (List.mem_cons_self ..) x hl
      obtain ⟨τ', t1, t2, t3, t4⟩ := i4 (τ.setV st.vars.length (τ.d x t0)) h1
        (fun o ho' x' hl' => hd o (List.mem_cons_of_mem _ ho') x' hl')
      refine ⟨τ', t1, hag.trans t2 (by rw [s3]; omega), t3, ?_⟩
      intro p hp
      rcases t4 p hp with h | h
      · rw [s1] at h
        rcases mem_insertKey_weak _ _ _ _ h with h | h
        · right; rw [h]
          have := t2.1 st.vars.length (by rw [s3]; omega)
          rw [this, setV_self]
        · exact Or.inl h
      · exact Or.inr h
    · intro τ hτ hlk
      obtain ⟨b1, b2⟩ := i5 τ hτ hlk
      rw [s2] at b1
      simp only [satL_append, satL_cons] at b1
      obtain ⟨c1, c2, c3, _⟩ := b1
      simp only [Holds, lhsVal, ev_newRhs I _ _ cf uu hxt hxt0] at c2 c3
      have hdw : τ.d x t0 = τ.v st.vars.length := hlk (x, t0) _ hk
      refine ⟨(satL_erase I τ st.equations ode ho).mpr ⟨c1, ?_⟩, ?_⟩
      · simp only [Holds, hl, lhsVal, hdw, c2]
      · intro o ho' x' hl'
        rcases List.mem_cons.mp ho' with h | h
        · subst h; rw [hl] at hl'; cases hl'
          rw [c3, hdw]
        · exact b2 o h x' hl'

theorem case_input_all (I : Interp K) {s : CState} (hwf : WF s) (v : Nat) (hv : v < s.vars.length) (u : U)
    (cf : Rat) (hcf1 : cf ≠ 1) (hcf : I.lit cf ≠ 0) (move : Bool) :
    CallOK I s v cf .input (convertVariable s v u cf .input move) := by
  obtain ⟨t0, L, lp, hlp, hr', J, hall⟩ := input_shape hwf v hv u cf hcf1 move
  obtain ⟨w1, w2⟩ := input_wf hwf v hv u cf hcf1 move
  obtain ⟨c1, c2, c3, c4⟩ := convertInstance_spec hwf.inv v hv cf u .input move
  obtain ⟨i1, _⟩ := ode_loop_inv v s.vars.length t0 (cfQ s v u cf) (cfQ_vars ..) L _ [] J
  rw [hlp] at i1
  obtain ⟨i4, i5⟩ := ode_loop_sem I v s.vars.length t0 cf (u.div (unitOfV s v)) _ _ [] lp J hlp
  obtain ⟨r5, r6⟩ := replaceRefs_sem I i1.inv i1.cross_nil i1.noLhs (fun p hp => (i1.repKeys p hp).2.2.1)
  rw [hr'] at w1 w2 ⊢
  refine { ret := rfl, wf := w1, grows := w2, fwd := ?_, bwd := ?_ }
  · intro σ hσ
    obtain ⟨τ0, hτ0⟩ : ∃ τ0, τ0 = σ.rescale v s.vars.length (I.lit cf) := ⟨_, rfl⟩
    have hag0 : Agree s.vars.length σ τ0 := hτ0 ▸ agree_rescale σ v _ _
    have h0n : τ0.v s.vars.length = I.lit cf * σ.v v := hτ0 ▸ rescale_new σ v _ _
    have hd0 : ∀ x, x < s.vars.length → t0 < s.vars.length → x ≠ t0 →
        τ0.d (moved v s.vars.length x) (moved v s.vars.length t0) =
          factorOf (I.lit cf) v x * σ.d x t0 / factorOf (I.lit cf) v t0 :=
      fun x hx ht hne => hτ0 ▸ rescale_d σ (I.lit cf) hx ht hne
    have hE1 : SatL I τ0 (convertInstance s v cf u .input move).1.equations := by
      rw [c2, hτ0]; exact instEqs_rescale I hwf.inv hv cf _ hcf .input hσ
    obtain ⟨τ', t1, t2, t3, t4⟩ := i4 τ0 hE1 (fun ode ho x hl => by
      obtain ⟨_, x', hl', _, hne, hxn⟩ := J.inL ode ho
      rw [hl] at hl'; cases hl'
      rw [hd0 x hxn J.t0lt hne, hag0.2 x t0 hxn J.t0lt])
    rw [c3] at t2
    have hrepv : ∀ p ∈ lp.2, τ'.v p.2 = τ0.d p.1.1 p.1.2 := fun p hp => (t4 p hp).resolve_left (fun h => by cases h)
    refine ⟨τ', ?_, hag0.trans t2 (by omega), ?_, ?_, ?_⟩
    · apply r5 τ' _ t1
      intro k w hk
      rw [hrepv _ (List.mem_of_lookup _ _ _ hk), t3]
    · rw [t2.1 s.vars.length (by omega), h0n]
    · intro p hp
      rw [hrepv p hp]
      have := i1.repKeys p hp
      exact hag0.2 _ _ this.1 this.2.1
    · intro _ e he x t hl
      obtain ⟨ht, _⟩ := hall e he x t hl
      have hx : x < s.vars.length := by have := hwf.inv.defKey_lt he; rwa [defKey_deriv hl] at this
      subst ht
      rw [t3]; exact hd0 x hx J.t0lt (hwf.noSelf e he x t hl)
  · intro σ' hσ'
    have hρ := r6 σ' hσ'
    obtain ⟨b1, b2⟩ := i5 (pull lp.2 σ') hρ (fun k w hk => by simp only [pull, hk])
    rw [c2] at b1
    obtain ⟨b3, b4⟩ := (instEqs_iff I hwf.inv v cf _ hcf .input (pull lp.2 σ')).mp b1
    refine ⟨b3, b4, ?_⟩
    intro _ e he x t hl
    obtain ⟨ht, hin⟩ := hall e he x t hl
    subst ht
    -- an atom that mentions the new variable, or does not mention `v`, is not one of the replaced ones
    have hsame : ∀ a b, (a = s.vars.length ∨ b = s.vars.length ∨ (a ≠ v ∧ b ≠ v)) →
        (pull lp.2 σ').d a b = σ'.d a b := by
      intro a b hab
      have hnone : lp.2.lookup (a, b) = none := by
        cases hk : lp.2.lookup (a, b) with
        | none => rfl
        | some w =>
          have := i1.repKeys _ (List.mem_of_lookup _ _ _ hk)
          simp only at this
          omega
      simp only [pull, hnone]
    by_cases hxt : x = v ∨ t = v
    · rw [← hsame _ _ (by rcases hxt with h | h <;> simp [h, moved_eq]), b2 e (hin hxt) x hl]
    · have hx' : x ≠ v := fun h => hxt (Or.inl h)
      have ht' : t ≠ v := fun h => hxt (Or.inr h)
      rw [moved_ne hx', moved_ne ht', factorOf_ne hx', factorOf_ne ht', hsame x t (Or.inr (Or.inr ⟨hx', ht'⟩))]
      simp

end Model.CV
