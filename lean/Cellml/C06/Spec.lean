import Cellml.C06.Lemmas

/-! Which equations there are after each helper (core Lean only): what `_convert_variable_instance` and
    `_remove_ode_and_assign_rhs_to_new_variable` (alone, and followed by the `add_equation` of the new ODE) do to the
    equation list of a state that satisfies the invariant; at the end, what `convert_variable` reduces to for a factor
    of 1 and for OUTPUT. -/

namespace Model.CV

/-- the conversion factor as a `Quantity` in units `units / original_variable.units` -/
def cfQ (s : CState) (v : Nat) (u : U) (cf : Rat) : X := .lit cf (u.div (unitOfV s v))

/-- the variable standing for `x` after the conversion of `v` into `nv` as an input -/
def moved (v nv x : Nat) : Nat := if x = v then nv else x

theorem moved_ne {v nv x : Nat} (h : x ≠ v) : moved v nv x = x := by simp [moved, h]

theorem moved_eq (v nv : Nat) : moved v nv v = nv := by simp [moved]

theorem moved_lt {v nv x n : Nat} (hx : x < n) (hnv : nv < n) : moved v nv x < n := by
  unfold moved; split <;> assumption

/-- the equation list after `_convert_variable_instance` (the new variable is number `s.vars.length`) -/
def instEqs (s : CState) (v : Nat) (cfq : X) : Dir → List CEqn
  | .output => s.equations ++ [⟨.var s.vars.length, .mul (.var v) cfq⟩]
  | .input =>
    match s.varDef.lookup v with
    | some oe => s.equations.erase oe ++
        [⟨.var s.vars.length, .mul oe.rhs cfq⟩, ⟨.var v, .div (.var s.vars.length) cfq⟩]
    | none => s.equations ++ [⟨.var v, .div (.var s.vars.length) cfq⟩]

theorem mem_instEqs {s : CState} {v : Nat} {cfq : X} {dir : Dir} {e : CEqn} (he : e ∈ instEqs s v cfq dir) :
    e ∈ s.equations ∨ (dir = .output ∧ e = ⟨.var s.vars.length, .mul (.var v) cfq⟩) ∨
    (dir = .input ∧ e = ⟨.var v, .div (.var s.vars.length) cfq⟩) ∨
    (dir = .input ∧ ∃ oe, s.varDef.lookup v = some oe ∧ e = ⟨.var s.vars.length, .mul oe.rhs cfq⟩) := by
  cases dir with
  | output =>
    rcases List.mem_append.mp he with h | h
    · exact .inl h
    · exact .inr (.inl ⟨rfl, List.mem_singleton.mp h⟩)
  | input =>
    simp only [instEqs] at he
    cases hlk : s.varDef.lookup v with
    | none =>
      rw [hlk] at he
      rcases List.mem_append.mp he with h | h
      · exact .inl h
      · exact .inr (.inr (.inl ⟨rfl, List.mem_singleton.mp h⟩))
    | some oe =>
      rw [hlk] at he
      simp only [List.mem_append, List.mem_cons, List.not_mem_nil, or_false] at he
      rcases he with h | h | h
      · exact .inl (List.mem_of_mem_erase h)
      · exact .inr (.inr (.inr ⟨rfl, oe, rfl, h⟩))
      · exact .inr (.inr (.inl ⟨rfl, h⟩))

theorem cmetaOfV_new (s : CState) (x : CVar) (hx : x.cmeta = none) :
    cmetaOfV { s with vars := s.vars ++ [x] } s.vars.length = none := by
  simp [cmetaOfV, hx]

/-- the state after the `add_variable` and the optional `transfer_cmeta_id` of `_convert_variable_instance`; `x` is the
    new variable -/
def afterTransfer (s : CState) (v : Nat) (x : CVar) (move : Bool) : CState :=
  if (cmetaOfV { s with vars := s.vars ++ [x] } v).isSome && move
  then transferCmeta { s with vars := s.vars ++ [x] } v s.vars.length else { s with vars := s.vars ++ [x] }

theorem convertInstance_eq (s : CState) (v : Nat) (cf : Rat) (u : U) (dir : Dir) (move : Bool) :
    convertInstance s v cf u dir move =
      ((match dir with | .input => instInput | .output => instOutput)
        (afterTransfer s v ⟨freshName s (nameOfV s v ++ "_converted"), u, newInit s v cf dir, none⟩ move) v s.vars.length
        (.lit cf (u.div (unitOfV s v))), s.vars.length) := by
  unfold convertInstance
  rw [addVariable_eq _ _ _ _ (freshName_fresh s _)]
  cases dir <;> rfl

theorem afterTransfer_ok {s : CState} (h : Inv0 s) (v : Nat) (x : CVar) (hx : x.cmeta = none) (move : Bool) :
    (afterTransfer s v x move).equations = s.equations ∧ (afterTransfer s v x move).varDef = s.varDef ∧
    (afterTransfer s v x move).vars.length = s.vars.length + 1 ∧ Inv0 (afterTransfer s v x move) := by
  unfold afterTransfer
  have h1 : Inv0 { s with vars := s.vars ++ [x] } := h.addVar x
  split
  · rename_i hc
    obtain ⟨c, hc'⟩ := Option.isSome_iff_exists.mp (Bool.and_eq_true_iff.mp hc).1
    obtain ⟨t1, t2, t3⟩ := transferCmeta_ok h1 v s.vars.length c hc' (cmetaOfV_new s x hx)
    exact ⟨t1, by rw [transferCmeta_eq _ v s.vars.length c hc' (cmetaOfV_new s x hx)], by rw [t2]; simp, t3⟩
  · exact ⟨rfl, rfl, by simp, h1⟩

theorem cfQ_vars (s : CState) (v : Nat) (u : U) (cf : Rat) : (cfQ s v u cf).vars = [] := rfl

theorem instOutput_spec {s2 : CState} (h : Inv0 s2) (v nv : Nat) (cfq : X) (hq : cfq.vars = [])
    (hv : v < s2.vars.length) (hnv : nv < s2.vars.length) (hfresh : ∀ e0 ∈ s2.equations, defKey e0 < nv) :
    (instOutput s2 v nv cfq).equations = s2.equations ++ [⟨.var nv, .mul (.var v) cfq⟩] ∧
    (instOutput s2 v nv cfq).vars = s2.vars ∧ Inv0 (instOutput s2 v nv cfq) :=
  addEq_checked h _ (by rw [eqScoped_iff]; simp [CLhs.vars, X.vars, hq, hv, hnv])
    (fun e0 he0 => Nat.ne_of_lt (hfresh e0 he0))

/-- the last call of the INPUT branch: `v = nv / cf` is added, with `check_duplicates` off exactly when `v` has an ODE
    (a state variable is overdefined for a moment); it goes through as soon as `v` has no assignment (`∃ s4, … = s4`
    only names the long term) -/
theorem addEq_defines_orig {s3 : CState} (h : Inv0 s3) (v nv : Nat) (cfq : X) (hq : cfq.vars = [])
    (hv : v < s3.vars.length) (hnv : nv < s3.vars.length) (hk : ∀ e0 ∈ s3.equations, e0.lhs ≠ .var v) :
    ∃ s4, addEq { s3 with vars := setV s3.vars v (fun x => { x with init := none }) } ⟨.var v, .div (.var nv) cfq⟩
        (!hasKey v s3.odeDef) = s4 ∧
      s4.equations = s3.equations ++ [⟨.var v, .div (.var nv) cfq⟩] ∧ s4.vars.length = s3.vars.length ∧ Inv0 s4 := by
  have i4 : Inv0 { s3 with vars := setV s3.vars v (fun x => { x with init := none }) } :=
    h.congr rfl rfl rfl rfl (by simp [length_setV])
  have hsc : EqScoped (setV s3.vars v (fun x => { x with init := none })).length ⟨.var v, .div (.var nv) cfq⟩ := by
    rw [eqScoped_iff]; simp [CLhs.vars, X.vars, hq, length_setV, hv, hnv]
  obtain ⟨a1, a2, _, a4⟩ := addEq_ok i4 ⟨.var v, .div (.var nv) cfq⟩ (!hasKey v s3.odeDef) hsc
    (fun e0 he0 hkk => by
      cases hl0 : e0.lhs with
      | var v0 => rw [keyKind_var hl0, keyKind_var rfl] at hkk; cases hkk; exact hk e0 he0 hl0
      | deriv x t => rw [keyKind_deriv hl0, keyKind_var rfl] at hkk; cases hkk)
    (fun hchk e0 he0 hkk => by
      rw [defKey_var (e := ⟨.var v, .div (.var nv) cfq⟩) rfl] at hkk
      cases hl0 : e0.lhs with
      | var v0 => rw [defKey_var hl0] at hkk; subst hkk; exact hk e0 he0 hl0
      | deriv x t =>
        rw [defKey_deriv hl0] at hkk; subst hkk
        have := (h.hasKey_odeDef x).mpr ⟨e0, he0, t, hl0⟩
        simp only [Bool.not_eq_true'] at hchk
        rw [hchk] at this; cases this)
  exact ⟨_, rfl, a1, by rw [a2]; simp [length_setV], a4⟩

theorem instInput_spec {s2 : CState} (h : Inv0 s2) (v nv : Nat) (cfq : X) (hq : cfq.vars = [])
    (hv : v < s2.vars.length) (hnv : nv < s2.vars.length) (hfresh : ∀ e0 ∈ s2.equations, defKey e0 < nv)
    (hvnv : v < nv) :
    (instInput s2 v nv cfq).equations =
      (match s2.varDef.lookup v with
       | some oe => s2.equations.erase oe ++ [⟨.var nv, .mul oe.rhs cfq⟩, ⟨.var v, .div (.var nv) cfq⟩]
       | none => s2.equations ++ [⟨.var v, .div (.var nv) cfq⟩]) ∧
    (instInput s2 v nv cfq).vars.length = s2.vars.length ∧ Inv0 (instInput s2 v nv cfq) := by
  unfold instInput
  cases hlk : s2.varDef.lookup v with
  | none =>
    obtain ⟨s4, h4, b⟩ := addEq_defines_orig h v nv cfq hq hv hnv (h.lookup_varDef_none v hlk)
    exact h4 ▸ b
  | some oe =>
    -- the definition of `v` becomes one of `nv`, then `v` is defined from `nv`
    obtain ⟨hoe, hoel⟩ := (h.lookup_varDef v oe).mp hlk
    obtain ⟨r1, r2, _, r4⟩ := removeEq_ok h oe hoe
    obtain ⟨a1, a2, a4⟩ := addEq_checked r4 ⟨.var nv, .mul oe.rhs cfq⟩
      (by
        rw [r2, eqScoped_iff]
        have := (eqScoped_iff _ _).mp (h.scopedE oe hoe)
        simp only [CLhs.vars, X.vars, hq, List.append_nil, List.mem_cons, List.not_mem_nil, or_false]
        exact ⟨fun i hi => by rw [hi]; exact hnv, this.2⟩)
      (fun e0 he0 => by rw [r1] at he0; exact Nat.ne_of_lt (hfresh e0 (List.mem_of_mem_erase he0)))
    obtain ⟨s4, h4, b1, b2, b4⟩ := addEq_defines_orig a4 v nv cfq hq (by rw [a2, r2]; exact hv) (by rw [a2, r2]; exact hnv)
      (fun e0 he0 hl => by
        rw [a1, r1] at he0
        rcases List.mem_append.mp he0 with he0 | he0
        · exact key_absent_after_erase h oe hoe e0 he0 (by rw [keyKind_var hl, keyKind_var hoel])
        · rw [List.mem_singleton.mp he0] at hl; cases hl; omega)
    exact h4 ▸ ⟨by rw [b1, a1, r1]; simp, by rw [b2, a2, r2], b4⟩

theorem convertInstance_spec {s : CState} (h : Inv0 s) (v : Nat) (hv : v < s.vars.length) (cf : Rat) (u : U)
    (dir : Dir) (move : Bool) :
    (convertInstance s v cf u dir move).2 = s.vars.length ∧
    (convertInstance s v cf u dir move).1.equations = instEqs s v (cfQ s v u cf) dir ∧
    (convertInstance s v cf u dir move).1.vars.length = s.vars.length + 1 ∧
    Inv0 (convertInstance s v cf u dir move).1 := by
  rw [convertInstance_eq]
  have hxc : (⟨freshName s (nameOfV s v ++ "_converted"), u, newInit s v cf dir, none⟩ : CVar).cmeta = none := rfl
  generalize (⟨freshName s (nameOfV s v ++ "_converted"), u, newInit s v cf dir, none⟩ : CVar) = x at hxc ⊢
  obtain ⟨e2, vd2, l2, i2⟩ := afterTransfer_ok h v x hxc move
  generalize afterTransfer s v x move = s2 at e2 vd2 l2 i2 ⊢
  have hfresh : ∀ e0 ∈ s2.equations, defKey e0 < s.vars.length := by
    rw [e2]; intro e0 he0; exact h.defKey_lt he0
  cases dir with
  | output =>
    obtain ⟨a, b, c⟩ := instOutput_spec i2 v s.vars.length (cfQ s v u cf) (cfQ_vars ..) (by omega) (by omega) hfresh
    exact ⟨rfl, a.trans (by rw [e2]; rfl), (congrArg List.length b).trans l2, c⟩
  | input =>
    obtain ⟨a, b, c⟩ := instInput_spec i2 v s.vars.length (cfQ s v u cf) (cfQ_vars ..) (by omega) (by omega) hfresh hv
    exact ⟨rfl, a.trans (by rw [e2, vd2]; rfl), b.trans l2, c⟩

theorem instEqs_lhs (s : CState) (v : Nat) (cfq : X) (dir : Dir) :
    ∀ e' ∈ instEqs s v cfq dir, (e' ∈ s.equations) ∨ e'.lhs = .var s.vars.length ∨ (dir = .input ∧ e'.lhs = .var v) := by
  intro e' he'
  rcases mem_instEqs he' with h | ⟨_, rfl⟩ | ⟨hd, rfl⟩ | ⟨_, oe, _, rfl⟩
  · exact .inl h
  · exact .inr (.inl rfl)
  · exact .inr (.inr ⟨hd, rfl⟩)
  · exact .inr (.inl rfl)

theorem instEqs_lhs' (s : CState) (v : Nat) (cfq : X) (dir : Dir) :
    ∀ e' ∈ instEqs s v cfq dir, (∃ e ∈ s.equations, e'.lhs = e.lhs) ∨ ∃ a, e'.lhs = .var a := by
  intro e' he'
  rcases instEqs_lhs s v cfq dir e' he' with h | h | ⟨_, h⟩
  · exact Or.inl ⟨e', h, rfl⟩
  · exact Or.inr ⟨_, h⟩
  · exact Or.inr ⟨_, h⟩

theorem ode_mem_instEqs {s : CState} (h : Inv0 s) {e : CEqn} (he : e ∈ s.equations) {x t : Nat}
    (hl : e.lhs = .deriv x t) (v : Nat) (cfq : X) (dir : Dir) : e ∈ instEqs s v cfq dir := by
  cases dir with
  | output => exact List.mem_append_left _ he
  | input =>
    simp only [instEqs]
    cases hlk : s.varDef.lookup v with
    | none => exact List.mem_append_left _ he
    | some oe =>
      obtain ⟨_, hoel⟩ := (h.lookup_varDef v oe).mp hlk
      exact List.mem_append_left _ ((List.mem_erase_of_ne (by intro hh; rw [hh, hoel] at hl; cases hl)).mpr he)

theorem cross_instEqs {s : CState} (h : Inv0 s) (hc : Cross s.equations) (v : Nat) (cfq : X) (dir : Dir)
    (hd : dir ≠ .input) : Cross (instEqs s v cfq dir) := by
  intro e₁ h₁ e₂ h₂ a x t ha hx hax
  subst hax
  have h2 : e₂ ∈ s.equations := by
    rcases instEqs_lhs s v cfq dir e₂ h₂ with h | h | ⟨_, h⟩
    · exact h
    · rw [h] at hx; cases hx
    · rw [h] at hx; cases hx
  rcases instEqs_lhs s v cfq dir e₁ h₁ with hq | hq | ⟨hi, _⟩
  · exact hc e₁ hq e₂ h2 a a t ha hx rfl
  · rw [hq] at ha; cases ha
    have := h.defKey_lt h2
    rw [defKey_deriv hx] at this; omega
  · exact absurd hi hd

theorem removeOdeAssign_spec {s : CState} (h : Inv0 s) (ode : CEqn) (x0 : Nat) (ho : ode ∈ s.equations) :
    (removeOdeAssign s ode x0).2 = s.vars.length ∧
    (removeOdeAssign s ode x0).1.equations = s.equations.erase ode ++ [⟨.var s.vars.length, ode.rhs⟩] ∧
    (removeOdeAssign s ode x0).1.vars.length = s.vars.length + 1 ∧
    Inv0 (removeOdeAssign s ode x0).1 := by
  unfold removeOdeAssign
  rw [addVariable_eq _ _ _ _ (freshName_fresh s _)]
  dsimp only
  generalize (⟨freshName s (nameOfV s x0 ++ "_orig_deriv"), lhsUnit s ode.lhs, none, none⟩ : CVar) = x
  have h1 : Inv0 { s with vars := s.vars ++ [x] } := h.addVar x
  obtain ⟨r1, r2, _, r4⟩ := removeEq_ok h1 ode ho
  obtain ⟨a1, a2, a4⟩ := addEq_checked r4 ⟨.var s.vars.length, ode.rhs⟩
    (by
      rw [r2, eqScoped_iff]
      have := (eqScoped_iff _ _).mp (h.scopedE ode ho)
      simp only [CLhs.vars, List.mem_cons, List.not_mem_nil, or_false, List.length_append, List.length_cons,
        List.length_nil]
      exact ⟨fun i hi => by omega, fun i hi => by have := this.2 i hi; omega⟩)
    (fun e0 he0 => by rw [r1] at he0; exact Nat.ne_of_lt (h.defKey_lt (List.mem_of_mem_erase he0)))
  refine ⟨rfl, by rw [a1, r1], by rw [a2, r2]; simp, a4⟩

/-- `_remove_ode_and_assign_rhs_to_new_variable`, then `add_equation` of the ODE `d a / d b = r` that takes the place of
    the one removed; `r` may mention the new variable -/
theorem removeOdeAssign_addEq_spec {s : CState} (h : Inv0 s) (ode : CEqn) (x0 : Nat) (ho : ode ∈ s.equations)
    (a b : Nat) (r : X) (ha : a < s.vars.length) (hb : b < s.vars.length) (hr : r.vars = [s.vars.length])
    (hfree : ∀ e0 ∈ s.equations.erase ode, defKey e0 ≠ a) :
    (addEq (removeOdeAssign s ode x0).1 ⟨.deriv a b, r⟩ true).equations =
      s.equations.erase ode ++ [⟨.var s.vars.length, ode.rhs⟩, ⟨.deriv a b, r⟩] ∧
    (addEq (removeOdeAssign s ode x0).1 ⟨.deriv a b, r⟩ true).vars.length = s.vars.length + 1 ∧
    Inv0 (addEq (removeOdeAssign s ode x0).1 ⟨.deriv a b, r⟩ true) := by
  obtain ⟨_, r2, r3, r4⟩ := removeOdeAssign_spec h ode x0 ho
  have hsc : EqScoped (removeOdeAssign s ode x0).1.vars.length ⟨.deriv a b, r⟩ := by
    rw [r3, eqScoped_iff]
    simp only [CLhs.vars, hr, List.mem_cons, List.not_mem_nil, or_false]
    exact ⟨fun i hi => by rcases hi with hi | hi <;> omega, fun i hi => by omega⟩
  obtain ⟨a1, a2, a4⟩ := addEq_checked r4 ⟨.deriv a b, r⟩ hsc (fun e0 he0 => by
    rw [r2] at he0; rw [defKey_deriv (e := ⟨.deriv a b, r⟩) rfl]
    rcases List.mem_append.mp he0 with he0 | he0
    · exact hfree e0 he0
    · rw [List.mem_singleton.mp he0, defKey_var rfl]; omega)
  exact ⟨by rw [a1, r2]; simp, by rw [a2, r3], a4⟩

theorem instance_wf {s : CState} (hwf : WF s) (v : Nat) (hv : v < s.vars.length) (u : U) (cf : Rat) (dir : Dir)
    (move : Bool) (hd : dir ≠ .input) : WF (convertInstance s v cf u dir move).1 := by
  obtain ⟨_, c2, _, c4⟩ := convertInstance_spec hwf.inv v hv cf u dir move
  refine ⟨c4, ?_, ?_, ?_⟩ <;> rw [c2]
  · exact cross_instEqs hwf.inv hwf.cross v _ dir hd
  · exact oneFree_of_lhs hwf.oneFree (instEqs_lhs' s v _ dir)
  · exact noSelf_of_lhs hwf.noSelf (instEqs_lhs' s v _ dir)

theorem convertVariable_noop (s : CState) (v : Nat) (u : U) (dir : Dir) (move : Bool) :
    convertVariable s v u 1 dir move = (s, v, []) := by
  simp [convertVariable]

theorem convertVariable_output (s : CState) (v : Nat) (u : U) (cf : Rat) (move : Bool) (hcf : cf ≠ 1) :
    convertVariable s v u cf .output move =
      ((convertInstance s v cf u .output move).1, (convertInstance s v cf u .output move).2, []) := by
  simp [convertVariable, hcf]

theorem convertVariable_ret (s : CState) (v : Nat) (u : U) (cf : Rat) (dir : Dir) (move : Bool) (hcf : cf ≠ 1) :
    (convertVariable s v u cf dir move).2.1 = s.vars.length := by
  cases dir <;> simp only [convertVariable, hcf, if_false] <;> rw [convertInstance_eq]

end Model.CV
