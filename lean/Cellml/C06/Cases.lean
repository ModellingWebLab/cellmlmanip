import Cellml.C06.Sem

/-! C06: the statement of soundness of one `convert_variable` call, and the case OUTPUT (INPUT: `LoopSem.lean`). -/

namespace Model.CV

variable {K : Type} [Field K]

/-- the factor by which the values of `x` are scaled when `v` was converted with factor `c` -/
def factorOf (c : K) (v x : Nat) : K := if x = v then c else 1

/-- Forward half: every point solution `σ` of `s` extends to a point solution `σ⁺` of `s'` that agrees with `σ` on
    everything built from the pre-existing variables, gives the new variable `cf ·` the value of the original, gives
    every `…_orig_deriv` variable the value of the derivative it replaces, and — for an INPUT conversion — gives,
    for every ODE `d x / d t = …` of `s`, the derivative that now stands for `d x / d t` the original value rescaled by
    the state and time factors (other derivative atoms stay, as in python). -/
def FwdOK (I : Interp K) (s s' : CState) (v nv : Nat) (cf : Rat) (rep : Rep) (dir : Dir) : Prop :=
  ∀ σ : Val K, Sat I σ s → ∃ σ' : Val K, Sat I σ' s' ∧ Agree s.vars.length σ σ' ∧
    σ'.v nv = I.lit cf * σ.v v ∧
    (∀ p ∈ rep, σ'.v p.2 = σ.d p.1.1 p.1.2) ∧
    (dir = .input → ∀ e ∈ s.equations, ∀ x t, e.lhs = .deriv x t →
      σ'.d (moved v nv x) (moved v nv t) = factorOf (I.lit cf) v x * σ.d x t / factorOf (I.lit cf) v t)

/-- Backward half: every point solution `σ'` of `s'` restricts to a point solution of `s` (same values of all
    variables; the derivative atoms that were replaced are read from the `…_orig_deriv` variables), with the same
    relations between new and old values. -/
def BwdOK (I : Interp K) (s s' : CState) (v nv : Nat) (cf : Rat) (rep : Rep) (dir : Dir) : Prop :=
  ∀ σ' : Val K, Sat I σ' s' → Sat I (pull rep σ') s ∧
    σ'.v nv = I.lit cf * σ'.v v ∧
    (dir = .input → ∀ e ∈ s.equations, ∀ x t, e.lhs = .deriv x t →
      σ'.d (moved v nv x) (moved v nv t) =
        factorOf (I.lit cf) v x * (pull rep σ').d x t / factorOf (I.lit cf) v t)

/-- `r` is the model's triple: the new state, the variable returned, the replacement map (derivative atom ↦ its
    `…_orig_deriv` variable) -/
structure CallOK (I : Interp K) (s : CState) (v : Nat) (cf : Rat) (dir : Dir) (r : CState × Nat × Rep) : Prop where
  ret : r.2.1 = s.vars.length
  wf : WF r.1
  grows : s.vars.length < r.1.vars.length
  fwd : FwdOK I s r.1 v r.2.1 cf r.2.2 dir
  bwd : BwdOK I s r.1 v r.2.1 cf r.2.2 dir

theorem pull_nil (τ : Val K) : pull [] τ = τ := by
  cases τ; rfl

theorem factorOf_ne {c : K} {v x : Nat} (h : x ≠ v) : factorOf c v x = 1 := by simp [factorOf, h]
theorem factorOf_eq (c : K) (v : Nat) : factorOf c v v = c := by simp [factorOf]

/-- `σ` extended to the converted model's atoms: the new variable `nv` is `c ·` the value of `v`, and a derivative atom
    over `nv` is the one over `v` rescaled. The valuation the forward half of soundness starts from. -/
def Val.rescale (σ : Val K) (v nv : Nat) (c : K) : Val K :=
  ⟨fun i => if i = nv then c * σ.v v else σ.v i,
   fun a b => if a = nv then c * σ.d v b else if b = nv then σ.d a v / c else σ.d a b⟩

theorem agree_rescale (σ : Val K) (v nv : Nat) (c : K) : Agree nv σ (σ.rescale v nv c) :=
  ⟨fun _ hi => if_neg (Nat.ne_of_lt hi),
   fun _ _ hx hy => (if_neg (Nat.ne_of_lt hx)).trans (if_neg (Nat.ne_of_lt hy))⟩

theorem rescale_new (σ : Val K) (v nv : Nat) (c : K) : (σ.rescale v nv c).v nv = c * σ.v v := if_pos rfl

theorem rescale_d (σ : Val K) {v nv x t : Nat} (c : K) (hx : x < nv) (ht : t < nv) (hne : x ≠ t) :
    (σ.rescale v nv c).d (moved v nv x) (moved v nv t) = factorOf c v x * σ.d x t / factorOf c v t := by
  by_cases hxv : x = v
  · subst hxv
    rw [moved_eq, moved_ne (Ne.symm hne), factorOf_eq, factorOf_ne (Ne.symm hne), div_one]
    exact if_pos rfl
  · rw [moved_ne hxv, factorOf_ne hxv, one_mul]
    by_cases htv : t = v
    · subst htv; rw [moved_eq, factorOf_eq]
      exact (if_neg (Nat.ne_of_lt hx)).trans (if_pos rfl)
    · rw [moved_ne htv, factorOf_ne htv, div_one]
      exact (if_neg (Nat.ne_of_lt hx)).trans (if_neg (Nat.ne_of_lt ht))

theorem instEqs_rescale (I : Interp K) {s : CState} (h : Inv0 s) {v : Nat} (hv : v < s.vars.length) (cf : Rat) (uu : U)
    (hcf : I.lit cf ≠ 0) (dir : Dir) {σ : Val K} (hσ : SatL I σ s.equations) :
    SatL I (σ.rescale v s.vars.length (I.lit cf)) (instEqs s v (.lit cf uu) dir) :=
  (instEqs_iff I h v cf uu hcf dir _).mpr
    ⟨(satL_of_agree I h.scopedE (agree_rescale σ v _ _)).mpr hσ,
      by rw [rescale_new, (agree_rescale σ v s.vars.length (I.lit cf)).1 v hv]⟩

/-- the case OUTPUT (`hd` leaves nothing else, `hr` is `convertVariable_output`), stated with a variable direction so
    that the `match`es on the direction stay folded: with `.output` in place the same steps take three times as long -/
theorem case_instance (I : Interp K) {s : CState} (hwf : WF s) (v : Nat) (hv : v < s.vars.length) (u : U) (cf : Rat)
    (hcf : I.lit cf ≠ 0) (dir : Dir) (move : Bool) (hd : dir ≠ .input)
    (hr : convertVariable s v u cf dir move =
      ((convertInstance s v cf u dir move).1, (convertInstance s v cf u dir move).2, [])) :
    CallOK I s v cf dir (convertVariable s v u cf dir move) := by
  obtain ⟨c1, c2, c3, c4⟩ := convertInstance_spec hwf.inv v hv cf u dir move
  rw [hr]
  refine { ret := c1, wf := instance_wf hwf v hv u cf dir move hd, grows := by simp only [c3]; omega, fwd := ?_,
           bwd := ?_ }
  · intro σ hσ
    refine ⟨σ.rescale v s.vars.length (I.lit cf), ?_, agree_rescale σ v _ _, ?_, fun p hp => (by cases hp),
      fun h => absurd h hd⟩
    · show SatL I _ (convertInstance s v cf u dir move).1.equations
      rw [c2]; exact instEqs_rescale I hwf.inv hv cf _ hcf dir hσ
    · simp only [c1, rescale_new]
  · intro σ' hσ'
    have hσ'' : SatL I σ' (instEqs s v (cfQ s v u cf) dir) := by rw [← c2]; exact hσ'
    obtain ⟨b1, b2⟩ := (instEqs_iff I hwf.inv v cf _ hcf dir σ').mp hσ''
    exact ⟨by rw [pull_nil]; exact b1, by simp only [c1]; exact b2, fun h => absurd h hd⟩

theorem case_output (I : Interp K) {s : CState} (hwf : WF s) (v : Nat) (hv : v < s.vars.length) (u : U) (cf : Rat)
    (hcf1 : cf ≠ 1) (hcf : I.lit cf ≠ 0) (move : Bool) :
    CallOK I s v cf .output (convertVariable s v u cf .output move) :=
  case_instance I hwf v hv u cf hcf .output move (fun h => by cases h) (convertVariable_output s v u cf move hcf1)

end Model.CV
