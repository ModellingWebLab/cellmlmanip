import Cellml.C06.LoopSem
import Cellml.C06.Meta

/-! C06: unit consistency of the equations (`units.evaluate_units` of both sides equivalent), with a unit as a scale
    and a vector of dimension exponents, is preserved by `convert_variable`. -/

namespace Model.CV

theorem Dim.add_sub_cancel (a b : Dim) : a.add (b.sub a) = b := by
  cases a; cases b; simp only [Dim.add, Dim.sub, Dim.mk.injEq]; omega

theorem Dim.sub_sub_sub (a b c : Dim) : (a.sub b).sub (c.sub b) = a.sub c := by
  cases a; cases b; cases c; simp only [Dim.sub, Dim.mk.injEq]; omega

theorem Dim.sub_add_sub (a b c : Dim) : (a.sub b).add (c.sub a) = c.sub b := by
  cases a; cases b; cases c; simp only [Dim.add, Dim.sub, Dim.mk.injEq]; omega

theorem Dim.sub_sub_self (a b : Dim) : a.sub (a.sub b) = b := by
  cases a; cases b; simp only [Dim.sub, Dim.mk.injEq]; omega

theorem U.mul_div_cancel (v u : U) (hv : v.scale ≠ 0) : v.mul (u.div v) = u := by
  cases v with | mk vs vd => cases u with | mk us ud =>
  simp only [U.mul, U.div, U.mk.injEq, Dim.add_sub_cancel, and_true]
  simp only at hv; field_simp

theorem U.div_div_self (u v : U) (hu : u.scale ≠ 0) : u.div (u.div v) = v := by
  cases v with | mk vs vd => cases u with | mk us ud =>
  simp only [U.div, U.mk.injEq, Dim.sub_sub_self, and_true]
  simp only at hu
  by_cases hv : vs = 0
  · simp [hv]
  · field_simp

/-- `w · cf` has the units of `d nv / d t` (`x`, `u`: the units of `v`, `nv`; `x / t`: of `w`) -/
theorem U.state_law (x t u : U) (hx : x.scale ≠ 0) : (x.div t).mul (u.div x) = u.div t := by
  cases x with | mk xs xd => cases t with | mk ts td => cases u with | mk us ud =>
  simp only [U.mul, U.div, U.mk.injEq, Dim.sub_add_sub, and_true]
  simp only at hx; field_simp

/-- `w / cf` has the units of `d x / d nv` (`t`, `u`: the units of `v`, `nv`; `x / t`: of `w`) -/
theorem U.free_law (x t u : U) (ht : t.scale ≠ 0) : (x.div t).div (u.div t) = x.div u := by
  cases x with | mk xs xd => cases t with | mk ts td => cases u with | mk us ud =>
  simp only [U.div, U.mk.injEq, Dim.sub_sub_sub, and_true]
  simp only at ht
  by_cases hu : us = 0
  · simp [hu]
  · field_simp

def Consistent (J : UI) (s : CState) (e : CEqn) : Prop := unitOf J s e.rhs = some (lhsUnit s e.lhs)

def UnitsOK (J : UI) (s : CState) : Prop := ∀ e ∈ s.equations, Consistent J s e

theorem unitOf_congr (J : UI) (s s' : CState) (e : X) (h : ∀ i ∈ e.vars, unitOfV s' i = unitOfV s i) :
    unitOf J s' e = unitOf J s e := by
  induction e with
  | var v => simp only [unitOf]; rw [h v (by simp [X.vars])]
  | deriv x t => simp only [unitOf]; rw [h x (by simp [X.vars]), h t (by simp [X.vars])]
  | lit q u => rfl
  | add a b iha ihb | sub a b iha ihb | mul a b iha ihb | div a b iha ihb | fn2 f a b iha ihb =>
    simp only [X.vars, List.mem_append] at h
    simp only [unitOf, iha (fun i hi => h i (Or.inl hi)), ihb (fun i hi => h i (Or.inr hi))]
  | fn1 f a iha =>
    simp only [X.vars] at h
    simp only [unitOf, iha h]

theorem consistent_congr (J : UI) {s s' : CState} {n : Nat} {e : CEqn} (hs : EqScoped n e)
    (h : ∀ i, i < n → unitOfV s' i = unitOfV s i) : Consistent J s' e ↔ Consistent J s e := by
  obtain ⟨hl, hr⟩ := (eqScoped_iff n e).mp hs
  unfold Consistent
  rw [unitOf_congr J s s' e.rhs (fun i hi => h i (hr i hi))]
  have : lhsUnit s' e.lhs = lhsUnit s e.lhs := by
    cases hle : e.lhs with
    | var v => simp only [lhsUnit]; exact h v (hl v (by simp [hle, CLhs.vars]))
    | deriv x t =>
      simp only [lhsUnit]
      rw [h x (hl x (by simp [hle, CLhs.vars])), h t (hl t (by simp [hle, CLhs.vars]))]
  rw [this]

theorem unitOf_subst (J : UI) (s : CState) (rep : Rep)
    (hr : ∀ k w, rep.lookup k = some w → unitOfV s w = (unitOfV s k.1).div (unitOfV s k.2)) (e : X) :
    unitOf J s (e.subst rep) = unitOf J s e := by
  induction e with
  | var v => rfl
  | deriv x t =>
    simp only [X.subst]
    cases hl : rep.lookup (x, t) with
    | none => rfl
    | some w => simp only [unitOf, hr (x, t) w hl]
  | lit q u => rfl
  | add a b iha ihb | sub a b iha ihb | mul a b iha ihb | div a b iha ihb | fn2 f a b iha ihb =>
    simp only [X.subst, unitOf, iha, ihb]
  | fn1 f a iha => simp only [X.subst, unitOf, iha]

theorem consistent_substEq (J : UI) (s : CState) (rep : Rep)
    (hr : ∀ k w, rep.lookup k = some w → unitOfV s w = (unitOfV s k.1).div (unitOfV s k.2)) {e : CEqn}
    (hn : NoLhs rep e) (hc : Consistent J s e) : Consistent J s (substEq rep e) := by
  unfold Consistent substEq at *
  simp only [unitOf_subst J s rep hr, substLhs_of_noLhs hn]; exact hc

theorem unitOfV_eq_of_getElem? {s s' : CState} {i : Nat} (f : CVar → CVar) (hf : ∀ y, (f y).unit = y.unit)
    (h : s'.vars[i]? = (s.vars[i]?).map f) : unitOfV s' i = unitOfV s i := by
  unfold unitOfV; rw [h]; cases s.vars[i]? <;> simp [hf]

theorem units_convertInstance_vars (s : CState) (v : Nat) (hv : v < s.vars.length) (cf : Rat) (u : U) (dir : Dir)
    (move : Bool) :
    (∀ i, i < s.vars.length → unitOfV (convertInstance s v cf u dir move).1 i = unitOfV s i) ∧
    unitOfV (convertInstance s v cf u dir move).1 s.vars.length = u := by
  constructor
  · intro i hi
    unfold unitOfV
    rw [convertInstance_getElem? s v hv, if_neg (by omega)]
    by_cases h : i = v
    · subst h; rw [if_pos rfl]; cases s.vars[i]? <;> rfl
    · rw [if_neg h]
  · unfold unitOfV; rw [convertInstance_getElem? s v hv, if_pos rfl]; rfl

theorem unitOf_cfQ (J : UI) (s' s : CState) (v : Nat) (u : U) (cf : Rat) :
    unitOf J s' (cfQ s v u cf) = some (u.div (unitOfV s v)) := rfl

theorem units_instance (J : UI) {s : CState} (h : Inv0 s) (hu : UnitsOK J s) (v : Nat) (hv : v < s.vars.length)
    (cf : Rat) (u : U) (dir : Dir) (move : Bool) (hvs : (unitOfV s v).scale ≠ 0) (hus : u.scale ≠ 0) :
    UnitsOK J (convertInstance s v cf u dir move).1 := by
  obtain ⟨_, c2, c3, _⟩ := convertInstance_spec h v hv cf u dir move
  obtain ⟨w1, w2⟩ := units_convertInstance_vars s v hv cf u dir move
  have hold : ∀ e ∈ s.equations, Consistent J (convertInstance s v cf u dir move).1 e :=
    fun e he => (consistent_congr J (h.scopedE e he) w1).mpr (hu e he)
  have hvu := w1 v hv
  intro e he
  rw [c2] at he
  rcases mem_instEqs he with he | ⟨_, rfl⟩ | ⟨_, rfl⟩ | ⟨_, oe, hlk, rfl⟩
  · exact hold e he
  · simp only [Consistent, unitOf, unitOf_cfQ, lhsUnit, hvu, w2, U.mul_div_cancel _ _ hvs]
  · simp only [Consistent, unitOf, unitOf_cfQ, lhsUnit, hvu, w2, U.div_div_self _ _ hus]
  · obtain ⟨hoe, hoel⟩ := (h.lookup_varDef v oe).mp hlk
    have hc := hold oe hoe
    simp only [Consistent, hoel, lhsUnit, hvu] at hc
    simp only [Consistent, unitOf, hc, unitOf_cfQ, lhsUnit, w2, U.mul_div_cancel _ _ hvs]

theorem units_replaceRefs (J : UI) {s : CState} {rep : Rep} (h : Inv0 s) (hc : Cross s.equations)
    (hn : ∀ e ∈ s.equations, NoLhs rep e) (hr : ∀ p ∈ rep, p.2 < s.vars.length) (hu : UnitsOK J s)
    (hru : ∀ k w, rep.lookup k = some w → unitOfV s w = (unitOfV s k.1).div (unitOfV s k.2)) :
    UnitsOK J (replaceRefs s rep) := by
  obtain ⟨_, _, hv, hd⟩ := replaceRefs_spec h hc hn hr
  have hu' : ∀ i, unitOfV (replaceRefs s rep) i = unitOfV s i := fun i => by unfold unitOfV; rw [hv]
  intro e' he'
  have hsame : Consistent J (replaceRefs s rep) e' ↔ Consistent J s e' := by
    unfold Consistent
    rw [unitOf_congr J s _ e'.rhs (fun i _ => hu' i)]
    cases e'.lhs <;> simp only [lhsUnit, hu']
  rw [hsame]
  rcases (hd e').mp he' with ⟨h1, _⟩ | ⟨e, h2, _, rfl⟩
  · exact hu e' h1
  · exact consistent_substEq J s rep hru (hn e h2) (hu e h2)

theorem odeStep_vars (v nv : Nat) (cfq : X) (st : CState) (rep : Rep) (ode : CEqn) (x t : Nat)
    (hl : ode.lhs = .deriv x t) :
    (odeStep v nv cfq (st, rep) ode).1.vars =
      st.vars ++ [⟨freshName st (nameOfV st x ++ "_orig_deriv"), lhsUnit st ode.lhs, none, none⟩] := by
  rw [odeStep_eq v nv cfq st rep ode x t hl]
  dsimp only
  exact (addEq_vars _ _ _).1.trans (removeOdeAssign_vars st ode x)

/-- `UU`: the units of the original variables (no turn changes them) -/
theorem ode_loop_units (J : UI) (UU : Nat → U) (n0 v t0 : Nat) (cf : Rat) (u : U) (hUv : (UU v).scale ≠ 0) :
    ∀ (L : List CEqn) (st : CState) (rep : Rep) (lp : CState × Rep), OdeInv v n0 t0 st rep L → UnitsOK J st →
    (∀ i, i < n0 → unitOfV st i = UU i) → unitOfV st n0 = u →
    (∀ k w, rep.lookup k = some w → k.1 < n0 ∧ k.2 < n0 ∧ unitOfV st w = (UU k.1).div (UU k.2)) →
    L.foldl (odeStep v n0 (.lit cf (u.div (UU v)))) (st, rep) = lp →
    OdeInv v n0 t0 lp.1 lp.2 [] ∧ UnitsOK J lp.1 ∧ (∀ i, i < n0 → unitOfV lp.1 i = UU i) ∧
    (∀ k w, lp.2.lookup k = some w → k.1 < n0 ∧ k.2 < n0 ∧ unitOfV lp.1 w = (UU k.1).div (UU k.2)) := by
  intro L
  induction L with
  | nil => rintro st rep _ Jl hu hA _ hC rfl; exact ⟨Jl, hu, hA, hC⟩
  | cons ode L ih =>
    intro st rep lp Jl hu hA hB hC hlp
    obtain ⟨ho, x, hl, hxt, hxt0, hxnv⟩ := Jl.inL ode (List.mem_cons_self ..)
    obtain ⟨st1, rep1, hacc, s1, s2, s3, J1⟩ := odeStep_spec (.lit cf (u.div (UU v))) rfl Jl x hl
    have hvars := odeStep_vars v n0 (.lit cf (u.div (UU v))) st rep ode x t0 hl
    rw [hacc] at hvars
    rw [List.foldl_cons, hacc] at hlp
    have hn0 : n0 < st.vars.length := Jl.nvlt
    have ht0 := Jl.t0lt
    have hsame : ∀ i, i < st.vars.length → unitOfV st1 i = unitOfV st i := fun i hi => by
      unfold unitOfV; rw [hvars, List.getElem?_append_left hi]
    have hA1 : ∀ i, i < n0 → unitOfV st1 i = UU i := fun i hi => (hsame i (by omega)).trans (hA i hi)
    have hB1 : unitOfV st1 n0 = u := (hsame n0 hn0).trans hB
    have hw1 : unitOfV st1 st.vars.length = (UU x).div (UU t0) := by
      unfold unitOfV; rw [hvars]; simp [hl, lhsUnit, ← hA x hxnv, ← hA t0 ht0, unitOfV]
    refine ih st1 rep1 lp J1 ?eqs hA1 hB1 ?map hlp
    case map =>
      intro k w hk
      rw [s1, lookup_insertKey] at hk
      by_cases hkk : k = (x, t0)
      · rw [if_pos hkk] at hk; cases hk; rw [hkk]; exact ⟨hxnv, ht0, hw1⟩
      · rw [if_neg hkk] at hk
        obtain ⟨h1, h2, h3⟩ := hC k w hk
        have hwlt := (Jl.repKeys _ (List.mem_of_lookup _ _ _ hk)).2.2.1
        exact ⟨h1, h2, (hsame w hwlt).trans h3⟩
    case eqs =>
      show ∀ e ∈ st1.equations, Consistent J st1 e
      rw [s2]
      refine forall_mem_erase_append (fun e he => ?_) ?_ ?_
      · have hm := List.mem_of_mem_erase he
        exact (consistent_congr J (Jl.inv.scopedE e hm) hsame).mpr (hu e hm)
      · have hc := (consistent_congr J (Jl.inv.scopedE ode ho) hsame).mpr (hu ode ho)
        simp only [Consistent, hl, lhsUnit, hsame x (by omega), hsame t0 (by omega), hA x hxnv, hA t0 ht0] at hc
        simp only [Consistent, hc, lhsUnit, hw1]
      · -- `v` is `x` (the new ODE is for `nv`) or `t0` (it is with respect to `nv`)
        by_cases hx : x = v
        · subst hx
          simp only [Consistent, newRhs, if_true, unitOf, lhsUnit, moved_eq, moved_ne (Ne.symm hxt0), hw1, hB1,
            hA1 t0 ht0, U.state_law _ _ _ hUv]
        · have ht : t0 = v := hxt.resolve_left hx
          subst ht
          simp only [Consistent, newRhs, if_neg hx, unitOf, lhsUnit, moved_eq, moved_ne hx, hw1, hB1, hA1 x hxnv,
            U.free_law _ _ _ hUv]

theorem units_input (J : UI) {s : CState} (hwf : WF s) (hu : UnitsOK J s) (v : Nat) (hv : v < s.vars.length) (u : U)
    (cf : Rat) (hcf1 : cf ≠ 1) (move : Bool) (hvs : (unitOfV s v).scale ≠ 0) (hus : u.scale ≠ 0) :
    UnitsOK J (convertVariable s v u cf .input move).1 := by
  obtain ⟨t0, L, lp, hlp, hr, Jl, _⟩ := input_shape hwf v hv u cf hcf1 move
  obtain ⟨w1, w2⟩ := units_convertInstance_vars s v hv cf u .input move
  have hU1 := units_instance J hwf.inv hu v hv cf u .input move hvs hus
  rw [hr]
  obtain ⟨i1, i2, i3, i4⟩ := ode_loop_units J (unitOfV s) s.vars.length v t0 cf u hvs _ _ [] lp Jl hU1 w1 w2
    (fun k w hk => by cases hk) hlp
  apply units_replaceRefs J i1.inv i1.cross_nil i1.noLhs (fun p hp => (i1.repKeys p hp).2.2.1) i2
  intro k w hk
  obtain ⟨h1, h2, h3⟩ := i4 k w hk
  rw [h3, i3 k.1 h1, i3 k.2 h2]

theorem units_convertVariable (J : UI) {s : CState} (hwf : WF s) (hu : UnitsOK J s) (v : Nat) (hv : v < s.vars.length)
    (u : U) (cf : Rat) (dir : Dir) (move : Bool) (hvs : (unitOfV s v).scale ≠ 0) (hus : u.scale ≠ 0) :
    UnitsOK J (convertVariable s v u cf dir move).1 := by
  by_cases hcf1 : cf = 1
  · rw [hcf1, convertVariable_noop]; exact hu
  · cases dir with
    | output =>
      rw [convertVariable_output s v u cf move hcf1]
      dsimp only
      exact units_instance J hwf.inv hu v hv cf u .output move hvs hus
    | input => exact units_input J hwf hu v hv u cf hcf1 move hvs hus

end Model.CV
