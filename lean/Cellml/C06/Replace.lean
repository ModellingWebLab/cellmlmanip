import Cellml.C06.Spec

/-! `_replace_references_to_derivatives` on a state that satisfies the invariant: the equations that mention no replaced
    derivative stay, the others are rewritten and moved to the end. Core Lean only. -/

namespace Model.CV

/-- python's `equation.xreplace` rewrites the LEFT side too; the model's `substEq` does not: by the time
    `_replace_references_to_derivatives` runs, every ODE of a replaced derivative has been removed (`OdeInv.noLhs`) -/
def NoLhs (rep : Rep) (e : CEqn) : Prop := ∀ x t, e.lhs = .deriv x t → hasKey (x, t) rep = false

theorem substLhs_of_noLhs {rep : Rep} {e : CEqn} (h : NoLhs rep e) : substLhs rep e.lhs = e.lhs := by
  cases hl : e.lhs with
  | var v => rfl
  | deriv x t =>
    have := (lookup_eq_none_iff_hasKey _ _).mpr (h x t hl)
    simp only [substLhs, this]

theorem keyKind_substEq {rep : Rep} {e : CEqn} (h : NoLhs rep e) : keyKind (substEq rep e) = keyKind e := by
  unfold keyKind substEq; simp only [substLhs_of_noLhs h]

theorem derivs_subst (rep : Rep) (e : X) : ∀ p ∈ (e.subst rep).derivs, hasKey p rep = false := by
  induction e with
  | var v => simp [X.subst, X.derivs]
  | deriv x t =>
    intro p hp
    simp only [X.subst] at hp
    cases hl : rep.lookup (x, t) with
    | some w => rw [hl] at hp; simp [X.derivs] at hp
    | none =>
      rw [hl] at hp; simp only [X.derivs, List.mem_cons, List.not_mem_nil, or_false] at hp
      rw [hp]
      exact (lookup_eq_none_iff_hasKey _ _).mp hl
  | lit q u => simp [X.subst, X.derivs]
  | add a b iha ihb | sub a b iha ihb | mul a b iha ihb | div a b iha ihb | fn2 f a b iha ihb =>
    intro p hp
    simp only [X.subst, X.derivs, List.mem_append] at hp
    exact hp.elim (iha p) (ihb p)
  | fn1 f a iha => simpa [X.subst, X.derivs] using iha

theorem not_mentions_substEq (rep : Rep) (e : CEqn) : mentions rep (substEq rep e) = false := by
  unfold mentions substEq
  rw [List.any_eq_false]
  intro p hp
  simp only [derivs_subst rep e.rhs p hp]
  decide

theorem vars_subst (rep : Rep) (e : X) : ∀ i ∈ (e.subst rep).vars, i ∈ e.vars ∨ ∃ p ∈ rep, p.2 = i := by
  induction e with
  | var v => intro i hi; exact Or.inl hi
  | deriv x t =>
    intro i hi
    simp only [X.subst] at hi
    cases hl : rep.lookup (x, t) with
    | some w =>
      rw [hl] at hi; simp only [X.vars, List.mem_cons, List.not_mem_nil, or_false] at hi
      exact Or.inr ⟨((x, t), w), List.mem_of_lookup _ _ _ hl, hi.symm⟩
    | none => rw [hl] at hi; exact Or.inl hi
  | lit q u => intro i hi; exact Or.inl hi
  | add a b iha ihb | sub a b iha ihb | mul a b iha ihb | div a b iha ihb | fn2 f a b iha ihb =>
    intro i hi
    simp only [X.subst, X.vars, List.mem_append] at hi ⊢
    rcases hi with hi | hi
    · exact (iha i hi).elim (fun h => Or.inl (Or.inl h)) Or.inr
    · exact (ihb i hi).elim (fun h => Or.inl (Or.inr h)) Or.inr
  | fn1 f a iha => simpa [X.subst, X.vars] using iha

theorem eqScoped_substEq {n : Nat} {rep : Rep} {e : CEqn} (hs : EqScoped n e) (hn : NoLhs rep e)
    (hr : ∀ p ∈ rep, p.2 < n) : EqScoped n (substEq rep e) := by
  rw [eqScoped_iff] at hs ⊢
  refine ⟨by simpa only [substEq, substLhs_of_noLhs hn] using hs.1, ?_⟩
  intro i hi
  rcases vars_subst rep e.rhs i hi with h | ⟨p, hp, rfl⟩
  · exact hs.2 i h
  · exact hr p hp

/-- one turn of `_replace_references_to_derivatives` -/
def replaceStep (rep : Rep) (st : CState) (e : CEqn) : CState :=
  if mentions rep e then addEq (removeEq st e) (substEq rep e) true else st

theorem replaceRefs_eq (s : CState) (rep : Rep) : replaceRefs s rep = s.equations.foldl (replaceStep rep) s := rfl

theorem defKey_absent_after_erase {s : CState} (h : Inv0 s) (hc : Cross s.equations) (e : CEqn)
    (he : e ∈ s.equations) : ∀ e0 ∈ s.equations.erase e, defKey e0 ≠ defKey e := by
  intro e0 he0 hk
  obtain ⟨hne, hm⟩ := h.nodup.mem_erase_iff.mp he0
  exact hne (List.inj_of_nodup_map defKey _ (nodup_defKey h.keys hc) _ hm _ he hk)

theorem cross_replace {E : List CEqn} (hc : Cross E) (e e' : CEqn) (hl : e'.lhs = e.lhs) (he : e ∈ E) :
    Cross (E.erase e ++ [e']) := by
  have hm : ∀ a ∈ E.erase e ++ [e'], ∃ b ∈ E, a.lhs = b.lhs := by
    intro a ha
    rcases List.mem_append.mp ha with ha | ha
    · exact ⟨a, List.mem_of_mem_erase ha, rfl⟩
    · simp only [List.mem_cons, List.not_mem_nil, or_false] at ha
      exact ⟨e, he, by rw [ha, hl]⟩
  intro e₁ h₁ e₂ h₂ v x t hv hx
  obtain ⟨b₁, hb₁, hl₁⟩ := hm e₁ h₁
  obtain ⟨b₂, hb₂, hl₂⟩ := hm e₂ h₂
  exact hc b₁ hb₁ b₂ hb₂ v x t (hl₁ ▸ hv) (hl₂ ▸ hx)

theorem replaceStep_spec {st : CState} {rep : Rep} (h : Inv0 st) (hc : Cross st.equations) (e : CEqn)
    (he : e ∈ st.equations) (hm : mentions rep e = true) (hn : NoLhs rep e) (hr : ∀ p ∈ rep, p.2 < st.vars.length) :
    (replaceStep rep st e).equations = st.equations.erase e ++ [substEq rep e] ∧
    (replaceStep rep st e).vars = st.vars ∧ Inv0 (replaceStep rep st e) ∧ Cross (replaceStep rep st e).equations := by
  unfold replaceStep; rw [if_pos hm]
  obtain ⟨r1, r2, _, r4⟩ := removeEq_ok h e he
  have hkk : keyKind (substEq rep e) = keyKind e := keyKind_substEq hn
  have hsc : EqScoped (removeEq st e).vars.length (substEq rep e) := by
    rw [r2]; exact eqScoped_substEq (h.scopedE e he) hn hr
  obtain ⟨a1, a2, a4⟩ := addEq_checked r4 (substEq rep e) hsc (fun e0 he0 => by
    rw [r1] at he0
    rw [defKey_congr hkk]; exact defKey_absent_after_erase h hc e he e0 he0)
  refine ⟨by rw [a1, r1], by rw [a2, r2], a4, ?_⟩
  rw [a1, r1]
  exact cross_replace hc e (substEq rep e) (by simp only [substEq, substLhs_of_noLhs hn]) he

theorem noLhs_substEq {rep : Rep} {e : CEqn} (hn : NoLhs rep e) : NoLhs rep (substEq rep e) := by
  intro x t hl
  have : (substEq rep e).lhs = e.lhs := by simp only [substEq, substLhs_of_noLhs hn]
  exact hn x t (this ▸ hl)

/-- python walks a COPY of the equation list: `L` is what is left of the copy, `st.equations` the list as it is by then -/
theorem replace_fold (rep : Rep) : ∀ (L : List CEqn) (st : CState), Inv0 st → Cross st.equations → L.Nodup →
    (∀ e ∈ L, e ∈ st.equations) → (∀ e ∈ st.equations, NoLhs rep e) → (∀ p ∈ rep, p.2 < st.vars.length) →
    Inv0 (L.foldl (replaceStep rep) st) ∧ Cross (L.foldl (replaceStep rep) st).equations ∧
    (L.foldl (replaceStep rep) st).vars = st.vars ∧
    (L.foldl (replaceStep rep) st).equations =
      st.equations.filter (fun a => !(decide (a ∈ L) && mentions rep a)) ++
        (L.filter (mentions rep)).map (substEq rep) := by
  intro L
  induction L with
  | nil => intro st h hc _ _ _ _; exact ⟨h, hc, rfl, by rw [List.filter_eq_self.mpr (fun a _ => by simp)]; simp⟩
  | cons e L ih =>
    intro st h hc hnd hsub hn hr
    obtain ⟨heL, hndL⟩ := List.nodup_cons.mp hnd
    have he : e ∈ st.equations := hsub e (List.mem_cons_self ..)
    -- the equations that stay: `e` goes (if it is rewritten), the test on the others is the one for `L`
    have hkeep : ∀ a, (!(decide (a ∈ e :: L) && mentions rep a)) =
        (!(decide (a ∈ L) && mentions rep a) && !(decide (a = e) && mentions rep e)) := by
      intro a
      by_cases hae : a = e
      · subst hae; simp [heL]
      · simp [hae]
    simp only [List.foldl_cons, hkeep]
    cases hm : mentions rep e with
    | false =>
      have hst : replaceStep rep st e = st := by unfold replaceStep; rw [hm]; rfl
      rw [hst, List.filter_cons_of_neg (by simp [hm])]
      simpa using ih st h hc hndL (fun e2 h2 => hsub e2 (List.mem_cons_of_mem _ h2)) hn hr
    | true =>
      obtain ⟨r1, r2, r3, r4⟩ := replaceStep_spec h hc e he hm (hn e he) hr
      have hsub1 : ∀ e2 ∈ L, e2 ∈ (replaceStep rep st e).equations := by
        intro e2 h2; rw [r1]; apply List.mem_append_left
        have hne : e2 ≠ e := fun hh => heL (hh ▸ h2)
        exact (List.mem_erase_of_ne hne).mpr (hsub e2 (List.mem_cons_of_mem _ h2))
      have hn1 : ∀ e2 ∈ (replaceStep rep st e).equations, NoLhs rep e2 := by
        rw [r1]; intro e2 h2
        rcases List.mem_append.mp h2 with h2 | h2
        · exact hn e2 (List.mem_of_mem_erase h2)
        · simp only [List.mem_cons, List.not_mem_nil, or_false] at h2
          rw [h2]; exact noLhs_substEq (hn e he)
      obtain ⟨a, b, c, d⟩ := ih (replaceStep rep st e) r3 r4 hndL hsub1 hn1 (by rw [r2]; exact hr)
      refine ⟨a, b, c.trans r2, ?_⟩
      -- no duplicates, so erasing `e` is filtering by `≠ e`, and the two filters merge into the test of `hkeep`
      rw [d, r1, List.filter_append, List.filter_cons_of_pos hm, List.map_cons, h.nodup.erase_eq_filter,
        List.filter_filter]
      simp only [not_mentions_substEq, Bool.and_false, Bool.not_false, List.filter_cons_of_pos, List.filter_nil,
        List.append_assoc, List.singleton_append, bne]
      congr 1
      apply List.filter_congr
      intro x _
      by_cases hx : x = e <;> simp [hx]

theorem replaceRefs_spec {s : CState} {rep : Rep} (h : Inv0 s) (hc : Cross s.equations)
    (hn : ∀ e ∈ s.equations, NoLhs rep e) (hr : ∀ p ∈ rep, p.2 < s.vars.length) :
    Inv0 (replaceRefs s rep) ∧ Cross (replaceRefs s rep).equations ∧ (replaceRefs s rep).vars = s.vars ∧
    ∀ e', e' ∈ (replaceRefs s rep).equations ↔
      (e' ∈ s.equations ∧ mentions rep e' = false) ∨ ∃ e ∈ s.equations, mentions rep e = true ∧ substEq rep e = e' := by
  rw [replaceRefs_eq]
  obtain ⟨a, b, c, d⟩ := replace_fold rep s.equations s h hc h.nodup (fun _ he => he) hn hr
  refine ⟨a, b, c, fun e' => ?_⟩
  rw [d]
  simp only [List.mem_append, List.mem_filter, List.mem_map, Bool.not_eq_true', Bool.and_eq_false_imp,
    decide_eq_true_eq, and_assoc]
  constructor
  · rintro (⟨h1, h2⟩ | h2)
    · exact Or.inl ⟨h1, h2 h1⟩
    · exact Or.inr h2
  · rintro (⟨h1, h2⟩ | h2)
    · exact Or.inl ⟨h1, fun _ => h2⟩
    · exact Or.inr h2

theorem replaceRefs_lhs {s : CState} {rep : Rep} (h : Inv0 s) (hc : Cross s.equations)
    (hn : ∀ e ∈ s.equations, NoLhs rep e) (hr : ∀ p ∈ rep, p.2 < s.vars.length) :
    ∀ e' ∈ (replaceRefs s rep).equations, ∃ e ∈ s.equations, e'.lhs = e.lhs := by
  intro e' he'
  rcases ((replaceRefs_spec h hc hn hr).2.2.2 e').mp he' with ⟨h1, _⟩ | ⟨e, h2, _, rfl⟩
  · exact ⟨e', h1, rfl⟩
  · exact ⟨e, h2, by simp only [substEq, substLhs_of_noLhs (hn e h2)]⟩

theorem replaceRefs_nil (s : CState) : replaceRefs s [] = s := by
  unfold replaceRefs
  exact List.foldl_inv _ (fun st => st = s) _ _ rfl fun st e _ h => by subst h; simp [mentions, hasKey]

theorem replacePhase_eq (acc : CState × Rep) : replacePhase acc = replaceRefs acc.1 acc.2 := by
  unfold replacePhase
  cases h : acc.2 with
  | nil => simp [replaceRefs_nil]
  | cons _ _ => rfl

end Model.CV
