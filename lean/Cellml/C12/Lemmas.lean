import Mathlib.Tactic.Ring
import Mathlib.Tactic.FieldSimp
import Mathlib.Tactic.Linarith
import Mathlib.Algebra.Order.Field.Basic
import Cellml.C12.Piecewise
import Cellml.C12.Fix
import Cellml.C12.Traverse
import Cellml.Basic.ListLemmas
-- from `variable {K} …` to the end of the file `K` is an ordered field; the lemmas there that use the field alone would each be reported
set_option linter.unusedSectionVars false

/-! # C12 — the semantics of expressions and models and the lemmas of the property theorems: proof side only, not
    linked into the driver. -/

namespace C12
open C12.Expr

def lhss (l : List Eqn) : List String := l.map (·.lhs)

theorem removeEq_of_notMem (l : List Eqn) (n : String) (h : n ∉ lhss l) : removeEq l n = l := by
  unfold removeEq
  apply List.filter_eq_self.mpr
  intro e he
  have : e.lhs ≠ n := fun hh => h (by rw [← hh]; exact List.mem_map.mpr ⟨e, he, rfl⟩)
  simpa using this

/-- left-hand sides identify equations: on a model without duplicates `removeEq` is `List.erase` on the names -/
theorem perm_remove_add (l : List Eqn) (n : String) (r : Expr)
    (hn : (lhss l).Nodup) (hm : n ∈ lhss l) : (lhss (removeEq l n ++ [⟨n, r⟩])).Perm (lhss l) := by
  have h : lhss (removeEq l n ++ [⟨n, r⟩]) = (lhss l).erase n ++ [n] := by
    rw [hn.erase_eq_filter]; simp [lhss, removeEq, List.filter_map, Function.comp_def]
  rw [h]
  exact (List.perm_append_singleton _ _).trans (List.perm_cons_erase hm).symm

/-- the three outcomes of `step`: the equation is skipped, replaced, or recorded in the environment -/
theorem step_cases (fix : Expr → Option Expr) (excl : List String) (st : TState) (e : Eqn) :
    ((e.rhs.isPiecewise || excl.contains e.lhs) = true ∧ step fix excl st e = st) ∨
    ((e.rhs.isPiecewise || excl.contains e.lhs) = false ∧ ∃ new, fix (subst st.env e.rhs) = some new ∧
      step fix excl st e = ⟨removeEq st.eqs e.lhs ++ [⟨e.lhs, new⟩], st.env⟩) ∨
    ((e.rhs.isPiecewise || excl.contains e.lhs) = false ∧ fix (subst st.env e.rhs) = none ∧
      step fix excl st e = ⟨st.eqs, (e.lhs, subst st.env e.rhs) :: st.env⟩) := by
  unfold step
  dsimp only
  cases e.rhs.isPiecewise || excl.contains e.lhs
  · right
    cases fix (subst st.env e.rhs)
    · exact .inr ⟨rfl, rfl, rfl⟩
    · exact .inl ⟨rfl, _, rfl, rfl⟩
  · exact .inl ⟨rfl, rfl⟩

theorem step_perm (fix : Expr → Option Expr) (excl : List String) (st : TState) (e : Eqn)
    (hn : (lhss st.eqs).Nodup) (hm : e.lhs ∈ lhss st.eqs) :
    (lhss (step fix excl st e).eqs).Perm (lhss st.eqs) := by
  rcases step_cases fix excl st e with ⟨_, h⟩ | ⟨_, new, _, h⟩ | ⟨_, _, h⟩ <;> rw [h]
  -- skipped or recorded: the equations are as they were
  exact perm_remove_add _ _ _ hn hm

theorem foldl_perm (fix : Expr → Option Expr) (excl : List String) (order : List Eqn) (st : TState)
    (hn : (lhss st.eqs).Nodup) (hm : ∀ e ∈ order, e.lhs ∈ lhss st.eqs) :
    (lhss (order.foldl (step fix excl) st).eqs).Perm (lhss st.eqs) := by
  refine List.foldl_inv _ (fun st' => (lhss st'.eqs).Perm (lhss st.eqs)) order st (List.Perm.refl _) fun st' e he hp => ?_
  exact (step_perm fix excl st' e (hp.nodup_iff.mpr hn) (hp.mem_iff.mpr (hm e he))).trans hp

theorem mem_removeEq (l : List Eqn) (n : String) (e : Eqn) : e ∈ removeEq l n ↔ e ∈ l ∧ e.lhs ≠ n := by
  simp [removeEq]

theorem step_keeps (fix : Expr → Option Expr) (excl : List String) (st : TState) (e e0 : Eqn)
    (h0 : e0 ∈ st.eqs)
    (h : e.lhs ≠ e0.lhs ∨ e.rhs.isPiecewise = true ∨ excl.contains e.lhs = true ∨ fix (subst st.env e.rhs) = none) :
    e0 ∈ (step fix excl st e).eqs := by
  rcases step_cases fix excl st e with ⟨_, hst⟩ | ⟨hs, new, hf, hst⟩ | ⟨_, _, hst⟩ <;> rw [hst]
  · exact h0
  · rcases h with h | h | h | h
    · exact List.mem_append_left _ ((mem_removeEq _ _ _).mpr ⟨h0, fun hh => h hh.symm⟩)
    · simp [h] at hs
    · rw [h, Bool.or_true] at hs; cases hs
    · rw [h] at hf; cases hf
  · exact h0

theorem sameSp_none (rs : List Res) (h : ∀ r ∈ rs, r.win = none) : sameSp rs = none := by
  match rs with
  | [] => rfl
  | [_] => rfl
  | r :: r' :: rs => simp [sameSp, h r (by simp)]

variable {K : Type} [Field K] [LinearOrder K] [IsStrictOrderedRing K]

/-! ## `lo`/`hi` and `min2`/`max2` are `min`/`max`; the fix range -/

theorem lo_eq_min (a b : K) : lo a b = min a b := by
  unfold lo; split
  · rename_i h; exact (min_eq_right (le_of_lt h)).symm
  · rename_i h; exact (min_eq_left (not_lt.mp h)).symm

theorem hi_eq_max (a b : K) : hi a b = max a b := by
  unfold hi; split
  · rename_i h; exact (max_eq_left (le_of_lt h)).symm
  · rename_i h; exact (max_eq_right (not_lt.mp h)).symm

theorem vmin_eq (k c δ : K) : vminOf k c δ = spOf k c + δ / k := by
  unfold vminOf spOf; field_simp; ring

theorem vmax_eq (k c δ : K) : vmaxOf k c δ = spOf k c - δ / k := by
  unfold vmaxOf spOf; field_simp; ring

theorem affine_eq (k c V : K) (hk : k ≠ 0) : k * V + c = k * (V - spOf k c) := by
  unfold spOf; field_simp; ring

theorem lo_window (k c δ : K) (hδ : 0 ≤ δ) :
    lo (vminOf k c δ) (vmaxOf k c δ) = spOf k c - δ / |k| ∧
    hi (vminOf k c δ) (vmaxOf k c δ) = spOf k c + δ / |k| := by
  -- `min (s + x) (s − x) = s − |x|` and `max (s + x) (s − x) = s + |x|` with `x = δ / k`, and `|δ / k| = δ / |k|`
  have hx : |δ / k| = δ / |k| := by rw [abs_div, abs_of_nonneg hδ]
  have hmin : min (δ / k) (-(δ / k)) = -|δ / k| := by
    rcases le_total 0 (δ / k) with h | h
    · rw [abs_of_nonneg h, min_eq_right (neg_le_self h)]
    · rw [abs_of_nonpos h, neg_neg, min_eq_left (le_neg_of_le_neg (by simpa using h))]
  rw [lo_eq_min, hi_eq_max, vmin_eq k c δ, vmax_eq k c δ, sub_eq_add_neg, sub_eq_add_neg,
    min_add_add_left, max_add_add_left, ← abs_eq_max_neg, hmin, hx]
  exact ⟨rfl, rfl⟩

/-- for `δ = 0` too: the range is then the singular point -/
theorem window_mem_iff (k c δ : K) (hk : k ≠ 0) (hδ : 0 ≤ δ) (V : K) :
    (lo (vminOf k c δ) (vmaxOf k c δ) ≤ V ∧ V ≤ hi (vminOf k c δ) (vmaxOf k c δ)) ↔ |k * V + c| ≤ δ := by
  obtain ⟨hlo, hhi⟩ := lo_window k c δ hδ
  have hak : 0 < |k| := abs_pos.mpr hk
  rw [hlo, hhi, affine_eq k c V hk, abs_mul, ← le_div_iff₀' hak, abs_le, sub_le_iff_le_add, neg_le_sub_iff_le_add,
    sub_le_iff_le_add', and_comm]

theorem coeff_mem (V a b : K) (h : a ≤ V ∧ V ≤ b) : 0 ≤ coeff V a b ∧ coeff V a b ≤ 1 := by
  have hb : 0 ≤ b - a := sub_nonneg.mpr (h.1.trans h.2)
  exact ⟨div_nonneg (sub_nonneg.mpr h.1) hb, div_le_one_of_le₀ (sub_le_sub_right h.2 a) hb⟩

-- the model has each `if` under two names: `min2 a b` is the text of `lo a b`, `max2 a b` that of `hi b a` (`C12/Window.lean`)
theorem min2_eq (a b : K) : min2 a b = min a b := lo_eq_min a b
theorem max2_eq (a b : K) : max2 a b = max a b := (hi_eq_max b a).trans (max_comm b a)

/-! ## the interpolation between the two edge values (`a ≤ b`; for `a = b` the coefficient is `x / 0 = 0`) -/

theorem interp_convex (f : K → K) (V a b : K) (h : a ≤ V ∧ V ≤ b) :
    interp f V a b = (1 - coeff V a b) * f a + coeff V a b * f b ∧ 0 ≤ coeff V a b ∧ coeff V a b ≤ 1 := by
  refine ⟨?_, coeff_mem V a b h⟩
  unfold interp; rw [if_pos h]; ring

theorem interp_minmax (f : K → K) (V a b : K) (h : a ≤ V ∧ V ≤ b) :
    min (f a) (f b) ≤ interp f V a b ∧ interp f V a b ≤ max (f a) (f b) := by
  obtain ⟨he, h0, h1⟩ := interp_convex f V a b h
  rw [he]
  have h1' : 0 ≤ 1 - coeff V a b := sub_nonneg.mpr h1
  constructor
  · calc min (f a) (f b) = (1 - coeff V a b) * min (f a) (f b) + coeff V a b * min (f a) (f b) := by ring
      _ ≤ _ := add_le_add (mul_le_mul_of_nonneg_left (min_le_left _ _) h1')
        (mul_le_mul_of_nonneg_left (min_le_right _ _) h0)
  · calc _ ≤ (1 - coeff V a b) * max (f a) (f b) + coeff V a b * max (f a) (f b) :=
        add_le_add (mul_le_mul_of_nonneg_left (le_max_left _ _) h1') (mul_le_mul_of_nonneg_left (le_max_right _ _) h0)
      _ = max (f a) (f b) := by ring

theorem interp_close (f : K → K) (V a b : K) (h : a ≤ V ∧ V ≤ b) :
    |interp f V a b - f a| ≤ |f b - f a| ∧ |interp f V a b - f b| ≤ |f b - f a| := by
  obtain ⟨he, h0, h1⟩ := interp_convex f V a b h
  have e1 : interp f V a b - f a = coeff V a b * (f b - f a) := by rw [he]; ring
  have e2 : interp f V a b - f b = (1 - coeff V a b) * (-(f b - f a)) := by rw [he]; ring
  constructor
  · rw [e1, abs_mul, abs_of_nonneg h0]
    exact mul_le_of_le_one_left (abs_nonneg _) h1
  · rw [e2, abs_mul, abs_neg, abs_of_nonneg (sub_nonneg.mpr h1)]
    exact mul_le_of_le_one_left (abs_nonneg _) (sub_le_self 1 h0)

theorem interp_edges (f : K → K) (a b : K) (hab : a ≤ b) : interp f a a b = f a ∧ interp f b a b = f b := by
  unfold interp coeff
  constructor
  · rw [if_pos ⟨le_refl a, hab⟩]; simp
  · rw [if_pos ⟨hab, le_refl b⟩]
    rcases eq_or_lt_of_le hab with rfl | h
    · simp
    · rw [div_self (sub_ne_zero.mpr h.ne')]; ring

/-- `_generate_piecewise` with its swap, at a voltage inside the range — for ANY two bounds, equal ones included -/
theorem generate_between (f : K → K) (V vmin vmax : K) (h : lo vmin vmax ≤ V ∧ V ≤ hi vmin vmax) :
    (∃ t : K, 0 ≤ t ∧ t ≤ 1 ∧
      generate f V vmin vmax = (1 - t) * f (lo vmin vmax) + t * f (hi vmin vmax)) ∧
    min (f (lo vmin vmax)) (f (hi vmin vmax)) ≤ generate f V vmin vmax ∧
    generate f V vmin vmax ≤ max (f (lo vmin vmax)) (f (hi vmin vmax)) ∧
    |generate f V vmin vmax - f (lo vmin vmax)| ≤ |f (hi vmin vmax) - f (lo vmin vmax)| ∧
    |generate f V vmin vmax - f (hi vmin vmax)| ≤ |f (hi vmin vmax) - f (lo vmin vmax)| ∧
    generate f (lo vmin vmax) vmin vmax = f (lo vmin vmax) ∧ generate f (hi vmin vmax) vmin vmax = f (hi vmin vmax) := by
  obtain ⟨he, h0, h1⟩ := interp_convex f V _ _ h
  obtain ⟨hmin, hmax⟩ := interp_minmax f V _ _ h
  obtain ⟨hc1, hc2⟩ := interp_close f V _ _ h
  obtain ⟨he1, he2⟩ := interp_edges f _ _ (h.1.trans h.2)
  exact ⟨⟨_, h0, h1, he⟩, hmin, hmax, hc1, hc2, he1, he2⟩

def Within (w m : Win K) : Prop := m.lo ≤ w.lo ∧ w.hi ≤ m.hi

theorem Win.lo_eq (w : Win K) : w.lo = min w.vmin w.vmax := lo_eq_min _ _
theorem Win.hi_eq (w : Win K) : w.hi = max w.vmin w.vmax := hi_eq_max _ _

theorem within_iff (w m : Win K) :
    Within w m ↔ (m.lo ≤ w.vmin ∧ m.lo ≤ w.vmax) ∧ (w.vmin ≤ m.hi ∧ w.vmax ≤ m.hi) := by
  simp only [Within, Win.lo_eq w, Win.hi_eq w, le_min_iff, max_le_iff]

theorem within_trans {a b c : Win K} (h1 : Within a b) (h2 : Within b c) : Within a c :=
  ⟨le_trans h2.1 h1.1, le_trans h1.2 h2.2⟩

/-- `exp`, the named functions, and every variable as a function of the VOLTAGE alone (`eval I v (.var n) = I.var n v`): this
    is what `Solves` quantifies over, and `.pw lo hi f` reads the variables of `f` at the two edges too. Python's
    `expr.xreplace({V: Vmin})` replaces the voltage symbol only, so inside a range the two agree when no variable left in `f`
    depends on `V`; outside a range the edges are not read. -/
structure Interp (K : Type) where
  ex : K → K
  fn : String → List K → K
  var : String → K → K

mutual
/-- the value of an expression at voltage `v` -/
def eval (I : Interp K) (v : K) : Expr → K
  | .num q => (q : K)
  | .volt => v
  | .var n => I.var n v
  | .add as => evalSum I v as
  | .mul as => evalProd I v as
  | .pow b n => (eval I v b) ^ n
  | .exp a => I.ex (eval I v a)
  | .pw lo hi f => interp (fun x => eval I x f) v (lo : K) (hi : K)
  | .fn name as => I.fn name (evalList I v as)
def evalSum (I : Interp K) (v : K) : List Expr → K
  | [] => 0
  | a :: as => eval I v a + evalSum I v as
def evalProd (I : Interp K) (v : K) : List Expr → K
  | [] => 1
  | a :: as => eval I v a * evalProd I v as
def evalList (I : Interp K) (v : K) : List Expr → List K
  | [] => []
  | a :: as => eval I v a :: evalList I v as
end

mutual
/-- `v` lies in none of the generated ranges met when the expression is evaluated at `v` -/
def clear (v : K) : Expr → Prop
  | .num _ | .volt | .var _ => True
  | .add as | .mul as | .fn _ as => clearL v as
  | .pow b _ => clear v b
  | .exp a => clear v a
  | .pw lo hi f => ¬ ((lo : K) ≤ v ∧ v ≤ (hi : K)) ∧ clear v f
def clearL (v : K) : List Expr → Prop
  | [] => True
  | a :: as => clear v a ∧ clearL v as
end

/-! ## wrapping, factors one: outside the ranges nothing changes -/

theorem wrap_none (e : Expr) (c : Bool) : wrap ⟨none, e, c⟩ = e := rfl
theorem wrap_some (w : Win Rat) (e : Expr) (c : Bool) : wrap ⟨some w, e, c⟩ = wrapWin w e := rfl

theorem eval_wrapWin (I : Interp K) (v : K) (w : Win Rat) (e : Expr) (h : clear v (wrapWin w e)) :
    eval I v (wrapWin w e) = eval I v e ∧ clear v e := by
  simp only [wrapWin, clear] at h
  refine ⟨?_, h.2⟩
  simp only [wrapWin, eval, interp]
  rw [if_neg h.1]

theorem eval_wrap (I : Interp K) (v : K) (r : Res) (h : clear v (wrap r)) :
    eval I v (wrap r) = eval I v r.ex := by
  unfold wrap at h ⊢
  split
  · rename_i w hw; rw [hw] at h; exact (eval_wrapWin I v w r.ex h).1
  · rfl

theorem eval_foldl_wrap (I : Interp K) (v : K) (ws : List (Win Rat)) (e : Expr)
    (h : clear v (ws.foldl (fun e w' => wrapWin w' e) e)) :
    eval I v (ws.foldl (fun e w' => wrapWin w' e) e) = eval I v e ∧ clear v e := by
  induction ws generalizing e with
  | nil => exact ⟨rfl, h⟩
  | cons w ws ih =>
    simp only [List.foldl_cons] at h ⊢
    obtain ⟨h1, h2⟩ := ih (wrapWin w e) h
    obtain ⟨h3, h4⟩ := eval_wrapWin I v w e h2
    exact ⟨h1.trans h3, h4⟩

theorem evalProd_filter (I : Interp K) (v : K) (as : List Expr) :
    evalProd I v (as.filter (fun a => !isOne a)) = evalProd I v as := by
  induction as with
  | nil => rfl
  | cons a as ih =>
    by_cases h : isOne a = true
    · rw [List.filter_cons_of_neg (by simp [h])]
      have : eval I v a = 1 := by
        cases a <;> simp [isOne] at h
        subst h; simp [eval]
      simp [evalProd, this, ih]
    · rw [List.filter_cons_of_pos (by simp [h])]
      simp [evalProd, ih]

theorem eval_mkMul (I : Interp K) (v : K) (as : List Expr) : eval I v (mkMul as) = evalProd I v as := by
  match as with
  | [] => simp [mkMul, eval, evalProd]
  | [a] => simp [mkMul, evalProd]
  | a :: b :: as => simp [mkMul, eval]

theorem eval_dropOnes (I : Interp K) (v : K) (e : Expr) : eval I v (dropOnes e) = eval I v e := by
  cases e <;> simp [dropOnes]
  rename_i as
  rw [eval_mkMul, evalProd_filter]; simp [eval]

theorem evalSumProd_map_wrap (I : Interp K) (v : K) (rec : Expr → Res)
    (hrec : ∀ a, clear v (wrap (rec a)) → eval I v (wrap (rec a)) = eval I v a) (as : List Expr)
    (h : clearL v ((as.map rec).map wrap)) :
    evalSum I v ((as.map rec).map wrap) = evalSum I v as ∧ evalProd I v ((as.map rec).map wrap) = evalProd I v as := by
  induction as with
  | nil => exact ⟨rfl, rfl⟩
  | cons a as ih =>
    simp only [List.map_cons, clearL] at h
    simp only [List.map_cons, evalSum, evalProd, hrec a h.1, (ih h.2).1, (ih h.2).2, and_self]

theorem fixBody_outside (I : Interp K) (v : K) (det : List Expr → List (Win Rat)) (rec : Expr → Res)
    (hrec : ∀ a, clear v (wrap (rec a)) → eval I v (wrap (rec a)) = eval I v a) (e : Expr)
    (h : clear v (wrap (fixBody det rec e))) :
    eval I v (wrap (fixBody det rec e)) = eval I v e := by
  cases e with
  | add as =>
    simp only [fixBody] at h ⊢
    split at h
    · rename_i w hw
      rw [wrap_some] at h ⊢
      exact (eval_wrapWin I v w _ h).1
    · rename_i hw
      rw [wrap_none] at h ⊢
      simp only [clear] at h
      simp only [eval]
      exact (evalSumProd_map_wrap I v rec hrec as h).1
  | pow a k =>
    simp only [fixBody] at h ⊢
    by_cases hk : (k == -1) = true
    · rw [if_pos hk] at h ⊢
      have hk' : k = -1 := by simpa using hk
      rw [wrap_none] at h ⊢
      simp only [clear, clearL, and_true, true_and] at h
      simp only [eval, evalProd, hk']
      rw [hrec a h]; simp
    · rw [if_neg hk]; rfl
  | mul as =>
    simp only [fixBody] at h ⊢
    split at h
    · rename_i hd
      rw [wrap_none] at h ⊢
      simp only [clear] at h
      simp only [eval]
      exact (evalSumProd_map_wrap I v rec hrec as h).2
    · rename_i w ws hd
      rw [wrap_some] at h ⊢
      obtain ⟨h1, h2⟩ := eval_wrapWin I v w _ h
      rw [h1]
      exact (eval_foldl_wrap I v ws _ h2).1
  | _ => rfl

theorem fixParts_outside (I : Interp K) (v : K) (det : List Expr → List (Win Rat)) :
    ∀ (n : Nat) (e : Expr), clear v (wrap (fixParts det n e)) →
      eval I v (wrap (fixParts det n e)) = eval I v e := by
  intro n
  induction n with
  | zero => intro e _; rfl
  | succ n ih =>
    intro e h
    unfold fixParts at h ⊢
    split
    · rfl
    · rename_i hx
      rw [if_neg hx] at h
      rw [fixBody_outside I v det _ ih _ h, eval_dropOnes]

theorem removeSing_outside (I : Interp K) (v : K) (det : List Expr → List (Win Rat)) (e new : Expr)
    (h : removeSing det e = some new) (hc : clear v new) : eval I v new = eval I v e := by
  unfold removeSing at h
  split at h
  · cases h
  · dsimp only at h
    split at h
    · cases h; exact fixParts_outside I v det _ e hc
    · cases h

def EnvOK (I : Interp K) (env : Env) : Prop := ∀ n r, lookup env n = some r → ∀ v, eval I v r = I.var n v

mutual
theorem eval_subst (I : Interp K) (env : Env) (h : EnvOK I env) : ∀ (e : Expr) (v : K), eval I v (subst env e) = eval I v e
  | .num _, _ => rfl
  | .volt, _ => rfl
  | .var n, v => by
      simp only [subst]
      cases hl : lookup env n with
      | none => rfl
      | some r => simp only [eval]; exact h n r hl v
  | .add as, v => by simp only [subst, eval]; exact evalSum_subst I env h as v
  | .mul as, v => by simp only [subst, eval]; exact evalProd_subst I env h as v
  | .pow b n, v => by simp only [subst, eval, eval_subst I env h b v]
  | .exp a, v => by simp only [subst, eval, eval_subst I env h a v]
  | .pw lo hi f, v => by
      simp only [subst, eval]
      have : (fun x => eval I x (subst env f)) = (fun x => eval I x f) := funext (fun x => eval_subst I env h f x)
      rw [this]
  | .fn name as, v => by simp only [subst, eval, evalList_subst I env h as v]
theorem evalSum_subst (I : Interp K) (env : Env) (h : EnvOK I env) : ∀ (as : List Expr) (v : K), evalSum I v (substL env as) = evalSum I v as
  | [], _ => rfl
  | a :: as, v => by simp only [substL, evalSum, eval_subst I env h a v, evalSum_subst I env h as v]
theorem evalProd_subst (I : Interp K) (env : Env) (h : EnvOK I env) : ∀ (as : List Expr) (v : K), evalProd I v (substL env as) = evalProd I v as
  | [], _ => rfl
  | a :: as, v => by simp only [substL, evalProd, eval_subst I env h a v, evalProd_subst I env h as v]
theorem evalList_subst (I : Interp K) (env : Env) (h : EnvOK I env) : ∀ (as : List Expr) (v : K), evalList I v (substL env as) = evalList I v as
  | [], _ => rfl
  | a :: as, v => by simp only [substL, evalList, eval_subst I env h a v, evalList_subst I env h as v]
end

/-- `I` is a solution of the model: every equation holds at every voltage -/
def Solves (I : Interp K) (eqs : List Eqn) : Prop := ∀ e ∈ eqs, ∀ v, I.var e.lhs v = eval I v e.rhs

/-- `I` satisfies the equations at every voltage that lies outside the generated ranges of the equation -/
def SolvesOutside (I : Interp K) (eqs : List Eqn) : Prop :=
  ∀ e ∈ eqs, ∀ v, clear v e.rhs → I.var e.lhs v = eval I v e.rhs

theorem step_sound (I : Interp K) (det : List Expr → List (Win Rat)) (excl : List String) (st : TState) (e : Eqn)
    (he : ∀ v, I.var e.lhs v = eval I v e.rhs) (henv : EnvOK I st.env) (hst : SolvesOutside I st.eqs) :
    EnvOK I (step (removeSing det) excl st e).env ∧ SolvesOutside I (step (removeSing det) excl st e).eqs := by
  rcases step_cases (removeSing det) excl st e with ⟨_, h⟩ | ⟨_, new, hf, h⟩ | ⟨_, _, h⟩ <;> rw [h]
  · exact ⟨henv, hst⟩
  · refine ⟨henv, ?_⟩
    intro e' he' v hc
    rcases List.mem_append.mp he' with h | h
    · exact hst e' ((mem_removeEq _ _ _).mp h).1 v hc
    · have : e' = ⟨e.lhs, new⟩ := by simpa using h
      subst this
      dsimp only at hc ⊢
      rw [removeSing_outside I v det _ new hf hc, eval_subst I st.env henv, he v]
  · refine ⟨?_, hst⟩
    intro n r hl v
    simp only [lookup] at hl
    split at hl
    · rename_i hm
      have hm' : e.lhs = n := by simpa using hm
      cases hl
      rw [eval_subst I st.env henv, ← hm', he v]
    · exact henv n r hl v

end C12
