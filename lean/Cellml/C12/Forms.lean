import Cellml.C12.Lemmas
import Cellml.C12.Detect

/-! # C12 — the four documented forms as trees, and how `Detect` classifies their factors (proof side only).
    `U = k·V + c` is the tree `k*V + c` SymPy holds for it; `emPos = exp(U) − 1`, `emNeg = 1 − exp(U)`;
    `form n P k c` are the arguments of the product `P·U/(exp U − 1)`, `P·U/(1 − exp U)`, `P·(exp U − 1)/U`,
    `P·(1 − exp U)/U`. All lemmas are for symbolic rational `P`, `k`, `c`. -/

namespace C12
open C12.Expr

def U (k c : Rat) : Expr := add [mul [num k, volt], num c]

def emPos (k c : Rat) : Expr := add [num (-1), exp (U k c)]
def emNeg (k c : Rat) : Expr := add [num 1, mul [num (-1), exp (U k c)]]

theorem aff_U (k c : Rat) : aff? (U k c) = some (k, c) := by
  simp [U, aff?, affSum, affProd]

theorem aff_num (q : Rat) : aff? (num q) = some (0, q) := by simp [aff?]

theorem aff_em_pos (k c : Rat) : aff? (add [num (-1), exp (U k c)]) = none := by
  simp [aff?, affSum]

theorem classify_num (q : Rat) (i : Nat) : classifyFactor i (num q) = [(.const q, 1)] := by
  simp [classifyFactor, classifyBase, aff?, zpow, npow]

theorem sum_em_pos (k c : Rat) (hk : k ≠ 0) (i : Nat) :
    classifySum i [num (-1), exp (U k c)] = .em k c true := by
  have h3 : aff? (exp (U k c)) = none := by simp [aff?]
  unfold classifySum
  simp only [List.filter_cons, List.filter_nil, h3, aff_num]
  simp [expTerm?, aff_U, hk, affSum, aff?]

theorem sum_em_neg (k c : Rat) (hk : k ≠ 0) (i : Nat) :
    classifySum i [num 1, mul [num (-1), exp (U k c)]] = .em k c false := by
  have h4 : aff? (mul [num (-1), exp (U k c)]) = none := by simp [aff?, affProd]
  unfold classifySum
  simp only [List.filter_cons, List.filter_nil, h4, aff_num]
  simp [expTerm?, List.filter_cons, aff_U, hk, affSum, affProd, aff?]

theorem base_emPos (k c : Rat) (hk : k ≠ 0) (i : Nat) : classifyBase i (emPos k c) = .em k c true := by
  unfold classifyBase
  rw [emPos, aff_em_pos]
  exact sum_em_pos k c hk i

theorem base_emNeg (k c : Rat) (hk : k ≠ 0) (i : Nat) : classifyBase i (emNeg k c) = .em k c false := by
  have h2 : aff? (emNeg k c) = none := by simp [emNeg, aff?, affSum, affProd]
  unfold classifyBase
  rw [h2]
  exact sum_em_neg k c hk i

theorem factor_emPos (k c : Rat) (hk : k ≠ 0) (i : Nat) (n : Int) :
    classifyFactor i (pow (emPos k c) n) = [(.em k c true, n)] := by
  simp [classifyFactor, base_emPos k c hk i]

theorem factor_emNeg (k c : Rat) (hk : k ≠ 0) (i : Nat) (n : Int) :
    classifyFactor i (pow (emNeg k c) n) = [(.em k c false, n)] := by
  simp [classifyFactor, base_emNeg k c hk i]

theorem factor_emPos1 (k c : Rat) (hk : k ≠ 0) (i : Nat) :
    classifyFactor i (emPos k c) = [(.em k c true, 1)] :=
  factor_emPos k c hk i 1

theorem factor_emNeg1 (k c : Rat) (hk : k ≠ 0) (i : Nat) :
    classifyFactor i (emNeg k c) = [(.em k c false, 1)] :=
  factor_emNeg k c hk i 1

/-- the four documented forms with an outer factor `P`, `U = k·V + c` written as a sum (`n = 0, 1, 2`; every other `n` is the
    fourth) -/
def form (n : Nat) (P k c : Rat) : List Expr :=
  match n with
  | 0 => [num P, U k c, pow (emPos k c) (-1)]
  | 1 => [num P, U k c, pow (emNeg k c) (-1)]
  | 2 => [num P, pow (U k c) (-1), emPos k c]
  | _ => [num P, pow (U k c) (-1), emNeg k c]

/-- the factors `U^a` contributes: SymPy holds `k·V` (offset zero, `k ≠ 1`) as a product, so the number `k^a` splits off -/
def affFac (k c : Rat) (a : Int) : List (Base × Int) :=
  if c == 0 && k != 1 then [(.const (zpow k a), 1), (.aff 1 0, a)] else [(.aff k c, a)]

theorem classify_Upow (k c : Rat) (hk : k ≠ 0) (i : Nat) (n : Int) :
    classifyFactor i (pow (U k c) n) = affFac k c n := by
  have h : aff? (U k c) = some (k, c) := aff_U k c
  unfold classifyFactor affFac
  simp only [U] at h ⊢
  simp [classifyBase, h, hk]

theorem classify_U (k c : Rat) (hk : k ≠ 0) (i : Nat) : classifyFactor i (U k c) = affFac k c 1 :=
  classify_Upow k c hk i 1

theorem form_hasExp (n : Nat) (P k c : Rat) : (mul (form n P k c)).hasExp = true := by
  unfold form
  split
  all_goals simp [hasExp, anyExp, emPos, emNeg, U]

theorem form_dropOnes (n : Nat) (P k c : Rat) (hP : P ≠ 1) : dropOnes (mul (form n P k c)) = mul (form n P k c) := by
  unfold form
  split
  all_goals simp [dropOnes, isOne, mkMul, hP, emPos, emNeg, U]

/-- What `_get_singularity` answers once the factors are classified as a number, the factors of `U^a` and
    `(exp U ∓ 1)^(-a)` on the other side of the fraction (`a = ±1`), in either order: the one range of `U`. A symbolic
    run of `normalise` (which folds the two numbers of an offset zero), the split into numerator and denominator and
    the two `pass`es on each of the eight lists. The one step that is not computation is `hsp`: with an offset of zero the
    factor that matches is `V` itself, whose singular point `−0/1` is the `−c/k` of the window. -/
theorem detect_of_factors (δ : Rat) {rev : Bool} {args : List Expr} {q k c : Rat} {p : Bool} {a : Int}
    (ha : a = 1 ∨ a = -1)
    (h : classifyAll 0 (if rev then args.reverse else args) = (.const q, 1) :: affFac k c a ++ [(.em k c p, -a)] ∨
      classifyAll 0 (if rev then args.reverse else args) = (.em k c p, -a) :: affFac k c a ++ [(.const q, 1)]) :
    detect δ rev args = [window k c δ] := by
  unfold detect detect?
  have b1 : ∀ q, (Base.const q == Base.unsup) = false := fun _ => rfl
  have b2 : ∀ a b, (Base.aff a b == Base.unsup) = false := fun _ _ => rfl
  have b3 : ∀ a b p, (Base.em a b p == Base.unsup) = false := fun _ _ _ => rfl
  have hsp : (c == 0 && k != 1) = true → -(0 : Rat) / 1 = -c / k := fun hs => by
    obtain ⟨rfl, -⟩ : c = 0 ∧ k ≠ 1 := by simpa using hs
    simp
  unfold affFac at h
  by_cases hs : (c == 0 && k != 1) = true <;> simp only [hs, if_true, Bool.false_eq_true, if_false] at h <;>
  rcases ha with rfl | rfl <;> rcases h with h | h <;> rw [h] <;>
  simp only [normalise, Int.reduceNeg, List.foldl_cons, insertFactor, sameBase, Bool.false_eq_true, ↓reduceIte,
    List.foldl_nil, Int.reduceBNe, List.filter_cons_of_pos, List.filter_nil, List.any_cons, b3, b1, b2, List.any_nil,
    Bool.or_self, absInt, Int.reduceLT, decide_false, not_false_eq_true, List.filter_cons_of_neg, Int.neg_neg_iff_pos,
    zero_lt_one, decide_true, List.map_cons, neg_neg, List.map_nil, List.isEmpty_cons, gt_iff_lt, Int.neg_pos,
    baseHasExp, Bool.or_false, Bool.or_true, Bool.not_true, pass, window, onTop, BEq.rfl, spOf, hsp, hs, Bool.true_and, beq_iff_eq,
    Bool.and_false, Bool.false_or, record, Option.getD_some, List.cons_append, List.nil_append]

end C12
