import Cellml.C11.SemMul

/-! C11 — `print_means`, part 4: the sign extraction of `_print_Mul` keeps the product. -/
namespace C11
variable {K : Type} [Field K] (S : Sem K)

def itemVals (items : List Item) : List K := items.map (fun i => (ev S i.e).num)

theorem vals_one (items : List Item) : vals S (items.map Item.one) = itemVals S items := by
  simp [vals, itemVals, Item.one, Function.comp]

theorem sgn_mul (sg : Bool) (x : K) : (if sg = true then (-1 : K) else 1) * x = if sg then -x else x := by
  cases sg <;> simp

theorem keepCoeffMul_val (k : E) (margs l : List Item1) (h : KeepCoeffMul k margs l) :
    prodK (vals S l) = (ev S k).num * prodK (vals S margs) := by
  cases h with
  | front m rest _ => rfl
  | unit a b m rest hk' hm' hab =>
    have hc : (a : K) * (b : K) = 1 := by rw [← Int.cast_mul, hab]; simp
    simp only [vals, List.map_cons, prodK, hk', hm', ev, ← mul_assoc, hc, one_mul]
  | times a b m rest hk' hm' _ =>
    simp only [vals, List.map_cons, prodK, hk', hm', num1, ev, Int.cast_mul]; ring

/-- the sign extraction keeps the product: a statement about the expressions alone -/
theorem mulItems_val (hL : Laws S) (items : List Item) (hw : ∀ i ∈ items, wf .A i.e = true)
    (hsub : ∀ i ∈ items, isMul i.e = true → prodK (vals S i.sub) = (ev S i.e).num)
    (sg : Bool) (fs : List Item1) (h : mulItems items = some (sg, fs)) :
    (if sg then -1 else 1) * prodK (vals S fs) = prodK (itemVals S items) := by
  have hcv : ∀ (c : Item) rest, itemVals S (c :: rest) = (ev S c.e).num :: itemVals S rest := fun _ _ => rfl
  -- the coefficient `c` is the negative of the `k` that `_keep_coeff` receives
  have hneg : ∀ c ∈ items, isNegNum c.e = true → (ev S c.e).num = -(ev S (negNum c.e)).num :=
    fun c hc hn => negNum_num S hL c.e (hw c hc) hn
  cases mulItems_inv items sg fs h with
  | pos c rest => rw [vals_one]; simp
  | negOne c r hc =>
    have hcm1 : (ev S c.e).num = -1 := by rw [hc]; simp [ev]
    by_cases hm : isMul r.e = true
    · rw [if_pos hm, hcv, prodK, hcm1, hsub r (by simp) hm]; simp [itemVals, prodK]
    · rw [if_neg hm, hcv, prodK, hcm1]; simp [itemVals, vals, prodK, Item.one]
  | negMany c rest hc =>
    have hcm1 : (ev S c.e).num = -1 := by rw [hc]; simp [ev]
    rw [hcv, prodK, hcm1, vals_one]; simp
  | one c r hn hk _ hr =>
    rw [hcv, hcv, prodK, prodK, hneg c (by simp) hn, hr]; simp [itemVals, vals, prodK, num1, ev]
  | add c r a hn hk | opaq c r hn hk =>
    rw [hcv, hcv, prodK, prodK, hneg c (by simp) hn]; simp [itemVals, vals, prodK, num1, Item.one]
  | mul c r a l hn hk _ hr hl =>
    rw [hcv, hcv, prodK, prodK, hneg c (by simp) hn, keepCoeffMul_val S _ _ _ hl, hsub r (by simp) (by rw [hr]; rfl)]
    simp [itemVals, prodK]
  | many c r1 r2 rest l hn hk _ hl =>
    rw [hcv, prodK, hneg c (by simp) hn, keepCoeffMul_val S _ _ _ hl, vals_one]; simp

end C11
