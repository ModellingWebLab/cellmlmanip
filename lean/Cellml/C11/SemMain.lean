import Cellml.C11.SemMul2

/-! C11 — `print_means`, part 5: sums, chains, piecewise. -/
namespace C11
variable {K : Type} [Field K] (S : Sem K)

/-- the emitted code means what the expression means, per sort; of a pair the value is in `doc`, the printed condition
    in `base` -/
def Tc (s : Srt) (e : E) : Prop :=
  match s with
  | .A => (evD S (pr e).doc).num = (ev S e).num
  | .B => (evD S (pr e).doc).num = (ev S e).num ∧ (evD S (pr e).doc).bool = (ev S e).bool
  | .P => (evD S (pr e).doc).num = (ev S e).num ∧ (evD S (pr e).base).bool = (ev S e).bool

theorem ev_nums_list (l : E) (hp : proper l = true) :
    (ev S l).nums = (toList l).map (fun h => (ev S h).num) ∧
      (ev S l).bools = (toList l).map (fun h => (ev S h).bool) := by
  induction l with
  | nil => simp [ev, toList]
  | cons h t _ iht =>
      simp only [proper] at hp
      simp [ev, toList, (iht hp).1, (iht hp).2]
  | _ => simp [proper] at hp

theorem evD_nums_list (l : E) (hp : proper l = true) :
    (evD S (pr l).doc).nums = (toList l).map (fun h => (evD S (pr h).doc).num) := by
  induction l with
  | nil => simp [pr, okDoc, evD, toList]
  | cons h t _ iht =>
      simp only [proper] at hp
      simp [pr, evD, toList, iht hp]
  | _ => simp [proper] at hp

theorem addStep_num (acc : Option Doc) (i : Item)
    (hi : PyOK i.doc = true ∧ 40 ≤ level i.doc) (hprec : 40 ≤ prec i.e) :
    ∃ r, addStep acc i = some r ∧
      (evD S r).num = (match acc with | none => 0 | some a => (evD S a).num) + (evD S i.doc).num := by
  have hbr : decide (prec i.e < 40) = false := by simp; omega
  cases acc with
  | none =>
      simp only [addStep, hbr, Bool.false_eq_true, if_false]
      by_cases hs : startsMinus i.doc = true
      · simp only [hs, if_true]; exact ⟨_, rfl, by simp⟩
      · simp only [hs, Bool.false_eq_true, if_false]; exact ⟨_, rfl, by simp⟩
  | some a =>
      simp only [addStep, hbr, Bool.false_eq_true, if_false]
      by_cases hs : startsMinus i.doc = true
      · simp only [hs, if_true]
        exact ⟨_, rfl, peelSplice_num S i.doc hi.1 hi.2 hs a⟩
      · simp only [hs, Bool.false_eq_true, if_false]
        exact ⟨_, rfl, spliceSum_plus_num S a i.doc⟩

theorem foldl_addStep_num (items : List Item) : ∀ acc,
    (∀ i ∈ items, (PyOK i.doc = true ∧ 40 ≤ level i.doc) ∧ 40 ≤ prec i.e) → items ≠ [] →
    ∃ r, items.foldl addStep acc = some r ∧
      (evD S r).num = (match acc with | none => 0 | some a => (evD S a).num) +
        sumK (items.map (fun i => (evD S i.doc).num)) := by
  induction items with
  | nil => intro _ _ h; exact absurd rfl h
  | cons i is ih =>
      intro acc hall _
      obtain ⟨r, hr, hv⟩ := addStep_num S acc i (hall i (by simp)).1 (hall i (by simp)).2
      simp only [List.foldl_cons, hr, List.map_cons, sumK]
      cases is with
      | nil => exact ⟨r, rfl, by simp [sumK, hv]⟩
      | cons j js =>
          obtain ⟨r2, hr2, hv2⟩ := ih (some r) (fun k hk => hall k (by simp [hk])) (by simp)
          exact ⟨r2, hr2, by rw [hv2]; simp only [hv]; ring⟩

theorem addDoc_num (items : List Item) (hne : items ≠ [])
    (hall : ∀ i ∈ items, (PyOK i.doc = true ∧ 40 ≤ level i.doc) ∧ 40 ≤ prec i.e) :
    (evD S (addDoc items)).num = sumK (items.map (fun i => (evD S i.doc).num)) := by
  obtain ⟨r, hr, hv⟩ := foldl_addStep_num S items none hall hne
  simp only [addDoc, hr, Option.getD_some, hv]; simp

/-- `op` is `&&` / `||` and `fold` is `List.all id` / `List.any id` -/
theorem boolChain_val (splice : Doc → Doc → Doc) (p : Nat) (op : Bool → Bool → Bool) (fold : List Bool → Bool)
    (hop : ∀ a b c, op (op a b) c = op a (op b c)) (hnil : ∀ a, op a (fold []) = a)
    (hcons : ∀ a l, fold (a :: l) = op a (fold l))
    (hsp : ∀ acc d, (evD S (splice acc d)).bool = op (evD S acc).bool (evD S d).bool ∧
      (evD S (splice acc d)).num = b2k (op (evD S acc).bool (evD S d).bool))
    (i j : Item) (js : List Item) :
    (evD S (boolChain splice p (i :: j :: js))).bool = fold ((i :: j :: js).map (fun k => (evD S k.doc).bool)) ∧
      (evD S (boolChain splice p (i :: j :: js))).num =
        b2k (fold ((i :: j :: js).map (fun k => (evD S k.doc).bool))) := by
  have hf : ∀ (l : List Item) (acc : Doc),
      (evD S (l.foldl (fun acc k => splice acc (bracket k.e k.doc p)) acc)).bool =
        op (evD S acc).bool (fold (l.map (fun k => (evD S k.doc).bool))) ∧
      (l ≠ [] → (evD S (l.foldl (fun acc k => splice acc (bracket k.e k.doc p)) acc)).num =
        b2k (op (evD S acc).bool (fold (l.map (fun k => (evD S k.doc).bool))))) := by
    intro l; induction l with
    | nil => intro acc; exact ⟨(hnil _).symm, fun h => absurd rfl h⟩
    | cons k ks ih =>
        intro acc
        have h1 := hsp acc (bracket k.e k.doc p)
        have h2 := ih (splice acc (bracket k.e k.doc p))
        simp only [List.foldl_cons, List.map_cons, hcons]
        refine ⟨by rw [h2.1, h1.1, evD_bracket, hop], fun _ => ?_⟩
        cases ks with
        | nil => simp only [List.foldl_nil, List.map_nil, hnil, h1.2, evD_bracket]
        | cons _ _ => rw [h2.2 (by simp), h1.1, evD_bracket, hop]
  have := hf (j :: js) (bracket i.e i.doc p)
  simp only [boolChain, List.map_cons, hcons] at this ⊢
  rw [evD_bracket] at this
  exact ⟨this.1, this.2 (by simp)⟩

theorem pwInner_val (items : List Item) (hst : (pwInner items).1 = .ok)
    (hall : ∀ i ∈ items, i.st = .ok → (evD S i.doc).num = (ev S i.e).num ∧
      (isTruePair i.e = false → (evD S i.base).bool = (ev S i.e).bool))
    (htrue : ∀ i ∈ items, isTruePair i.e = true → (ev S i.e).bool = true) :
    (evD S (pwInner items).2).num =
      pwVal (evD S nanDoc).num (items.map (fun i => (ev S i.e).num)) (items.map (fun i => (ev S i.e).bool)) := by
  induction items with
  | nil => simp [pwInner, pwVal]
  | cons i is ih =>
      simp only [pwInner] at hst ⊢
      split
      next ht =>
        simp only [ht, if_true] at hst
        simp [pwVal, htrue i (by simp) ht, (hall i (by simp) hst).1]
      next ht =>
        simp only [ht, Bool.false_eq_true, if_false, join_ok] at hst
        have hi := hall i (by simp) hst.1
        have := ih hst.2 (fun j hj => hall j (by simp [hj])) (fun j hj => htrue j (by simp [hj]))
        simp only [List.map_cons, pwVal, evD, this, hi.1, hi.2 (by simpa using ht)]

end C11
