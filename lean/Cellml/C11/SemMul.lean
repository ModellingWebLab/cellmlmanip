import Cellml.C11.SemNum
import Cellml.C11.Groups3

/-! C11 — `print_means`, part 3: `_print_Mul` computes the product. -/
namespace C11
variable {K : Type} [Field K] (S : Sem K)

def SemR (e : E) (d : Doc) : Prop := (evD S d).num = (ev S e).num

def Sem1 (f : Item1) : Prop := Fac (SemR S) f

def vals (l : List Item1) : List K := l.map (fun j => (ev S j.e).num)

theorem prodK_append (l1 l2 : List K) : prodK (l1 ++ l2) = prodK l1 * prodK l2 := by
  induction l1 with
  | nil => simp [prodK]
  | cons a l ih => simp only [List.cons_append, prodK, ih]; ring

theorem vals_append (l1 l2 : List Item1) : vals S (l1 ++ l2) = vals S l1 ++ vals S l2 := by
  simp [vals]

theorem isNegNum_of_isNegRat (x : E) (h : isNegRat x = true) : isNegNum x = true := by
  cases x <;> simp [isNegRat] at h <;> simpa [isNegNum] using h

theorem sem_int (hL : Laws S) (n : Int) : SemR S (.int n) (intDoc n) := numDoc_num S hL (.int n) rfl rfl

theorem sem_negPow (hL : Laws S) (f : Item1) (hg : Good1 f) (hs : Sem1 S f) (b x : E) (he : f.e = .pow b x)
    (hn : isNegRat x = true) : SemR S (.pow b (negNum x)) (powDoc b (negNum x) f.base (numDoc (negNum x))) := by
  have hw := hg.1.1
  rw [he] at hw
  simp only [wf, Bool.and_eq_true] at hw
  have hwn := wf_negNum x hw.2 hn
  show (evD S (powDoc b (negNum x) f.base (numDoc (negNum x)))).num = _
  rw [powDoc_num S hL b (negNum x) f.base _ (numDoc_num S hL _ hwn.1 hwn.2), hs.2 b x he]; rfl

/-- a factor is the quotient of its numerator operands by its denominator operands -/
theorem classify_val (hL : Laws S) (f : Item1) (hg : Good1 f) :
    (ev S f.e).num = prodK (vals S (classify f).1) * (prodK (vals S (classify f).2.1))⁻¹ := by
  have hw := hg.1.1
  have h := classify_inv f
  generalize classify f = r at h ⊢
  cases h with
  | recip b he =>
    simp only [he, vals, List.map_nil, List.map_cons, prodK, ev]
    rw [Int.cast_neg, Int.cast_one, hL.pow_neg, hL.pow_one]; ring
  | negPow b x he hn =>
    rw [he] at hw
    simp only [wf, Bool.and_eq_true] at hw
    simp only [he, vals, List.map_nil, List.map_cons, prodK, ev]
    rw [negNum_num S hL x hw.2 (isNegNum_of_isNegRat x hn), hL.pow_neg]; ring
  | int n he =>
    split
    next h1 =>
      obtain rfl : n = 1 := by simpa using h1
      simp [he, vals, prodK, ev]
    · simp [he, vals, prodK, num1, ev]
  | rat p q he =>
    split
    next h1 =>
      obtain rfl : p = 1 := by simpa using h1
      simp [he, vals, prodK, num1, ev]
    · simp [he, vals, prodK, num1, ev]; ring
  | keep => simp [vals, prodK]

theorem partition_val (hL : Laws S) (fs : List Item1) (hg : ∀ f ∈ fs, Good1 f) :
    prodK (vals S fs) = prodK (vals S (partition fs).1) * (prodK (vals S (partition fs).2.1))⁻¹ := by
  induction fs with
  | nil => simp [partition, vals, prodK]
  | cons f fs ih =>
      have e1 : vals S (f :: fs) = (ev S f.e).num :: vals S fs := rfl
      simp only [partition]
      rw [e1, prodK, classify_val S hL f (hg f (by simp)), ih (fun g hg' => hg g (by simp [hg'])), vals_append,
        vals_append, prodK_append, prodK_append, mul_inv]
      ring

def dnum (d : Doc) : K := (evD S d).num

theorem wrapFirst_vals (m : E) (is : List Item1) : ∀ ds : List Doc,
    (wrapFirst m is ds).map (dnum S) = ds.map (dnum S) := by
  induction is with
  | nil => intro ds; cases ds <;> rfl
  | cons i is ih =>
      intro ds
      cases ds with
      | nil => rfl
      | cons d ds =>
          simp only [wrapFirst]
          split
          · simp [dnum]
          · simp only [List.map_cons, ih]

theorem denStrs_vals (b : List Item1) (marks : List E) :
    (denStrs b marks).map (dnum S) = b.map (fun j => dnum S j.doc) := by
  have hfold : ∀ (ms : List E) (ds : List Doc),
      (ms.foldl (fun acc m => wrapFirst m b acc) ds).map (dnum S) = ds.map (dnum S) := fun ms ds =>
    List.foldl_inv (fun acc m => wrapFirst m b acc) (fun acc => acc.map (dnum S) = ds.map (dnum S)) ms ds rfl
      fun acc m _ h => (wrapFirst_vals S m b acc).trans h
  unfold denStrs
  split
  · simp [dnum, evD_bracket]
  · rw [hfold]; simp [dnum, evD_bracket, Function.comp]

theorem assemble_num (hL : Laws S) (num : Doc) (ds : List Doc) :
    (evD S (assemble num ds)).num = (evD S num).num * (prodK (ds.map (dnum S)))⁻¹ := by
  unfold assemble
  split
  · simp [prodK]
  · simp [prodK, dnum]; ring
  · simp only [evD_div_num, evD_paren, prodChain_num S hL, div_eq_mul_inv]; rfl

theorem mulDoc_num (hL : Laws S) (sign : Bool) (fs : List Item1) (hg : ∀ f ∈ fs, Good1 f)
    (hs : ∀ f ∈ fs, Sem1 S f) :
    (evD S (mulDoc sign fs)).num = (if sign then -1 else 1) * prodK (vals S fs) := by
  have hb : (partition fs).2.1.map (fun j => dnum S j.doc) = vals S (partition fs).2.1 :=
    List.map_congr_left ((partition_fac fs hs (sem_int S hL)).2 fun f hf => sem_negPow S hL f (hg f hf) (hs f hf))
  -- `a or [S.One]`: the value of the numerator operands is that of `a`
  have ha : prodK (((mulNum fs).map fun i => bracket i.e i.doc 50).map fun d => (evD S d).num) =
      prodK (vals S (partition fs).1) := by
    rw [List.map_map]
    have : (mulNum fs).map ((fun d => (evD S d).num) ∘ fun i => bracket i.e i.doc 50) = vals S (mulNum fs) :=
      List.map_congr_left fun j hj => by
        rw [Function.comp_apply, evD_bracket]; exact mulNum_fac fs hs (sem_int S hL) j hj
    rw [this]
    by_cases he : (partition fs).1 = []
    · rw [mulNum_nil he, he]; simp [vals, prodK, num1, ev]
    · rw [mulNum_cons he]
  rw [mulDoc_ops, assemble_num S hL, denStrs_vals, hb, partition_val S hL fs hg]
  split
  · rw [negFirst_num, prodChain_num S hL, ha]; ring
  · rw [prodChain_num S hL, ha]; ring

end C11
