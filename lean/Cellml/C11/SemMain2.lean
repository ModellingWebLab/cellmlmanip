import Cellml.C11.SemMain
import Cellml.C11.Groups4

/-! C11 — `print_means`, part 6: the induction over the printed nodes. -/
namespace C11
variable {K : Type} [Field K] (S : Sem K)

theorem args_num (a : E) (hp : proper a = true) (h : ∀ x ∈ toList a, (evD S (pr x).doc).num = (ev S x).num) :
    ((toList a).map mk).map (fun i => (evD S i.doc).num) = (ev S a).nums := by
  rw [(ev_nums_list S a hp).1, List.map_map]
  exact List.map_congr_left h

theorem chain_val (splice : Doc → Doc → Doc) (p : Nat) (op : Bool → Bool → Bool) (fold : List Bool → Bool)
    (hop : ∀ a b c, op (op a b) c = op a (op b c)) (hnil : ∀ a, op a (fold []) = a)
    (hcons : ∀ a l, fold (a :: l) = op a (fold l))
    (hsp : ∀ acc d, (evD S (splice acc d)).bool = op (evD S acc).bool (evD S d).bool ∧
      (evD S (splice acc d)).num = b2k (op (evD S acc).bool (evD S d).bool))
    (a : E) (h2 : ∃ x y t, a = .cons x (.cons y t)) (hp : proper a = true)
    (h : ∀ x ∈ toList a, (evD S (pr x).doc).bool = (ev S x).bool) :
    (evD S (boolChain splice p ((toList a).map mk))).bool = fold (ev S a).bools ∧
      (evD S (boolChain splice p ((toList a).map mk))).num = b2k (fold (ev S a).bools) := by
  have hb : ((toList a).map mk).map (fun k => (evD S k.doc).bool) = (ev S a).bools := by
    rw [(ev_nums_list S a hp).2, List.map_map]
    exact List.map_congr_left h
  obtain ⟨x, y, t, rfl⟩ := h2
  rw [← hb]
  exact boolChain_val S splice p op fold hop hnil hcons hsp (mk x) (mk y) ((toList t).map mk)

theorem meant (hL : Laws S) : ∀ s e, Dom (· = .ok) s e → Tc S s e := by
  refine Dom.induct fun s e h ih => ?_
  cases e with
  | sym n c =>
    cases s
    · rfl
    · exact ⟨rfl, rfl⟩
    · have := h.w; simp [wf] at this
  | int n | rat p q | flt t n =>
    have hs : s = .A := by have := h.w; simp [wf] at this; simp_all
    subst hs
    exact numDoc_num S hL _ h.w rfl
  | pi | e1 | deriv x t =>
    have hs : s = .A := by simpa [wf] using h.w
    subst hs; rfl
  | tt =>
    have hs : s = .B := by simpa [wf] using h.w
    subst hs; exact ⟨hL.true_num, hL.true_bool⟩
  | ff =>
    have hs : s = .B := by simpa [wf] using h.w
    subst hs; exact ⟨hL.false_num, hL.false_bool⟩
  | other w => exact h.not_other.elim
  | nil | cons _ _ => exact (h.not_list rfl).elim
  | add a =>
    obtain ⟨rfl, hp, hd, hne, hk⟩ := h.add inh_ok
    have hall : ∀ i ∈ (toList a).map mk, (PyOK i.doc = true ∧ 40 ≤ level i.doc) ∧ 40 ≤ prec i.e := fun i hi => by
      obtain ⟨x, hx, rfl⟩ := List.mem_map.mp hi
      have g := grouped .A x (hk x hx).1
      exact ⟨⟨g.1, g.2.1⟩, prec_ge_40 x (hk x hx).1.w (hk x hx).1.node⟩
    show (evD S (pr (.add a)).doc).num = (ev S (.add a)).num
    rw [hd, addDoc_num S _ (by simpa using hne) hall,
      args_num S a hp (fun x hx => ih .A x (hk x hx).2 (hk x hx).1)]
    rfl
  | and a =>
    obtain ⟨rfl, hp, hd, h2, hk⟩ := h.and inh_ok
    have := chain_val S spliceAnd 30 (· && ·) (·.all id) Bool.and_assoc (by simp) (by simp) (spliceAnd_bool S) a h2 hp
      (fun z hz => (ih .B z (hk z hz).2 (hk z hz).1).2)
    show (evD S (pr (.and a)).doc).num = (ev S (.and a)).num ∧ (evD S (pr (.and a)).doc).bool = (ev S (.and a)).bool
    rw [hd, this.1, this.2]
    exact ⟨rfl, rfl⟩
  | or a =>
    obtain ⟨rfl, hp, hd, h2, hk⟩ := h.or inh_ok
    have := chain_val S spliceOr 20 (· || ·) (·.any id) Bool.or_assoc (by simp) (by simp) (spliceOr_bool S) a h2 hp
      (fun z hz => (ih .B z (hk z hz).2 (hk z hz).1).2)
    show (evD S (pr (.or a)).doc).num = (ev S (.or a)).num ∧ (evD S (pr (.or a)).doc).bool = (ev S (.or a)).bool
    rw [hd, this.1, this.2]
    exact ⟨rfl, rfl⟩
  | fn name a =>
    obtain ⟨rfl, hp, hdoc, hk⟩ := h.fn inh_ok
    obtain ⟨f, hf⟩ := fn_known h.ok
    have hd := hdoc f hf
    show (evD S (pr (.fn name a)).doc).num = (ev S (.fn name a)).num
    rw [hd]
    simp only [evD, ev, evD_nums_list S a hp, (ev_nums_list S a hp).1, hL.fn_table name f hf]
    congr 1
    exact List.map_congr_left (fun x hx => ih .A x (hk x hx).2 (hk x hx).1)
  | rel r a b =>
    obtain ⟨rfl, hab⟩ := h.rel inh_ok
    have ha' : sizeOf a < sizeOf (E.rel r a b) := by rw [E.rel.sizeOf_spec]; omega
    have hb' : sizeOf b < sizeOf (E.rel r a b) := by rw [E.rel.sizeOf_spec]; omega
    have hnum : (evD S (pr a).doc).num = (ev S a).num ∧ (evD S (pr b).doc).num = (ev S b).num := by
      rcases hab with ⟨ha, hb⟩ | ⟨_, ha, hb⟩
      · exact ⟨ih .A a ha' ha, ih .A b hb' hb⟩
      · exact ⟨(ih .B a ha' ha).1, (ih .B b hb' hb).1⟩
    show (evD S (pr (.rel r a b)).doc).num = _ ∧ (evD S (pr (.rel r a b)).doc).bool = _
    simp only [pr, evD, ev, evD_bracket, hnum.1, hnum.2, and_self]
  | pow b x =>
    obtain ⟨rfl, hd, _, hb, hx⟩ := h.pow inh_ok
    have tb : (evD S (pr b).doc).num = (ev S b).num := ih .A b (by rw [E.pow.sizeOf_spec]; omega) hb
    have tx : (evD S (pr x).doc).num = (ev S x).num := ih .A x (by rw [E.pow.sizeOf_spec]; omega) hx
    show (evD S (pr (.pow b x)).doc).num = (ev S (.pow b x)).num
    rw [hd, powDoc_num S hL b x _ _ tx, tb]; rfl
  | pair v c =>
    obtain ⟨rfl, hv, hc⟩ := h.pair inh_ok
    have tv : (evD S (pr v).doc).num = (ev S v).num := ih .A v (by rw [E.pair.sizeOf_spec]; omega) hv
    have tc := ih .B c (by rw [E.pair.sizeOf_spec]; omega) hc
    show (evD S (pr (.pair v c)).doc).num = _ ∧ (evD S (pr (.pair v c)).base).bool = _
    simp only [pr, ev, tv, tc.2, and_self]
  | pw ps =>
    obtain ⟨rfl, hp, hd, hst, hk⟩ := h.pw
    have h2 := pwInner_val S ((toList ps).map mk) hst
      (fun i hi hsti => by
        obtain ⟨x, hx, rfl⟩ := List.mem_map.mp hi
        have := ih .P x (hk x hx hsti).2 (hk x hx hsti).1
        exact ⟨this.1, fun _ => this.2⟩)
      (fun i hi htp => by
        obtain ⟨x, hx, rfl⟩ := List.mem_map.mp hi
        obtain ⟨v, rfl⟩ := isTruePair_cases _ htp
        simp [mk, ev])
    rw [List.map_map, List.map_map] at h2
    show (evD S (pr (.pw ps)).doc).num = (ev S (.pw ps)).num
    rw [hd]
    simp only [evD_paren, ev, (ev_nums_list S ps hp).1, (ev_nums_list S ps hp).2]
    exact h2
  | mul a =>
    obtain ⟨rfl, sg, fs, hmi, hd, hf⟩ := h.factors inh_ok her_size trivial
    obtain ⟨_, hp, _, _, hk⟩ := h.mul inh_ok
    have hsem : ∀ f ∈ fs, Sem1 S f := fun f hf' => (hf f hf').fac inh_ok her_size (R := SemR S)
      (fun g hg hdg _ => ih .A g hg hdg)
      (fun k hk => numDoc_num S hL k (good_num k hk).1 (by cases k <;> first | rfl | cases hk))
    have hval := mulItems_val S hL ((toList a).map mk)
      (fun i hi => by obtain ⟨x, hx, rfl⟩ := List.mem_map.mp hi; exact (hk x hx).1.w)
      (fun i hi hm => by
        obtain ⟨x, hx, rfl⟩ := List.mem_map.mp hi
        obtain ⟨l, rfl⟩ := isMul_cases x hm
        obtain ⟨_, hpl, _, hil, _⟩ := (hk _ hx).1.mul inh_ok
        simp only [mk, hil, vals, List.map_map, ev, (ev_nums_list S l hpl).1]; rfl)
      sg fs hmi
    show (evD S (pr (.mul a)).doc).num = (ev S (.mul a)).num
    rw [hd, mulDoc_num S hL sg fs (fun f hf' => (hf f hf').good1 her_size) hsem, hval]
    simp only [itemVals, List.map_map, ev, (ev_nums_list S a hp).1]; rfl

end C11
