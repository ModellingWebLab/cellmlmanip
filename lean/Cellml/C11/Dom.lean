import Cellml.C11.Wf

/-! C11 — the printed nodes of the domain, what each constructor passes to its children, and the induction over them.

    Every theorem about `pr` on its domain (grouping, meaning, the text of the generated code, its leftmost token, what
    the generated code rejects) is about a node `e` with `wf s e`, `isList e = false` and a status that is `ok` (or, for
    the rejections, not `unsup`): `Dom T s e`. One inversion per constructor says what `pr` built there from the printed
    children `mk` (for `rel` and `pair` the tree does not depend on the status: it is `pr` unfolded), and that the
    children are in `Dom` again; `Dom.induct` gives the statement for everything below a node, which is what a product
    needs (the factors of a factor, the base of a power among them). For a product, `Dom.factors` says which factors
    reach `mulDoc`, and `partition_fac` / `mulNum_fac` that the operands `classify` makes of them inherit whatever
    relation `R` between expressions and printed forms holds of the factors (`Fac R`). -/
namespace C11

/-- a property of the status that the operands of `join` inherit and `unsup` does not have: `= ok`, `≠ unsup` -/
structure Inh (T : Status → Prop) : Prop where
  join : ∀ a b, T (a.join b) → T a ∧ T b
  unsup : ¬ T .unsup

theorem inh_ok : Inh (· = .ok) := ⟨fun a b h => (join_ok a b).mp h, fun h => nomatch h⟩

theorem inh_nu : Inh (· ≠ .unsup) :=
  ⟨fun a b h => by cases a <;> cases b <;> simp_all [Status.join], fun h => h rfl⟩

/-- a node of sort `s` whose status has the property `T`: `= ok`, it is printed; `≠ unsup`, it is printed or rejected -/
structure Dom (T : Status → Prop) (s : Srt) (e : E) : Prop where
  w : wf s e = true
  node : isList e = false
  ok : T (pr e).st

variable {T : Status → Prop}

theorem Dom.not_other {s : Srt} {w : String} (h : Dom (· = .ok) s (.other w)) : False := by
  have := h.ok; simp [pr] at this

theorem Dom.not_list {s : Srt} {e : E} (h : Dom T s e) (hl : isList e = true) : False := by
  rw [h.node] at hl; cases hl

theorem sizeOf_toList {x a : E} (h : x ∈ toList a) : sizeOf x < sizeOf a := by
  induction a with
  | cons hd tl _ iht =>
      rcases List.mem_cons.mp h with rfl | h
      · simp only [E.cons.sizeOf_spec]; omega
      · have := iht h; simp only [E.cons.sizeOf_spec]; omega
  | _ => cases h

theorem Dom.induct {P : Srt → E → Prop}
    (step : ∀ s e, Dom T s e → (∀ s' c, sizeOf c < sizeOf e → Dom T s' c → P s' c) → P s e) :
    ∀ s e, Dom T s e → P s e := by
  intro s e
  induction hn : sizeOf e using Nat.strongRecOn generalizing s e with
  | _ n ih => subst hn; exact fun h => step s e h (fun s' c hc hd => ih _ hc s' c rfl hd)

theorem Dom.args {s : Srt} {a : E} (hT : Inh T) (hl : isList a = true) (hw : wf s a = true) (hst : T (pr a).st) :
    proper a = true ∧ (pr a).items = (toList a).map C11.mk ∧ ∀ x ∈ toList a, Dom T s x ∧ sizeOf x < 1 + sizeOf a :=
  have hp := proper_of_wf s a hl hw
  ⟨hp, items_list a hp, fun x hx => ⟨⟨(wf_list s a hw x hx).1, (wf_list s a hw x hx).2, st_list_T hT.join a hp hst x hx⟩,
    Nat.lt_add_left 1 (sizeOf_toList hx)⟩⟩

theorem Dom.add {s : Srt} {a : E} (hT : Inh T) (h : Dom T s (.add a)) :
    s = .A ∧ proper a = true ∧ (pr (.add a)).doc = addDoc ((toList a).map C11.mk) ∧ toList a ≠ [] ∧
      ∀ x ∈ toList a, Dom T .A x ∧ sizeOf x < sizeOf (E.add a) := by
  obtain ⟨hw, _, hst⟩ := h
  simp only [wf, Bool.and_eq_true, beq_iff_eq] at hw
  obtain ⟨⟨rfl, hl⟩, hwa⟩ := hw
  simp only [pr] at hst
  split at hst
  · exact absurd hst hT.unsup
  next hne =>
    have ha := Dom.args hT hl hwa hst
    refine ⟨rfl, ha.1, by simp only [pr, ha.2.1], ?_, E.add.sizeOf_spec a ▸ ha.2.2⟩
    intro h0; rw [ha.2.1, h0] at hne; exact hne rfl

theorem Dom.chain {s : Srt} {a : E} (c : E → E) (sp : Doc → Doc → Doc) (p : Nat)
    (hw : ∀ s, wf s (c a) = (s == .B && isList a && wf .B a && twoPlus a))
    (hpr : pr (c a) = ⟨if (pr a).items.isEmpty then .unsup else (pr a).st, boolChain sp p (pr a).items, .nil, []⟩)
    (hsz : sizeOf (c a) = 1 + sizeOf a) (hT : Inh T) (h : Dom T s (c a)) :
    s = .B ∧ proper a = true ∧ (pr (c a)).doc = boolChain sp p ((toList a).map C11.mk) ∧
      (∃ x y t, a = .cons x (.cons y t)) ∧
      ∀ x ∈ toList a, Dom T .B x ∧ sizeOf x < sizeOf (c a) := by
  obtain ⟨hw', _, hst⟩ := h
  rw [hw] at hw'
  simp only [Bool.and_eq_true, beq_iff_eq] at hw'
  obtain ⟨⟨⟨rfl, hl⟩, hwa⟩, h2⟩ := hw'
  rw [hpr] at hst ⊢
  simp only at hst
  split at hst
  · exact absurd hst hT.unsup
  · have ha := Dom.args hT hl hwa hst
    exact ⟨rfl, ha.1, by simp only [ha.2.1], two_of_twoPlus a h2, hsz ▸ ha.2.2⟩

theorem Dom.and {s : Srt} {a : E} (hT : Inh T) (h : Dom T s (.and a)) :
    s = .B ∧ proper a = true ∧ (pr (.and a)).doc = boolChain spliceAnd 30 ((toList a).map C11.mk) ∧
      (∃ x y t, a = .cons x (.cons y t)) ∧
      ∀ x ∈ toList a, Dom T .B x ∧ sizeOf x < sizeOf (E.and a) :=
  Dom.chain .and spliceAnd 30 (fun _ => rfl) (by simp only [pr]) (E.and.sizeOf_spec a) hT h

theorem Dom.or {s : Srt} {a : E} (hT : Inh T) (h : Dom T s (.or a)) :
    s = .B ∧ proper a = true ∧ (pr (.or a)).doc = boolChain spliceOr 20 ((toList a).map C11.mk) ∧
      (∃ x y t, a = .cons x (.cons y t)) ∧
      ∀ x ∈ toList a, Dom T .B x ∧ sizeOf x < sizeOf (E.or a) :=
  Dom.chain .or spliceOr 20 (fun _ => rfl) (by simp only [pr]) (E.or.sizeOf_spec a) hT h

theorem Dom.fn {s : Srt} {name : String} {a : E} (hT : Inh T) (h : Dom T s (.fn name a)) :
    s = .A ∧ proper a = true ∧ (∀ f, fnName name = some f → (pr (.fn name a)).doc = .call f (pr a).doc) ∧
      ∀ x ∈ toList a, Dom T .A x ∧ sizeOf x < sizeOf (E.fn name a) := by
  obtain ⟨hw, _, hst⟩ := h
  simp only [wf, Bool.and_eq_true, beq_iff_eq] at hw
  obtain ⟨⟨rfl, hl⟩, hwa⟩ := hw
  have hsa : T (pr a).st := by
    simp only [pr] at hst
    split at hst
    · exact hst
    · exact (hT.join _ _ hst).1
  exact ⟨rfl, proper_of_wf .A a hl hwa, fun f hf => by simp only [pr, hf], fun x hx =>
    ⟨((Dom.args hT hl hwa hsa).2.2 x hx).1, by have := ((Dom.args hT hl hwa hsa).2.2 x hx).2; rw [E.fn.sizeOf_spec]; omega⟩⟩

theorem fn_known {name : String} {a : E} (h : (pr (.fn name a)).st = .ok) : ∃ f, fnName name = some f := by
  simp only [pr] at h
  split at h
  next f hf => exact ⟨f, hf⟩
  next => cases ((join_ok _ _).mp h).2

theorem Dom.pow {s : Srt} {b x : E} (hT : Inh T) (h : Dom T s (.pow b x)) :
    s = .A ∧ (pr (.pow b x)).doc = powDoc b x (pr b).doc (pr x).doc ∧ (pr (.pow b x)).base = (pr b).doc ∧
      Dom T .A b ∧ Dom T .A x := by
  obtain ⟨hw, _, hst⟩ := h
  simp only [wf, Bool.and_eq_true, beq_iff_eq, Bool.not_eq_true'] at hw
  obtain ⟨⟨⟨⟨rfl, hlb⟩, hlx⟩, hwb⟩, hwx⟩ := hw
  simp only [pr] at hst
  split at hst
  · exact absurd hst hT.unsup
  · have := hT.join _ _ hst
    exact ⟨rfl, by simp only [pr], by simp only [pr], ⟨hwb, hlb, this.1⟩, ⟨hwx, hlx, this.2⟩⟩

/-- the test for `Eq`/`Ne` is handed on as the Boolean it is in `wf`: `Rel` derives a `BEq` of its own, without
    `LawfulBEq` -/
theorem Dom.rel {s : Srt} {r : Rel} {a b : E} (hT : Inh T) (h : Dom T s (.rel r a b)) :
    s = .B ∧ ((Dom T .A a ∧ Dom T .A b) ∨ ((r == .eq || r == .ne) = true ∧ Dom T .B a ∧ Dom T .B b)) := by
  obtain ⟨hw, _, hst⟩ := h
  simp only [wf, Bool.and_eq_true, beq_iff_eq, Bool.or_eq_true, Bool.not_eq_true'] at hw
  obtain ⟨⟨⟨rfl, hla⟩, hlb⟩, hsort⟩ := hw
  simp only [pr] at hst
  replace hst := hT.join _ _ hst
  refine ⟨rfl, ?_⟩
  rcases hsort with ⟨hwa, hwb⟩ | ⟨⟨hr, hwa⟩, hwb⟩
  · exact Or.inl ⟨⟨hwa, hla, hst.1⟩, ⟨hwb, hlb, hst.2⟩⟩
  · exact Or.inr ⟨by simpa using hr, ⟨hwa, hla, hst.1⟩, ⟨hwb, hlb, hst.2⟩⟩

theorem Dom.pair {s : Srt} {v c : E} (hT : Inh T) (h : Dom T s (.pair v c)) : s = .P ∧ Dom T .A v ∧ Dom T .B c := by
  obtain ⟨hw, _, hst⟩ := h
  obtain ⟨rfl, ⟨hwv, hlv⟩, hwc, hlc⟩ := wf_pair hw
  simp only [pr] at hst
  replace hst := hT.join _ _ hst
  exact ⟨rfl, ⟨hwv, hlv, hst.1⟩, ⟨hwc, hlc, hst.2⟩⟩

/-- only where the status is `ok`: `other` is well formed at the sort of pairs too, and its status is `verr` -/
theorem Dom.isPair {h : E} (hd : Dom (· = .ok) .P h) : ∃ v c, h = .pair v c := by
  obtain ⟨hw, hl, hst⟩ := hd
  cases h <;> simp [wf, isList] at hw hl
  case other w => simp [pr] at hst
  case pair v c => exact ⟨v, c, rfl⟩

/-- the pairs behind the first `True` condition are not printed: a pair is in `Dom` only given its own status -/
theorem Dom.pw {s : Srt} {ps : E} (h : Dom T s (.pw ps)) :
    s = .A ∧ proper ps = true ∧ (pr (.pw ps)).doc = .paren (pwInner ((toList ps).map C11.mk)).2 ∧
      T (pwInner ((toList ps).map C11.mk)).1 ∧
      ∀ x ∈ toList ps, T (pr x).st → Dom T .P x ∧ sizeOf x < sizeOf (E.pw ps) := by
  obtain ⟨hw, _, hst⟩ := h
  simp only [wf, Bool.and_eq_true, beq_iff_eq] at hw
  obtain ⟨⟨rfl, hl⟩, hwp⟩ := hw
  have hp := proper_of_wf .P ps hl hwp
  have hi := items_list ps hp
  simp only [pr, hi] at hst
  exact ⟨rfl, hp, by simp only [pr, hi], hst,
    fun x hx hs => ⟨⟨(wf_list .P ps hwp x hx).1, (wf_list .P ps hwp x hx).2, hs⟩,
      E.pw.sizeOf_spec ps ▸ Nat.lt_add_left 1 (sizeOf_toList hx)⟩⟩

theorem items_mul (a : E) : (pr (.mul a)).items = (pr a).items := by
  simp only [pr]; split <;> rfl

theorem Dom.mul {s : Srt} {a : E} (hT : Inh T) (h : Dom T s (.mul a)) :
    s = .A ∧ proper a = true ∧
      (∃ sg fs, mulItems ((toList a).map C11.mk) = some (sg, fs) ∧ (pr (.mul a)).doc = mulDoc sg fs) ∧
      (pr (.mul a)).items = (toList a).map C11.mk ∧ ∀ x ∈ toList a, Dom T .A x ∧ sizeOf x < sizeOf (E.mul a) := by
  obtain ⟨hw, _, hst⟩ := h
  simp only [wf, Bool.and_eq_true, beq_iff_eq] at hw
  obtain ⟨⟨rfl, hl⟩, hwa⟩ := hw
  simp only [pr] at hst
  split at hst
  · exact absurd hst hT.unsup
  next sg fs hmi =>
    have ha := Dom.args hT hl hwa hst
    refine ⟨rfl, ha.1, ⟨sg, fs, ha.2.1 ▸ hmi, by simp only [pr, hmi]⟩, (items_mul a).trans ha.2.1, E.mul.sizeOf_spec a ▸ ha.2.2⟩

theorem map_mk_e (l : List E) : (l.map mk).map (·.e) = l := by
  simp [List.map_map, Function.comp_def, mk]

theorem mk_mul_sub {T : Status → Prop} (hT : Inh T) {s : Srt} {l : E} (h : Dom T s (.mul l)) :
    (C11.mk (.mul l)).sub = (toList l).map fun g => (C11.mk g).one := by
  obtain ⟨_, _, _, hil, _⟩ := h.mul hT
  simp [C11.mk, hil, List.map_map, Function.comp_def]

theorem pwInner_mk_st (h : E) (r : List Item) :
    (pwInner (mk h :: r)).1 = if isTruePair h then (pr h).st else (pr h).st.join (pwInner r).1 := by
  cases hp : isTruePair h <;> simp [pwInner, mk, hp]

theorem keepCoeffMul_mem (k : E) (margs l : List Item1) (h : KeepCoeffMul k margs l) :
    ∀ f ∈ l, f ∈ margs ∨ f = num1 k ∨ ∃ n, f = num1 (.int n) := by
  intro f hf
  cases h with
  | front m rest => exact (List.mem_cons.mp hf).elim (fun h => Or.inr (Or.inl h)) Or.inl
  | unit a b m rest => exact Or.inl (List.mem_cons_of_mem _ hf)
  | times a b m rest =>
    exact (List.mem_cons.mp hf).elim (fun h => Or.inr (Or.inr ⟨_, h⟩)) (fun h => Or.inl (List.mem_cons_of_mem _ h))

/-- where the factors that `mulItems` hands to `mulDoc` come from: the printed factors, the printed factors of a
    factor that is a product, or a number made by `_keep_coeff` -/
theorem mulItems_mem (items : List Item) (s : Bool) (fs : List Item1) (hmi : mulItems items = some (s, fs)) :
    ∀ f ∈ fs, (∃ i ∈ items, f = i.one) ∨ (∃ i ∈ items, isMul i.e = true ∧ f ∈ i.sub) ∨
      (∃ k, f = num1 k ∧ numOK k = true) := by
  intro f hf
  have hone : ∀ l : List Item, (∀ i ∈ l, i ∈ items) → f ∈ l.map Item.one → ∃ i ∈ items, f = i.one := by
    intro l hl hf
    obtain ⟨i, hi, rfl⟩ := List.mem_map.mp hf
    exact ⟨i, hl i hi, rfl⟩
  have hnum : ∀ k, numOK k = true → f = num1 k ∨ (∃ n, f = num1 (.int n)) → ∃ k, f = num1 k ∧ numOK k = true := by
    rintro k hk (rfl | ⟨n, rfl⟩)
    · exact ⟨_, rfl, hk⟩
    · exact ⟨_, rfl, rfl⟩
  cases mulItems_inv items s fs hmi with
  | pos c rest => exact Or.inl (hone _ (fun _ h => h) hf)
  | negOne c r =>
    split at hf
    next hm => exact Or.inr (Or.inl ⟨r, by simp, hm, hf⟩)
    · exact Or.inl ⟨r, by simp, List.mem_singleton.mp hf⟩
  | negMany c rest => exact Or.inl (hone _ (fun _ h => List.mem_cons_of_mem _ h) hf)
  | one c r hn hk => exact Or.inr (Or.inr (hnum _ hk (Or.inl (List.mem_singleton.mp hf))))
  | add c r a hn hk | opaq c r hn hk =>
    simp only [List.mem_cons, List.not_mem_nil, or_false] at hf
    rcases hf with rfl | rfl
    · exact Or.inr (Or.inr ⟨_, rfl, hk⟩)
    · exact Or.inl ⟨r, by simp, rfl⟩
  | mul c r a l hn hk _ hr hl =>
    rcases keepCoeffMul_mem _ _ _ hl f hf with h | h
    · exact Or.inr (Or.inl ⟨r, by simp, by rw [hr]; rfl, h⟩)
    · exact Or.inr (Or.inr (hnum _ hk h))
  | many c r1 r2 rest l hn hk _ hl =>
    rcases keepCoeffMul_mem _ _ _ hl f hf with h | h
    · exact Or.inl (hone _ (fun _ h => List.mem_cons_of_mem _ h) h)
    · exact Or.inr (Or.inr (hnum _ hk h))

theorem keepCoeffMul_keeps (V : Item1 → Prop) (hVnum : ∀ f : Item1, isNum f.e = true → ¬ V f) (k : E)
    (margs l : List Item1) (h : KeepCoeffMul k margs l) (hex : ∃ f ∈ margs, V f) : ∃ f ∈ l, V f := by
  obtain ⟨f, hf, hVf⟩ := hex
  -- a leading number is not the rejected factor
  have hrest : ∀ (m : Item1) rest b, margs = m :: rest → m.e = .int b → f ∈ rest := by
    rintro m rest b rfl hm
    rcases List.mem_cons.mp hf with rfl | hf
    · exact absurd hVf (hVnum _ (by rw [hm]; rfl))
    · exact hf
  cases h with
  | front m rest => exact ⟨f, List.mem_cons_of_mem _ hf, hVf⟩
  | unit a b m rest _ hm => exact ⟨f, hrest m _ b rfl hm, hVf⟩
  | times a b m rest _ hm => exact ⟨f, List.mem_cons_of_mem _ (hrest m rest b rfl hm), hVf⟩

/-- a rejected factor survives `mulItems`: as itself, or — when the product `-1 * Mul(…)` is flattened — as one of the
    rejected factors of that factor -/
theorem mulItems_keeps (V : Item1 → Prop) (hVnum : ∀ f : Item1, isNum f.e = true → ¬ V f)
    (items : List Item) (s : Bool) (fs : List Item1) (hmi : mulItems items = some (s, fs))
    (hex : ∃ i ∈ items, V i.one ∧ (isMul i.e = true → ∃ j ∈ i.sub, V j)) : ∃ f ∈ fs, V f := by
  obtain ⟨i, hi, hVi, hVsub⟩ := hex
  -- a negative coefficient is a number, so the rejected factor is among the others
  have hir : ∀ (c : Item) rest, items = c :: rest → isNegNum c.e = true → i ∈ rest := by
    rintro c rest rfl hn
    rcases List.mem_cons.mp hi with rfl | h
    · exact absurd hVi (hVnum _ (isNum_of_isNegNum _ hn))
    · exact h
  have hm1 : ∀ c : Item, c.e = .int (-1) → isNegNum c.e = true := fun c h => by rw [h]; rfl
  cases mulItems_inv items s fs hmi with
  | pos c rest => exact ⟨i.one, List.mem_map_of_mem hi, hVi⟩
  | negOne c r hc =>
    obtain rfl := List.mem_singleton.mp (hir c _ rfl (hm1 c hc))
    split
    next hm => exact hVsub hm
    · exact ⟨_, List.mem_singleton_self _, hVi⟩
  | negMany c rest hc => exact ⟨i.one, List.mem_map_of_mem (hir c _ rfl (hm1 c hc)), hVi⟩
  | one c r hn _ _ hr =>
    obtain rfl := List.mem_singleton.mp (hir c _ rfl hn)
    exact absurd hVi (hVnum _ (by show isNum i.e = true; rw [hr]; rfl))
  | add c r a hn | opaq c r hn =>
    obtain rfl := List.mem_singleton.mp (hir c _ rfl hn)
    exact ⟨i.one, by simp, hVi⟩
  | mul c r a l hn _ _ hr hl =>
    obtain rfl := List.mem_singleton.mp (hir c _ rfl hn)
    exact keepCoeffMul_keeps V hVnum _ _ _ hl (hVsub (by rw [hr]; rfl))
  | many c r1 r2 rest l hn _ _ hl =>
    exact keepCoeffMul_keeps V hVnum _ _ _ hl ⟨i.one, List.mem_map_of_mem (hir c _ rfl hn), hVi⟩

/-- a side condition `Q` and a measure `m` that the factors of a product and the base of a power inherit -/
structure Her (Q : E → Prop) (m : E → Nat) : Prop where
  arg : ∀ l x, x ∈ toList l → Q (.mul l) → Q x ∧ m x < m (.mul l)
  base : ∀ b x, Q (.pow b x) → Q b ∧ m b < m (.pow b x)

theorem her_size : Her (fun _ => True) sizeOf :=
  ⟨fun l x hx _ => ⟨trivial, E.mul.sizeOf_spec l ▸ Nat.lt_add_left 1 (sizeOf_toList hx)⟩,
   fun b x _ => ⟨trivial, by rw [E.pow.sizeOf_spec]; omega⟩⟩

/-- a factor that reaches `mulDoc`: a printed node below the product (measure below `n`), or a number made by
    `_keep_coeff` -/
inductive Factor (T : Status → Prop) (Q : E → Prop) (m : E → Nat) (n : Nat) : Item1 → Prop
  | node (g : E) (hd : Dom T .A g) (hq : Q g) (hn : m g < n) : Factor T Q m n (C11.mk g).one
  | num (k : E) (hk : numOK k = true) : Factor T Q m n (num1 k)

theorem Dom.factors {s : Srt} {a : E} (hT : Inh T) (h : Dom T s (.mul a)) {Q : E → Prop} {m : E → Nat} (hh : Her Q m)
    (hq : Q (.mul a)) :
    s = .A ∧ ∃ sg fs, mulItems ((toList a).map C11.mk) = some (sg, fs) ∧ (pr (.mul a)).doc = mulDoc sg fs ∧
      ∀ f ∈ fs, Factor T Q m (m (E.mul a)) f := by
  obtain ⟨rfl, _, ⟨sg, fs, hmi, hd⟩, _, hk⟩ := h.mul hT
  refine ⟨rfl, sg, fs, hmi, hd, fun f hf => ?_⟩
  rcases mulItems_mem _ _ _ hmi f hf with ⟨i, hi, rfl⟩ | ⟨i, hi, hm, hfi⟩ | ⟨k, rfl, hk'⟩
  · obtain ⟨g, hg, rfl⟩ := List.mem_map.mp hi
    exact .node g (hk g hg).1 (hh.arg a g hg hq).1 (hh.arg a g hg hq).2
  · obtain ⟨g, hg, rfl⟩ := List.mem_map.mp hi
    obtain ⟨l, rfl⟩ := isMul_cases g hm
    obtain ⟨_, _, _, hil, hkl⟩ := (hk _ hg).1.mul hT
    simp only [C11.mk, hil, List.map_map, List.mem_map, Function.comp] at hfi
    obtain ⟨g', hg', rfl⟩ := hfi
    have h1 := hh.arg a _ hg hq
    have h2 := hh.arg l g' hg' h1.1
    exact .node g' (hkl g' hg').1 h2.1 (Nat.lt_trans h2.2 h1.2)
  · exact .num k hk'

/-- `classify` looks at a factor and, when it is a power, at its base -/
def Fac (R : E → Doc → Prop) (f : Item1) : Prop := R f.e f.doc ∧ ∀ b x, f.e = .pow b x → R b f.base

theorem Factor.fac {Q : E → Prop} {m : E → Nat} (hT : Inh T) (hh : Her Q m) {R : E → Doc → Prop} {n : Nat} {f : Item1}
    (h : Factor T Q m n f) (hnode : ∀ g, m g < n → Dom T .A g → Q g → R g (pr g).doc)
    (hnum : ∀ k, numOK k = true → R k (numDoc k)) : Fac R f := by
  cases h with
  | node g hd hq hn =>
    refine ⟨hnode g hn hd hq, fun b x he => ?_⟩
    obtain rfl : g = .pow b x := he
    have hp := hd.pow hT
    show R b (pr (.pow b x)).base
    rw [hp.2.2.1]
    exact hnode b (Nat.lt_trans (hh.base b x hq).2 hn) hp.2.2.2.1 (hh.base b x hq).1
  | num k hk =>
    refine ⟨hnum k hk, fun b x he => ?_⟩
    obtain rfl : k = .pow b x := he
    cases hk

theorem partition_flat (fs : List Item1) :
    partition fs = (fs.flatMap fun f => (classify f).1, fs.flatMap fun f => (classify f).2.1,
      fs.flatMap fun f => (classify f).2.2) := by
  induction fs with
  | nil => rfl
  | cons f fs ih => simp only [partition, ih, List.flatMap_cons]

theorem forall_mem_ite_nil {α : Type} (c : Prop) [Decidable c] (a : α) (P : α → Prop) (h : P a) :
    ∀ j ∈ (if c then [] else [a]), P j := by
  split
  · exact fun _ hj => nomatch hj
  · exact List.forall_mem_singleton.mpr h

theorem classify_fac {R : E → Doc → Prop} (f : Item1) (hf : Fac R f) (hint : ∀ n, R (.int n) (intDoc n)) :
    (∀ j ∈ (classify f).1, R j.e j.doc) ∧
    ((∀ b x, f.e = .pow b x → isNegRat x = true →
        R (.pow b (negNum x)) (powDoc b (negNum x) f.base (numDoc (negNum x)))) →
      ∀ j ∈ (classify f).2.1, R j.e j.doc) := by
  have h := classify_inv f
  generalize classify f = r at h ⊢
  cases h with
  | recip b he => exact ⟨(fun _ hj => nomatch hj), fun _ => List.forall_mem_singleton.mpr (hf.2 b _ he)⟩
  | negPow b x he hn => exact ⟨(fun _ hj => nomatch hj), fun hp => List.forall_mem_singleton.mpr (hp b x he hn)⟩
  | int n he => exact ⟨forall_mem_ite_nil _ _ _ (hint n), fun _ _ hj => nomatch hj⟩
  | rat p q he => exact ⟨forall_mem_ite_nil _ _ _ (hint p), fun _ => List.forall_mem_singleton.mpr (hint q)⟩
  | keep => exact ⟨List.forall_mem_singleton.mpr hf.1, fun _ _ hj => nomatch hj⟩

theorem partition_fac {R : E → Doc → Prop} (fs : List Item1) (hf : ∀ f ∈ fs, Fac R f)
    (hint : ∀ n, R (.int n) (intDoc n)) :
    (∀ j ∈ (partition fs).1, R j.e j.doc) ∧
    ((∀ f ∈ fs, ∀ b x, f.e = .pow b x → isNegRat x = true →
        R (.pow b (negNum x)) (powDoc b (negNum x) f.base (numDoc (negNum x)))) →
      ∀ j ∈ (partition fs).2.1, R j.e j.doc) := by
  rw [partition_flat]
  refine ⟨fun j hj => ?_, fun hp j hj => ?_⟩
  · obtain ⟨f, hff, hj⟩ := List.mem_flatMap.mp hj
    exact (classify_fac f (hf f hff) hint).1 j hj
  · obtain ⟨f, hff, hj⟩ := List.mem_flatMap.mp hj
    exact (classify_fac f (hf f hff) hint).2 (hp f hff) j hj

/-- the numerator operands: `a or [S.One]` -/
def mulNum (fs : List Item1) : List Item1 :=
  if (partition fs).1.isEmpty then [num1 (.int 1)] else (partition fs).1

theorem mulNum_nil {fs : List Item1} (h : (partition fs).1 = []) : mulNum fs = [num1 (.int 1)] := by simp [mulNum, h]

theorem mulNum_cons {fs : List Item1} (h : (partition fs).1 ≠ []) : mulNum fs = (partition fs).1 := by simp [mulNum, h]

theorem mulNum_ne_nil (fs : List Item1) : mulNum fs ≠ [] := fun h => by
  by_cases he : (partition fs).1 = []
  · rw [mulNum_nil he] at h; cases h
  · exact he (mulNum_cons he ▸ h)

theorem mem_mulNum {fs : List Item1} {j : Item1} (h : j ∈ mulNum fs) : j = num1 (.int 1) ∨ j ∈ (partition fs).1 := by
  by_cases he : (partition fs).1 = []
  · rw [mulNum_nil he] at h; exact Or.inl (List.mem_singleton.mp h)
  · rw [mulNum_cons he] at h; exact Or.inr h

theorem mulNum_of_mem {fs : List Item1} {j : Item1} (h : j ∈ (partition fs).1) : j ∈ mulNum fs := by
  rw [mulNum_cons (List.ne_nil_of_mem h)]; exact h

theorem mulNum_fac {R : E → Doc → Prop} (fs : List Item1) (hf : ∀ f ∈ fs, Fac R f)
    (hint : ∀ n, R (.int n) (intDoc n)) : ∀ j ∈ mulNum fs, R j.e j.doc := fun j hj =>
  (mem_mulNum hj).elim (fun h => h ▸ hint 1) ((partition_fac fs hf hint).1 j)

theorem mulDoc_ops (s : Bool) (fs : List Item1) :
    mulDoc s fs = assemble
      (if s then negFirst (prodChain ((mulNum fs).map fun i => bracket i.e i.doc 50))
       else prodChain ((mulNum fs).map fun i => bracket i.e i.doc 50))
      (denStrs (partition fs).2.1 (partition fs).2.2) := by
  unfold mulDoc mulNum
  rcases partition fs with ⟨a, b, m⟩
  rfl

/-- a `pow_brackets` mark is the expression of a denominator of the same factor -/
theorem classify_mark (i : Item1) : ∀ m ∈ (classify i).2.2, ∃ j ∈ (classify i).2.1, j.e = m := by
  have h := classify_inv i
  generalize classify i = r at h ⊢
  cases h with
  | recip b he =>
    intro m hm
    split at hm
    · exact ⟨_, List.mem_singleton_self _, (List.mem_singleton.mp hm).symm⟩
    · cases hm
  | negPow | int | rat | keep => exact fun _ hm => nomatch hm

theorem partition_mark (fs : List Item1) : ∀ m ∈ (partition fs).2.2, ∃ j ∈ (partition fs).2.1, j.e = m := by
  rw [partition_flat]
  intro m hm
  obtain ⟨f, hf, hm⟩ := List.mem_flatMap.mp hm
  obtain ⟨j, hj, e⟩ := classify_mark f m hm
  exact ⟨j, List.mem_flatMap.mpr ⟨f, hf, hj⟩, e⟩

end C11
