import Cellml.C11.Wf
import Cellml.C11.DocLemmas

/-! C11 — `print_groups`, part 1: bracketing, sums, boolean chains. -/
namespace C11

theorem bracketA_ok (e : E) (d : Doc) (p : Nat) (hp : PyOK d = true) (hl : LvA e d) :
    PyOK (bracket e d p) = true ∧ 40 ≤ level (bracket e d p) ∧ (p = 50 → 50 ≤ level (bracket e d p)) ∧
      (p = 60 → 55 ≤ level (bracket e d p)) ∧ (p = 61 → 100 ≤ level (bracket e d p)) := by
  obtain ⟨h40, h50, h60, h61⟩ := hl
  rw [bracket_eq]
  by_cases h : precA e < p
  · simp only [h, if_true, ok_paren, level_paren, hp, Bool.true_and, decide_eq_true_eq]
    exact ⟨by omega, by omega, fun _ => by omega, fun _ => by omega, fun _ => by omega⟩
  · simp only [h, if_false]
    exact ⟨hp, h40, fun hp' => h50 (by omega), fun hp' => h60 (by omega), fun hp' => h61 (by omega)⟩

theorem bracketB_ok (e : E) (d : Doc) (p : Nat) (hp : PyOK d = true) (hl : LvB e d) :
    PyOK (bracket e d p) = true ∧ 20 ≤ level (bracket e d p) ∧ (p = 30 → 30 ≤ level (bracket e d p)) ∧
      (p = 51 → 100 ≤ level (bracket e d p)) := by
  obtain ⟨h20, h30, h51⟩ := hl
  rw [bracket_eq]
  by_cases h : precA e < p
  · simp only [h, if_true, ok_paren, level_paren, hp, Bool.true_and, decide_eq_true_eq]
    exact ⟨by omega, by omega, fun _ => by omega, fun _ => by omega⟩
  · simp only [h, if_false]
    exact ⟨hp, h20, fun hp' => h30 (by omega), fun hp' => h51 (by omega)⟩

theorem prec_ge_40 (e : E) (h : wf .A e = true) (hl : isList e = false) : 40 ≤ prec e := by
  cases e <;> simp [wf, isList] at h hl <;> simp [prec]
  all_goals (try split) <;> omega

theorem addStep_ok (acc : Option Doc) (i : Item)
    (hacc : ∀ a, acc = some a → PyOK a = true ∧ 40 ≤ level a)
    (hi : PyOK i.doc = true ∧ 40 ≤ level i.doc) (hprec : 40 ≤ prec i.e) :
    ∃ r, addStep acc i = some r ∧ PyOK r = true ∧ 40 ≤ level r := by
  have hbr : decide (prec i.e < 40) = false := by simp; omega
  cases acc with
  | none =>
      simp only [addStep, hbr, Bool.false_eq_true, if_false]
      by_cases hs : startsMinus i.doc = true
      · simp only [hs, if_true]; exact ⟨_, rfl, hi.1, hi.2⟩
      · simp only [hs, Bool.false_eq_true, if_false]; exact ⟨_, rfl, hi.1, hi.2⟩
  | some a =>
      have ha := hacc a rfl
      simp only [addStep, hbr, Bool.false_eq_true, if_false]
      by_cases hs : startsMinus i.doc = true
      · simp only [hs, if_true]
        have hpl := peelLeft_ok i.doc 40 hi.1 hs hi.2 (by omega)
        have := spliceSum_ok a true ha.1 ha.2 _ hpl.1 hpl.2
        exact ⟨_, rfl, this.1, by omega⟩
      · simp only [hs, Bool.false_eq_true, if_false]
        have := spliceSum_ok a false ha.1 ha.2 _ hi.1 hi.2
        exact ⟨_, rfl, this.1, by omega⟩

theorem foldl_addStep_ok (items : List Item) : ∀ acc,
    (∀ a, acc = some a → PyOK a = true ∧ 40 ≤ level a) →
    (∀ i ∈ items, (PyOK i.doc = true ∧ 40 ≤ level i.doc) ∧ 40 ≤ prec i.e) →
    ∀ a, items.foldl addStep acc = some a → PyOK a = true ∧ 40 ≤ level a :=
  fun acc hacc hall => List.foldl_inv addStep (fun acc => ∀ a, acc = some a → PyOK a = true ∧ 40 ≤ level a) items acc hacc
    fun b i hi hb a ha => by
      obtain ⟨r, hr, hr1, hr2⟩ := addStep_ok b i hb (hall i hi).1 (hall i hi).2
      cases hr.symm.trans ha; exact ⟨hr1, hr2⟩

theorem addDoc_ok (items : List Item) (hne : items ≠ [])
    (hall : ∀ i ∈ items, (PyOK i.doc = true ∧ 40 ≤ level i.doc) ∧ 40 ≤ prec i.e) :
    PyOK (addDoc items) = true ∧ 40 ≤ level (addDoc items) := by
  cases items with
  | nil => exact absurd rfl hne
  | cons i is =>
      simp only [addDoc, List.foldl_cons]
      obtain ⟨r, hr, hr1, hr2⟩ := addStep_ok none i (fun a h => by cases h) (hall i (by simp)).1 (hall i (by simp)).2
      rw [hr]
      cases hf : is.foldl addStep (some r) with
      | none =>
          -- the fold never loses its accumulator
          exfalso
          exact List.foldl_inv addStep (· ≠ none) is (some r) (by simp)
            (fun b a _ hb => by cases b <;> simp [addStep] at hb ⊢) hf
      | some a =>
          simp only [Option.getD_some]
          exact foldl_addStep_ok is (some r) (fun a' ha' => by cases ha'; exact ⟨hr1, hr2⟩)
            (fun j hj => hall j (by simp [hj])) a hf

/-- `splice` is `spliceAnd` / `spliceOr`, `p` the precedence of `And` / `Or` -/
theorem boolChain_ok (splice : Doc → Doc → Doc) (p : Nat)
    (hbr : ∀ (e : E) (d : Doc), PyOK d = true → LvB e d → PyOK (bracket e d p) = true ∧ p ≤ level (bracket e d p))
    (hs : ∀ acc, PyOK acc = true → p ≤ level acc → ∀ d, PyOK d = true → p ≤ level d →
      PyOK (splice acc d) = true ∧ level (splice acc d) = p)
    (items : List Item) (hne : items ≠ []) (hall : ∀ i ∈ items, PyOK i.doc = true ∧ LvB i.e i.doc) :
    PyOK (boolChain splice p items) = true ∧ p ≤ level (boolChain splice p items) := by
  cases items with
  | nil => exact absurd rfl hne
  | cons i is =>
      simp only [boolChain]
      have h0 := hbr i.e i.doc (hall i (by simp)).1 (hall i (by simp)).2
      have htl : ∀ j ∈ is, PyOK j.doc = true ∧ LvB j.e j.doc := fun j hj => hall j (List.mem_cons_of_mem _ hj)
      clear hall hne
      generalize bracket i.e i.doc p = acc at h0
      induction is generalizing acc with
      | nil => exact h0
      | cons j js ih =>
          have hb := hbr j.e j.doc (htl j (by simp)).1 (htl j (by simp)).2
          have hsp := hs acc h0.1 h0.2 _ hb.1 hb.2
          exact ih (fun k hk => htl k (List.mem_cons_of_mem _ hk)) _ ⟨hsp.1, Nat.le_of_eq hsp.2.symm⟩

theorem bracketB_30 (e : E) (d : Doc) (hp : PyOK d = true) (hl : LvB e d) :
    PyOK (bracket e d 30) = true ∧ 30 ≤ level (bracket e d 30) :=
  ⟨(bracketB_ok e d 30 hp hl).1, (bracketB_ok e d 30 hp hl).2.2.1 rfl⟩

theorem bracketB_20 (e : E) (d : Doc) (hp : PyOK d = true) (hl : LvB e d) :
    PyOK (bracket e d 20) = true ∧ 20 ≤ level (bracket e d 20) :=
  ⟨(bracketB_ok e d 20 hp hl).1, (bracketB_ok e d 20 hp hl).2.1⟩

theorem nanDoc_ok : PyOK nanDoc = true ∧ level nanDoc = 100 := by
  unfold nanDoc; split <;> simp

theorem pwInner_ok (items : List Item)
    (hall : ∀ i ∈ items, (PyOK i.doc = true ∧ 10 ≤ level i.doc) ∧ (PyOK i.base = true ∧ 10 ≤ level i.base)) :
    PyOK (pwInner items).2 = true ∧ 10 ≤ level (pwInner items).2 := by
  induction items with
  | nil => simp [pwInner, nanDoc_ok.1, nanDoc_ok.2]
  | cons i is ih =>
      have hi := hall i (by simp)
      have ht := ih (fun j hj => hall j (by simp [hj]))
      simp only [pwInner]
      split
      · exact hi.1
      · simp [hi.1.1, hi.1.2, hi.2.1, hi.2.2, ht.1, ht.2]

end C11
