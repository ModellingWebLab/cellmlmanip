import Cellml.C11.Sem
import Cellml.C11.Rewrite

/-! C11 — the rewriting of the secondary trigonometric functions preserves the meaning, given their definitions. -/
namespace C11
variable {K : Type} [Field K] (S : Sem K)

/-- the definitions of the secondary functions: sec = 1/cos, …; asec(v) = acos(1/v), … -/
structure TrigDefs (S : Sem K) : Prop where
  recip_def : ∀ f g, extraTrig f = some ("recip", g) → ∀ v, S.symFn f [v] = S.powK (S.symFn g [v]) (-1)
  ofRecip_def : ∀ f g, extraTrig f = some ("ofRecip", g) → ∀ v, S.symFn f [v] = S.symFn g [S.powK v (-1)]

theorem recipE_sem (hL : Laws S) (a r : E) (h : recipE a = some r) : (ev S r).num = S.powK (ev S a).num (-1) := by
  unfold recipE at h
  split at h
  next b =>
    split at h
    · simp at h; subst h
      simp only [ev, Int.cast_neg, Int.cast_one, hL.pow_neg, hL.pow_one, inv_inv]
    · simp at h
  -- for a symbol, a function application, a sum `W` the answer is `W**-1`
  iterate 3 (simp at h; subst h; simp only [ev, Int.cast_neg, Int.cast_one])
  simp at h

theorem rewriteFn_sem (hL : Laws S) (hT : TrigDefs S) (name : String) (args e' : E)
    (h : rewriteFn name args = some e') : (ev S e').num = (ev S (.fn name args)).num := by
  unfold rewriteFn at h
  split at h
  next k g a hk =>
    split at h
    next hr =>
      simp at h; subst h
      have hk' : k = "recip" := by simpa using hr
      subst hk'
      simp only [ev, Int.cast_neg, Int.cast_one, hT.recip_def name g hk]
    next hr =>
      split at h
      next ho =>
        have hk' : k = "ofRecip" := by simpa using ho
        subst hk'
        simp only [Option.map_eq_some_iff] at h
        obtain ⟨r, hr', rfl⟩ := h
        simp only [ev, hT.ofRecip_def name g hk, recipE_sem S hL a r hr']
      · simp at h
  · simp at h
  · simp at h; subst h; rfl

def Veq (a b : V K) : Prop := a.num = b.num ∧ a.bool = b.bool ∧ a.nums = b.nums ∧ a.bools = b.bools

theorem rewriteFn_kind (name : String) (args e' : E) (h : rewriteFn name args = some e') :
    (∃ b x, e' = .pow b x) ∨ (∃ n a, e' = .fn n a) := by
  unfold rewriteFn at h
  split at h
  · split at h
    · simp at h; subst h; exact Or.inl ⟨_, _, rfl⟩
    · split at h
      · simp only [Option.map_eq_some_iff] at h
        obtain ⟨r, _, rfl⟩ := h; exact Or.inr ⟨_, _, rfl⟩
      · simp at h
  · simp at h
  · simp at h; subst h; exact Or.inr ⟨_, _, rfl⟩

/-- **rewriting preserves meaning**: with sec = 1/cos, …, asec(v) = acos(1/v), … the tree handed to the printer means
    what the original expression means -/
theorem rewriteTrig_sem (hL : Laws S) (hT : TrigDefs S) (e : E) :
    ∀ e', rewriteTrig e = some e' → Veq (ev S e') (ev S e) := by
  induction e with
  | add a ih | mul a ih =>
      intro e' h; simp only [rewriteTrig, Option.map_eq_some_iff] at h
      obtain ⟨a', ha, rfl⟩ := h; have := ih a' ha
      exact ⟨by simp only [ev, this.2.2.1], rfl, rfl, rfl⟩
  | and a ih | or a ih =>
      intro e' h; simp only [rewriteTrig, Option.map_eq_some_iff] at h
      obtain ⟨a', ha, rfl⟩ := h; have := ih a' ha
      exact ⟨by simp only [ev, this.2.2.2], by simp only [ev, this.2.2.2], rfl, rfl⟩
  | pw a ih =>
      intro e' h; simp only [rewriteTrig, Option.map_eq_some_iff] at h
      obtain ⟨a', ha, rfl⟩ := h; have := ih a' ha
      exact ⟨by simp only [ev, this.2.2.1, this.2.2.2], rfl, rfl, rfl⟩
  | pow b x ihb ihx =>
      intro e' h
      simp only [rewriteTrig, Option.bind_eq_bind, Option.bind_eq_some_iff, Option.pure_def, Option.some.injEq] at h
      obtain ⟨b', hb, x', hx, rfl⟩ := h
      exact ⟨by simp only [ev, (ihb b' hb).1, (ihx x' hx).1], rfl, rfl, rfl⟩
  | rel r b x ihb ihx =>
      intro e' h
      simp only [rewriteTrig, Option.bind_eq_bind, Option.bind_eq_some_iff, Option.pure_def, Option.some.injEq] at h
      obtain ⟨b', hb, x', hx, rfl⟩ := h
      exact ⟨by simp only [ev, (ihb b' hb).1, (ihx x' hx).1], by simp only [ev, (ihb b' hb).1, (ihx x' hx).1],
        rfl, rfl⟩
  | pair b x ihb ihx =>
      intro e' h
      simp only [rewriteTrig, Option.bind_eq_bind, Option.bind_eq_some_iff, Option.pure_def, Option.some.injEq] at h
      obtain ⟨b', hb, x', hx, rfl⟩ := h
      exact ⟨by simp only [ev, (ihb b' hb).1], by simp only [ev, (ihx x' hx).2.1], rfl, rfl⟩
  | cons b x ihb ihx =>
      intro e' h
      simp only [rewriteTrig, Option.bind_eq_bind, Option.bind_eq_some_iff, Option.pure_def, Option.some.injEq] at h
      obtain ⟨b', hb, x', hx, rfl⟩ := h
      exact ⟨rfl, rfl, by simp only [ev, (ihb b' hb).1, (ihx x' hx).2.2.1],
        by simp only [ev, (ihb b' hb).2.1, (ihx x' hx).2.2.2]⟩
  | fn name args ih =>
      intro e' h
      simp only [rewriteTrig, Option.bind_eq_bind, Option.bind_eq_some_iff] at h
      obtain ⟨args', ha, h⟩ := h
      have h1 := rewriteFn_sem S hL hT name args' e' h
      have h2 : (ev S (.fn name args')).num = (ev S (.fn name args)).num := by
        simp only [ev, (ih args' ha).2.2.1]
      refine ⟨h1.trans h2, ?_, ?_, ?_⟩ <;>
        (rcases rewriteFn_kind name args' e' h with ⟨b, x, rfl⟩ | ⟨n, a, rfl⟩ <;> rfl)
  | _ => intro e' h; simp [rewriteTrig] at h; subst h; exact ⟨rfl, rfl, rfl, rfl⟩

end C11
