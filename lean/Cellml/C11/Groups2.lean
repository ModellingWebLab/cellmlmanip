import Cellml.C11.Groups1

/-! C11 — `print_groups`, part 2: powers and numbers. -/
namespace C11

theorem prec_pow (b x : E) : prec (.pow b x) = 60 := rfl

theorem powDoc_ok (b x : E) (bd xd : Doc) (hb : PyOK bd = true) (hbl : LvA b bd)
    (hx : PyOK xd = true) (hxl : LvA x xd) :
    PyOK (powDoc b x bd xd) = true ∧ LvA (.pow b x) (powDoc b x bd xd) := by
  unfold powDoc
  have hb10 : 10 ≤ level bd := by have := hbl.1; omega
  by_cases h1 : (x == E.rat 1 2) = true
  · simp only [h1, if_true]
    refine ⟨by simp [hb, hb10], ?_⟩
    simp [LvA]
  simp only [h1, Bool.false_eq_true, if_false]
  by_cases h2 : (comm b && comm x && x == E.rat (-1) 2) = true
  · simp only [h2, if_true]
    have hr : isRecip (.pow b x) = true := by
      simp only [Bool.and_eq_true] at h2
      simp [isRecip, h2.1.1, h2.1.2, h2.2]
    refine ⟨by simp [hb, hb10], ?_⟩
    simp [LvA, precA, hr, prec_pow]
  simp only [h2, Bool.false_eq_true, if_false]
  by_cases h3 : (comm b && comm x && x == E.int (-1)) = true
  · simp only [h3, if_true]
    have hr : isRecip (.pow b x) = true := by
      simp only [Bool.and_eq_true] at h3
      simp [isRecip, h3.1.1, h3.1.2, h3.2]
    have hbr := bracketA_ok b bd 60 hb hbl
    refine ⟨by simp [hbr.1, hbr.2.2.2.1 rfl], ?_⟩
    simp [LvA, precA, hr, prec_pow]
  simp only [h3, Bool.false_eq_true, if_false]
  have hr : isRecip (.pow b x) = false := by
    simp only [isRecip]
    cases hc : (comm b && comm x) with
    | false => simp
    | true =>
        simp only [hc, Bool.true_and] at h2 h3
        simp [h2, h3]
  have hbr := bracketA_ok b bd 61 hb hbl
  have hxr := bracketA_ok x xd 60 hx hxl
  refine ⟨by simp [hbr.1, hxr.1, hbr.2.2.2.2 rfl, hxr.2.2.2.1 rfl], ?_⟩
  simp [LvA, precA, hr, prec_pow]

theorem intDoc_ok (n : Int) : PyOK (intDoc n) = true ∧ 55 ≤ level (intDoc n) ∧ (0 ≤ n → level (intDoc n) = 100) := by
  unfold intDoc natDoc
  by_cases h : n < 0
  · simp [h]
  · simp [h]

theorem natDoc_ok (n : Nat) : PyOK (natDoc n) = true ∧ level (natDoc n) = 100 := by simp [natDoc]

theorem numDoc_ok (e : E) (h : wf .A e = true) (hn : isNum e = true) : PyOK (numDoc e) = true ∧ LvA e (numDoc e) := by
  have hnr : isRecip e = false := by cases e <;> simp [isNum] at hn <;> rfl
  cases e <;> simp [isNum] at hn
  case int n =>
    have := intDoc_ok n
    refine ⟨this.1, ?_⟩
    simp only [LvA, precA, hnr, prec, numDoc]
    by_cases hneg : n < 0
    · simp [hneg]; omega
    · simp [hneg]; have := this.2.2 (by omega); omega
  case rat p q =>
    have hp := intDoc_ok p
    refine ⟨by simp [numDoc, hp.1, natDoc_ok]; omega, ?_⟩
    simp only [LvA, precA, hnr, prec, numDoc]
    by_cases hneg : p < 0 <;> simp [hneg]
  case flt t neg =>
    simp only [LvA, precA, hnr, prec, numDoc, fltDoc]
    cases neg <;> simp

end C11
