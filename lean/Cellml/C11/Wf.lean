import Cellml.C11.Printer

/-! C11 — the printer's domain: well-sorted SymPy trees (numbers where numbers are expected, truth values where
    truth values are expected, argument lists that are lists), the level invariants `LvA`/`LvB` of the grouping induction
    (C11/Groups1–4), and the branches of `keepCoeffMul`, `mulItems` and `classify` as relations with one inversion each. -/
namespace C11

/-- A arithmetic, B boolean, P (value, condition) pair of a Piecewise -/
inductive Srt | A | B | P
deriving Repr, DecidableEq

def isList : E → Bool
  | .nil | .cons _ _ => true
  | _ => false

def toList : E → List E
  | .cons h t => h :: toList t
  | _ => []

/-- at least two arguments: `wf` asks it of `And` and `Or`, of SymPy's `Mul` only the tie does (`genOK`) -/
def twoPlus : E → Bool
  | .cons _ (.cons _ _) => true
  | _ => false

/-- A symbol has both sorts; printed, the names `True`, `False` are Python's constants (no proof uses their exclusion).
    `other` is well formed at every sort: that is how a rejected tree is inside the domain. -/
def wf : Srt → E → Bool
  | s, .sym n _ => s != .P && n != "True" && n != "False"
  | s, .int _ => s == .A
  | s, .rat _ q => s == .A && decide (q ≥ 2)
  | s, .flt t n => s == .A && fltOK t n
  | s, .pi | s, .e1 | s, .deriv _ _ => s == .A
  | s, .tt | s, .ff => s == .B
  | s, .add a | s, .mul a | s, .fn _ a => s == .A && isList a && wf .A a
  | s, .pow b x => s == .A && !isList b && !isList x && wf .A b && wf .A x
  | s, .rel r a b => s == .B && !isList a && !isList b && ((wf .A a && wf .A b) || ((r == .eq || r == .ne) && wf .B a && wf .B b))
  | s, .and a | s, .or a => s == .B && isList a && wf .B a && twoPlus a
  | s, .pw ps => s == .A && isList ps && wf .P ps
  | s, .pair v c => s == .P && !isList v && !isList c && wf .A v && wf .B c
  | _, .other _ => true
  | _, .nil => true
  | s, .cons h t => wf s h && !isList h && isList t && wf s t

/-- precedence as `_bracket` sees it -/
def precA (e : E) : Nat := if isRecip e then prec e - 1 else prec e

theorem bracket_eq (e : E) (d : Doc) (p : Nat) : bracket e d p = if precA e < p then .paren d else d := rfl

/-- what SymPy's precedence of an arithmetic term promises about the Python level of its printed form -/
def LvA (e : E) (d : Doc) : Prop :=
  40 ≤ level d ∧ (50 ≤ precA e → 50 ≤ level d) ∧ (60 ≤ precA e → 55 ≤ level d) ∧ (61 ≤ precA e → 100 ≤ level d)

def LvB (e : E) (d : Doc) : Prop :=
  20 ≤ level d ∧ (30 ≤ precA e → 30 ≤ level d) ∧ (51 ≤ precA e → 100 ≤ level d)

def Lv : Srt → E → Doc → Prop
  | .A, e, d => LvA e d
  | .B, e, d => LvB e d
  | .P, _, _ => True

theorem lookup_mem (t : List (String × String)) (k v : String) (h : lookup t k = some v) : (k, v) ∈ t := by
  induction t with
  | nil => simp [lookup] at h
  | cons p r ih =>
    rcases p with ⟨a, b⟩
    simp only [lookup] at h
    split at h
    next hk =>
      simp only [Option.some.injEq] at h
      simp only [beq_iff_eq] at hk
      simp [hk, h]
    · exact List.mem_cons_of_mem _ (ih h)

theorem wf_flt {s : Srt} {t : String} {n : Bool} (h : wf s (.flt t n) = true) : fltOK t n = true := by
  simp only [wf, Bool.and_eq_true] at h; exact h.2

theorem wf_pair {s : Srt} {v c : E} (h : wf s (.pair v c) = true) :
    s = .P ∧ (wf .A v = true ∧ isList v = false) ∧ wf .B c = true ∧ isList c = false := by
  simp only [wf, Bool.and_eq_true, beq_iff_eq, Bool.not_eq_true'] at h
  exact ⟨h.1.1.1.1, ⟨h.1.2, h.1.1.1.2⟩, h.2, h.1.1.2⟩

theorem printDoc_eq_some {e : E} {d : Doc} : printDoc e = some d ↔ (pr e).st = .ok ∧ (pr e).doc = d := by
  unfold printDoc; split <;> simp_all

theorem printDoc_eq_none {e : E} : printDoc e = none ↔ (pr e).st ≠ .ok := by
  unfold printDoc; split <;> simp_all

/-- the Item a parent receives for the argument `h` -/
def mk (h : E) : Item := ⟨h, (pr h).st, (pr h).doc, (pr h).base, (pr h).items.map Item.one⟩

def proper : E → Bool
  | .nil => true
  | .cons _ t => proper t
  | _ => false

theorem proper_of_wf (s : Srt) (l : E) (hl : isList l = true) (h : wf s l = true) : proper l = true := by
  induction l with
  | nil => rfl
  | cons a t _ iht =>
      simp only [wf, Bool.and_eq_true] at h
      simp only [proper]
      exact iht h.1.2 h.2
  | _ => simp [isList] at hl

theorem two_of_twoPlus (a : E) (h : twoPlus a = true) : ∃ x y t, a = .cons x (.cons y t) := by
  cases a with
  | cons x t => cases t with
    | cons y t' => exact ⟨x, y, t', rfl⟩
    | _ => simp [twoPlus] at h
  | _ => simp [twoPlus] at h

theorem cons_items (h t : E) : (pr (.cons h t)).items = mk h :: (pr t).items := by
  simp only [pr, mk]

theorem items_list (l : E) (hl : proper l = true) : (pr l).items = (toList l).map mk := by
  induction l with
  | nil => simp [pr, okDoc, toList]
  | cons h t _ iht =>
      simp only [proper] at hl
      simp only [pr, toList, List.map_cons, iht hl, mk]
  | _ => simp [proper] at hl

theorem join_ok (a b : Status) : a.join b = .ok ↔ a = .ok ∧ b = .ok := by
  cases a <;> cases b <;> simp [Status.join]

theorem st_list_T {T : Status → Prop} (hT : ∀ a b, T (a.join b) → T a ∧ T b) (l : E) (hl : proper l = true)
    (h : T (pr l).st) :
    ∀ x ∈ toList l, T (pr x).st := by
  induction l with
  | nil => simp [toList]
  | cons a t _ iht =>
      simp only [proper] at hl
      simp only [pr] at h
      have h2 := hT _ _ h
      intro x hx
      simp only [toList, List.mem_cons] at hx
      rcases hx with rfl | hx
      · exact h2.1
      · exact iht hl h2.2 x hx
  | _ => simp [proper] at hl

theorem st_list (l : E) (hl : proper l = true) (h : (pr l).st = .ok) : ∀ x ∈ toList l, (pr x).st = .ok :=
  st_list_T (T := (· = .ok)) (fun a b => (join_ok a b).mp) l hl h

theorem join_verr (a b : Status) (h : a.join b = .verr) : a = .verr ∨ b = .verr := by
  cases a <;> cases b <;> simp_all [Status.join]

theorem st_list_ex (l : E) (hl : proper l = true) (h : (pr l).st = .verr) :
    ∃ x ∈ toList l, (pr x).st = .verr := by
  induction l with
  | nil => simp [pr, okDoc] at h
  | cons a t _ iht =>
      simp only [proper] at hl
      simp only [pr] at h
      rcases join_verr _ _ h with h1 | h1
      · exact ⟨a, by simp [toList], h1⟩
      · obtain ⟨x, hx, hxv⟩ := iht hl h1
        exact ⟨x, by simp [toList, hx], hxv⟩
  | _ => simp [proper] at hl

theorem wf_P_cases (h : E) (hw : wf .P h = true) (hl : isList h = false) :
    (∃ v c, h = .pair v c) ∨ ∃ w, h = .other w := by
  cases h <;> simp [wf, isList] at hw hl ⊢

theorem pr_pair (v c : E) : pr (.pair v c) = ⟨(pr v).st.join (pr c).st, (pr v).doc, (pr c).doc, []⟩ := by
  simp only [pr]

theorem isNum_of_isNegNum (c : E) (h : isNegNum c = true) : isNum c = true := by
  cases c <;> simp_all [isNegNum, isNum]

theorem wf_list (s : Srt) (l : E) (h : wf s l = true) : ∀ x ∈ toList l, wf s x = true ∧ isList x = false := by
  induction l with
  | cons a t _ iht =>
      simp only [wf, Bool.and_eq_true, Bool.not_eq_true'] at h
      intro x hx
      simp only [toList, List.mem_cons] at hx
      rcases hx with rfl | hx
      · exact ⟨h.1.1.1, h.1.1.2⟩
      · exact iht h.2 x hx
  | _ => simp [toList]

theorem isMul_cases (e : E) (h : isMul e = true) : ∃ a, e = .mul a := by
  cases e <;> first | exact ⟨_, rfl⟩ | cases h

theorem isTruePair_cases (e : E) (h : isTruePair e = true) : ∃ v, e = .pair v .tt := by
  unfold isTruePair at h
  split at h
  · exact ⟨_, rfl⟩
  · cases h

/-- the answers of `keepCoeffMul`, one constructor per branch -/
inductive KeepCoeffMul (k : E) : List Item1 → List Item1 → Prop
  | front (m : Item1) (rest : List Item1) (hm : isNum m.e = false) : KeepCoeffMul k (m :: rest) (num1 k :: m :: rest)
  | unit (a b : Int) (m : Item1) (rest : List Item1) (hk : k = .int a) (hm : m.e = .int b) (hab : a * b = 1) :
      KeepCoeffMul k (m :: rest) rest
  | times (a b : Int) (m : Item1) (rest : List Item1) (hk : k = .int a) (hm : m.e = .int b) (hab : a * b ≠ 1) :
      KeepCoeffMul k (m :: rest) (num1 (.int (a * b)) :: rest)

theorem KeepCoeffMul.args_cons {k : E} {margs l : List Item1} (h : KeepCoeffMul k margs l) :
    ∃ m rest, margs = m :: rest := by
  cases h <;> exact ⟨_, _, rfl⟩

theorem keepCoeffMul_inv (k : E) (margs l : List Item1) (h : keepCoeffMul k margs = some l) :
    KeepCoeffMul k margs l := by
  unfold keepCoeffMul at h
  split at h
  · cases h
  next m rest =>
    split at h
    · split at h
      next a b hm =>
        split at h <;> injection h with h <;> subst h
        next hab => exact .unit a b m rest rfl hm (by simpa using hab)
        next hab => exact .times a b m rest rfl hm (by simpa using hab)
      · cases h
    next hm =>
      cases h
      exact .front m rest (by simpa using hm)

/-- the answers of `mulItems`, one constructor per branch; `negNum c.e` is the negated coefficient, the `k` of `mulItems` -/
inductive MulItems : List Item → Bool → List Item1 → Prop
  | pos (c : Item) (rest : List Item) (hc : isNegNum c.e = false) : MulItems (c :: rest) false ((c :: rest).map Item.one)
  | negOne (c r : Item) (hc : c.e = .int (-1)) : MulItems [c, r] true (if isMul r.e then r.sub else [r.one])
  | negMany (c : Item) (rest : List Item) (hc : c.e = .int (-1)) (hr : ∀ r, rest ≠ [r]) :
      MulItems (c :: rest) true (rest.map Item.one)
  | one (c r : Item) (hn : isNegNum c.e = true) (hk : numOK (negNum c.e) = true) (hc : c.e ≠ .int (-1))
      (hr : r.e = .int 1) : MulItems [c, r] true [num1 (negNum c.e)]
  | add (c r : Item) (a : E) (hn : isNegNum c.e = true) (hk : numOK (negNum c.e) = true) (hc : c.e ≠ .int (-1))
      (hr : r.e = .add a) : MulItems [c, r] true [num1 (negNum c.e), r.one]
  | mul (c r : Item) (a : E) (l : List Item1) (hn : isNegNum c.e = true) (hk : numOK (negNum c.e) = true)
      (hc : c.e ≠ .int (-1)) (hr : r.e = .mul a) (hl : KeepCoeffMul (negNum c.e) r.sub l) : MulItems [c, r] true l
  | opaq (c r : Item) (hn : isNegNum c.e = true) (hk : numOK (negNum c.e) = true) (hc : c.e ≠ .int (-1))
      (hr1 : r.e ≠ .int 1) (hr : opaqueE r.e = true) : MulItems [c, r] true [num1 (negNum c.e), r.one]
  | many (c r1 r2 : Item) (rest : List Item) (l : List Item1) (hn : isNegNum c.e = true)
      (hk : numOK (negNum c.e) = true) (hc : c.e ≠ .int (-1))
      (hl : KeepCoeffMul (negNum c.e) ((r1 :: r2 :: rest).map Item.one) l) : MulItems (c :: r1 :: r2 :: rest) true l

theorem mulItems_inv (items : List Item) (s : Bool) (fs : List Item1) (h : mulItems items = some (s, fs)) :
    MulItems items s fs := by
  unfold mulItems at h
  split at h
  next c rest =>
    split at h
    next hn =>
      simp only at h
      split at h
      · cases h
      next hk =>
        simp only [Bool.not_eq_true', Bool.not_eq_false] at hk
        split at h
        next hc =>
          have hc : c.e = .int (-1) := by simpa using hc
          split at h <;> cases h
          · exact .negOne c _ hc
          next hr => exact .negMany c rest hc (fun r hrr => hr r hrr)
        next hc =>
          have hc : c.e ≠ .int (-1) := by simpa using hc
          split at h
          · cases h
          next r =>
            split at h
            next hr => cases h; exact .one c r hn hk hc (by simpa using hr)
            next hr1 =>
              have hr1 : r.e ≠ .int 1 := by simpa using hr1
              split at h
              next a hr => cases h; exact .add c r a hn hk hc hr
              next a hr =>
                simp only [Option.map_eq_some_iff, Prod.mk.injEq] at h
                obtain ⟨l, hl, rfl, rfl⟩ := h
                exact .mul c r a l hn hk hc hr (keepCoeffMul_inv _ _ _ hl)
              next =>
                split at h <;> cases h
                next hr => exact .opaq c r hn hk hc hr1 hr
          next hr0 hr1 =>
            simp only [Option.map_eq_some_iff, Prod.mk.injEq] at h
            obtain ⟨l, hl, rfl, rfl⟩ := h
            match rest, hr0, hr1, hl with
            | r1 :: r2 :: rest, _, _, hl => exact .many c r1 r2 rest l hn hk hc (keepCoeffMul_inv _ _ _ hl)
            | [], hr0, _, _ => exact absurd rfl hr0
            | [r], _, hr1, _ => exact absurd rfl (hr1 r)
    next hn => cases h; exact .pos c rest (by simpa using hn)
  · cases h

/-- the answers of `classify`, one constructor per shape of the answer; only membership in the three lists is used, so
    `keep` carries no reason and `recip` forgets `comm b` -/
inductive Classify (i : Item1) : List Item1 × List Item1 × List E → Prop
  | recip (b : E) (he : i.e = .pow b (.int (-1))) :
      Classify i ([], [⟨b, i.base, .nil⟩], if isMul b then [b] else [])
  | negPow (b x : E) (he : i.e = .pow b x) (hn : isNegRat x = true) :
      Classify i ([], [⟨.pow b (negNum x), powDoc b (negNum x) i.base (numDoc (negNum x)), .nil⟩], [])
  | int (n : Int) (he : i.e = .int n) : Classify i (if n == 1 then [] else [num1 (.int n)], [], [])
  | rat (p : Int) (q : Nat) (he : i.e = .rat p q) :
      Classify i (if p == 1 then [] else [num1 (.int p)], [num1 (.int q)], [])
  | keep : Classify i ([i], [], [])

theorem classify_inv (i : Item1) : Classify i (classify i) := by
  unfold classify
  split
  next b x he =>
    split
    next h =>
      simp only [Bool.and_eq_true] at h
      split
      next hx =>
        obtain rfl : x = .int (-1) := by simpa using hx
        exact .recip b he
      · exact .negPow b x he h.2
    · exact .keep
  next n he => exact .int n he
  next p q he => exact .rat p q he
  · exact .keep

end C11
