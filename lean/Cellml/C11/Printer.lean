import Cellml.C11.Syntax
import Cellml.Generated.Tables

/-! C11 — model of `cellmlmanip/printer.py` (after the three `fix:` commits), core Lean only, structurally recursive.

  `pr : E → Out` is the single recursion. A parent never calls the printer on a child: it receives the child's
  already printed `Doc` (and, for a `Pow` child, the printed base; for a `Mul` child, the printed factors), which is
  what lets `decide` evaluate the printer in the kernel. -/
namespace C11

def lookup (t : List (String × String)) (k : String) : Option String :=
  match t with
  | [] => none
  | (a, b) :: r => if a == k then some b else lookup r k

def fnName (n : String) : Option String := lookup Cellml.Gen.printerFunctionNames n
def litName (n : String) : String := (lookup Cellml.Gen.printerLiteralNames n).getD ("?" ++ n)
def sqrtName : String := (fnName "sqrt").getD "?sqrt"

/-! ## SymPy's `precedence()` (sympy/printing/precedence.py), on the classes the printer meets -/

def isNegNum : E → Bool
  | .int n => n < 0
  | .rat p _ => p < 0
  | .flt _ neg => neg
  | _ => false

def isNum : E → Bool
  | .int _ | .rat _ _ | .flt _ _ => true
  | _ => false

def headNeg : E → Bool          -- `Mul.could_extract_minus_sign`: args[0] is a negative Number
  | .cons h _ => isNegNum h
  | _ => false

def prec : E → Nat
  | .int n => if n < 0 then 40 else 1000
  | .rat p _ => if p < 0 then 40 else 50
  | .flt _ neg => if neg then 40 else 1000
  | .add _ => 40
  | .mul args => if headNeg args then 40 else 50
  | .pow _ _ => 60
  | .fn _ _ | .pw _ => 70
  | .rel .eq _ _ | .rel .ne _ _ => 50
  | .rel _ _ _ => 35
  | .and _ => 30
  | .or _ => 20
  | .sym _ _ | .pi | .e1 | .tt | .ff | .deriv _ _ | .other _ => 1000
  | .pair _ _ | .nil | .cons _ _ => 0

/-- `expr.is_commutative`: every symbol inside is commutative -/
def comm : E → Bool
  | .sym _ c => c
  | .add a | .mul a | .and a | .or a | .pw a | .fn _ a => comm a
  | .pow b x => comm b && comm x
  | .rel _ a b | .pair a b | .cons a b => comm a && comm b
  | _ => true

/-- `x**-1` and `x**(-1/2)` of a commutative power: printed as `1 / …` -/
def isRecip : E → Bool
  | .pow b x => comm b && comm x && (x == .int (-1) || x == .rat (-1) 2)
  | _ => false

/-- `_bracket`, receiving the already printed child -/
def bracket (e : E) (d : Doc) (parent : Nat) : Doc :=
  if (if isRecip e then prec e - 1 else prec e) < parent then .paren d else d

/-! ## numbers -/

def natDoc (n : Nat) : Doc := .atom (toString n)

def intDoc (n : Int) : Doc := if n < 0 then .neg (natDoc n.natAbs) else natDoc n.natAbs

/-- does the text start with `-` ? -/
def headMinus (t : String) : Bool :=
  match t.toList with
  | '-' :: _ => true
  | _ => false

/-- the text without its first character -/
def tailStr (t : String) : String := String.ofList (t.toList.drop 1)

def fltOK (text : String) (neg : Bool) : Bool := headMinus text == neg && text.length > (if neg then 1 else 0)

def fltDoc (text : String) (neg : Bool) : Doc := if neg then .neg (.atom (tailStr text)) else .atom text

def numDoc : E → Doc
  | .int n => intDoc n
  | .rat p q => .bin .div (intDoc p) (natDoc q)
  | .flt t neg => fltDoc t neg
  | _ => .nil

/-- `-x` for a negative number -/
def negNum : E → E
  | .int n => .int (-n)
  | .rat p q => .rat (-p) q
  | .flt t neg => .flt (if neg then tailStr t else "-" ++ t) (!neg)
  | e => e

/-! ## joining printed operands: what CPython's parser makes of `acc ⊕ d` when `d` is not bracketed -/

/-- `acc * d`: a product or quotient `d` continues the left-associative chain -/
def spliceProd (acc : Doc) : Doc → Doc
  | .bin .mul a b => .bin .mul (spliceProd acc a) b
  | .bin .div a b => .bin .div (spliceProd acc a) b
  | d => .bin .mul acc d

def prodChain : List Doc → Doc
  | [] => .atom "1"
  | d :: ds => ds.foldl spliceProd d

/-- `'-' + s`: the unary minus lands on the first factor of the chain -/
def negFirst : Doc → Doc
  | .bin .mul a b => .bin .mul (negFirst a) b
  | .bin .div a b => .bin .div (negFirst a) b
  | d => .neg d

/-- does the flattening start with `-` ? (where no name does: an atom or a function name is not looked into) -/
def startsMinus : Doc → Bool
  | .neg _ => true
  | .bin _ a _ | .cmp _ a _ | .and a _ | .or a _ | .ite a _ _ | .cons a _ => startsMinus a
  | _ => false

/-- `t[1:]` for a string starting with `-` -/
def peelLeft : Doc → Doc
  | .neg d => d
  | .bin op a b => .bin op (peelLeft a) b
  | .cmp r a b => .cmp r (peelLeft a) b
  | .and a b => .and (peelLeft a) b
  | .or a b => .or (peelLeft a) b
  | .ite a c e => .ite (peelLeft a) c e
  | .cons a t => .cons (peelLeft a) t
  | d => d

/-- `acc + d` / `acc - d`: a sum `d` continues the chain -/
def spliceSum (acc : Doc) (minus : Bool) : Doc → Doc
  | .bin .add a b => .bin .add (spliceSum acc minus a) b
  | .bin .sub a b => .bin .sub (spliceSum acc minus a) b
  | d => .bin (if minus then .sub else .add) acc d

def spliceAnd (acc : Doc) : Doc → Doc
  | .and a b => .and (spliceAnd acc a) b
  | d => .and acc d

def spliceOr (acc : Doc) : Doc → Doc
  | .or a b => .or (spliceOr acc a) b
  | d => .or acc d

/-! ## results of the recursion -/

inductive Status | ok | verr | unsup      -- printed | ValueError | outside the modelled fragment of SymPy
deriving Repr, DecidableEq, Inhabited

def Status.join : Status → Status → Status
  | .unsup, _ | _, .unsup => .unsup
  | .verr, _ | _, .verr => .verr
  | .ok, .ok => .ok

/-- a printed factor of a nested product -/
structure Item1 where
  e : E
  doc : Doc
  base : Doc            -- printed base when `e` is a power
deriving Repr, Inhabited

/-- a printed argument -/
structure Item where
  e : E
  st : Status
  doc : Doc
  base : Doc            -- printed base when `e` is a power; printed condition when `e` is a Piecewise pair
  sub : List Item1      -- printed factors when `e` is a product
deriving Repr, Inhabited

structure Out where
  st : Status
  doc : Doc
  base : Doc
  items : List Item     -- of an argument list; of a product: its factors
deriving Repr, Inhabited

def Item.one (i : Item) : Item1 := ⟨i.e, i.doc, i.base⟩

/-! ## `_print_Pow` -/

def noSym : E → Bool
  | .sym _ _ | .deriv _ _ | .other _ => false
  | .add a | .mul a | .and a | .or a | .pw a | .fn _ a => noSym a
  | .pow b x => noSym b && noSym x
  | .rel _ a b | .pair a b | .cons a b => noSym a && noSym b
  | _ => true

def symNames : E → List String
  | .sym n _ => [n]
  | .add a | .mul a | .and a | .or a | .pw a | .fn _ a => symNames a
  | .pow b x => symNames b ++ symNames x
  | .rel _ a b | .pair a b | .cons a b => symNames a ++ symNames b
  | .deriv x t => [x, t]
  | _ => []

def hasDup : List String → Bool
  | [] => false
  | x :: xs => xs.contains x || hasDup xs

/-- the printer tests `-expr.exp is S.Half` / `is S.One`: SymPy evaluates the negation, so a held exponent that is
    constant after evaluation — `Mul(-1, 1/2, evaluate=False)`, `y - (y + 1)` — passes the test; an exponent in which no
    symbol occurs, or one occurs twice, is outside the modelled fragment -/
def constCompound : E → Bool
  | .add a => noSym a || hasDup (symNames a)
  | .mul a => noSym a || hasDup (symNames a)
  | _ => false

def powDoc (b x : E) (bd xd : Doc) : Doc :=
  if x == .rat 1 2 then .call sqrtName (.cons bd .nil)
  else if comm b && comm x && x == .rat (-1) 2 then .bin .div (.atom "1") (.call sqrtName (.cons bd .nil))
  else if comm b && comm x && x == .int (-1) then .bin .div (.atom "1") (bracket b bd 60)
  else .bin .pow (bracket b bd 61) (bracket x xd 60)

/-! ## `_print_Mul` -/

def num1 (e : E) : Item1 := ⟨e, numDoc e, .nil⟩

def isMul : E → Bool
  | .mul _ => true
  | _ => false

/-- exponents with which SymPy's re-evaluation of a power inside `Mul.flatten` is the identity -/
def plainExp : E → Bool
  | .sym _ _ => true
  | .int n => n != 0 && n != 1
  | .rat _ q => q ≥ 2
  | _ => false

/-- remainders `r` for which SymPy's evaluated `k*r` is just `Mul(k, r)` -/
def opaqueE : E → Bool
  | .sym _ _ | .fn _ _ | .pw _ | .deriv _ _ | .pi | .e1 => true
  | .pow (.sym _ _) x | .pow (.add _) x => plainExp x
  | .pow (.fn f _) x => f != "exp" && f != "Abs" && plainExp x
  | _ => false

/-- `_keep_coeff(k, Mul(margs))`: a leading number is multiplied in (modelled for integers), otherwise `k` goes in front -/
def keepCoeffMul (k : E) (margs : List Item1) : Option (List Item1) :=
  match margs with
  | [] => none
  | m :: rest =>
      if isNum m.e then
        match k, m.e with
        | .int a, .int b => if a * b == 1 then some rest else some (num1 (.int (a * b)) :: rest)
        | _, _ => none
      else some (num1 k :: margs)

def numOK : E → Bool
  | .int _ => true
  | .rat _ q => decide (q ≥ 2)
  | .flt t n => fltOK t n
  | _ => false

/-- `c, e = expr.as_coeff_Mul(); if c < 0: expr = _keep_coeff(-c, e); sign = '-'` followed by `Mul.make_args(expr)` -/
def mulItems (items : List Item) : Option (Bool × List Item1) :=
  match items with
  | c :: rest =>
      if isNegNum c.e then
        let k := negNum c.e
        if !numOK k then none
        else if c.e == .int (-1) then
          match rest with
          | [r] => some (true, if isMul r.e then r.sub else [r.one])
          | _ => some (true, rest.map Item.one)
        else
          match rest with
          | [] => none
          | [r] =>
              if r.e == .int 1 then some (true, [num1 k])
              else match r.e with
                | .add _ => some (true, [num1 k, r.one])
                | .mul _ => (keepCoeffMul k r.sub).map (fun l => (true, l))
                | e => if opaqueE e then some (true, [num1 k, r.one]) else none
          | _ => (keepCoeffMul k (rest.map Item.one)).map (fun l => (true, l))
      else some (false, items.map Item.one)
  | [] => none

def isNegRat : E → Bool
  | .int n => n < 0
  | .rat p _ => p < 0
  | _ => false

/-- one factor goes to the numerator list `a`, the denominator list `b`, and possibly `pow_brackets` -/
def classify (i : Item1) : List Item1 × List Item1 × List E :=
  match i.e with
  | .pow b x =>
      if comm b && comm x && isNegRat x then
        if x == .int (-1) then ([], [⟨b, i.base, .nil⟩], if isMul b then [b] else [])
        else ([], [⟨.pow b (negNum x), powDoc b (negNum x) i.base (numDoc (negNum x)), .nil⟩], [])
      else ([i], [], [])
  | .int n => (if n == 1 then [] else [num1 (.int n)], [], [])
  | .rat p q => (if p == 1 then [] else [num1 (.int p)], [num1 (.int q)], [])
  | _ => ([i], [], [])

def partition : List Item1 → List Item1 × List Item1 × List E
  | [] => ([], [], [])
  | i :: r =>
      let (a1, b1, m1) := classify i
      let (a2, b2, m2) := partition r
      (a1 ++ a2, b1 ++ b2, m1 ++ m2)

/-- `b_str[b.index(base)] = '(' + … + ')'` -/
def wrapFirst (base : E) : List Item1 → List Doc → List Doc
  | i :: is, d :: ds => if i.e == base then .paren d :: ds else d :: wrapFirst base is ds
  | _, ds => ds

/-- the printed denominators: bracketed as operands of a product, the `pow_brackets` fix-up, and (third fix) a
    single denominator bracketed as the operand of a power -/
def denStrs (b : List Item1) (marks : List E) : List Doc :=
  match b, marks with
  | [d], [] => [bracket d.e d.doc 60]
  | _, _ => marks.foldl (fun acc m => wrapFirst m b acc) (b.map (fun i => bracket i.e i.doc 50))

def assemble (num : Doc) : List Doc → Doc
  | [] => num
  | [d] => .bin .div num d
  | ds => .bin .div num (.paren (prodChain ds))

def mulDoc (sign : Bool) (fs : List Item1) : Doc :=
  let (a, b, marks) := partition fs
  let a := if a.isEmpty then [num1 (.int 1)] else a
  let aStr := a.map (fun i => bracket i.e i.doc 50)
  let num := if sign then negFirst (prodChain aStr) else prodChain aStr
  assemble num (denStrs b marks)

/-! ## `_print_Add`: the sign is peeled off the printed term -/

def addStep (acc : Option Doc) (i : Item) : Option Doc :=
  let sm := startsMinus i.doc
  let t := if sm then peelLeft i.doc else i.doc
  let br := decide (prec i.e < 40)
  let t := if br then .paren t else t
  match acc with
  | none => some (if sm then (if br then .neg t else i.doc) else t)
  | some a => some (spliceSum a sm t)

def addDoc (items : List Item) : Doc := (items.foldl addStep none).getD .nil

/-! ## `_print_And`, `_print_Or` -/

def boolChain (splice : Doc → Doc → Doc) (p : Nat) : List Item → Doc
  | [] => .nil
  | i :: r => r.foldl (fun acc j => splice acc (bracket j.e j.doc p)) (bracket i.e i.doc p)

/-! ## `_print_Piecewise`: `((v) if (c) else (…))`, stopping at the first `True` condition -/

def nanDoc : Doc :=
  if litName "nan" == "float('nan')" then .call "float" (.cons (.atom "'nan'") .nil) else .atom (litName "nan")

def isTruePair : E → Bool
  | .pair _ .tt => true
  | _ => false

def pwInner : List Item → Status × Doc
  | [] => (.ok, nanDoc)
  | i :: r =>
      if isTruePair i.e then (i.st, i.doc)
      else
        let (s, d) := pwInner r
        (i.st.join s, .ite (.paren i.doc) (.paren i.base) (.paren d))

/-! ## the printer -/

def okDoc (d : Doc) : Out := ⟨.ok, d, .nil, []⟩

def pr : E → Out
  | .sym n _ => okDoc (.atom n)
  | .int n => okDoc (intDoc n)
  | .rat p q => ⟨if q ≥ 2 then .ok else .unsup, numDoc (.rat p q), .nil, []⟩
  | .flt t neg => ⟨if fltOK t neg then .ok else .unsup, fltDoc t neg, .nil, []⟩
  | .pi => okDoc (.atom (litName "pi"))
  | .e1 => okDoc (.atom (litName "e"))
  | .tt => okDoc (.atom "True")
  | .ff => okDoc (.atom "False")
  | .add args =>
      let o := pr args
      ⟨if o.items.isEmpty then .unsup else o.st, addDoc o.items, .nil, []⟩
  | .mul args =>
      let o := pr args
      match mulItems o.items with
      | none => ⟨.unsup, .nil, .nil, o.items⟩
      | some (s, fs) => ⟨o.st, mulDoc s fs, .nil, o.items⟩
  | .pow b x =>
      let ob := pr b
      let ox := pr x
      ⟨if constCompound x then .unsup else ob.st.join ox.st, powDoc b x ob.doc ox.doc, ob.doc, []⟩
  | .fn name args =>
      let o := pr args
      match fnName name with
      | some f => ⟨o.st, .call f o.doc, .nil, []⟩
      | none => ⟨o.st.join .verr, .nil, .nil, []⟩
  | .rel r a b =>
      let oa := pr a
      let ob := pr b
      let p := prec (.rel r a b) + 1
      ⟨oa.st.join ob.st, .cmp r (bracket a oa.doc p) (bracket b ob.doc p), .nil, []⟩
  | .and args =>
      let o := pr args
      ⟨if o.items.isEmpty then .unsup else o.st, boolChain spliceAnd 30 o.items, .nil, []⟩
  | .or args =>
      let o := pr args
      ⟨if o.items.isEmpty then .unsup else o.st, boolChain spliceOr 20 o.items, .nil, []⟩
  | .pw pairs =>
      let o := pr pairs
      let (s, d) := pwInner o.items
      ⟨s, .paren d, .nil, []⟩
  | .pair v c =>
      let ov := pr v
      let oc := pr c
      ⟨ov.st.join oc.st, ov.doc, oc.doc, []⟩
  | .deriv x t => okDoc (.call "Derivative" (.cons (.atom x) (.cons (.atom t) .nil)))
  | .other _ => ⟨.verr, .nil, .nil, []⟩
  | .nil => okDoc .nil
  | .cons h t =>
      let oh := pr h
      let ot := pr t
      ⟨oh.st.join ot.st, .cons oh.doc ot.doc, .nil, ⟨h, oh.st, oh.doc, oh.base, oh.items.map Item.one⟩ :: ot.items⟩

/-- `Printer()._print(e)` : the layout tree, `none` for ValueError / outside the modelled fragment -/
def printDoc (e : E) : Option Doc := if (pr e).st == .ok then some (pr e).doc else none

def printStr (e : E) : Option String := (printDoc e).map flatten

end C11
