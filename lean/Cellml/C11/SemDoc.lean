import Cellml.C11.Sem
import Cellml.C11.DocLemmas
import Cellml.C11.Wf

/-! C11 — `print_means`, part 1: the joining operations on layout trees compute what they should. -/
namespace C11
variable {K : Type} [Field K] (S : Sem K)

@[simp] theorem evD_paren (d : Doc) : evD S (.paren d) = evD S d := rfl

theorem evD_bracket (e : E) (d : Doc) (p : Nat) : evD S (bracket e d p) = evD S d := by
  rw [bracket_eq]; split <;> rfl

@[simp] theorem evD_mul_num (a b : Doc) : (evD S (.bin .mul a b)).num = (evD S a).num * (evD S b).num := rfl
@[simp] theorem evD_div_num (a b : Doc) : (evD S (.bin .div a b)).num = (evD S a).num / (evD S b).num := rfl
@[simp] theorem evD_add_num (a b : Doc) : (evD S (.bin .add a b)).num = (evD S a).num + (evD S b).num := rfl
@[simp] theorem evD_sub_num (a b : Doc) : (evD S (.bin .sub a b)).num = (evD S a).num - (evD S b).num := rfl
@[simp] theorem evD_pow_num (a b : Doc) : (evD S (.bin .pow a b)).num = S.powK (evD S a).num (evD S b).num := rfl
@[simp] theorem evD_neg_num (a : Doc) : (evD S (.neg a)).num = -(evD S a).num := rfl
@[simp] theorem evD_and_bool (a b : Doc) : (evD S (.and a b)).bool = ((evD S a).bool && (evD S b).bool) := rfl
@[simp] theorem evD_or_bool (a b : Doc) : (evD S (.or a b)).bool = ((evD S a).bool || (evD S b).bool) := rfl
@[simp] theorem evD_and_num (a b : Doc) : (evD S (.and a b)).num = b2k ((evD S a).bool && (evD S b).bool) := rfl
@[simp] theorem evD_or_num (a b : Doc) : (evD S (.or a b)).num = b2k ((evD S a).bool || (evD S b).bool) := rfl

theorem spliceProd_num (acc d : Doc) : (evD S (spliceProd acc d)).num = (evD S acc).num * (evD S d).num := by
  induction d with
  | bin op a b iha _ =>
      cases op <;> simp only [spliceProd, evD_mul_num, evD_div_num, iha]
      · ring
      · ring
  | _ => simp only [spliceProd, evD_mul_num]

theorem foldl_spliceProd_num (ds : List Doc) : ∀ acc,
    (evD S (ds.foldl spliceProd acc)).num = (evD S acc).num * prodK (ds.map (fun d => (evD S d).num)) := by
  induction ds with
  | nil => intro acc; simp [prodK]
  | cons d ds ih => intro acc; simp only [List.foldl_cons, ih, spliceProd_num, List.map_cons, prodK]; ring

theorem one_atom (hL : Laws S) : S.atomNum "1" = (1 : K) := by
  have h1 : toString (1 : Nat) = "1" := by decide
  have := hL.atom_nat 1
  rw [h1] at this
  simpa using this

theorem prodChain_num (hL : Laws S) (ds : List Doc) :
    (evD S (prodChain ds)).num = prodK (ds.map (fun d => (evD S d).num)) := by
  cases ds with
  | nil => simp only [prodChain, List.map_nil, prodK, evD, one_atom S hL]
  | cons d ds => simp only [prodChain, foldl_spliceProd_num, List.map_cons, prodK]

theorem negFirst_num (d : Doc) : (evD S (negFirst d)).num = -(evD S d).num := by
  induction d with
  | bin op a b iha _ =>
      cases op <;> simp only [negFirst, evD_mul_num, evD_div_num, evD_neg_num, iha] <;> ring
  | _ => simp only [negFirst, evD_neg_num]

theorem spliceSum_plus_num (acc d : Doc) :
    (evD S (spliceSum acc false d)).num = (evD S acc).num + (evD S d).num := by
  induction d with
  | bin op a b iha _ =>
      cases op
      case add => simp only [spliceSum, evD_add_num, iha]; ring
      case sub => simp only [spliceSum, evD_sub_num, iha]; ring
      all_goals simp [spliceSum]
  | _ => simp [spliceSum]

theorem peelProd_num (d : Doc) : PyOK d = true → 50 ≤ level d → startsMinus d = true →
    (evD S (peelLeft d)).num = -(evD S d).num := by
  induction d with
  | neg x _ => intro _ _ _; simp [peelLeft]
  | bin op a b iha _ =>
      intro hp hl hs
      simp only [startsMinus] at hs
      cases op
      case mul =>
        simp only [ok_mul, Bool.and_eq_true, decide_eq_true_eq] at hp
        simp only [peelLeft, evD_mul_num, iha hp.1.1.1 hp.1.2 hs]; ring
      case div =>
        simp only [ok_div, Bool.and_eq_true, decide_eq_true_eq] at hp
        simp only [peelLeft, evD_div_num, iha hp.1.1.1 hp.1.2 hs]; ring
      case pow =>
        simp only [ok_pow, Bool.and_eq_true, decide_eq_true_eq] at hp
        rw [startsMinus_primary a hp.1.2] at hs; cases hs
      all_goals simp at hl
  | atom _ | call _ _ | paren _ _ | nil => intro _ _ hs; simp [startsMinus] at hs
  | cmp _ _ _ _ _ | and _ _ _ _ | or _ _ _ _ | ite _ _ _ _ _ _ | cons _ _ _ _ => intro _ hl; simp at hl

theorem spliceSum_tight (acc x : Doc) (m : Bool) (h : 50 ≤ level x) :
    spliceSum acc m x = .bin (if m then .sub else .add) acc x := by
  cases x with
  | bin op a b => cases op <;> first | rfl | (simp at h)
  | _ => rfl

/-- `acc - t[1:]` for a printed term `t` that starts with a minus is `acc + t` -/
theorem peelSplice_num (d : Doc) : PyOK d = true → 40 ≤ level d → startsMinus d = true → ∀ acc,
    (evD S (spliceSum acc true (peelLeft d))).num = (evD S acc).num + (evD S d).num := by
  induction d with
  | neg x _ =>
      intro hp _ _ acc
      simp only [ok_neg, Bool.and_eq_true, decide_eq_true_eq] at hp
      simp only [peelLeft]
      -- x is tighter than a sum, so it is attached as one operand
      rw [spliceSum_tight acc x true (by omega)]; simp; ring
  | bin op a b iha _ =>
      intro hp hl hs acc
      simp only [startsMinus] at hs
      cases op
      case add =>
        simp only [ok_add, Bool.and_eq_true, decide_eq_true_eq] at hp
        simp only [peelLeft, spliceSum, evD_add_num, iha hp.1.1.1 hp.1.2 hs]; ring
      case sub =>
        simp only [ok_sub, Bool.and_eq_true, decide_eq_true_eq] at hp
        simp only [peelLeft, spliceSum, evD_sub_num, iha hp.1.1.1 hp.1.2 hs]; ring
      -- a product is tighter than a sum, so it is attached as one operand
      all_goals
        have := peelProd_num S _ hp (by simp) (by simpa [startsMinus] using hs)
        simp only [peelLeft] at this ⊢
        show (evD S (.bin .sub acc _)).num = _
        rw [evD_sub_num, this]; ring
  | atom _ | call _ _ | paren _ _ | nil => intro _ _ hs; simp [startsMinus] at hs
  | cmp _ _ _ _ _ | and _ _ _ _ | or _ _ _ _ | ite _ _ _ _ _ _ | cons _ _ _ _ => intro _ hl; simp at hl

theorem spliceAnd_bool (acc d : Doc) :
    (evD S (spliceAnd acc d)).bool = ((evD S acc).bool && (evD S d).bool) ∧
      (evD S (spliceAnd acc d)).num = b2k ((evD S acc).bool && (evD S d).bool) := by
  induction d with
  | and a b iha _ => simp only [spliceAnd, evD_and_bool, evD_and_num, iha.1, Bool.and_assoc, and_self]
  | _ => simp [spliceAnd]

theorem spliceOr_bool (acc d : Doc) :
    (evD S (spliceOr acc d)).bool = ((evD S acc).bool || (evD S d).bool) ∧
      (evD S (spliceOr acc d)).num = b2k ((evD S acc).bool || (evD S d).bool) := by
  induction d with
  | or a b iha _ => simp only [spliceOr, evD_or_bool, evD_or_num, iha.1, Bool.or_assoc, and_self]
  | _ => simp [spliceOr]

end C11
