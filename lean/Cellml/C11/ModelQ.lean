import Mathlib.Algebra.Field.Rat
import Mathlib.Tactic.NormNum
import Cellml.C11.Sem
import Cellml.C11.DocLemmas

/-! C11 — a model of the semantic laws over ℚ (tokens read as decimal integers, `v**1 = v`, `v**-1 = 1/v`, every
    function constant): the hypotheses `Laws` of `print_means` are satisfiable, the theorem is not vacuous. -/
namespace C11

/-- value of a token: digits → number, leading '-' negates, True/False are 1/0 -/
def aN : List Char → ℚ
  | '-' :: cs => - aN cs
  | cs => if cs = "True".toList then 1 else if cs = "False".toList then 0 else (Nat.ofDigitChars 10 cs 0 : ℚ)

def powQ (v y : ℚ) : ℚ := if y = 1 then v else if y = -1 then v⁻¹ else 1

def SQ : Sem ℚ where
  atomNum s := aN s.toList
  atomBool s := s == "True"
  powK := powQ
  pyFn _ _ := 1
  symFn _ _ := 1
  cmpK _ _ _ := true

theorem aN_digits (n : Nat) : aN (Nat.toDigits 10 n) = n := by
  have hne := Nat.toDigits_ne_nil (n := n) (b := 10)
  have hd : ∀ c ∈ Nat.toDigits 10 n, c.isDigit = true := fun c hc => Nat.isDigit_of_mem_toDigits (by decide) (by decide) hc
  cases h : Nat.toDigits 10 n with
  | nil => exact absurd h hne
  | cons c cs =>
      rw [h] at hd
      have hc := hd c (by simp)
      have hcm : c ≠ '-' := by intro e; subst e; simp at hc
      have hT : c ≠ 'T' := by intro e; subst e; simp at hc
      have hF : c ≠ 'F' := by intro e; subst e; simp at hc
      rw [aN]
      · have h1 : ¬ (c :: cs = "True".toList) := by simp [hT]
        have h2 : ¬ (c :: cs = "False".toList) := by simp [hF]
        simp only [h1, h2, if_false]
        rw [← h, Nat.ofDigitChars_ten_toDigits]
      · intro cs' e; simp at e; exact hcm e.1

theorem SQ_atomNum (s : String) : SQ.atomNum s = aN s.toList := rfl

theorem lawsQ : Laws SQ where
  atom_nat n := by
    rw [SQ_atomNum, Nat.toString_eq_repr, Nat.toList_repr]; exact aN_digits n
  atom_neg t h := by
    obtain ⟨cs, ht⟩ := headMinus_toList t h
    -- not `show`: unifying `SQ.atomNum t` with `aN t.toList` unfolds `String.toList`
    rw [SQ_atomNum, SQ_atomNum, tailStr, ht, String.toList_ofList]
    rfl
  true_num := by rw [SQ_atomNum]; simp [aN]
  false_num := by rw [SQ_atomNum]; simp [aN]
  true_bool := by decide
  false_bool := by decide
  pow_neg v y := by
    show powQ v (-y) = (powQ v y)⁻¹
    unfold powQ
    by_cases h1 : y = 1
    · subst h1; norm_num
    · by_cases h2 : y = -1
      · subst h2; norm_num
      · have h3 : ¬ (-y = 1) := by intro h; apply h2; rw [← h]; ring
        have h4 : ¬ (-y = -1) := by intro h; apply h1; have := neg_inj.mp h; exact this
        simp [h1, h2, h3, h4]
  pow_one v := by show powQ v 1 = v; simp [powQ]
  sqrt_def v := by
    show (1 : ℚ) = powQ v (1 / 2)
    unfold powQ; norm_num
  fn_table _ _ _ := rfl

end C11
