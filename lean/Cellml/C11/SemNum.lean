import Cellml.C11.SemDoc

/-! C11 — `print_means`, part 2: numbers and powers. -/
namespace C11
variable {K : Type} [Field K] (S : Sem K)

theorem natDoc_num (hL : Laws S) (n : Nat) : (evD S (natDoc n)).num = (n : K) := by
  simp only [natDoc, evD]; exact hL.atom_nat n

theorem intDoc_num (hL : Laws S) (n : Int) : (evD S (intDoc n)).num = (n : K) := by
  unfold intDoc
  split
  next h =>
    have hn : n = -((n.natAbs : Nat) : Int) := by omega
    simp only [evD_neg_num, natDoc_num S hL]
    conv_rhs => rw [hn]
    rw [Int.cast_neg, Int.cast_natCast]
  next h =>
    have hn : n = ((n.natAbs : Nat) : Int) := by omega
    rw [natDoc_num S hL]
    conv_rhs => rw [hn]
    rw [Int.cast_natCast]

theorem numDoc_num (hL : Laws S) (e : E) (hw : wf .A e = true) (hn : isNum e = true) :
    (evD S (numDoc e)).num = (ev S e).num := by
  cases e <;> simp [isNum] at hn
  case int n => simp only [numDoc, ev]; exact intDoc_num S hL n
  case rat p q => simp only [numDoc, ev, evD_div_num, intDoc_num S hL, natDoc_num S hL]
  case flt t neg =>
    simp only [wf, fltOK, Bool.and_eq_true, beq_iff_eq, decide_eq_true_eq] at hw
    cases neg
    · simp [numDoc, fltDoc, ev, evD]
    · simp only [numDoc, fltDoc, ev, evD_neg_num, if_true]
      have := hL.atom_neg t hw.2.1
      simp only [evD]; rw [this]

theorem negNum_num (hL : Laws S) (e : E) (hw : wf .A e = true) (hn : isNegNum e = true) :
    (ev S e).num = -(ev S (negNum e)).num := by
  cases e <;> simp [isNegNum] at hn
  case int n => simp [negNum, ev]
  case rat p q => simp [negNum, ev]; ring
  case flt t neg =>
    subst hn
    simp only [wf, fltOK, Bool.and_eq_true, beq_iff_eq, decide_eq_true_eq] at hw
    simp only [negNum, ev, if_true]
    exact hL.atom_neg t hw.2.1

theorem powDoc_num (hL : Laws S) (b x : E) (bd xd : Doc) (hx : (evD S xd).num = (ev S x).num) :
    (evD S (powDoc b x bd xd)).num = S.powK (evD S bd).num (ev S x).num := by
  unfold powDoc
  split
  next h =>
    have hx2 : x = .rat 1 2 := by simpa using h
    subst hx2
    simp only [evD, ev, hL.sqrt_def]; push_cast; rfl
  split
  next h =>
    simp only [Bool.and_eq_true, beq_iff_eq] at h
    have hx2 := h.2; subst hx2
    simp only [evD, ev, hL.sqrt_def, one_atom S hL]
    have : ((-1 : Int) : K) / ((2 : Nat) : K) = -(1 / 2) := by push_cast; ring
    rw [this, hL.pow_neg]; ring
  split
  next h =>
    simp only [Bool.and_eq_true, beq_iff_eq] at h
    have hx2 := h.2; subst hx2
    simp only [evD_div_num, evD_bracket, ev]
    simp only [evD, one_atom S hL]
    rw [Int.cast_neg, Int.cast_one, hL.pow_neg, hL.pow_one]; ring
  · simp only [evD_pow_num, evD_bracket, hx]

end C11
