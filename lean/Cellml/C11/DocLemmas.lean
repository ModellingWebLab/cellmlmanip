import Cellml.C11.Printer
import Cellml.Basic.ListLemmas

/-! C11 — lemmas about the layout tree: the joining operations keep `PyOK`, and what their text is. -/
namespace C11

theorem headMinus_toList (t : String) (h : headMinus t = true) : ∃ cs, t.toList = '-' :: cs := by
  unfold headMinus at h
  split at h
  next cs heq => exact ⟨cs, heq⟩
  · cases h

@[simp] theorem level_atom (s) : level (.atom s) = 100 := rfl
@[simp] theorem level_call (f a) : level (.call f a) = 100 := rfl
@[simp] theorem level_paren (d) : level (.paren d) = 100 := rfl
@[simp] theorem level_neg (d) : level (.neg d) = 55 := rfl
@[simp] theorem level_pow (a b) : level (.bin .pow a b) = 60 := rfl
@[simp] theorem level_mul (a b) : level (.bin .mul a b) = 50 := rfl
@[simp] theorem level_div (a b) : level (.bin .div a b) = 50 := rfl
@[simp] theorem level_add (a b) : level (.bin .add a b) = 40 := rfl
@[simp] theorem level_sub (a b) : level (.bin .sub a b) = 40 := rfl
@[simp] theorem level_cmp (r a b) : level (.cmp r a b) = 35 := rfl
@[simp] theorem level_and (a b) : level (.and a b) = 30 := rfl
@[simp] theorem level_or (a b) : level (.or a b) = 20 := rfl
@[simp] theorem level_ite (a b c) : level (.ite a b c) = 10 := rfl
@[simp] theorem level_nil : level .nil = 0 := rfl
@[simp] theorem level_cons (a b) : level (.cons a b) = 0 := rfl

@[simp] theorem ok_atom (s) : PyOK (.atom s) = true := rfl
@[simp] theorem ok_nil : PyOK .nil = true := rfl
@[simp] theorem ok_call (f a) : PyOK (.call f a) = PyOK a := rfl
@[simp] theorem ok_neg (d) : PyOK (.neg d) = (PyOK d && decide (55 ≤ level d)) := rfl
@[simp] theorem ok_pow (a b) : PyOK (.bin .pow a b) =
    (PyOK a && PyOK b && decide (100 ≤ level a) && decide (55 ≤ level b)) := rfl
@[simp] theorem ok_mul (a b) : PyOK (.bin .mul a b) =
    (PyOK a && PyOK b && decide (50 ≤ level a) && decide (55 ≤ level b)) := rfl
@[simp] theorem ok_div (a b) : PyOK (.bin .div a b) =
    (PyOK a && PyOK b && decide (50 ≤ level a) && decide (55 ≤ level b)) := rfl
@[simp] theorem ok_add (a b) : PyOK (.bin .add a b) =
    (PyOK a && PyOK b && decide (40 ≤ level a) && decide (50 ≤ level b)) := rfl
@[simp] theorem ok_sub (a b) : PyOK (.bin .sub a b) =
    (PyOK a && PyOK b && decide (40 ≤ level a) && decide (50 ≤ level b)) := rfl
@[simp] theorem ok_cmp (r a b) : PyOK (.cmp r a b) =
    (PyOK a && PyOK b && decide (40 ≤ level a) && decide (40 ≤ level b)) := rfl
@[simp] theorem ok_and (a b) : PyOK (.and a b) =
    (PyOK a && PyOK b && decide (30 ≤ level a) && decide (35 ≤ level b)) := rfl
@[simp] theorem ok_or (a b) : PyOK (.or a b) =
    (PyOK a && PyOK b && decide (20 ≤ level a) && decide (30 ≤ level b)) := rfl
@[simp] theorem ok_ite (t c e) : PyOK (.ite t c e) =
    (PyOK t && PyOK c && PyOK e && decide (20 ≤ level t) && decide (20 ≤ level c) && decide (10 ≤ level e)) := rfl
@[simp] theorem ok_paren (d) : PyOK (.paren d) = (PyOK d && decide (10 ≤ level d)) := rfl
@[simp] theorem ok_cons (h t) : PyOK (.cons h t) = (PyOK h && decide (10 ≤ level h) && PyOK t) := rfl

theorem level_le_100 (d : Doc) : level d ≤ 100 := by
  cases d <;> try simp
  rename_i op _ _; cases op <;> simp

theorem startsMinus_primary (d : Doc) (h : 100 ≤ level d) : startsMinus d = false := by
  cases d <;> simp [startsMinus] at h ⊢
  rename_i op _ _; cases op <;> simp at h

/-- `L ≤ 55`: what stood under the minus is only known to have the unary level -/
theorem peelLeft_ok (d : Doc) : ∀ L, PyOK d = true → startsMinus d = true → L ≤ level d → L ≤ 55 →
    PyOK (peelLeft d) = true ∧ L ≤ level (peelLeft d) := by
  induction d with
  | atom s => intro L _ h; simp [startsMinus] at h
  | call f a _ => intro L _ h; simp [startsMinus] at h
  | paren d _ => intro L _ h; simp [startsMinus] at h
  | nil => intro L _ h; simp [startsMinus] at h
  | neg d _ =>
      intro L hp _ hl hL
      simp only [ok_neg, Bool.and_eq_true, decide_eq_true_eq] at hp
      simp only [peelLeft]; exact ⟨hp.1, by omega⟩
  | bin op a b iha _ =>
      intro L hp hs hl hL
      simp only [startsMinus] at hs
      cases op <;> simp only [ok_add, ok_sub, ok_mul, ok_div, ok_pow, level_add, level_sub, level_mul, level_div, level_pow,
          Bool.and_eq_true, decide_eq_true_eq] at hp hl ⊢ <;>
        simp only [peelLeft, ok_add, ok_sub, ok_mul, ok_div, ok_pow, level_add, level_sub, level_mul, level_div,
          level_pow, Bool.and_eq_true, decide_eq_true_eq]
      -- the left operand of `**` is a primary
      case pow => rw [startsMinus_primary a hp.1.2] at hs; cases hs
      -- the left operand keeps the level its parent asks of it
      all_goals have := iha _ hp.1.1.1 hs hp.1.2 (by omega); exact ⟨⟨⟨⟨this.1, hp.1.1.2⟩, this.2⟩, hp.2⟩, hl⟩
  | cmp r a b iha _ | and a b iha _ | or a b iha _ =>
      intro L hp hs hl hL
      simp only [startsMinus] at hs
      simp only [ok_cmp, ok_and, ok_or, level_cmp, level_and, level_or, Bool.and_eq_true, decide_eq_true_eq] at hp hl
      simp only [peelLeft, ok_cmp, ok_and, ok_or, level_cmp, level_and, level_or, Bool.and_eq_true, decide_eq_true_eq]
      have := iha _ hp.1.1.1 hs hp.1.2 (by omega); exact ⟨⟨⟨⟨this.1, hp.1.1.2⟩, this.2⟩, hp.2⟩, hl⟩
  | ite t c e iht _ _ =>
      intro L hp hs hl hL
      simp only [startsMinus] at hs
      simp only [ok_ite, level_ite, Bool.and_eq_true, decide_eq_true_eq] at hp hl
      simp only [peelLeft, ok_ite, level_ite, Bool.and_eq_true, decide_eq_true_eq]
      have := iht 20 hp.1.1.1.1.1 hs hp.1.1.2 (by omega)
      exact ⟨⟨⟨⟨⟨⟨this.1, hp.1.1.1.1.2⟩, hp.1.1.1.2⟩, this.2⟩, hp.1.2⟩, hp.2⟩, hl⟩
  | cons h t ihh _ =>
      intro L hp hs hl hL
      simp only [level_cons] at hl
      simp only [startsMinus] at hs
      simp only [ok_cons, Bool.and_eq_true, decide_eq_true_eq] at hp
      simp only [peelLeft, ok_cons, level_cons, Bool.and_eq_true, decide_eq_true_eq]
      have := ihh 10 hp.1.1 hs hp.1.2 (by omega)
      exact ⟨⟨⟨this.1, this.2⟩, hp.2⟩, by omega⟩

/-! In the `splice*_ok` and `negFirst_ok` below the operand `d` is either the node the splice descends into, or it is joined as it is.
    For a given constructor `level d` is a numeral, so the bound on it is evaluated (`rfl`), and a constructor below the
    bound is excluded by the hypothesis. -/

theorem sum_ok (acc d : Doc) (m : Bool) (hacc : PyOK acc = true) (hl : 40 ≤ level acc) (hp : PyOK d = true)
    (hd : 50 ≤ level d) : PyOK (.bin (if m then .sub else .add) acc d) = true ∧
      level (.bin (if m then .sub else .add) acc d) = 40 := by
  cases m <;> simp [hacc, hp, hl, hd]

theorem spliceSum_ok (acc : Doc) (m : Bool) (hacc : PyOK acc = true) (hl : 40 ≤ level acc) (d : Doc) :
    PyOK d = true → 40 ≤ level d → PyOK (spliceSum acc m d) = true ∧ level (spliceSum acc m d) = 40 := by
  induction d with
  | bin op a b iha _ =>
      intro hp hd
      cases op
      case add =>
        simp only [ok_add, Bool.and_eq_true, decide_eq_true_eq] at hp
        have := iha hp.1.1.1 hp.1.2
        exact sum_ok _ b false this.1 (Nat.le_of_eq this.2.symm) hp.1.1.2 hp.2
      case sub =>
        simp only [ok_sub, Bool.and_eq_true, decide_eq_true_eq] at hp
        have := iha hp.1.1.1 hp.1.2
        exact sum_ok _ b true this.1 (Nat.le_of_eq this.2.symm) hp.1.1.2 hp.2
      all_goals exact sum_ok acc _ m hacc hl hp (Nat.le_of_ble_eq_true rfl)
  | _ =>
      intro hp hd
      first
        | exact sum_ok acc _ m hacc hl hp (Nat.le_of_ble_eq_true rfl)
        | exact absurd hd (Nat.not_le_of_lt (Nat.le_of_ble_eq_true rfl))

theorem prod_ok (acc d : Doc) (hacc : PyOK acc = true) (hl : 50 ≤ level acc) (hp : PyOK d = true)
    (hd : 55 ≤ level d) : PyOK (.bin .mul acc d) = true ∧ level (.bin .mul acc d) = 50 := by
  simp [hacc, hp, hl, hd]

theorem spliceProd_ok (acc : Doc) (hacc : PyOK acc = true) (hl : 50 ≤ level acc) (d : Doc) :
    PyOK d = true → 50 ≤ level d → PyOK (spliceProd acc d) = true ∧ level (spliceProd acc d) = 50 := by
  induction d with
  | bin op a b iha _ =>
      intro hp hd
      cases op
      case mul =>
        simp only [ok_mul, Bool.and_eq_true, decide_eq_true_eq] at hp
        have := iha hp.1.1.1 hp.1.2
        exact prod_ok _ b this.1 (Nat.le_of_eq this.2.symm) hp.1.1.2 hp.2
      case div =>
        simp only [ok_div, Bool.and_eq_true, decide_eq_true_eq] at hp
        have := iha hp.1.1.1 hp.1.2
        simp [spliceProd, this.1, this.2, hp.1.1.2, hp.2]
      all_goals
        first
          | exact prod_ok acc _ hacc hl hp (Nat.le_of_ble_eq_true rfl)
          | exact absurd hd (Nat.not_le_of_lt (Nat.le_of_ble_eq_true rfl))
  | _ =>
      intro hp hd
      first
        | exact prod_ok acc _ hacc hl hp (Nat.le_of_ble_eq_true rfl)
        | exact absurd hd (Nat.not_le_of_lt (Nat.le_of_ble_eq_true rfl))

theorem foldl_spliceProd_ok (ds : List Doc) : ∀ acc, PyOK acc = true → 50 ≤ level acc →
    (∀ x ∈ ds, PyOK x = true ∧ 50 ≤ level x) →
    PyOK (ds.foldl spliceProd acc) = true ∧ 50 ≤ level (ds.foldl spliceProd acc) :=
  fun acc h1 h2 hall => List.foldl_inv spliceProd (fun a => PyOK a = true ∧ 50 ≤ level a) ds acc ⟨h1, h2⟩
    fun b d hd hb => have := spliceProd_ok b hb.1 hb.2 d (hall d hd).1 (hall d hd).2; ⟨this.1, Nat.le_of_eq this.2.symm⟩

theorem prodChain_ok (ds : List Doc) (hall : ∀ x ∈ ds, PyOK x = true ∧ 50 ≤ level x) :
    PyOK (prodChain ds) = true ∧ 50 ≤ level (prodChain ds) := by
  cases ds with
  | nil => simp [prodChain]
  | cons d ds =>
      have hd := hall d (by simp)
      exact foldl_spliceProd_ok ds d hd.1 hd.2 (fun x hx => hall x (by simp [hx]))

theorem neg_ok (d : Doc) (hp : PyOK d = true) (hd : 55 ≤ level d) :
    PyOK (.neg d) = true ∧ 50 ≤ level (.neg d) := by
  simp [hp, hd]

theorem negFirst_ok (d : Doc) : PyOK d = true → 50 ≤ level d →
    PyOK (negFirst d) = true ∧ 50 ≤ level (negFirst d) := by
  induction d with
  | bin op a b iha _ =>
      intro hp hd
      cases op
      case mul =>
        simp only [ok_mul, Bool.and_eq_true, decide_eq_true_eq] at hp
        have := iha hp.1.1.1 hp.1.2
        simp [negFirst, this.1, this.2, hp.1.1.2, hp.2]
      case div =>
        simp only [ok_div, Bool.and_eq_true, decide_eq_true_eq] at hp
        have := iha hp.1.1.1 hp.1.2
        simp [negFirst, this.1, this.2, hp.1.1.2, hp.2]
      all_goals
        first
          | exact neg_ok _ hp (Nat.le_of_ble_eq_true rfl)
          | exact absurd hd (Nat.not_le_of_lt (Nat.le_of_ble_eq_true rfl))
  | _ =>
      intro hp hd
      first
        | exact neg_ok _ hp (Nat.le_of_ble_eq_true rfl)
        | exact absurd hd (Nat.not_le_of_lt (Nat.le_of_ble_eq_true rfl))

theorem and_ok (acc d : Doc) (hacc : PyOK acc = true) (hl : 30 ≤ level acc) (hp : PyOK d = true)
    (hd : 35 ≤ level d) : PyOK (.and acc d) = true ∧ level (.and acc d) = 30 := by
  simp [hacc, hp, hl, hd]

theorem spliceAnd_ok (acc : Doc) (hacc : PyOK acc = true) (hl : 30 ≤ level acc) (d : Doc) :
    PyOK d = true → 30 ≤ level d → PyOK (spliceAnd acc d) = true ∧ level (spliceAnd acc d) = 30 := by
  induction d with
  | and a b iha _ =>
      intro hp hd
      simp only [ok_and, Bool.and_eq_true, decide_eq_true_eq] at hp
      have := iha hp.1.1.1 hp.1.2
      exact and_ok _ b this.1 (Nat.le_of_eq this.2.symm) hp.1.1.2 hp.2
  | bin op a b _ _ =>
      intro hp hd
      cases op <;> exact and_ok acc _ hacc hl hp (Nat.le_of_ble_eq_true rfl)
  | _ =>
      intro hp hd
      first
        | exact and_ok acc _ hacc hl hp (Nat.le_of_ble_eq_true rfl)
        | exact absurd hd (Nat.not_le_of_lt (Nat.le_of_ble_eq_true rfl))

theorem or_ok (acc d : Doc) (hacc : PyOK acc = true) (hl : 20 ≤ level acc) (hp : PyOK d = true)
    (hd : 30 ≤ level d) : PyOK (.or acc d) = true ∧ level (.or acc d) = 20 := by
  simp [hacc, hp, hl, hd]

theorem spliceOr_ok (acc : Doc) (hacc : PyOK acc = true) (hl : 20 ≤ level acc) (d : Doc) :
    PyOK d = true → 20 ≤ level d → PyOK (spliceOr acc d) = true ∧ level (spliceOr acc d) = 20 := by
  induction d with
  | or a b iha _ =>
      intro hp hd
      simp only [ok_or, Bool.and_eq_true, decide_eq_true_eq] at hp
      have := iha hp.1.1.1 hp.1.2
      exact or_ok _ b this.1 (Nat.le_of_eq this.2.symm) hp.1.1.2 hp.2
  | bin op a b _ _ =>
      intro hp hd
      cases op <;> exact or_ok acc _ hacc hl hp (Nat.le_of_ble_eq_true rfl)
  | _ =>
      intro hp hd
      first
        | exact or_ok acc _ hacc hl hp (Nat.le_of_ble_eq_true rfl)
        | exact absurd hd (Nat.not_le_of_lt (Nat.le_of_ble_eq_true rfl))

theorem flatten_foldl (sep : String) (f : Doc → Doc → Doc)
    (hf : ∀ a d, flatten (f a d) = flatten a ++ sep ++ flatten d) (ds : List Doc) (d0 : Doc) :
    flatten (ds.foldl f d0) = String.intercalate sep (flatten d0 :: ds.map flatten) := by
  induction ds generalizing d0 with
  | nil => simp
  | cons d ds ih =>
    rw [List.foldl_cons, ih, hf, List.map_cons, String.intercalate_cons_cons, String.append_assoc,
      String.intercalate_cons_append, String.intercalate_cons_append, String.append_assoc]

theorem bracket_zero (e : E) (d : Doc) : bracket e d 0 = d := by simp [bracket]

theorem flatten_spliceAnd (a d : Doc) : flatten (spliceAnd a d) = flatten a ++ " and " ++ flatten d := by
  induction d with
  | and x y ihx _ => simp only [spliceAnd, flatten, ihx, String.append_assoc]
  | _ => rfl

theorem flatten_spliceOr (a d : Doc) : flatten (spliceOr a d) = flatten a ++ " or " ++ flatten d := by
  induction d with
  | or x y ihx _ => simp only [spliceOr, flatten, ihx, String.append_assoc]
  | _ => rfl

theorem flatten_boolChain (sep : String) (f : Doc → Doc → Doc)
    (hf : ∀ a d, flatten (f a d) = flatten a ++ sep ++ flatten d) (p : Nat) (items : List Item) :
    flatten (boolChain f p items) = String.intercalate sep (items.map (fun i => flatten (bracket i.e i.doc p))) := by
  cases items with
  | nil => simp [boolChain, flatten]
  | cons i r =>
    simp only [boolChain]
    rw [← List.foldl_map (f := fun j : Item => bracket j.e j.doc p) (g := f), flatten_foldl sep f hf]
    simp [List.map_map, Function.comp_def]

theorem flatten_spliceSum (a : Doc) (m : Bool) (d : Doc) :
    flatten (spliceSum a m d) = flatten a ++ (if m then " - " else " + ") ++ flatten d := by
  induction d with
  | bin op x y ihx _ =>
    cases op
    case add | sub => simp only [spliceSum, flatten, ihx, String.append_assoc]
    all_goals cases m <;> rfl
  | _ => cases m <;> rfl

theorem flatten_spliceProd (a d : Doc) : flatten (spliceProd a d) = flatten a ++ " * " ++ flatten d := by
  induction d with
  | bin op x y ihx _ =>
    cases op
    case mul | div => simp only [spliceProd, flatten, ihx, String.append_assoc]
    all_goals rfl
  | _ => rfl

theorem flatten_negFirst (d : Doc) : flatten (negFirst d) = "-" ++ flatten d := by
  induction d with
  | bin op x y ihx _ =>
    cases op
    case mul | div => simp only [negFirst, flatten, ihx, String.append_assoc]
    all_goals rfl
  | _ => rfl

theorem flatten_prodChain (d : Doc) (ds : List Doc) :
    flatten (prodChain (d :: ds)) = String.intercalate " * " ((d :: ds).map flatten) := by
  simp only [prodChain]
  rw [flatten_foldl " * " spliceProd flatten_spliceProd]
  rfl

theorem wrapFirst_length (m : E) (bs : List Item1) (ds : List Doc) : (wrapFirst m bs ds).length = ds.length := by
  induction bs generalizing ds with
  | nil => simp [wrapFirst]
  | cons j bs ih =>
    cases ds with
    | nil => simp [wrapFirst]
    | cons d ds => simp only [wrapFirst]; split <;> simp [ih]

theorem foldl_wrapFirst_length (marks : List E) (bs : List Item1) (ds : List Doc) :
    (marks.foldl (fun acc m => wrapFirst m bs acc) ds).length = ds.length :=
  List.foldl_inv (fun acc m => wrapFirst m bs acc) (fun acc => acc.length = ds.length) marks ds rfl
    fun acc m _ h => (wrapFirst_length m bs acc).trans h

end C11
