import Cellml.C11.Groups2
import Cellml.C11.Dom

/-! C11 — `print_groups`, part 3: `_print_Mul`. -/
namespace C11

def GoodR (e : E) (d : Doc) : Prop := wf .A e = true ∧ isList e = false ∧ PyOK d = true ∧ LvA e d

def Good1 (i : Item1) : Prop := Fac GoodR i

def GoodD (i : Item1) : Prop := PyOK i.doc = true ∧ LvA i.e i.doc

/-- a bracketed operand of a product -/
def P50 (d : Doc) : Prop := PyOK d = true ∧ 50 ≤ level d

theorem wf_negNum (x : E) (h : wf .A x = true) (hn : isNegRat x = true) :
    wf .A (negNum x) = true ∧ isNum (negNum x) = true := by
  cases x <;> simp [isNegRat] at hn <;> simp_all [wf, negNum, isNum]

theorem good_int (n : Int) : GoodR (.int n) (intDoc n) := ⟨rfl, rfl, numDoc_ok (.int n) rfl rfl⟩

/-- the power that `classify` builds for a denominator `b**x`, `x` a negative rational -/
theorem good_negPow (f : Item1) (hf : Good1 f) (b x : E) (he : f.e = .pow b x) (hn : isNegRat x = true) :
    GoodR (.pow b (negNum x)) (powDoc b (negNum x) f.base (numDoc (negNum x))) := by
  obtain ⟨hwb, hlb, hb⟩ := hf.2 b x he
  have hw := hf.1.1
  rw [he] at hw
  simp only [wf, Bool.and_eq_true] at hw
  have hwn := wf_negNum x hw.2 hn
  have hnum := numDoc_ok _ hwn.1 hwn.2
  have hln : isList (negNum x) = false := by cases x <;> first | rfl | cases hn
  exact ⟨by simp [wf, hwb, hlb, hwn.1, hln], rfl, powDoc_ok b (negNum x) f.base _ hb.1 hb.2 hnum.1 hnum.2⟩

theorem partition_good (fs : List Item1) (h : ∀ f ∈ fs, Good1 f) : ∀ j ∈ (partition fs).2.1, GoodD j := fun j hj =>
  ((partition_fac fs h good_int).2 (fun f hf => good_negPow f (h f hf)) j hj).2.2

theorem bracket50 (j : Item1) (h : GoodD j) : P50 (bracket j.e j.doc 50) := by
  have := bracketA_ok j.e j.doc 50 h.1 h.2; exact ⟨this.1, this.2.2.1 rfl⟩

theorem wrapFirst_P50 (m : E) (is : List Item1) :
    ∀ ds : List Doc, (∀ d ∈ ds, P50 d) → ∀ d ∈ wrapFirst m is ds, P50 d := by
  induction is with
  | nil =>
      intro ds h
      have : wrapFirst m [] ds = ds := by cases ds <;> rfl
      rw [this]; exact h
  | cons i is ih =>
      intro ds h
      cases ds with
      | nil => simp [wrapFirst]
      | cons d ds =>
          simp only [wrapFirst]
          have hd := h d (by simp)
          split
          · intro x hx; simp only [List.mem_cons] at hx
            rcases hx with rfl | hx
            · exact ⟨by simp [hd.1]; have := hd.2; omega, by simp⟩
            · exact h x (by simp [hx])
          · have := ih ds (fun x hx => h x (by simp [hx]))
            intro x hx; simp only [List.mem_cons] at hx
            rcases hx with rfl | hx
            · exact hd
            · exact this x hx

theorem foldl_wrapFirst_P50 (b : List Item1) (marks : List E) (ds : List Doc) (h : ∀ d ∈ ds, P50 d) :
    ∀ d ∈ marks.foldl (fun acc m => wrapFirst m b acc) ds, P50 d :=
  List.foldl_inv (fun acc m => wrapFirst m b acc) (fun acc => ∀ d ∈ acc, P50 d) marks ds h
    fun acc m _ ha => wrapFirst_P50 m b acc ha

/-- with one denominator every `pow_brackets` entry wraps that denominator -/
theorem foldl_wrapFirst_single (j : Item1) (marks : List E) (hm : ∀ m ∈ marks, j.e = m) :
    ∀ d, ∃ d', marks.foldl (fun acc m => wrapFirst m [j] acc) [d] = [d'] ∧ (marks ≠ [] → level d' = 100) := by
  induction marks with
  | nil => intro d; exact ⟨d, rfl, fun h => absurd rfl h⟩
  | cons m ms ih =>
      intro d
      have he : (j.e == m) = true := by simp [hm m (by simp)]
      simp only [List.foldl_cons, wrapFirst, he, if_true]
      obtain ⟨d', h1, h3⟩ := ih (fun x hx => hm x (by simp [hx])) (.paren d)
      refine ⟨d', h1, fun _ => ?_⟩
      cases ms with
      | nil => simp at h1; rw [← h1]; simp
      | cons _ _ => exact h3 (by simp)

/-- every printed denominator is a product operand; a single one is tight enough to stand after `/` -/
theorem denStrs_ok (b : List Item1) (marks : List E) (hb : ∀ j ∈ b, GoodD j)
    (hm : ∀ m ∈ marks, ∃ j ∈ b, j.e = m) :
    (∀ d ∈ denStrs b marks, P50 d) ∧ (∀ d, denStrs b marks = [d] → 55 ≤ level d) := by
  have hall : ∀ d ∈ b.map (fun i => bracket i.e i.doc 50), P50 d := by
    intro d hd; simp only [List.mem_map] at hd
    obtain ⟨j, hj, rfl⟩ := hd; exact bracket50 j (hb j hj)
  unfold denStrs
  split
  next d =>
    have hd := hb d (by simp)
    have := bracketA_ok d.e d.doc 60 hd.1 hd.2
    refine ⟨?_, ?_⟩
    · intro x hx; simp at hx; subst hx; exact ⟨this.1, by have := this.2.2.2.1 rfl; omega⟩
    · intro x hx; simp at hx; subst hx; exact this.2.2.2.1 rfl
  next hne =>
    refine ⟨foldl_wrapFirst_P50 b marks _ hall, ?_⟩
    intro d hd
    have hlen : b.length = 1 := by
      have := foldl_wrapFirst_length marks b (b.map fun i => bracket i.e i.doc 50)
      rw [hd] at this; simp at this; exact this.symm
    cases b with
    | nil => simp at hlen
    | cons j t =>
      cases t with
      | cons _ _ => simp at hlen
      | nil =>
        have hmj : ∀ m ∈ marks, j.e = m := by
          intro m hmm; obtain ⟨j', hj', e⟩ := hm m hmm; simp at hj'; subst hj'; exact e
        have hmne : marks ≠ [] := by intro h; exact hne j rfl h
        simp only [List.map_cons, List.map_nil] at hd
        obtain ⟨d', h1, h3⟩ := foldl_wrapFirst_single j marks hmj _
        rw [h1] at hd; simp at hd; subst hd
        rw [h3 hmne]; omega

theorem assemble_ok (num : Doc) (hn : P50 num) (ds : List Doc) (hd : ∀ d ∈ ds, P50 d)
    (h1 : ∀ d, ds = [d] → 55 ≤ level d) : P50 (assemble num ds) := by
  unfold assemble
  split
  · exact hn
  next d =>
    have := hd d (by simp)
    exact ⟨by simp [hn.1, this.1, hn.2, h1 d rfl], by simp⟩
  next =>
    have := prodChain_ok ds hd
    exact ⟨by simp [hn.1, this.1, hn.2]; omega, by simp⟩

theorem mulDoc_ok (sign : Bool) (fs : List Item1) (h : ∀ f ∈ fs, Good1 f) : P50 (mulDoc sign fs) := by
  have ha : ∀ d ∈ (mulNum fs).map (fun i => bracket i.e i.doc 50), P50 d := by
    intro d hd
    obtain ⟨j, hj, rfl⟩ := List.mem_map.mp hd
    exact bracket50 j (mulNum_fac fs h good_int j hj).2.2
  have hchain := prodChain_ok _ ha
  have hden := denStrs_ok _ _ (partition_good fs h) (partition_mark fs)
  rw [mulDoc_ops]
  refine assemble_ok _ ?_ _ hden.1 hden.2
  split
  · exact negFirst_ok _ hchain.1 hchain.2
  · exact hchain

end C11
