import Mathlib.Algebra.Field.Basic
import Mathlib.Tactic.Ring
import Mathlib.Tactic.FieldSimp
import Cellml.C11.Printer

/-! C11 — meaning of the SymPy tree and of the emitted Python, over an arbitrary field `K`.

  Transcendental functions, the power function, comparisons and the values of names and number tokens are
  uninterpreted (`Sem`); what is assumed about them (`Laws`) are hypotheses of the theorems, not axioms:
  number tokens denote their numbers, `v**-y = 1/(v**y)`, `v**1 = v`, `math.sqrt(v) = v**(1/2)`, `True`/`False` are
  1/0 (CPython: `bool` is an `int`; comparisons between truth values are numeric), and every table entry sends a SymPy
  class to the Python function of the same meaning. -/
namespace C11

structure Sem (K : Type) where
  atomNum : String → K            -- value of a name or number token
  atomBool : String → Bool
  powK : K → K → K
  pyFn : String → List K → K      -- Python functions, by emitted name
  symFn : String → List K → K     -- SymPy functions, by class name
  cmpK : Rel → K → K → Bool

structure V (K : Type) where
  num : K
  bool : Bool
  nums : List K := []
  bools : List Bool := []

variable {K : Type} [Field K]

def b2k (b : Bool) : K := if b then 1 else 0

def sumK : List K → K
  | [] => 0
  | x :: xs => x + sumK xs

def prodK : List K → K
  | [] => 1
  | x :: xs => x * prodK xs

/-- what CPython computes for the layout tree -/
def evD (S : Sem K) : Doc → V K
  | .atom s => ⟨S.atomNum s, S.atomBool s, [], []⟩
  | .call f a => ⟨S.pyFn f (evD S a).nums, false, [], []⟩
  | .neg d => ⟨-(evD S d).num, false, [], []⟩
  | .bin .add a b => ⟨(evD S a).num + (evD S b).num, false, [], []⟩
  | .bin .sub a b => ⟨(evD S a).num - (evD S b).num, false, [], []⟩
  | .bin .mul a b => ⟨(evD S a).num * (evD S b).num, false, [], []⟩
  | .bin .div a b => ⟨(evD S a).num / (evD S b).num, false, [], []⟩
  | .bin .pow a b => ⟨S.powK (evD S a).num (evD S b).num, false, [], []⟩
  | .cmp r a b => ⟨b2k (S.cmpK r (evD S a).num (evD S b).num), S.cmpK r (evD S a).num (evD S b).num, [], []⟩
  | .and a b => ⟨b2k ((evD S a).bool && (evD S b).bool), (evD S a).bool && (evD S b).bool, [], []⟩
  | .or a b => ⟨b2k ((evD S a).bool || (evD S b).bool), (evD S a).bool || (evD S b).bool, [], []⟩
  | .ite t c e => ⟨if (evD S c).bool then (evD S t).num else (evD S e).num,
                   if (evD S c).bool then (evD S t).bool else (evD S e).bool, [], []⟩
  | .paren d => evD S d
  | .nil => ⟨0, false, [], []⟩
  | .cons h t => ⟨0, false, (evD S h).num :: (evD S t).nums, (evD S h).bool :: (evD S t).bools⟩

/-- first value whose condition holds; `float('nan')` when none does -/
def pwVal (dflt : K) : List K → List Bool → K
  | v :: vs, c :: cs => if c then v else pwVal dflt vs cs
  | _, _ => dflt

/-- what the SymPy expression means -/
def ev (S : Sem K) : E → V K
  | .sym n _ => ⟨S.atomNum n, S.atomBool n, [], []⟩
  | .int n => ⟨(n : K), false, [], []⟩
  | .rat p q => ⟨(p : K) / (q : K), false, [], []⟩
  | .flt t _ => ⟨S.atomNum t, false, [], []⟩
  | .pi => ⟨S.atomNum (litName "pi"), false, [], []⟩
  | .e1 => ⟨S.atomNum (litName "e"), false, [], []⟩
  | .tt => ⟨1, true, [], []⟩
  | .ff => ⟨0, false, [], []⟩
  | .add a => ⟨sumK (ev S a).nums, false, [], []⟩
  | .mul a => ⟨prodK (ev S a).nums, false, [], []⟩
  | .pow b x => ⟨S.powK (ev S b).num (ev S x).num, false, [], []⟩
  | .fn name a => ⟨S.symFn name (ev S a).nums, false, [], []⟩
  | .rel r a b => ⟨b2k (S.cmpK r (ev S a).num (ev S b).num), S.cmpK r (ev S a).num (ev S b).num, [], []⟩
  | .and a => ⟨b2k ((ev S a).bools.all id), (ev S a).bools.all id, [], []⟩
  | .or a => ⟨b2k ((ev S a).bools.any id), (ev S a).bools.any id, [], []⟩
  | .pw ps => ⟨pwVal (evD S nanDoc).num (ev S ps).nums (ev S ps).bools, false, [], []⟩
  | .pair v c => ⟨(ev S v).num, (ev S c).bool, [], []⟩
  | .deriv x t => ⟨S.pyFn "Derivative" [S.atomNum x, S.atomNum t], false, [], []⟩
  | .other _ => ⟨0, false, [], []⟩
  | .nil => ⟨0, false, [], []⟩
  | .cons h t => ⟨0, false, (ev S h).num :: (ev S t).nums, (ev S h).bool :: (ev S t).bools⟩

structure Laws (S : Sem K) : Prop where
  atom_nat : ∀ n : Nat, S.atomNum (toString n) = (n : K)
  atom_neg : ∀ t : String, headMinus t = true → S.atomNum t = -S.atomNum (tailStr t)
  true_num : S.atomNum "True" = 1
  false_num : S.atomNum "False" = 0
  true_bool : S.atomBool "True" = true
  false_bool : S.atomBool "False" = false
  pow_neg : ∀ v y, S.powK v (-y) = (S.powK v y)⁻¹
  pow_one : ∀ v, S.powK v 1 = v
  sqrt_def : ∀ v, S.pyFn sqrtName [v] = S.powK v (1 / 2)
  fn_table : ∀ n f, fnName n = some f → S.symFn n = S.pyFn f

end C11
