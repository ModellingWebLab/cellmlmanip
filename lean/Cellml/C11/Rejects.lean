import Cellml.C11.Wf

/-! C11 — constructs the printer cannot express: any occurrence in a printed position makes `doprint` fail. -/
namespace C11

/-- `bad pw e`: `e` contains, in a position the printer visits, a construct without a `_print_` method or a function
    that is not in the name table. `pw = true` reads a `cons`-list as the (value, condition) pairs of a Piecewise,
    which the printer leaves at the first `True` condition. -/
def bad : Bool → E → Bool
  | _, .other _ => true
  | _, .fn name a => (fnName name).isNone || bad false a
  | _, .add a | _, .mul a | _, .and a | _, .or a => bad false a
  | _, .pow b x | _, .rel _ b x | _, .pair b x => bad false b || bad false x
  | _, .pw ps => isList ps && bad true ps
  | m, .cons h t => bad false h || (if m && isTruePair h then false else isList t && bad m t)
  | _, _ => false

theorem join_ne_ok_left (a b : Status) (h : a ≠ .ok) : a.join b ≠ .ok := fun hj => h ((join_ok a b).mp hj).1

theorem join_ne_ok_right (a b : Status) (h : b ≠ .ok) : a.join b ≠ .ok := fun hj => h ((join_ok a b).mp hj).2

/-- the status that decides: of a `cons`-list read as the pieces of a Piecewise, that of the chain up to the first `True`
    condition; of everything else, its own -/
def rejSt (m : Bool) (e : E) : Status :=
  if (isList e && m) = true then (pwInner (pr e).items).1 else (pr e).st

theorem rejSt_false (e : E) : rejSt false e = (pr e).st := by simp [rejSt]

theorem rejSt_pieces {l : E} (hl : isList l = true) : rejSt true l = (pwInner (pr l).items).1 := by simp [rejSt, hl]

theorem bad_rejects (e : E) : ∀ m, bad m e = true → rejSt m e ≠ .ok := by
  -- what a node that is no list uses of an operand
  have st_of : ∀ {x : E}, (∀ m, bad m x = true → rejSt m x ≠ .ok) → bad false x = true → (pr x).st ≠ .ok :=
    fun ih hb => rejSt_false _ ▸ ih false hb
  induction e with
  | other w => intro m _; show (pr (.other w)).st ≠ .ok; simp [pr]
  | fn name a iha =>
      intro m hb
      simp only [bad, Bool.or_eq_true, Option.isNone_iff_eq_none] at hb
      show (pr (.fn name a)).st ≠ .ok
      simp only [pr]
      split
      next f hf =>
        rcases hb with hb | hb
        · rw [hf] at hb; cases hb
        · exact st_of iha hb
      next => exact join_ne_ok_right _ _ (by simp)
  | add a iha | and a iha | or a iha | mul a iha =>
      intro m hb
      show (pr _).st ≠ .ok
      simp only [pr]; split
      · simp
      · exact st_of iha hb
  | pow b x ihb ihx =>
      intro m hb
      simp only [bad, Bool.or_eq_true] at hb
      show (pr (.pow b x)).st ≠ .ok
      simp only [pr]; split
      · simp
      · exact hb.elim (fun hb => join_ne_ok_left _ _ (st_of ihb hb)) (fun hb => join_ne_ok_right _ _ (st_of ihx hb))
  | rel _ b x ihb ihx | pair b x ihb ihx =>
      intro m hb
      simp only [bad, Bool.or_eq_true] at hb
      show (pr _).st ≠ .ok
      simp only [pr]
      exact hb.elim (fun hb => join_ne_ok_left _ _ (st_of ihb hb)) (fun hb => join_ne_ok_right _ _ (st_of ihx hb))
  | pw ps ih =>
      intro m hb
      simp only [bad, Bool.and_eq_true] at hb
      show (pr (.pw ps)).st ≠ .ok
      simp only [pr]
      exact rejSt_pieces hb.1 ▸ ih true hb.2
  | cons h t ihh iht =>
      intro m hb
      simp only [bad, Bool.or_eq_true] at hb
      cases m with
      | false =>
        show (pr (.cons h t)).st ≠ .ok
        simp only [pr]
        rcases hb with hb | hb
        · exact join_ne_ok_left _ _ (st_of ihh hb)
        · simp only [Bool.false_and, Bool.false_eq_true, if_false, Bool.and_eq_true] at hb
          exact join_ne_ok_right _ _ (st_of iht hb.2)
      | true =>
        show (pwInner (pr (.cons h t)).items).1 ≠ .ok
        rw [cons_items]
        simp only [pwInner]
        split
        next htp =>
          rcases hb with hb | hb
          · exact st_of ihh hb
          · simp [show isTruePair h = true from htp] at hb
        next htp =>
          rcases hb with hb | hb
          · exact join_ne_ok_left _ _ (st_of ihh hb)
          · simp only [Bool.true_and] at hb
            split at hb
            · cases hb
            · simp only [Bool.and_eq_true] at hb
              exact join_ne_ok_right _ _ (rejSt_pieces hb.1 ▸ iht true hb.2)
  | _ => intro m hb; simp [bad] at hb

end C11
