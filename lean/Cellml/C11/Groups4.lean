import Cellml.C11.Groups3

/-! C11 — `print_groups`, part 4: the induction over the printed nodes. -/
namespace C11

def Grouped (s : Srt) (e : E) : Prop := PyOK (pr e).doc = true ∧ Lv s e (pr e).doc

theorem lvA_of_100 (e : E) (d : Doc) (h : level d = 100) : LvA e d := by
  simp [LvA, h]

theorem lv_of_100 (s : Srt) (e : E) (d : Doc) (h : level d = 100) : Lv s e d := by
  cases s
  · exact lvA_of_100 e d h
  · simp [Lv, LvB, h]
  · trivial

theorem not_recip_of_not_pow (e : E) (h : ∀ b x, e ≠ .pow b x) : isRecip e = false := by
  cases e <;> first | rfl | exact absurd rfl (h _ _)

theorem good_num (k : E) (hk : numOK k = true) : GoodR k (numDoc k) := by
  have hn : isNum k = true := by cases k <;> first | rfl | cases hk
  have hw : wf .A k = true := by cases k <;> simp [isNum] at hn <;> simp_all [wf, numOK]
  have hl : isList k = false := by cases k <;> simp [isNum] at hn <;> rfl
  exact ⟨hw, hl, numDoc_ok k hw hn⟩

theorem listDoc_ok (a : E) (hp : proper a = true)
    (h : ∀ x ∈ toList a, PyOK (pr x).doc = true ∧ 10 ≤ level (pr x).doc) : PyOK (pr a).doc = true := by
  induction a with
  | nil => simp [pr, okDoc]
  | cons x t _ iht =>
      simp only [proper] at hp
      have hx := h x (by simp [toList])
      have := iht hp (fun y hy => h y (by simp [toList, hy]))
      simp [pr, hx.1, hx.2, this]
  | _ => simp [proper] at hp

theorem pwInner_ok' (items : List Item) (hst : (pwInner items).1 = .ok)
    (hall : ∀ i ∈ items, i.st = .ok →
      (PyOK i.doc = true ∧ 10 ≤ level i.doc) ∧ (isTruePair i.e = false → PyOK i.base = true ∧ 10 ≤ level i.base)) :
    PyOK (pwInner items).2 = true ∧ 10 ≤ level (pwInner items).2 := by
  induction items with
  | nil => simp [pwInner, nanDoc_ok.1, nanDoc_ok.2]
  | cons i is ih =>
      simp only [pwInner] at hst ⊢
      split
      next ht =>
        simp only [ht, if_true] at hst
        exact (hall i (by simp) hst).1
      next ht =>
        simp only [ht, Bool.false_eq_true, if_false, join_ok] at hst
        have hi := hall i (by simp) hst.1
        have hb := hi.2 (by simpa using ht)
        have hr := ih hst.2 (fun j hj => hall j (by simp [hj]))
        simp [hi.1.1, hi.1.2, hb.1, hb.2, hr.1, hr.2]

theorem grouped : ∀ s e, Dom (· = .ok) s e → Grouped s e := by
  refine Dom.induct fun s e h ih => ?_
  cases e with
  | sym n c | pi | e1 | tt | ff => exact ⟨rfl, lv_of_100 _ _ _ rfl⟩
  | deriv x t => exact ⟨by simp [pr, okDoc], lv_of_100 _ _ _ rfl⟩
  | int n | rat p q | flt t n =>
    have hs : s = .A := by have := h.w; simp [wf] at this; simp_all
    subst hs
    exact numDoc_ok _ h.w rfl
  | other w => exact h.not_other.elim
  | nil | cons _ _ => exact (h.not_list rfl).elim
  | add a =>
    obtain ⟨rfl, _, hd, hne, hk⟩ := h.add inh_ok
    have := addDoc_ok ((toList a).map mk) (by simpa using hne) (fun i hi => by
      obtain ⟨x, hx, rfl⟩ := List.mem_map.mp hi
      have g := ih .A x (hk x hx).2 (hk x hx).1
      exact ⟨⟨g.1, g.2.1⟩, prec_ge_40 x (hk x hx).1.w (hk x hx).1.node⟩)
    rw [Grouped, hd]
    refine ⟨this.1, ?_⟩
    show LvA _ _
    simp only [LvA, precA, not_recip_of_not_pow (.add a) (by intro b x h; cases h), prec]
    exact ⟨this.2, by simp, by simp, by simp⟩
  | and a =>
    obtain ⟨rfl, _, hd, h2, hk⟩ := h.and inh_ok
    have := boolChain_ok spliceAnd 30 bracketB_30 spliceAnd_ok ((toList a).map mk) (by obtain ⟨x, y, t, rfl⟩ := h2; simp [toList])
      (fun i hi => by obtain ⟨z, hz, rfl⟩ := List.mem_map.mp hi; exact ih .B z (hk z hz).2 (hk z hz).1)
    rw [Grouped, hd]
    refine ⟨this.1, ?_⟩
    show LvB _ _
    simp only [LvB, precA, not_recip_of_not_pow (.and a) (by intro b x h; cases h), prec]
    exact ⟨by omega, fun _ => this.2, by simp⟩
  | or a =>
    obtain ⟨rfl, _, hd, h2, hk⟩ := h.or inh_ok
    have := boolChain_ok spliceOr 20 bracketB_20 spliceOr_ok ((toList a).map mk) (by obtain ⟨x, y, t, rfl⟩ := h2; simp [toList])
      (fun i hi => by obtain ⟨z, hz, rfl⟩ := List.mem_map.mp hi; exact ih .B z (hk z hz).2 (hk z hz).1)
    rw [Grouped, hd]
    refine ⟨this.1, ?_⟩
    show LvB _ _
    simp only [LvB, precA, not_recip_of_not_pow (.or a) (by intro b x h; cases h), prec]
    exact ⟨this.2, by simp, by simp⟩
  | fn name a =>
    obtain ⟨rfl, hp, hdoc, hk⟩ := h.fn inh_ok
    obtain ⟨f, hf⟩ := fn_known h.ok
    have hd := hdoc f hf
    have := listDoc_ok a hp (fun x hx => by
      have g := ih .A x (hk x hx).2 (hk x hx).1
      exact ⟨g.1, by have h40 := g.2.1; omega⟩)
    rw [Grouped, hd]
    exact ⟨by simp [this], lvA_of_100 _ _ rfl⟩
  | pow b x =>
    obtain ⟨rfl, hd, _, hb, hx⟩ := h.pow inh_ok
    have qb := ih .A b (by rw [E.pow.sizeOf_spec]; omega) hb
    have qx := ih .A x (by rw [E.pow.sizeOf_spec]; omega) hx
    rw [Grouped, hd]
    exact powDoc_ok b x _ _ qb.1 qb.2 qx.1 qx.2
  | pair v c =>
    obtain ⟨rfl, hv, _⟩ := h.pair inh_ok
    exact ⟨by simp only [pr]; exact (ih .A v (by rw [E.pair.sizeOf_spec]; omega) hv).1, trivial⟩
  | rel r a b =>
    obtain ⟨rfl, hab⟩ := h.rel inh_ok
    have hnr := not_recip_of_not_pow (.rel r a b) (by intro _ _ h; cases h)
    have hlv : LvB (.rel r a b) (.cmp r (bracket a (pr a).doc (prec (.rel r a b) + 1))
        (bracket b (pr b).doc (prec (.rel r a b) + 1))) := by
      simp only [LvB, precA, hnr, level_cmp]
      cases r <;> simp [prec]
    have ha' : sizeOf a < sizeOf (E.rel r a b) := by rw [E.rel.sizeOf_spec]; omega
    have hb' : sizeOf b < sizeOf (E.rel r a b) := by rw [E.rel.sizeOf_spec]; omega
    simp only [Grouped, pr]
    refine ⟨?_, hlv⟩
    rcases hab with ⟨ha, hb⟩ | ⟨hr, ha, hb⟩
    · have qa := ih .A a ha' ha
      have qb := ih .A b hb' hb
      have ba := bracketA_ok a _ (prec (.rel r a b) + 1) qa.1 qa.2
      have bb := bracketA_ok b _ (prec (.rel r a b) + 1) qb.1 qb.2
      simp [ba.1, bb.1, ba.2.1, bb.2.1]
    · have qa := ih .B a ha' ha
      have qb := ih .B b hb' hb
      -- only `Eq` and `Ne` relate truth values (`hr`), and SymPy gives them the precedence 50
      have hp : prec (.rel r a b) + 1 = 51 := by cases r <;> first | rfl | exact absurd hr (by decide)
      rw [hp]
      have ba := bracketB_ok a _ 51 qa.1 qa.2
      have bb := bracketB_ok b _ 51 qb.1 qb.2
      have h1 := ba.2.2.2 rfl
      have h2 := bb.2.2.2 rfl
      simp [ba.1, bb.1]; omega
  | pw ps =>
    obtain ⟨rfl, _, hd, hst, hk⟩ := h.pw
    have := pwInner_ok' ((toList ps).map mk) hst (fun i hi hsti => by
      obtain ⟨x, hx, rfl⟩ := List.mem_map.mp hi
      obtain ⟨hdx, hsz⟩ := hk x hx hsti
      obtain ⟨v, c, rfl⟩ := hdx.isPair
      obtain ⟨_, hv, hc⟩ := hdx.pair inh_ok
      have rv := ih .A v (by rw [E.pair.sizeOf_spec] at hsz; omega) hv
      have rc := ih .B c (by rw [E.pair.sizeOf_spec] at hsz; omega) hc
      simp only [mk, pr]
      exact ⟨⟨rv.1, by have := rv.2.1; omega⟩, fun _ => ⟨rc.1, by have := rc.2.1; omega⟩⟩)
    rw [Grouped, hd]
    exact ⟨by simp [this.1, this.2], lvA_of_100 _ _ rfl⟩
  | mul a =>
    obtain ⟨rfl, sg, fs, _, hd, hf⟩ := h.factors inh_ok her_size trivial
    have := mulDoc_ok sg fs (fun f hf' => (hf f hf').fac inh_ok her_size
      (fun g hg hdg _ => ⟨hdg.w, hdg.node, ih .A g hg hdg⟩) good_num)
    rw [Grouped, hd]
    refine ⟨this.1, ?_⟩
    show LvA _ _
    simp only [LvA, precA, not_recip_of_not_pow (.mul a) (by intro _ _ h; cases h), prec]
    refine ⟨by have := this.2; omega, fun _ => this.2, ?_, ?_⟩ <;> (by_cases hh : headNeg a = true <;> simp [hh])

theorem Factor.good1 {Q : E → Prop} {m : E → Nat} (hh : Her Q m) {n : Nat} {f : Item1}
    (h : Factor (· = .ok) Q m n f) : Good1 f :=
  h.fac inh_ok hh (fun g _ hdg _ => ⟨hdg.w, hdg.node, grouped .A g hdg⟩) good_num

end C11
