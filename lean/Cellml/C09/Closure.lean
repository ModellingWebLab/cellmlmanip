import Cellml.C09.Lemmas

/-! Transitive closure, paths of bounded length, and `ancestors` = "there is a path" in a graph that sorts. -/

namespace C09

/-- transitive closure (at least one step) of a relation on nodes -/
inductive TC (R : Node → Node → Prop) : Node → Node → Prop
  | base {u v : Node} : R u v → TC R u v
  | tail {u w v : Node} : TC R u w → R w v → TC R u v

theorem TC.mono {R R' : Node → Node → Prop} (h : ∀ u v, R u v → R' u v) {u v : Node} : TC R u v → TC R' u v := by
  intro t
  induction t with
  | base r => exact .base (h _ _ r)
  | tail _ r ih => exact .tail ih (h _ _ r)

theorem TC.head {R : Node → Node → Prop} {u w v : Node} (r : R u w) (t : TC R w v) : TC R u v := by
  induction t with
  | base r' => exact .tail (.base r) r'
  | tail _ r' ih => exact .tail ih r'

theorem TC.trans {R : Node → Node → Prop} {u w v : Node} (t₁ : TC R u w) (t₂ : TC R w v) : TC R u v := by
  induction t₂ with
  | base r => exact .tail t₁ r
  | tail _ r ih => exact .tail ih r

theorem TC.rank_lt {R : Node → Node → Prop} (rank : Node → Nat) (h : ∀ u v, R u v → rank u < rank v)
    {u v : Node} (t : TC R u v) : rank u < rank v := by
  induction t with
  | base r => exact h _ _ r
  | tail _ r ih => exact Nat.lt_trans ih (h _ _ r)

def Edge' (g : Graph) (u v : Node) : Prop := (u, v) ∈ g.edges

def PathN (g : Graph) : Nat → Node → Node → Prop
  | 0, u, v => u = v
  | k + 1, u, v => ∃ w, PathN g k u w ∧ (w, v) ∈ g.edges

theorem tc_of_pathN {g : Graph} : ∀ {k : Nat} {u v : Node}, PathN g (k + 1) u v → TC (Edge' g) u v
  | 0, u, v, ⟨w, hw, he⟩ => by
      simp only [PathN] at hw; subst hw; exact .base he
  | k + 1, u, v, ⟨w, hw, he⟩ => .tail (tc_of_pathN hw) he

theorem pathN_of_tc {g : Graph} {u v : Node} (t : TC (Edge' g) u v) : ∃ k, PathN g (k + 1) u v := by
  induction t with
  | base r => exact ⟨0, _, rfl, r⟩
  | tail _ r ih =>
      obtain ⟨k, hk⟩ := ih
      exact ⟨k + 1, _, hk, r⟩

theorem mem_addNode {ns : List Node} {v x : Node} : x ∈ addNode ns v ↔ x ∈ ns ∨ x = v := by
  unfold addNode
  split
  · rename_i h
    constructor
    · exact Or.inl
    · rintro (h' | rfl)
      · exact h'
      · exact h
  · simp

theorem nodup_addNode {ns : List Node} {v : Node} (h : ns.Nodup) : (addNode ns v).Nodup := by
  unfold addNode
  split
  · exact h
  · rename_i hv
    rw [List.nodup_append]
    refine ⟨h, by simp, ?_⟩
    intro a ha b hb
    simp at hb; subst hb
    intro hab; subst hab; exact hv ha

theorem mem_insertAll : ∀ {ts s : List Node} {x : Node}, x ∈ insertAll s ts ↔ x ∈ s ∨ x ∈ ts
  | [], s, x => by simp [insertAll]
  | t :: ts, s, x => by
      simp only [insertAll]
      rw [mem_insertAll, mem_addNode]
      simp only [List.mem_cons, or_assoc]

theorem nodup_insertAll : ∀ {ts s : List Node}, s.Nodup → (insertAll s ts).Nodup
  | [], _, h => h
  | t :: ts, _, h => nodup_insertAll (ts := ts) (nodup_addNode (v := t) h)

theorem mem_closure {g : Graph} : ∀ {k : Nat} {s : List Node} {u : Node},
    u ∈ closure g k s ↔ ∃ j, j ≤ k ∧ ∃ t ∈ s, PathN g j u t
  | 0, s, u => by
      simp only [closure]
      constructor
      · intro h; exact ⟨0, Nat.le_refl _, u, h, rfl⟩
      · rintro ⟨j, hj, t, ht, hp⟩
        have : j = 0 := by omega
        subst this
        simp only [PathN] at hp; subst hp; exact ht
  | k + 1, s, u => by
      simp only [closure]
      rw [mem_closure]
      constructor
      · rintro ⟨j, hj, t, ht, hp⟩
        rcases mem_insertAll.mp ht with ht | ht
        · exact ⟨j, by omega, t, ht, hp⟩
        · obtain ⟨t', ht', htp⟩ := List.mem_flatMap.mp ht
          exact ⟨j + 1, by omega, t', ht', t, hp, mem_preds.mp htp⟩
      · rintro ⟨j, hj, t, ht, hp⟩
        cases j with
        | zero => exact ⟨0, by omega, t, mem_insertAll.mpr (Or.inl ht), hp⟩
        | succ j =>
            obtain ⟨w, hw, he⟩ := hp
            refine ⟨j, by omega, w, mem_insertAll.mpr (Or.inr ?_), hw⟩
            exact List.mem_flatMap.mpr ⟨t, ht, mem_preds.mpr he⟩

/-- in a graph that sorts, a path into `v` is at most as long as `v`'s position in the output -/
theorem pathN_idx {key : Node → String} {g : Graph} {l : List Node} (hwf : WF g) (h : lexTopo key g = .ok l) :
    ∀ {k : Nat} {u v : Node}, PathN g k u v → l.idxOf u + k ≤ l.idxOf v
  | 0, u, v, hp => by simp only [PathN] at hp; subst hp; omega
  | k + 1, u, v, ⟨w, hw, he⟩ => by
      have h1 := pathN_idx hwf h hw
      have h2 := idxOf_lt_of_lexTopo hwf h w v he
      omega

/-- `nx.ancestors(g, v)`: exactly the nodes with a path to `v` — provided the graph sorts (is acyclic) -/
theorem mem_ancestors {key : Node → String} {g : Graph} {l : List Node} (hwf : WF g) (h : lexTopo key g = .ok l)
    {u v : Node} : u ∈ ancestors g v ↔ TC (Edge' g) u v := by
  unfold ancestors
  rw [mem_closure]
  constructor
  · rintro ⟨j, _, t, ht, hp⟩
    exact tc_of_pathN ⟨t, hp, mem_preds.mp ht⟩
  · intro t
    obtain ⟨k, hk⟩ := pathN_of_tc t
    have hidx := pathN_idx hwf h hk
    obtain ⟨w, hw, he⟩ := hk
    have hv : v ∈ l := (lexTopo_ok_perm h).mem_iff.mpr (hwf.tgt w v he)
    have hlt : l.idxOf v < l.length := List.idxOf_lt_length_iff.mpr hv
    have hlen := (lexTopo_ok h).2
    exact ⟨k, by omega, w, mem_preds.mpr he, hw⟩

end C09
