/-! # C09 — model of `Model.graph`, `Model.graph_with_sympy_numbers`, `Model.get_equations_for`
    (cellmlmanip/model.py 388-562) and of the two networkx calls they make. Core Lean only.

    A node is a left-hand side (a variable or a first-order derivative) or a state / free variable without an
    equation; nodes are numbered by the harness, `key v` is `str(v)` (the sort key handed to networkx).
    An equation is its left-hand side, the set `find_variables_and_derivatives([rhs])` as a list (in whatever order
    Python's set iteration produced; `Model.graph` sorts it by `str` before walking it), the same set after
    `rhs.xreplace({Quantity: Float})` (OBSERVED from SymPy — the simplifier is not modelled), whether the right-hand
    side contains a `Quantity` at all (`bool(rhs.atoms(Quantity))`: `graph_with_sympy_numbers` substitutes, and prunes
    in-edges, ONLY in such an equation), and, for an ODE, the pair (state, free variable).

    All functions are structurally recursive (Kahn's loop and the ancestor closure run on fuel = number of nodes), so
    they reduce in the kernel and `decide` can evaluate them. -/

namespace C09

abbrev Node := Nat
/-- `(u, v)`: `v` depends on `u` (networkx edge `u → v`, added by `graph.add_edge(rhs, lhs)`). -/
abbrev Edge := Node × Node

structure Eqn where
  lhs : Node
  /-- variables and derivatives referenced on the right-hand side -/
  refs : List Node
  /-- the same after number substitution (as observed) -/
  refsNum : List Node
  /-- `some (state, free)` when the left-hand side is `Derivative(state, free)` -/
  ode : Option (Node × Node) := none
  /-- `bool(equation.rhs.atoms(Quantity))`: the right-hand side contains a number with units. Python's
      `graph_with_sympy_numbers` looks only at such equations (`if subs_dict:`); every other equation keeps its
      right-hand side and all its in-edges, whatever `refsNum` says. (Default `true`: an equation written without the
      flag is one whose `refsNum` counts.) -/
  hasQ : Bool := true
deriving Repr, DecidableEq

/-- the references of the right-hand side that `graph_with_sympy_numbers` leaves in the `equation` attribute of the
    node: the substituted one if there was something to substitute, the original one otherwise -/
def Eqn.numRefs (e : Eqn) : List Node := if e.hasQ then e.refsNum else e.refs

/-- A `networkx.DiGraph` as far as the code looks at it: nodes in insertion order, edges. -/
structure Graph where
  nodes : List Node
  edges : List Edge
deriving Repr, DecidableEq

/-- decidable equality of outcomes, for the `decide` examples (scoped: only where `C09` is open) -/
scoped instance {ε α : Type} [DecidableEq ε] [DecidableEq α] : DecidableEq (Except ε α)
  | .ok a, .ok b => if h : a = b then isTrue (h ▸ rfl) else isFalse (fun h' => h (Except.ok.inj h'))
  | .error a, .error b => if h : a = b then isTrue (h ▸ rfl) else isFalse (fun h' => h (Except.error.inj h'))
  | .ok _, .error _ => isFalse (fun h => nomatch h)
  | .error _, .ok _ => isFalse (fun h => nomatch h)

inductive Err
  /-- one of the two sanity `assert`s of `Model.graph` (two equations with the same left-hand side / same `str`) -/
  | assertion
  /-- a right-hand side refers to something that is neither a left-hand side nor a state / free variable
      (`assert False, 'Unexpected variable …'`; `AttributeError` when the reference is an undefined derivative) -/
  | badRef
  /-- a requested variable is not a node (`NetworkXError` from `nx.ancestors`, `KeyError` from `graph.pred[…]`) -/
  | notInGraph
  /-- the graph has a cycle (`NetworkXUnfeasible`, raised when the generator is exhausted) -/
  | unfeasible
deriving Repr, DecidableEq

/-! ## `Model.graph` -/

/-- `Variable.type in [STATE, FREE]` after the type-writing loops of `Model.graph`: the variable is the state or the
    free variable of some ODE. -/
def isStateOrFree (eqs : List Eqn) (v : Node) : Bool :=
  eqs.any fun e => match e.ode with
    | some (s, f) => v == s || v == f
    | none => false

/-- the variable is the left-hand side of an equation, i.e. `graph.nodes[v]['equation'] is not None` -/
def hasEq (eqs : List Eqn) (v : Node) : Bool := eqs.any fun e => e.lhs == v

/-- `graph.add_node(v, …)` for a node that may already be there (a dict insertion: position kept) -/
def addNode (ns : List Node) (v : Node) : List Node := if v ∈ ns then ns else ns ++ [v]

/-- Python's `sorted(xs, key=str)`, one step: a stable insertion — `x` (which came earlier) goes before the first
    element whose key is not smaller -/
def insertStr (key : Node → String) (x : Node) : List Node → List Node
  | [] => [x]
  | y :: ys => if key y < key x then y :: insertStr key x ys else x :: y :: ys

/-- `sorted(find_variables_and_derivatives([equation.rhs]), key=str)`: stable sort by the `str` key (strings compare
    by code point, in Python as in Lean) -/
def sortStr (key : Node → String) : List Node → List Node
  | [] => []
  | x :: xs => insertStr key x (sortStr key xs)

/-- the inner loop `for rhs in sorted(find_variables_and_derivatives([equation.rhs]), key=str)`, given the sorted
    list -/
def addRefs (sf : Node → Bool) (lhs : Node) : List Node → Graph → Except Err Graph
  | [], g => .ok g
  | r :: rs, g =>
      if r ∈ g.nodes then addRefs sf lhs rs ⟨g.nodes, g.edges ++ [(r, lhs)]⟩
      else if sf r then addRefs sf lhs rs ⟨g.nodes ++ [r], g.edges ++ [(r, lhs)]⟩
      else .error .badRef

/-- after the references of an ODE: the free variable, then the state, become nodes if they are not yet -/
def addOde (ode : Option (Node × Node)) (g : Graph) : Graph :=
  match ode with
  | some (s, f) => ⟨addNode (addNode g.nodes f) s, g.edges⟩
  | none => g

/-- the loop `for equation in self.equations` that adds the edges; the references of each equation (a Python set,
    handed over in whatever order: `e.refs`) are walked in the order of their `str` (since the `fix:` commit "graph
    nodes in a reproducible order") -/
def addEqs (key : Node → String) (sf : Node → Bool) : List Eqn → Graph → Except Err Graph
  | [], g => .ok g
  | e :: es, g =>
      match addRefs sf e.lhs (sortStr key e.refs) g with
      | .error x => .error x
      | .ok g1 => addEqs key sf es (addOde e.ode g1)

def buildGraph (key : Node → String) (eqs : List Eqn) : Except Err Graph :=
  let lhss := eqs.map (·.lhs)
  if ¬ lhss.Nodup then .error .assertion                 -- assert len(graph.nodes) == equation_count
  else if ¬ (lhss.map key).Nodup then .error .assertion  -- assert len(set(str(x) …)) == equation_count
  else addEqs key (isStateOrFree eqs) eqs ⟨lhss, []⟩

/-! ## `Model.graph_with_sympy_numbers` -/

def eqnOf (eqs : List Eqn) (v : Node) : Option Eqn := eqs.find? fun e => e.lhs == v

/-- an in-edge `ref → lhs` survives iff the equation of `lhs` holds no `Quantity` (python: `if subs_dict:` — such an
    equation is not looked at), or `ref` is still referenced after the numbers went in -/
def keepEdge (eqs : List Eqn) (e : Edge) : Bool :=
  match eqnOf eqs e.2 with
  | some q => !q.hasQ || e.1 ∈ q.refsNum
  | none => true

def stripGraph (eqs : List Eqn) (g : Graph) : Graph := ⟨g.nodes, g.edges.filter (keepEdge eqs)⟩

/-- `self.graph_with_sympy_numbers if strip_units else self.graph` -/
def graphFor (eqs : List Eqn) (strip : Bool) (g : Graph) : Graph := if strip then stripGraph eqs g else g

/-! ## networkx -/

/-- `graph.pred[v]` -/
def preds (g : Graph) (v : Node) : List Node := (g.edges.filter (·.2 == v)).map (·.1)

/-- `v` has in-degree zero once the nodes in `done` are removed -/
def isReady (g : Graph) (done : List Node) (v : Node) : Bool := (preds g v).all (· ∈ done)

/-- the heap's minimum of `(key(node), insertion index, node)`: the argument is in insertion order, so the first
    node among those with the least key -/
def least (key : Node → String) : List Node → Option Node
  | [] => none
  | x :: xs => match least key xs with
      | none => some x
      | some m => some (if key m < key x then m else x)

/-- Kahn's loop; `remaining` stays in insertion order, `done` is the output so far -/
def kahn (key : Node → String) (g : Graph) : Nat → List Node → List Node → List Node
  | 0, _, done => done
  | fuel + 1, remaining, done =>
      match least key (remaining.filter (isReady g done)) with
      | none => done
      | some v => kahn key g fuel (remaining.erase v) (done ++ [v])

/-- `list(nx.lexicographical_topological_sort(g, key=str))` -/
def lexTopo (key : Node → String) (g : Graph) : Except Err (List Node) :=
  let out := kahn key g g.nodes.length g.nodes []
  if out.length = g.nodes.length then .ok out else .error .unfeasible

def insertAll (s : List Node) : List Node → List Node
  | [] => s
  | t :: ts => insertAll (addNode s t) ts

/-- `k` rounds of "add the predecessors of everything found so far" -/
def closure (g : Graph) : Nat → List Node → List Node
  | 0, s => s
  | k + 1, s => closure g k (insertAll s (s.flatMap (preds g)))

/-- `nx.ancestors(g, v)` (for an acyclic graph; in a cyclic one it may contain `v`, which is harmless because the
    caller adds `v` anyway and the sort then fails) -/
def ancestors (g : Graph) (v : Node) : List Node := closure g g.nodes.length (preds g v)

/-! ## `Model.get_equations_for` -/

def required (g : Graph) (vars : List Node) (recurse : Bool) : List Node :=
  vars ++ vars.flatMap (fun v => if recurse then ancestors g v else preds g v)

def getEquationsFor (key : Node → String) (eqs : List Eqn) (vars : List Node) (recurse strip : Bool) :
    Except Err (List Node) :=
  match buildGraph key eqs with
  | .error x => .error x
  | .ok g0 =>
      if ¬ vars.all (· ∈ (graphFor eqs strip g0).nodes) then .error .notInGraph
      else match lexTopo key (graphFor eqs strip g0) with
        | .error x => .error x
        | .ok sorted => .ok (sorted.filter fun v => v ∈ required (graphFor eqs strip g0) vars recurse && hasEq eqs v)

end C09
