import Cellml.C09.Model
import Cellml.Basic.ListLemmas

/-! The sort of the C09 model: `least`, Kahn's loop (`Respects`: the output is topological; `kahn_complete`: it never
    gets stuck on an `Acyclic` graph; `kahn_congr` with `KeyInj`: it depends on the sets only) and what follows for
    `lexTopo` on a well-formed graph (`WF`). Core Lean only. -/

namespace C09

/-! `least` keeps the running minimum of the tail and lets the head win unless that minimum is STRICTLY smaller, so a
    tie goes to the earlier node. -/

theorem least_mem {key : Node → String} : ∀ {l : List Node} {m : Node}, least key l = some m → m ∈ l
  | [], m, h => by simp [least] at h
  | x :: xs, m, h => by
      simp only [least] at h
      split at h
      · simp at h; simp [h]
      · rename_i m' hm'
        have := least_mem hm'
        simp at h; subst h
        split <;> simp [*]

theorem least_eq_none {key : Node → String} : ∀ {l : List Node}, least key l = none → l = []
  | [], _ => rfl
  | x :: xs, h => by
      simp only [least] at h
      split at h <;> simp at h

theorem least_le {key : Node → String} : ∀ {l : List Node} {m : Node}, least key l = some m →
    ∀ w ∈ l, ¬ key w < key m
  | [], m, h => by simp [least] at h
  | x :: xs, m, h => by
      simp only [least] at h
      split at h
      · rename_i hn
        simp at h; subst h
        have := least_eq_none hn; subst this
        intro w hw; simp at hw; subst hw; exact String.lt_irrefl _
      · rename_i m' hm'
        have ih := least_le hm'
        simp at h; subst h
        intro w hw
        simp at hw
        split
        · rename_i hlt
          rcases hw with rfl | hw
          · exact String.lt_asymm hlt
          · exact ih w hw
        · rename_i hnlt
          rcases hw with rfl | hw
          · exact String.lt_irrefl _
          · intro hwx
            have h1 : key m' ≤ key w := String.not_lt.mp (ih w hw)
            have h2 : key w ≤ key m' := String.not_lt.mp (fun h => hnlt (String.lt_trans h hwx))
            have h3 : key w = key m' := String.le_antisymm h2 h1
            rw [h3] at hwx; exact hnlt hwx

/-- the choice is the FIRST node with the least key: every earlier node has a strictly greater key -/
theorem least_first {key : Node → String} : ∀ {l : List Node} {m : Node}, least key l = some m →
    ∃ i : Nat, l[i]? = some m ∧ ∀ (j : Nat) (w : Node), j < i → l[j]? = some w → key m < key w
  | [], m, h => by simp [least] at h
  | x :: xs, m, h => by
      simp only [least] at h
      split at h
      · simp at h; subst h
        exact ⟨0, by simp, by intro j w hj; omega⟩
      · rename_i m' hm'
        obtain ⟨i, hi, hlt⟩ := least_first hm'
        simp at h
        split at h
        · rename_i hmx
          subst h
          refine ⟨i + 1, by simpa using hi, ?_⟩
          intro j w hj hw
          cases j with
          | zero => simp at hw; subst hw; exact hmx
          | succ j => simp at hw; exact hlt j w (by omega) hw
        · subst h
          exact ⟨0, by simp, by intro j w hj; omega⟩

def KeyInj (key : Node → String) (l : List Node) : Prop := ∀ a ∈ l, ∀ b ∈ l, key a = key b → a = b

theorem KeyInj.subset {key : Node → String} {l l' : List Node} (h : KeyInj key l) (hs : ∀ a ∈ l', a ∈ l) :
    KeyInj key l' := fun a ha b hb hk => h a (hs a ha) b (hs b hb) hk

theorem least_unique {key : Node → String} {l : List Node} {m : Node} (hinj : KeyInj key l)
    (hm : m ∈ l) (hle : ∀ w ∈ l, ¬ key w < key m) : least key l = some m := by
  cases h : least key l with
  | none => have := least_eq_none h; subst this; simp at hm
  | some m' =>
      have hm' := least_mem h
      have h1 : key m ≤ key m' := String.not_lt.mp (hle m' hm')
      have h2 : key m' ≤ key m := String.not_lt.mp (least_le h m hm)
      rw [hinj m hm m' hm' (String.le_antisymm h1 h2)]

theorem least_congr {key : Node → String} {l l' : List Node} (hinj : KeyInj key l)
    (hmem : ∀ a, a ∈ l' ↔ a ∈ l) : least key l' = least key l := by
  cases h : least key l with
  | none =>
      have := least_eq_none h; subst this
      cases l' with
      | nil => rfl
      | cons a t => exact absurd ((hmem a).mp (by simp)) (by simp)
  | some m =>
      exact least_unique (hinj.subset fun a ha => (hmem a).mp ha) ((hmem m).mpr (least_mem h))
        (fun w hw => least_le h w ((hmem w).mp hw))

theorem mem_preds {g : Graph} {u v : Node} : u ∈ preds g v ↔ (u, v) ∈ g.edges := by
  simp only [preds, List.mem_map, List.mem_filter]
  constructor
  · rintro ⟨⟨a, b⟩, ⟨hm, hb⟩, rfl⟩
    simp at hb; subst hb; exact hm
  · intro h; exact ⟨(u, v), ⟨h, by simp⟩, rfl⟩

theorem isReady_iff {g : Graph} {done : List Node} {v : Node} :
    isReady g done v = true ↔ ∀ u, (u, v) ∈ g.edges → u ∈ done := by
  simp only [isReady, List.all_eq_true, decide_eq_true_eq]
  exact forall_congr' fun u => imp_congr_left mem_preds

def Respects (g : Graph) (l : List Node) : Prop :=
  ∀ (i : Nat) (v : Node), l[i]? = some v → ∀ u, (u, v) ∈ g.edges → u ∈ l.take i

theorem respects_snoc (g : Graph) (done : List Node) (v : Node)
    (hd : Respects g done) (hv : isReady g done v = true) : Respects g (done ++ [v]) := by
  intro i w hw u hu
  rw [List.getElem?_snoc] at hw
  split at hw
  · rename_i hi
    cases hw
    simp [hi, isReady_iff.mp hv u hu]
  · rw [List.take_append_of_le_length (Nat.le_of_lt (List.getElem?_eq_some_iff.mp hw).1)]
    exact hd i w hw u hu

theorem kahn_respects (key : Node → String) (g : Graph) :
    ∀ (fuel : Nat) (remaining done : List Node),
      Respects g done → Respects g (kahn key g fuel remaining done) := by
  intro fuel
  induction fuel with
  | zero => intro remaining done hd; simpa [kahn] using hd
  | succ n ih =>
      intro remaining done hd
      simp only [kahn]
      cases hv : least key (remaining.filter (isReady g done)) with
      | none => simpa using hd
      | some v =>
        have hmem := least_mem hv
        have hready : isReady g done v = true := (List.mem_filter.mp hmem).2
        exact ih (remaining.erase v) (done ++ [v]) (respects_snoc g done v hd hready)

/-- Kahn's loop extends `done` by some of `remaining`, each once -/
theorem kahn_sub (key : Node → String) (g : Graph) :
    ∀ (fuel : Nat) (remaining done : List Node),
      ∃ t rest, kahn key g fuel remaining done = done ++ t ∧ (t ++ rest).Perm remaining := by
  intro fuel
  induction fuel with
  | zero => intro remaining done; exact ⟨[], remaining, by simp [kahn], List.Perm.refl _⟩
  | succ n ih =>
      intro remaining done
      simp only [kahn]
      cases hv : least key (remaining.filter (isReady g done)) with
      | none => exact ⟨[], remaining, by simp, List.Perm.refl _⟩
      | some v =>
        have hmem : v ∈ remaining := (List.mem_filter.mp (least_mem hv)).1
        obtain ⟨t, rest, ht, hrest⟩ := ih (remaining.erase v) (done ++ [v])
        exact ⟨v :: t, rest, by show kahn key g n _ _ = _; rw [ht]; simp,
          (hrest.cons v).trans (List.perm_cons_erase hmem).symm⟩

theorem exists_min_rank (rank : Node → Nat) : ∀ (l : List Node), l ≠ [] → ∃ v ∈ l, ∀ w ∈ l, rank v ≤ rank w
  | [], h => absurd rfl h
  | [x], _ => ⟨x, by simp, by intro w hw; simp at hw; subst hw; exact Nat.le_refl _⟩
  | x :: y :: t, _ => by
      obtain ⟨v, hv, hmin⟩ := exists_min_rank rank (y :: t) (by simp)
      by_cases h : rank x ≤ rank v
      · refine ⟨x, by simp, ?_⟩
        intro w hw
        rcases List.mem_cons.mp hw with rfl | hw
        · exact Nat.le_refl _
        · exact Nat.le_trans h (hmin w hw)
      · refine ⟨v, List.mem_cons_of_mem _ hv, ?_⟩
        intro w hw
        rcases List.mem_cons.mp hw with rfl | hw
        · omega
        · exact hmin w hw

/-- The graph has no cycle: its nodes can be ranked so that every edge goes upwards. -/
def Acyclic (g : Graph) : Prop := ∃ rank : Node → Nat, ∀ u v, (u, v) ∈ g.edges → rank u < rank v

theorem kahn_complete (key : Node → String) (g : Graph) (rank : Node → Nat)
    (hrank : ∀ u v, (u, v) ∈ g.edges → rank u < rank v) :
    ∀ (fuel : Nat) (remaining done : List Node), remaining.length ≤ fuel →
      (∀ v ∈ remaining, ∀ u, (u, v) ∈ g.edges → u ∈ done ∨ u ∈ remaining) →
      (kahn key g fuel remaining done).Perm (done ++ remaining) := by
  intro fuel
  induction fuel with
  | zero =>
      intro remaining done hlen _
      have : remaining = [] := List.eq_nil_of_length_eq_zero (by omega)
      subst this; simp [kahn]
  | succ n ih =>
      intro remaining done hlen hclosed
      simp only [kahn]
      cases hv : least key (remaining.filter (isReady g done)) with
      | none =>
          have hnil := least_eq_none hv
          cases hr : remaining with
          | nil => simp
          | cons a t =>
              exfalso
              obtain ⟨v, hvmem, hmin⟩ := exists_min_rank rank remaining (by simp [hr])
              have hready : isReady g done v = true := by
                rw [isReady_iff]
                intro u hu
                rcases hclosed v hvmem u hu with h | h
                · exact h
                · have := hmin u h; have := hrank u v hu; omega
              have : v ∈ remaining.filter (isReady g done) := List.mem_filter.mpr ⟨hvmem, hready⟩
              rw [hnil] at this; simp at this
      | some v =>
          have hmem : v ∈ remaining := (List.mem_filter.mp (least_mem hv)).1
          have hlen' : (remaining.erase v).length ≤ n := by
            rw [List.length_erase_of_mem hmem]; omega
          have hclosed' : ∀ w ∈ remaining.erase v, ∀ u, (u, w) ∈ g.edges →
              u ∈ done ++ [v] ∨ u ∈ remaining.erase v := by
            intro w hw u hu
            rcases hclosed w (List.mem_of_mem_erase hw) u hu with h | h
            · exact Or.inl (List.mem_append_left _ h)
            · by_cases huv : u = v
              · subst huv; exact Or.inl (by simp)
              · exact Or.inr ((List.mem_erase_of_ne huv).mpr h)
          refine (ih (remaining.erase v) (done ++ [v]) hlen' hclosed').trans ?_
          rw [List.append_assoc]
          exact List.Perm.append_left done (List.perm_cons_erase hmem).symm

theorem kahn_congr (key : Node → String) (g g' : Graph)
    (hedges : ∀ e, e ∈ g'.edges ↔ e ∈ g.edges) :
    ∀ (fuel : Nat) (remaining remaining' done : List Node), remaining'.Perm remaining → KeyInj key remaining →
      kahn key g' fuel remaining' done = kahn key g fuel remaining done := by
  have hready : ∀ done v, isReady g' done v = isReady g done v := by
    intro done v
    rw [Bool.eq_iff_iff, isReady_iff, isReady_iff]
    exact forall_congr' fun u => imp_congr_left (hedges _)
  intro fuel
  induction fuel with
  | zero => intro remaining remaining' done _ _; simp [kahn]
  | succ n ih =>
      intro remaining remaining' done hperm hinj
      simp only [kahn]
      have hfun : isReady g' done = isReady g done := funext (hready done)
      rw [hfun]
      have hl : least key (remaining'.filter (isReady g done)) = least key (remaining.filter (isReady g done)) := by
        apply least_congr (hinj.subset fun a ha => (List.mem_filter.mp ha).1)
        intro a
        exact (hperm.filter _).mem_iff
      rw [hl]
      cases hv : least key (remaining.filter (isReady g done)) with
      | none => rfl
      | some v =>
          exact ih (remaining.erase v) (remaining'.erase v) (done ++ [v]) (hperm.erase v)
            (hinj.subset fun a ha => List.mem_of_mem_erase ha)

theorem mem_take_of_getElem? {l : List Node} {i j : Nat} {x : Node} (h : l[j]? = some x) (hj : j < i) :
    x ∈ l.take i := by
  apply List.mem_of_getElem? (i := j)
  rw [List.getElem?_take, if_pos hj]; exact h

theorem exists_lt_of_mem_take {l : List Node} {i : Nat} {u : Node} (h : u ∈ l.take i) :
    ∃ j : Nat, j < i ∧ l[j]? = some u := by
  obtain ⟨j, hj⟩ := List.mem_iff_getElem?.mp h
  rw [List.getElem?_take] at hj
  split at hj
  · rename_i hlt; exact ⟨j, hlt, hj⟩
  · cases hj

theorem mem_take_idxOf_lt : ∀ {l : List Node} {i : Nat} {u : Node}, u ∈ l.take i → l.idxOf u < i
  | [], i, u, h => by simp at h
  | x :: xs, 0, u, h => by simp at h
  | x :: xs, i + 1, u, h => by
      simp only [List.take_succ_cons, List.mem_cons] at h
      by_cases hx : x = u
      · subst hx; simp [List.idxOf_cons_self]
      · rcases h with h | h
        · exact absurd h.symm hx
        · have := mem_take_idxOf_lt h
          have hb : (x == u) = false := by simpa using hx
          rw [List.idxOf_cons, hb]; simp; omega

theorem getElem?_idxOf {l : List Node} {v : Node} (h : v ∈ l) : l[l.idxOf v]? = some v := by
  have hlt : l.idxOf v < l.length := List.idxOf_lt_length_iff.mpr h
  rw [List.getElem?_eq_getElem hlt]
  simp

theorem filter_getElem? {p : Node → Bool} : ∀ {l : List Node} {i : Nat} {v : Node}, (l.filter p)[i]? = some v →
    ∃ j : Nat, l[j]? = some v ∧ (l.take j).filter p = (l.filter p).take i
  | [], i, v, h => by simp at h
  | x :: xs, i, v, h => by
      by_cases hx : p x = true
      · rw [List.filter_cons_of_pos hx] at h ⊢
        cases i with
        | zero =>
            simp only [List.getElem?_cons_zero, Option.some.injEq] at h; subst h
            exact ⟨0, by simp, by simp⟩
        | succ i =>
            simp only [List.getElem?_cons_succ] at h
            obtain ⟨j, hj, ht⟩ := filter_getElem? h
            refine ⟨j + 1, by simpa using hj, ?_⟩
            simp only [List.take_succ_cons]
            rw [List.filter_cons_of_pos hx, ht]
      · rw [List.filter_cons_of_neg hx] at h ⊢
        obtain ⟨j, hj, ht⟩ := filter_getElem? h
        refine ⟨j + 1, by simpa using hj, ?_⟩
        simp only [List.take_succ_cons]
        rw [List.filter_cons_of_neg hx, ht]

theorem kahn_least (key : Node → String) (g : Graph) :
    ∀ (fuel : Nat) (remaining done : List Node) (i : Nat) (v : Node), done.length ≤ i →
      (kahn key g fuel remaining done)[i]? = some v →
      ∀ w ∈ remaining, w ∉ (kahn key g fuel remaining done).take i →
        isReady g ((kahn key g fuel remaining done).take i) w = true → ¬ key w < key v := by
  intro fuel
  induction fuel with
  | zero =>
      intro remaining done i v hi hv
      simp only [kahn] at hv
      rw [List.getElem?_eq_none hi] at hv; cases hv
  | succ n ih =>
      intro remaining done i v hi hv w hw hnot hready
      simp only [kahn] at hv hnot hready
      cases hl : least key (remaining.filter (isReady g done)) with
      | none =>
          simp only [hl] at hv
          rw [List.getElem?_eq_none hi] at hv; cases hv
      | some v0 =>
          simp only [hl] at hv hnot hready
          obtain ⟨t, _, ht, _⟩ := kahn_sub key g n (remaining.erase v0) (done ++ [v0])
          by_cases hlen : i = done.length
          · subst hlen
            rw [ht] at hv hready
            have htake : (done ++ [v0] ++ t).take done.length = done := by
              rw [List.append_assoc, List.take_left']; rfl
            rw [htake] at hready
            have hv0 : v = v0 := by
              rw [List.append_assoc, List.getElem?_append_right (Nat.le_refl _)] at hv
              simpa using hv.symm
            subst hv0
            exact least_le hl w (List.mem_filter.mpr ⟨hw, hready⟩)
          · have hgt : (done ++ [v0]).length ≤ i := by simp; omega
            have hv0mem : v0 ∈ (kahn key g n (remaining.erase v0) (done ++ [v0])).take i := by
              have hlt : done.length < i := by simp at hgt; omega
              apply mem_take_of_getElem? (j := done.length) _ hlt
              rw [ht, List.append_assoc, List.getElem?_append_right (Nat.le_refl _)]
              simp
            have hne : w ≠ v0 := fun h => hnot (h ▸ hv0mem)
            exact ih (remaining.erase v0) (done ++ [v0]) i v hgt hv w ((List.mem_erase_of_ne hne).mpr hw) hnot hready

theorem lexTopo_ok {key : Node → String} {g : Graph} {l : List Node} (h : lexTopo key g = .ok l) :
    l = kahn key g g.nodes.length g.nodes [] ∧ l.length = g.nodes.length := by
  simp only [lexTopo] at h
  split at h
  · rename_i hlen
    simp at h; subst h; exact ⟨rfl, hlen⟩
  · simp at h

theorem lexTopo_error {key : Node → String} {g : Graph} {x : Err} (h : lexTopo key g = .error x) : x = .unfeasible := by
  simp only [lexTopo] at h
  split at h <;> cases h
  rfl

theorem lexTopo_ok_perm {key : Node → String} {g : Graph} {l : List Node} (h : lexTopo key g = .ok l) :
    l.Perm g.nodes := by
  obtain ⟨rfl, hlen⟩ := lexTopo_ok h
  obtain ⟨t, rest, ht, hrest⟩ := kahn_sub key g g.nodes.length g.nodes []
  rw [ht, List.nil_append] at hlen ⊢
  have := hrest.length_eq
  simp only [List.length_append] at this
  have hnil : rest = [] := List.eq_nil_of_length_eq_zero (by omega)
  subst hnil
  simpa using hrest

theorem lexTopo_ok_respects {key : Node → String} {g : Graph} {l : List Node} (h : lexTopo key g = .ok l) :
    Respects g l := by
  obtain ⟨rfl, _⟩ := lexTopo_ok h
  exact kahn_respects key g _ _ [] (by intro i v h; simp at h)

/-- edges join nodes, nodes are listed once -/
structure WF (g : Graph) : Prop where
  nodup : g.nodes.Nodup
  src : ∀ u v, (u, v) ∈ g.edges → u ∈ g.nodes
  tgt : ∀ u v, (u, v) ∈ g.edges → v ∈ g.nodes

theorem lexTopo_of_acyclic {key : Node → String} {g : Graph} (hwf : WF g) (hac : Acyclic g) :
    ∃ l, lexTopo key g = .ok l := by
  obtain ⟨rank, hrank⟩ := hac
  have hp := kahn_complete key g rank hrank g.nodes.length g.nodes [] (Nat.le_refl _)
    (fun v _ u hu => Or.inr (hwf.src u v hu))
  have hlen := hp.length_eq
  simp only [List.nil_append] at hlen
  exact ⟨kahn key g g.nodes.length g.nodes [], by simp [lexTopo, hlen]⟩

/-- a successful sort yields a ranking: position in the output -/
theorem idxOf_lt_of_lexTopo {key : Node → String} {g : Graph} {l : List Node} (hwf : WF g)
    (h : lexTopo key g = .ok l) : ∀ u v, (u, v) ∈ g.edges → l.idxOf u < l.idxOf v := by
  intro u v huv
  have hv : v ∈ l := (lexTopo_ok_perm h).mem_iff.mpr (hwf.tgt u v huv)
  exact mem_take_idxOf_lt (lexTopo_ok_respects h _ v (getElem?_idxOf hv) u huv)

end C09
