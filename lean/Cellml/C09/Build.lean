import Cellml.C09.Closure

/-! What `Model.graph` and `Model.graph_with_sympy_numbers` build, stated declaratively. -/

namespace C09

theorem insertStr_perm (key : Node → String) (x : Node) : ∀ l : List Node, (insertStr key x l).Perm (x :: l)
  | [] => List.Perm.refl _
  | y :: ys => by
      unfold insertStr
      split
      · exact ((insertStr_perm key x ys).cons y).trans (List.Perm.swap x y ys)
      · exact List.Perm.refl _

theorem sortStr_perm (key : Node → String) : ∀ l : List Node, (sortStr key l).Perm l
  | [] => List.Perm.refl _
  | x :: xs => (insertStr_perm key x (sortStr key xs)).trans ((sortStr_perm key xs).cons x)

theorem mem_sortStr {key : Node → String} {l : List Node} {a : Node} : a ∈ sortStr key l ↔ a ∈ l :=
  (sortStr_perm key l).mem_iff

theorem insertStr_sorted (key : Node → String) (x : Node) : ∀ l : List Node,
    l.Pairwise (fun a b => key a ≤ key b) → (insertStr key x l).Pairwise (fun a b => key a ≤ key b)
  | [], _ => List.pairwise_singleton _ _
  | y :: ys, h => by
      unfold insertStr
      have hy := List.pairwise_cons.mp h
      split
      · rename_i hyx
        refine List.Pairwise.cons ?_ (insertStr_sorted key x ys hy.2)
        intro b hb
        rcases List.mem_cons.mp ((insertStr_perm key x ys).mem_iff.mp hb) with rfl | hb
        · exact String.not_lt.mp (String.lt_asymm hyx)
        · exact hy.1 b hb
      · rename_i hyx
        have hxy : key x ≤ key y := String.not_lt.mp hyx
        refine List.Pairwise.cons ?_ h
        intro b hb
        rcases List.mem_cons.mp hb with rfl | hb
        · exact hxy
        · exact String.le_trans hxy (hy.1 b hb)

theorem sortStr_sorted (key : Node → String) : ∀ l : List Node, (sortStr key l).Pairwise (fun a b => key a ≤ key b)
  | [] => List.Pairwise.nil
  | x :: xs => insertStr_sorted key x _ (sortStr_sorted key xs)

/-- **Sorting by pairwise distinct `str` keys gives a list that depends only on the SET**: two lists with the same
    elements (two iteration orders of one Python set) sort to the same list. -/
theorem sortStr_eq_of_perm (key : Node → String) {l₁ l₂ : List Node} (hp : l₁.Perm l₂)
    (hinj : KeyInj key l₁) : sortStr key l₁ = sortStr key l₂ := by
  apply List.Perm.eq_of_pairwise (le := fun a b => key a ≤ key b)
  · intro a b ha hb hab hba
    exact hinj a (mem_sortStr.mp ha) b (hp.mem_iff.mpr (mem_sortStr.mp hb)) (String.le_antisymm hab hba)
  · exact sortStr_sorted key l₁
  · exact sortStr_sorted key l₂
  · exact (sortStr_perm key l₁).trans (hp.trans (sortStr_perm key l₂).symm)

theorem hasEq_iff {eqs : List Eqn} {v : Node} : hasEq eqs v = true ↔ v ∈ eqs.map (·.lhs) := by
  simp only [hasEq, List.any_eq_true, List.mem_map, beq_iff_eq]

theorem isStateOrFree_iff {eqs : List Eqn} {v : Node} :
    isStateOrFree eqs v = true ↔ ∃ e ∈ eqs, ∃ s f, e.ode = some (s, f) ∧ (v = s ∨ v = f) := by
  simp only [isStateOrFree, List.any_eq_true]
  constructor
  · rintro ⟨e, he, h⟩
    refine ⟨e, he, ?_⟩
    cases ho : e.ode with
    | none => simp [ho] at h
    | some p =>
        obtain ⟨s, f⟩ := p
        simp only [ho, Bool.or_eq_true, beq_iff_eq] at h
        exact ⟨s, f, rfl, h⟩
  · rintro ⟨e, he, s, f, ho, h⟩
    refine ⟨e, he, ?_⟩
    simp only [ho, Bool.or_eq_true, beq_iff_eq]
    exact h

theorem hasEq_perm {eqs eqs' : List Eqn} (hp : eqs'.Perm eqs) (v : Node) : hasEq eqs' v = hasEq eqs v := hp.any_eq

theorem isStateOrFree_perm {eqs eqs' : List Eqn} (hp : eqs'.Perm eqs) (v : Node) :
    isStateOrFree eqs' v = isStateOrFree eqs v := hp.any_eq

/-- **`addRefs` in closed form**: the loop goes through iff every reference is a node already or a state / free
    variable; it then has appended the new references as nodes, and one edge per reference. -/
theorem addRefs_eq (sf : Node → Bool) (lhs : Node) : ∀ (rs : List Node) (g : Graph),
    addRefs sf lhs rs g =
      if rs.all (fun r => decide (r ∈ g.nodes) || sf r) then .ok ⟨insertAll g.nodes rs, g.edges ++ rs.map (·, lhs)⟩
      else .error .badRef
  | [], g => by simp [addRefs, insertAll]
  | r :: rs, g => by
      simp only [addRefs, addRefs_eq sf lhs rs, List.all_cons, insertAll, List.map_cons]
      by_cases hr : r ∈ g.nodes
      · simp [hr, addNode]
      · cases hs : sf r
        · simp [hr]
        · -- `r` is new: it passes, and passes again if it recurs among `rs`
          have hall : (fun r' => decide (r' ∈ g.nodes ++ [r]) || sf r') = fun r' => decide (r' ∈ g.nodes) || sf r' :=
            funext fun r' => by by_cases h : r' = r <;> simp [h, hs]
          simp only [hr, if_false, if_true, hall]
          simp [hr, addNode]

structure RefsSpec (sf : Node → Bool) (lhs : Node) (rs : List Node) (g g' : Graph) : Prop where
  nodes : ∀ x, x ∈ g'.nodes ↔ x ∈ g.nodes ∨ (x ∈ rs ∧ sf x = true)
  edges : ∀ e, e ∈ g'.edges ↔ e ∈ g.edges ∨ (e.2 = lhs ∧ e.1 ∈ rs)
  nodup : g.nodes.Nodup → g'.nodes.Nodup
  refs : ∀ r ∈ rs, r ∈ g'.nodes

theorem addRefs_spec (sf : Node → Bool) (lhs : Node) (rs : List Node) (g g' : Graph)
    (h : addRefs sf lhs rs g = .ok g') : RefsSpec sf lhs rs g g' := by
  rw [addRefs_eq] at h
  split at h
  · rename_i hall
    simp only [List.all_eq_true, Bool.or_eq_true, decide_eq_true_eq] at hall
    cases h
    refine ⟨fun x => ?_, fun e => ?_, nodup_insertAll, fun r hr => mem_insertAll.mpr (Or.inr hr)⟩
    · rw [mem_insertAll]
      exact ⟨fun h => h.elim Or.inl fun hx => (hall x hx).imp id fun hs => ⟨hx, hs⟩, fun h => h.imp id And.left⟩
    · obtain ⟨a, b⟩ := e
      simp only [List.mem_append, List.mem_map, Prod.mk.injEq]
      exact or_congr Iff.rfl ⟨fun ⟨r, hr, h1, h2⟩ => ⟨h2.symm, h1 ▸ hr⟩, fun ⟨h1, h2⟩ => ⟨a, h2, rfl, h1.symm⟩⟩
  · cases h

theorem addRefs_ok (sf : Node → Bool) (lhs : Node) (rs : List Node) (g : Graph)
    (h : ∀ r ∈ rs, r ∈ g.nodes ∨ sf r = true) :
    ∃ g', addRefs sf lhs rs g = .ok g' ∧ ∀ x ∈ g.nodes, x ∈ g'.nodes := by
  rw [addRefs_eq, if_pos (by simpa using h)]
  exact ⟨_, rfl, fun x hx => mem_insertAll.mpr (Or.inl hx)⟩

theorem mem_addOde_nodes {ode : Option (Node × Node)} {g : Graph} {x : Node} :
    x ∈ (addOde ode g).nodes ↔ x ∈ g.nodes ∨ ∃ s f, ode = some (s, f) ∧ (x = s ∨ x = f) := by
  cases ode with
  | none => simp [addOde]
  | some p =>
      obtain ⟨s, f⟩ := p
      simp only [addOde, mem_addNode, Option.some.injEq, Prod.mk.injEq]
      constructor
      · rintro ((h | h) | h)
        · exact Or.inl h
        · exact Or.inr ⟨s, f, ⟨rfl, rfl⟩, Or.inr h⟩
        · exact Or.inr ⟨s, f, ⟨rfl, rfl⟩, Or.inl h⟩
      · rintro (h | ⟨s', f', ⟨rfl, rfl⟩, h | h⟩)
        · exact Or.inl (Or.inl h)
        · exact Or.inr h
        · exact Or.inl (Or.inr h)

theorem addOde_edges {ode : Option (Node × Node)} {g : Graph} : (addOde ode g).edges = g.edges := by
  cases ode with
  | none => rfl
  | some p => rfl

theorem addOde_nodup {ode : Option (Node × Node)} {g : Graph} (h : g.nodes.Nodup) : (addOde ode g).nodes.Nodup := by
  cases ode with
  | none => exact h
  | some p => exact nodup_addNode (nodup_addNode h)

/-- (`refs` is what later makes every edge start at a node: `WF.src`) -/
structure EqsSpec (sf : Node → Bool) (es : List Eqn) (g g' : Graph) : Prop where
  nodes : ∀ x, x ∈ g'.nodes ↔ x ∈ g.nodes ∨ ∃ e ∈ es, (x ∈ e.refs ∧ sf x = true) ∨
            ∃ s f, e.ode = some (s, f) ∧ (x = s ∨ x = f)
  edges : ∀ ed, ed ∈ g'.edges ↔ ed ∈ g.edges ∨ ∃ e ∈ es, ed.2 = e.lhs ∧ ed.1 ∈ e.refs
  nodup : g.nodes.Nodup → g'.nodes.Nodup
  refs : ∀ e ∈ es, ∀ r ∈ e.refs, r ∈ g'.nodes

theorem addEqs_spec (key : Node → String) (sf : Node → Bool) : ∀ (es : List Eqn) (g g' : Graph),
    addEqs key sf es g = .ok g' → EqsSpec sf es g g'
  | [], g, g', h => by
      simp only [addEqs, Except.ok.injEq] at h; subst h
      exact ⟨by simp, by simp, id, by simp⟩
  | e :: es, g, g', h => by
      simp only [addEqs] at h
      split at h
      · simp at h
      · rename_i g1 hg1
        have s0 := addRefs_spec sf e.lhs (sortStr key e.refs) g g1 hg1
        have s1 : RefsSpec sf e.lhs e.refs g g1 :=
          ⟨fun x => by rw [s0.nodes, mem_sortStr], fun ed => by rw [s0.edges, mem_sortStr], s0.nodup,
           fun r hr => s0.refs r (mem_sortStr.mpr hr)⟩
        have ih := addEqs_spec key sf es _ g' h
        have hmono : ∀ x, x ∈ g1.nodes → x ∈ g'.nodes := fun x hx =>
          (ih.nodes x).mpr (Or.inl (mem_addOde_nodes.mpr (Or.inl hx)))
        refine ⟨?_, ?_, ?_, ?_⟩
        · intro x
          rw [ih.nodes, mem_addOde_nodes, s1.nodes]
          simp only [List.mem_cons, exists_eq_or_imp, or_assoc]
        · intro ed
          rw [ih.edges, addOde_edges, s1.edges]
          simp only [List.mem_cons, exists_eq_or_imp, or_assoc]
        · intro hnd
          exact ih.nodup (addOde_nodup (s1.nodup hnd))
        · intro e' he' r hr
          rcases List.mem_cons.mp he' with rfl | he'
          · exact hmono r (s1.refs r hr)
          · exact ih.refs e' he' r hr

theorem addEqs_ok (key : Node → String) (sf : Node → Bool) : ∀ (es : List Eqn) (g : Graph) (base : List Node),
    (∀ x ∈ base, x ∈ g.nodes) →
    (∀ e ∈ es, ∀ r ∈ e.refs, r ∈ base ∨ sf r = true) → ∃ g', addEqs key sf es g = .ok g'
  | [], g, _, _, _ => ⟨g, rfl⟩
  | e :: es, g, base, hb, h => by
      simp only [addEqs]
      obtain ⟨g1, hg1, hsub⟩ := addRefs_ok sf e.lhs (sortStr key e.refs) g
        (fun r hr => (h e (by simp) r (mem_sortStr.mp hr)).imp (hb r) id)
      rw [hg1]
      exact addEqs_ok key sf es (addOde e.ode g1) base
        (fun x hx => mem_addOde_nodes.mpr (Or.inl (hsub x (hb x hx))))
        (fun e' he' => h e' (List.mem_cons_of_mem _ he'))

/-- the equations are a well-formed input of `Model.graph`: each left-hand side (and each `str`) occurs once, and
    every reference is a left-hand side or the state / free variable of an ODE -/
structure Valid (key : Node → String) (eqs : List Eqn) : Prop where
  lhsNodup : (eqs.map (·.lhs)).Nodup
  keyNodup : ((eqs.map (·.lhs)).map key).Nodup
  refsOk : ∀ e ∈ eqs, ∀ r ∈ e.refs, hasEq eqs r = true ∨ isStateOrFree eqs r = true

structure GraphSpec (eqs : List Eqn) (g : Graph) : Prop where
  wf : WF g
  nodes : ∀ x, x ∈ g.nodes ↔ hasEq eqs x = true ∨ isStateOrFree eqs x = true
  edges : ∀ u v, (u, v) ∈ g.edges ↔ ∃ e ∈ eqs, e.lhs = v ∧ u ∈ e.refs

theorem buildGraph_valid {key : Node → String} {eqs : List Eqn} {g : Graph} (h : buildGraph key eqs = .ok g) :
    Valid key eqs ∧ GraphSpec eqs g := by
  simp only [buildGraph] at h
  split at h
  · simp at h
  · rename_i h1
    split at h
    · simp at h
    · rename_i h2
      have h1' : (eqs.map (·.lhs)).Nodup := Classical.not_not.mp h1
      have h2' : ((eqs.map (·.lhs)).map key).Nodup := Classical.not_not.mp h2
      have sp := addEqs_spec key (isStateOrFree eqs) eqs _ g h
      have hnodes : ∀ x, x ∈ g.nodes ↔ hasEq eqs x = true ∨ isStateOrFree eqs x = true := by
        intro x
        rw [sp.nodes, hasEq_iff, isStateOrFree_iff]
        constructor
        · rintro (h' | ⟨e, he, (⟨_, hsf⟩ | hode)⟩)
          · exact Or.inl h'
          · exact Or.inr hsf
          · exact Or.inr ⟨e, he, hode⟩
        · rintro (h' | ⟨e, he, hode⟩)
          · exact Or.inl h'
          · exact Or.inr ⟨e, he, Or.inr hode⟩
      have hedges : ∀ u v, (u, v) ∈ g.edges ↔ ∃ e ∈ eqs, e.lhs = v ∧ u ∈ e.refs := by
        intro u v
        rw [sp.edges]
        simp only [List.not_mem_nil, false_or]
        exact exists_congr fun e => and_congr_right fun _ => and_congr_left' eq_comm
      refine ⟨⟨h1', h2', ?_⟩, ⟨sp.nodup h1', ?_, ?_⟩, hnodes, hedges⟩
      · intro e he r hr
        exact (hnodes r).mp (sp.refs e he r hr)
      · intro u v huv
        obtain ⟨e, he, _, hu⟩ := (hedges u v).mp huv
        exact sp.refs e he u hu
      · intro u v huv
        obtain ⟨e, he, hv, _⟩ := (hedges u v).mp huv
        exact (hnodes v).mpr (Or.inl (hasEq_iff.mpr (List.mem_map.mpr ⟨e, he, hv⟩)))

theorem buildGraph_ok {key : Node → String} {eqs : List Eqn} (hv : Valid key eqs) :
    ∃ g, buildGraph key eqs = .ok g := by
  simp only [buildGraph, hv.lhsNodup, hv.keyNodup, not_true_eq_false, if_false]
  exact addEqs_ok key (isStateOrFree eqs) eqs _ (eqs.map (·.lhs)) (fun _ h => h)
    (fun e he r hr => (hv.refsOk e he r hr).imp (fun h => hasEq_iff.mp h) id)

theorem addRefs_error {sf : Node → Bool} {lhs : Node} {rs : List Node} {g : Graph} {x : Err}
    (h : addRefs sf lhs rs g = .error x) : x = .badRef := by
  rw [addRefs_eq] at h
  split at h <;> cases h
  rfl

theorem addEqs_error {key : Node → String} {sf : Node → Bool} : ∀ {es : List Eqn} {g : Graph} {x : Err},
    addEqs key sf es g = .error x → x = .badRef
  | [], g, x, h => by simp [addEqs] at h
  | e :: es, g, x, h => by
    simp only [addEqs] at h
    cases h1 : addRefs sf e.lhs (sortStr key e.refs) g with
    | error y => rw [h1] at h; cases h; exact addRefs_error h1
    | ok g1 => rw [h1] at h; exact addEqs_error h

theorem buildGraph_error {key : Node → String} {eqs : List Eqn} {x : Err} (h : buildGraph key eqs = .error x) :
    x = .assertion ∨ x = .badRef := by
  simp only [buildGraph] at h
  split at h
  · cases h; exact .inl rfl
  · split at h
    · cases h; exact .inl rfl
    · exact .inr (addEqs_error h)

/-! ## The graph is a function of the left-hand sides, the ODE pairs and the SORTED references -/

/-- two spellings of one equation: same left-hand side, same ODE pair, and the references — in whatever order the
    set handed them out — sort to the same list -/
def SameSorted (key : Node → String) (e e' : Eqn) : Prop :=
  e'.lhs = e.lhs ∧ e'.ode = e.ode ∧ sortStr key e'.refs = sortStr key e.refs

/-- (one list and two readings `f`, `f'` of it, not two lists related pointwise: that is what the two users of
    `buildGraph_congr` below have, `C15/Graph.lean` and `graph_set_order_irrelevant`) -/
theorem addEqs_congr (key : Node → String) (sf : Node → Bool) {α : Type} (f f' : α → Eqn) :
    ∀ (l : List α) (g : Graph), (∀ a ∈ l, SameSorted key (f a) (f' a)) →
      addEqs key sf (l.map f') g = addEqs key sf (l.map f) g
  | [], _, _ => rfl
  | a :: l, g, h => by
      obtain ⟨h1, h2, h3⟩ := h a (by simp)
      simp only [List.map_cons, addEqs, h1, h2, h3]
      cases addRefs sf (f a).lhs (sortStr key (f a).refs) g with
      | error x => rfl
      | ok g1 => exact addEqs_congr key sf f f' l _ (fun b hb => h b (List.mem_cons_of_mem _ hb))

theorem isStateOrFree_congr {α : Type} (f f' : α → Eqn) (v : Node) :
    ∀ (l : List α), (∀ a ∈ l, (f' a).ode = (f a).ode) → isStateOrFree (l.map f') v = isStateOrFree (l.map f) v
  | [], _ => rfl
  | a :: l, h => by
      have ih := isStateOrFree_congr f f' v l (fun b hb => h b (List.mem_cons_of_mem _ hb))
      simp only [isStateOrFree] at ih ⊢
      simp only [List.map_cons, List.any_cons, h a (by simp), ih]

/-- **`Model.graph` — node LIST and edge LIST, or the refusal — is the same for two spellings of a system that differ
    only in the order in which the reference sets were handed out.** -/
theorem buildGraph_congr (key : Node → String) {α : Type} (f f' : α → Eqn) (l : List α)
    (h : ∀ a ∈ l, SameSorted key (f a) (f' a)) : buildGraph key (l.map f') = buildGraph key (l.map f) := by
  have hl : (l.map f').map (·.lhs) = (l.map f).map (·.lhs) := by
    simp only [List.map_map]
    exact List.map_congr_left (fun a ha => (h a ha).1)
  have hsf : isStateOrFree (l.map f') = isStateOrFree (l.map f) :=
    funext fun v => isStateOrFree_congr f f' v l (fun a ha => (h a ha).2.1)
  simp only [buildGraph, hl, hsf, addEqs_congr key _ f f' l _ h]

theorem isSome_eqnOf (eqs : List Eqn) (v : Node) : (eqnOf eqs v).isSome = hasEq eqs v := by
  induction eqs with
  | nil => rfl
  | cons e es ih =>
    simp only [hasEq, eqnOf, List.any_cons, List.find?_cons] at *
    by_cases h : e.lhs == v <;> simp [h, ih]

theorem eqnOf_lhs {eqs : List Eqn} {n : Node} {e : Eqn} (h : eqnOf eqs n = some e) : e.lhs = n := by
  have := List.find?_some h
  simpa using this

theorem eqnOf_of_mem : ∀ {eqs : List Eqn} {e : Eqn}, (eqs.map (·.lhs)).Nodup → e ∈ eqs → eqnOf eqs e.lhs = some e
  | [], e, _, h => by simp at h
  | x :: xs, e, hnd, h => by
      simp only [List.map_cons, List.nodup_cons] at hnd
      simp only [eqnOf, List.find?_cons]
      rcases List.mem_cons.mp h with rfl | h
      · simp
      · have hne : (x.lhs == e.lhs) = false := by
          simp only [beq_eq_false_iff_ne, ne_eq]
          intro heq
          exact hnd.1 (heq ▸ List.mem_map.mpr ⟨e, h, rfl⟩)
        rw [hne]
        exact eqnOf_of_mem hnd.2 h

/-- the references of `v`'s equation, before / after number substitution (`Eqn.numRefs`: the substitution happens
    only in an equation that holds a `Quantity`) -/
def DepOn (eqs : List Eqn) (strip : Bool) (u v : Node) : Prop :=
  ∃ e ∈ eqs, e.lhs = v ∧ u ∈ e.refs ∧ (strip = true → u ∈ e.numRefs)

theorem keep_iff_numRefs {e : Eqn} {u : Node} (hr : u ∈ e.refs) :
    (!e.hasQ || decide (u ∈ e.refsNum)) = true ↔ u ∈ e.numRefs := by
  unfold Eqn.numRefs
  cases e.hasQ <;> simp [hr]

theorem DepOn.weaken {eqs : List Eqn} {strip : Bool} {u v : Node} (h : DepOn eqs strip u v) : DepOn eqs false u v := by
  obtain ⟨e, he, h1, h2, _⟩ := h
  exact ⟨e, he, h1, h2, by simp⟩

theorem graphFor_nodes {eqs : List Eqn} {strip : Bool} {g : Graph} : (graphFor eqs strip g).nodes = g.nodes := by
  cases strip <;> rfl

theorem graphFor_edges {eqs : List Eqn} {strip : Bool} {g : Graph} (hnd : (eqs.map (·.lhs)).Nodup)
    (hg : GraphSpec eqs g) (u v : Node) : (u, v) ∈ (graphFor eqs strip g).edges ↔ DepOn eqs strip u v := by
  cases strip with
  | false =>
      simp only [graphFor, Bool.false_eq_true, if_false, DepOn, false_implies, and_true]
      exact hg.edges u v
  | true =>
      simp only [graphFor, if_true, stripGraph, List.mem_filter, DepOn, true_implies]
      rw [hg.edges]
      constructor
      · rintro ⟨⟨e, he, hl, hr⟩, hk⟩
        refine ⟨e, he, hl, hr, ?_⟩
        have := eqnOf_of_mem hnd he
        rw [hl] at this
        simp only [keepEdge, this] at hk
        exact (keep_iff_numRefs hr).mp hk
      · rintro ⟨e, he, hl, hr, hn⟩
        refine ⟨⟨e, he, hl, hr⟩, ?_⟩
        have := eqnOf_of_mem hnd he
        rw [hl] at this
        simp only [keepEdge, this]
        exact (keep_iff_numRefs hr).mpr hn

theorem graphFor_wf {eqs : List Eqn} {strip : Bool} {g : Graph} (hwf : WF g) : WF (graphFor eqs strip g) := by
  cases strip with
  | false => exact hwf
  | true =>
      refine ⟨hwf.nodup, ?_, ?_⟩
      · intro u v h; exact hwf.src u v (List.mem_filter.mp h).1
      · intro u v h; exact hwf.tgt u v (List.mem_filter.mp h).1

end C09
