import Cellml.C09.Eqsfor

/-! Evaluating a list of equations in order. `f v ρ` is the value of the right-hand side of `v`'s equation in the
    environment `ρ`; `run f l ρ` assigns the left-hand sides of `l` one after the other. -/

namespace C09

def upd {K : Type} (ρ : Node → K) (v : Node) (x : K) : Node → K := fun u => if u = v then x else ρ u

def run {K : Type} (f : Node → (Node → K) → K) : List Node → (Node → K) → (Node → K)
  | [], ρ => ρ
  | v :: l, ρ => run f l (upd ρ v (f v ρ))

theorem run_not_mem {K : Type} (f : Node → (Node → K) → K) : ∀ (l : List Node) (ρ : Node → K) (u : Node),
    u ∉ l → run f l ρ u = ρ u
  | [], _, _, _ => rfl
  | v :: l, ρ, u, h => by
      simp only [List.mem_cons, not_or] at h
      rw [run, run_not_mem f l _ u h.2]
      simp [upd, h.1]

/-- If every right-hand side reads only nodes that are never assigned (`W`) or are assigned earlier in the list,
    then after the run every equation of the list holds in the final environment. -/
theorem run_satisfies {K : Type} (f : Node → (Node → K) → K) (reads : Node → Node → Prop)
    (hloc : ∀ v ρ ρ', (∀ u, reads u v → ρ u = ρ' u) → f v ρ = f v ρ') :
    ∀ (l : List Node) (W : Node → Prop) (ρ : Node → K), l.Nodup → (∀ u, W u → u ∉ l) →
      (∀ (i : Nat) (v : Node), l[i]? = some v → ∀ u, reads u v → u ∈ l.take i ∨ W u) →
      ∀ x ∈ l, run f l ρ x = f x (run f l ρ)
  | [], _, _, _, _, _, x, hx => by simp at hx
  | v :: t, W, ρ, hnd, hW, hord, x, hx => by
      simp only [List.nodup_cons] at hnd
      simp only [run]
      rcases List.mem_cons.mp hx with rfl | hx
      · rw [run_not_mem f t _ x hnd.1]
        simp only [upd, if_true]
        apply hloc
        intro u hu
        rcases hord 0 x (by simp) u hu with h | h
        · simp at h
        · have hnot := hW u h
          simp only [List.mem_cons, not_or] at hnot
          rw [run_not_mem f t _ u hnot.2]
          simp [upd, hnot.1]
      · apply run_satisfies f reads hloc t (fun u => W u ∨ u = v) _ hnd.2
        · rintro u (h | rfl)
          · exact fun h' => hW u h (List.mem_cons_of_mem _ h')
          · exact hnd.1
        · intro i w hi u hu
          rcases hord (i + 1) w (by simpa using hi) u hu with h | h
          · simp only [List.take_succ_cons, List.mem_cons] at h
            rcases h with rfl | h
            · exact Or.inr (Or.inr rfl)
            · exact Or.inl h
          · exact Or.inr (Or.inl h)
        · exact hx

end C09
