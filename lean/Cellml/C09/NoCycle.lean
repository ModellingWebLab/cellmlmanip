import Cellml.C09.Closure

/-! "Acyclic" in the usual sense — no node reaches itself — is the same as the existence of a ranking
    (`C09.Acyclic`), for every finite edge list: rank a node by the number of edge sources that reach it. -/

namespace C09

/-- **Acyclic = no node reaches itself.** -/
theorem acyclic_iff_no_cycle (g : Graph) : Acyclic g ↔ ∀ v, ¬ TC (Edge' g) v v := by
  constructor
  · rintro ⟨rank, hrank⟩ v t
    exact Nat.lt_irrefl _ (TC.rank_lt rank hrank t)
  · intro hno
    -- an edge `u → v` hands all ancestors of `u` to `v`, and `u` itself on top (`u` is no ancestor of `u`)
    open Classical in
    refine ⟨fun v => (g.edges.map (·.1)).countP fun w => decide (TC (Edge' g) w v), fun u v huv => ?_⟩
    exact List.countP_lt_of _ _ _ (fun w _ hw => by simpa using (of_decide_eq_true hw).tail huv) u
      (List.mem_map.mpr ⟨(u, v), huv, rfl⟩) (by simpa using TC.base huv) (by simpa using hno u)

end C09
