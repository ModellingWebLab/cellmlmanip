import Cellml.C09.Build

namespace C09

/-- what "the requests depend on" means: everything (`recurse`) or the direct references only -/
def Uses (eqs : List Eqn) (strip : Bool) : Bool → Node → Node → Prop
  | true => TC (DepOn eqs strip)
  | false => DepOn eqs strip

/-- `v` is needed for the requests `vars` -/
def Needed (eqs : List Eqn) (vars : List Node) (recurse strip : Bool) (v : Node) : Prop :=
  v ∈ vars ∨ ∃ r ∈ vars, Uses eqs strip recurse v r

theorem eqsfor_ok {key : Node → String} {eqs : List Eqn} {vars : List Node} {recurse strip : Bool} {res : List Node}
    (h : getEquationsFor key eqs vars recurse strip = .ok res) :
    ∃ g0 sorted, buildGraph key eqs = .ok g0 ∧ (∀ v ∈ vars, v ∈ g0.nodes) ∧
      lexTopo key (graphFor eqs strip g0) = .ok sorted ∧
      res = sorted.filter fun v => v ∈ required (graphFor eqs strip g0) vars recurse && hasEq eqs v := by
  simp only [getEquationsFor] at h
  split at h
  · simp at h
  · rename_i g0 hg0
    split at h
    · simp at h
    · rename_i hall
      split at h
      · simp at h
      · rename_i sorted hs
        simp only [Except.ok.injEq] at h
        refine ⟨g0, sorted, hg0, ?_, hs, h.symm⟩
        have hall' := Classical.not_not.mp hall
        simp only [List.all_eq_true, decide_eq_true_eq, graphFor_nodes] at hall'
        exact hall'

theorem eqsfor_hasEq {key : Node → String} {eqs : List Eqn} {vars : List Node} {recurse strip : Bool} {res : List Node}
    (h : getEquationsFor key eqs vars recurse strip = .ok res) : ∀ v ∈ res, hasEq eqs v = true := by
  obtain ⟨_, _, _, _, _, rfl⟩ := eqsfor_ok h
  intro v hv
  have := (List.mem_filter.mp hv).2
  rw [Bool.and_eq_true] at this
  exact this.2

theorem tc_edge_iff {eqs : List Eqn} {strip : Bool} {g : Graph} (hnd : (eqs.map (·.lhs)).Nodup)
    (hg : GraphSpec eqs g) (u v : Node) :
    TC (Edge' (graphFor eqs strip g)) u v ↔ TC (DepOn eqs strip) u v :=
  ⟨TC.mono fun a b h => (graphFor_edges hnd hg a b).mp h, TC.mono fun a b h => (graphFor_edges hnd hg a b).mpr h⟩

theorem mem_required {key : Node → String} {eqs : List Eqn} {g0 : Graph} {sorted : List Node} {strip : Bool}
    (hb : buildGraph key eqs = .ok g0) (hs : lexTopo key (graphFor eqs strip g0) = .ok sorted)
    (vars : List Node) (recurse : Bool) (v : Node) :
    v ∈ required (graphFor eqs strip g0) vars recurse ↔ Needed eqs vars recurse strip v := by
  obtain ⟨hvalid, hspec⟩ := buildGraph_valid hb
  have hwf : WF (graphFor eqs strip g0) := graphFor_wf hspec.wf
  simp only [required, List.mem_append, List.mem_flatMap, Needed]
  apply or_congr Iff.rfl
  apply exists_congr; intro r
  apply and_congr Iff.rfl
  cases recurse with
  | true =>
      simp only [if_true, Uses]
      rw [mem_ancestors hwf hs, tc_edge_iff hvalid.lhsNodup hspec]
  | false =>
      simp only [Bool.false_eq_true, if_false, Uses]
      rw [mem_preds, graphFor_edges hvalid.lhsNodup hspec]

/-- **when the call succeeds**: on a valid system whose dependencies can be ranked, for requests among its nodes -/
theorem eqsfor_ok_iff {key : Node → String} {eqs : List Eqn} {vars : List Node} {recurse strip : Bool} :
    (∃ res, getEquationsFor key eqs vars recurse strip = .ok res) ↔
      Valid key eqs ∧ (∀ v ∈ vars, hasEq eqs v = true ∨ isStateOrFree eqs v = true) ∧
        ∃ rank : Node → Nat, ∀ u v, DepOn eqs strip u v → rank u < rank v := by
  constructor
  · rintro ⟨res, h⟩
    obtain ⟨g0, sorted, hb, hvars, hs, _⟩ := eqsfor_ok h
    obtain ⟨hvalid, hspec⟩ := buildGraph_valid hb
    refine ⟨hvalid, fun v hv => (hspec.nodes v).mp (hvars v hv), fun v => sorted.idxOf v, fun u v huv => ?_⟩
    exact idxOf_lt_of_lexTopo (graphFor_wf hspec.wf) hs u v ((graphFor_edges hvalid.lhsNodup hspec u v).mpr huv)
  · rintro ⟨hvalid, hvars, rank, hrank⟩
    obtain ⟨g0, hb⟩ := buildGraph_ok hvalid
    obtain ⟨_, hspec⟩ := buildGraph_valid hb
    have hwf : WF (graphFor eqs strip g0) := graphFor_wf hspec.wf
    obtain ⟨sorted, hs⟩ := lexTopo_of_acyclic (key := key) hwf
      ⟨rank, fun u v huv => hrank u v ((graphFor_edges hvalid.lhsNodup hspec u v).mp huv)⟩
    have hall : (vars.all fun v => decide (v ∈ (graphFor eqs strip g0).nodes)) = true := by
      simp only [List.all_eq_true, decide_eq_true_eq, graphFor_nodes]
      exact fun v hv => (hspec.nodes v).mpr (hvars v hv)
    simp only [getEquationsFor, hb, hall, not_true_eq_false, if_false, hs]
    exact ⟨_, rfl⟩

/-- two equation lists describe the same system: same equations up to the order of the list and the order (and
    repetition) inside each reference set. The references after number substitution are compared as `numRefs`, not
    as `hasQ` and `refsNum`: two equations that differ there and leave the same references count as the same, since
    which edges the graph with numbers keeps is a matter of `numRefs` alone (`keep_iff_numRefs`, `DepOn`). -/
def SameSystem (eqs eqs' : List Eqn) : Prop :=
  (∀ e ∈ eqs, ∃ e' ∈ eqs', e'.lhs = e.lhs ∧ e'.ode = e.ode ∧ (∀ u, u ∈ e'.refs ↔ u ∈ e.refs) ∧
      (∀ u, u ∈ e'.numRefs ↔ u ∈ e.numRefs)) ∧
  (∀ e' ∈ eqs', ∃ e ∈ eqs, e'.lhs = e.lhs ∧ e'.ode = e.ode ∧ (∀ u, u ∈ e'.refs ↔ u ∈ e.refs) ∧
      (∀ u, u ∈ e'.numRefs ↔ u ∈ e.numRefs))

theorem sameSystem_hasEq {eqs eqs' : List Eqn} (h : SameSystem eqs eqs') (v : Node) :
    hasEq eqs' v = hasEq eqs v := by
  rw [Bool.eq_iff_iff, hasEq_iff, hasEq_iff]
  simp only [List.mem_map]
  constructor
  · rintro ⟨e', he', rfl⟩
    obtain ⟨e, he, hl, _⟩ := h.2 e' he'
    exact ⟨e, he, hl.symm⟩
  · rintro ⟨e, he, rfl⟩
    obtain ⟨e', he', hl, _⟩ := h.1 e he
    exact ⟨e', he', hl⟩

theorem sameSystem_sf {eqs eqs' : List Eqn} (h : SameSystem eqs eqs') (v : Node) :
    isStateOrFree eqs' v = isStateOrFree eqs v := by
  rw [Bool.eq_iff_iff, isStateOrFree_iff, isStateOrFree_iff]
  constructor
  · rintro ⟨e', he', s, f, ho, hv⟩
    obtain ⟨e, he, _, hode, _⟩ := h.2 e' he'
    exact ⟨e, he, s, f, hode ▸ ho, hv⟩
  · rintro ⟨e, he, s, f, ho, hv⟩
    obtain ⟨e', he', _, hode, _⟩ := h.1 e he
    exact ⟨e', he', s, f, hode ▸ ho, hv⟩

theorem sameSystem_dep {eqs eqs' : List Eqn} (h : SameSystem eqs eqs') (strip : Bool) (u v : Node) :
    DepOn eqs' strip u v ↔ DepOn eqs strip u v := by
  constructor
  · rintro ⟨e', he', hl, hr, hn⟩
    obtain ⟨e, he, hl', _, hrefs, hnum⟩ := h.2 e' he'
    exact ⟨e, he, hl' ▸ hl, (hrefs u).mp hr, fun hs => (hnum u).mp (hn hs)⟩
  · rintro ⟨e, he, hl, hr, hn⟩
    obtain ⟨e', he', hl', _, hrefs, hnum⟩ := h.1 e he
    exact ⟨e', he', hl'.trans hl, (hrefs u).mpr hr, fun hs => (hnum u).mpr (hn hs)⟩

end C09
