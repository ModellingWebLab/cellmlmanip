import Cellml.C15.Model
import Cellml.Model.Sort
import Cellml.Basic.ListLemmas

/-! # `sortBy` (Python's stable `list.sort(key=…)`) and the counter behind `order_added` -/

namespace C15

variable {α : Type}

/-- the sort of this model is the sort of the role queries (`Model.sortBy`); its lemmas are taken from there -/
theorem sortBy_eq (k : α → Nat) (l : List α) : sortBy k l = Model.sortBy k l := by
  induction l with
  | nil => rfl
  | cons x xs ih =>
      rw [sortBy, Model.sortBy, ih]
      induction Model.sortBy k xs with
      | nil => rfl
      | cons y ys ih' => rw [insertBy, Model.insertBy, ih']

theorem sortBy_perm (k : α → Nat) (l : List α) : (sortBy k l).Perm l :=
  sortBy_eq k l ▸ Model.sortBy_perm k l

theorem sortBy_sorted (k : α → Nat) (l : List α) : (sortBy k l).Pairwise (fun a b => k a ≤ k b) :=
  sortBy_eq k l ▸ Model.sortBy_sorted k l

theorem sortBy_eq_of_perm (k : α → Nat) {l₁ l₂ : List α} (hp : l₁.Perm l₂)
    (hinj : ∀ a ∈ l₁, ∀ b ∈ l₁, k a = k b → a = b) : sortBy k l₁ = sortBy k l₂ := by
  rw [sortBy_eq, sortBy_eq]
  exact Model.sortBy_perm_eq k hp hinj

theorem sortBy_of_sorted (k : α → Nat) : ∀ l : List α, l.Pairwise (fun a b => k a ≤ k b) → sortBy k l = l
  | [], _ => rfl
  | x :: xs, h => by
      have hx := List.pairwise_cons.mp h
      rw [sortBy, sortBy_of_sorted k xs hx.2]
      cases xs with
      | nil => rfl
      | cons y ys => simp [insertBy, hx.1 y List.mem_cons_self]

/-! ## `order_added`: `Model.add_variable` / `Model.remove_variable` (model.py, after the C08 fix d092113) -/

/-- the part of a `Model` that `order_added` depends on -/
structure VarsState where
  /-- `_name_to_variable`: name ↦ `order_added`, a dict (insertion order) -/
  live  : List (String × Nat)
  /-- `_variables_added`: number of variables ever added -/
  added : Nat
deriving Repr, DecidableEq

inductive VarOp where
  | add (name : String)
  | remove (name : String)
deriving Repr, DecidableEq

/-- `add_variable` (refused when the name exists) / `remove_variable` -/
def VarsState.step (s : VarsState) : VarOp → VarsState
  | .add n => if s.live.any (·.1 == n) then s else ⟨s.live ++ [(n, s.added)], s.added + 1⟩
  | .remove n => ⟨s.live.filter (·.1 != n), s.added⟩

def VarsState.run (ops : List VarOp) : VarsState := ops.foldl VarsState.step ⟨[], 0⟩

/-- BEFORE the C08 fix: `order_added=len(self._name_to_variable)` -/
def VarsState.stepOld (s : VarsState) : VarOp → VarsState
  | .add n => if s.live.any (·.1 == n) then s else ⟨s.live ++ [(n, s.live.length)], s.added + 1⟩
  | .remove n => ⟨s.live.filter (·.1 != n), s.added⟩

/-- invariant: `variables()` lists the variables in strictly increasing `order_added`, all below the counter -/
def VarsState.Good (s : VarsState) : Prop :=
  (s.live.map (·.2)).Pairwise (· < ·) ∧ ∀ p ∈ s.live, p.2 < s.added

theorem VarsState.good_step {s : VarsState} (h : s.Good) (op : VarOp) : (s.step op).Good := by
  cases op with
  | add n =>
      simp only [VarsState.step]
      split
      · exact h
      · refine ⟨?_, ?_⟩
        · simp only [List.map_append, List.map_cons, List.map_nil]
          rw [List.pairwise_append]
          refine ⟨h.1, List.pairwise_singleton _ _, ?_⟩
          intro a ha b hb
          simp only [List.mem_cons, List.not_mem_nil, or_false] at hb
          obtain ⟨p, hp, rfl⟩ := List.mem_map.mp ha
          rw [hb]; exact h.2 p hp
        · intro p hp
          rcases List.mem_append.mp hp with hp | hp
          · exact Nat.lt_succ_of_lt (h.2 p hp)
          · simp only [List.mem_cons, List.not_mem_nil, or_false] at hp
            rw [hp]; exact Nat.lt_succ_self _
  | remove n =>
      simp only [VarsState.step]
      refine ⟨?_, fun p hp => h.2 p (List.mem_filter.mp hp).1⟩
      exact List.Pairwise.sublist (List.Sublist.map _ List.filter_sublist) h.1

theorem VarsState.good_run (ops : List VarOp) : (VarsState.run ops).Good :=
  List.foldl_inv _ VarsState.Good _ _ ⟨List.Pairwise.nil, fun p hp => by cases hp⟩ fun _ op _ h => VarsState.good_step h op

end C15
