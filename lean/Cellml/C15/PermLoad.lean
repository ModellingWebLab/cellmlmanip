import Cellml.C15.Convs
import Cellml.C15.Perm

/-! # A document that loads also loads with its `<connection>` / `<map_variables>` elements in any other order

    `directAll` is a `mapM`, the work list accepts a permuted deque (`connect_of_perm`) and ends with the same roots
    and the same conversion equations as a set (`connect_perm_convs`); the checks of `_add_maths` and
    `transform_constants` see the state of the work list only through `rootOf` and the SET of variables defined so far. -/

namespace C15
open Load

theorem directAll_perm {comps : List String} {par : ParentMap} {vt : VarTable} {ks ks' : List Conn}
    {dl : List (VRef × VRef)} (h : directAll comps par vt ks = .ok dl) (hp : ks'.Perm ks) :
    ∃ dl', directAll comps par vt ks' = .ok dl' ∧ dl'.Perm dl := by
  obtain ⟨hm, hcomp⟩ := directAll_ok h
  have hall : ∀ k ∈ ks, ∃ d, direction par vt k = .ok d := fun k hk =>
    let ⟨d, _, e⟩ := (directAll_spec h).1 k hk
    ⟨d, e⟩
  -- where every direction is found, the directions are the `filterMap` of the successes
  have hdl : ∀ l : List Conn, (∀ k ∈ l, ∃ d, direction par vt k = .ok d) →
      l.map (direction par vt) = (l.filterMap fun k => (direction par vt k).toOption).map Except.ok := by
    intro l
    induction l with
    | nil => intro _; rfl
    | cons k l ih =>
        intro hk
        obtain ⟨d, hd⟩ := hk k List.mem_cons_self
        rw [List.map_cons, List.filterMap_cons, hd, ih fun k' hk' => hk k' (List.mem_cons_of_mem _ hk')]
        rfl
  have hdl' : dl = ks.filterMap fun k => (direction par vt k).toOption :=
    (List.map_inj_right fun _ _ e => Except.ok.inj e).mp (hm.symm.trans (hdl ks hall))
  exact ⟨_, directAll_of_map (fun k hk => hcomp k (hp.mem_iff.mp hk)) (hdl ks' fun k hk => hall k (hp.mem_iff.mp hk)),
    hdl' ▸ hp.filterMap _⟩

theorem checkEqs_congr {ust : Units.Store} {vt : VarTable} {st st' : CState} (hr : ∀ v, rootOf st v = rootOf st' v)
    (cname : String) : ∀ (es : List (Eqn String String)) {d d' r : List VRef}, (∀ v, v ∈ d ↔ v ∈ d') →
      checkEqs ust vt st cname es d = .ok r →
      ∃ r', checkEqs ust vt st' cname es d' = .ok r' ∧ ∀ v, v ∈ r ↔ v ∈ r'
  | [], d, d', r, hd, h => by
      simp only [checkEqs, Except.ok.injEq] at h
      exact ⟨d', rfl, h ▸ hd⟩
  | e :: es, d, d', r, hd, h => by
      unfold checkEqs at h ⊢
      rw [← transcribe_congr ust hr]
      cases hl : checkLhs vt cname e.lhs with
      | error x => rw [hl] at h; cases h
      | ok _ =>
        cases hx : checkExpr ust vt cname e.rhs with
        | error x => rw [hl, hx] at h; cases h
        | ok _ =>
          rw [hl, hx] at h
          simp only [← contains_congr hd] at h ⊢
          split at h
          · cases h
          · rename_i hn
            rw [if_neg hn]
            exact checkEqs_congr hr cname es (fun v => by simp only [List.mem_cons, hd]) h

theorem checkMaths_congr {ust : Units.Store} {vt : VarTable} {st st' : CState} (hr : ∀ v, rootOf st v = rootOf st' v) :
    ∀ (cs : List Comp) {d d' r : List VRef}, (∀ v, v ∈ d ↔ v ∈ d') → checkMaths ust vt st cs d = .ok r →
      ∃ r', checkMaths ust vt st' cs d' = .ok r' ∧ ∀ v, v ∈ r ↔ v ∈ r'
  | [], d, d', r, hd, h => by
      simp only [checkMaths, Except.ok.injEq] at h
      exact ⟨d', rfl, h ▸ hd⟩
  | c :: cs, d, d', r, hd, h => by
      unfold checkMaths at h ⊢
      split at h
      · cases h
      · rename_i d1 h1
        obtain ⟨d1', h1', hd1⟩ := checkEqs_congr hr c.name c.eqs hd h1
        rw [h1']
        exact checkMaths_congr hr cs hd1 h

theorem checkConstants_congr (states : List VRef) {d d' : List VRef} (hd : ∀ v, v ∈ d ↔ v ∈ d') :
    ∀ vt : VarTable, checkConstants states d vt = checkConstants states d' vt
  | [] => rfl
  | (v, i) :: vt => by
      unfold checkConstants
      rw [contains_congr hd, checkConstants_congr states hd vt]

/-- **Permuting the `<connection>` / `<map_variables>` elements of a document that loads gives a document that
    loads** (what the two models then have in common: `Props.C15.element_perm_connections`). -/
theorem load_perm_conns {doc : Doc} {F : Flat} (h : Load.load doc = .ok F) {ks' : List Conn} (hp : ks'.Perm doc.conns) :
    ∃ F', Load.load { doc with conns := ks' } = .ok F' := by
  obtain ⟨L, defined, hL, hdef, hcon, -⟩ := load_parts h
  obtain ⟨hu, ⟨chk, hchk⟩, hvt, hpar, hd, hc⟩ := prepare_parts hL
  obtain ⟨dl', hd', hpd⟩ := directAll_perm hd hp
  obtain ⟨st', hc', hroot⟩ := connect_of_perm hpd.symm hc
  obtain ⟨-, hconvs⟩ := connect_perm_convs (fun c => hpd.symm.mem_iff) hc hc'
  have hL' : prepare { doc with conns := ks' } = .ok ⟨L.reg, L.ust, varTable L.ust doc.comps, L.par, dl', st'⟩ :=
    prepare_of_parts (doc := { doc with conns := ks' }) hu hchk hpar (hvt ▸ hd') (hvt ▸ hc')
  have htg : ∀ v, v ∈ L.st.convs.map (·.target) ↔ v ∈ st'.convs.map (·.target) := fun v => by
    simp only [List.mem_map, hconvs]
  obtain ⟨defined', hdef', hdd⟩ := checkMaths_congr hroot doc.comps htg hdef
  refine ⟨_, load_of_parts (defined := defined') hL' (hvt ▸ hdef') ?_⟩
  have hs : Loaded.states ⟨L.reg, L.ust, varTable L.ust doc.comps, L.par, dl', st'⟩ { doc with conns := ks' } =
      L.states doc := by
    simp only [Loaded.states, Loaded.maths]
    rw [← mathsOf_congr L.ust hroot]
  rw [hs, ← checkConstants_congr _ hdd, ← hvt]
  exact hcon

end C15
