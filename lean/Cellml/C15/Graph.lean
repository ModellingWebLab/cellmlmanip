import Cellml.C15.Sort
import Cellml.C09.Eqsfor

/-! # The graph and `get_equations_for` do not depend on the adversary (as sets); sorted queries not at all -/

namespace C15
open Load

variable {cx : Ctx} {π π' : Adv} {obs : FlatEq → List (Lhs VRef)} {F : Flat}

/-- the left-hand sides of the system are those of the flat equations: no adversary touches them -/
theorem system_lhs_eq (cx : Ctx) (π : Adv) (obs : FlatEq → List (Lhs VRef)) (F : Flat) :
    (system cx π obs F).map (·.lhs) = F.eqs.map (fun e => cx.num e.lhs) := by
  simp only [system, List.map_map]
  rfl

theorem system_lhs (cx : Ctx) (π π' : Adv) (obs : FlatEq → List (Lhs VRef)) (F : Flat) :
    (system cx π' obs F).map (·.lhs) = (system cx π obs F).map (·.lhs) := by
  rw [system_lhs_eq, system_lhs_eq]

theorem system_same (cx : Ctx) (obs : FlatEq → List (Lhs VRef)) (F : Flat) (hπ : π.Fair) (hπ' : π'.Fair) :
    C09.SameSystem (system cx π obs F) (system cx π' obs F) := by
  -- the partner of `toEqn … fe` is `toEqn … fe` under the other adversary: two fair rearrangements of one reference list
  constructor <;> intro e he <;> obtain ⟨fe, hfe, rfl⟩ := List.mem_map.mp he
  · refine ⟨toEqn cx π' obs fe, List.mem_map.mpr ⟨fe, hfe, rfl⟩, rfl, rfl, ?_, ?_⟩ <;>
      exact fun u => ((hπ'.refs _ _).mem_iff).trans ((hπ.refs _ _).mem_iff).symm
  · refine ⟨toEqn cx π obs fe, List.mem_map.mpr ⟨fe, hfe, rfl⟩, rfl, rfl, ?_, ?_⟩ <;>
      exact fun u => ((hπ'.refs _ _).mem_iff).trans ((hπ.refs _ _).mem_iff).symm

theorem valid_of_same {key : Node → String} {eqs eqs' : List C09.Eqn} (hl : eqs'.map (·.lhs) = eqs.map (·.lhs))
    (hs : C09.SameSystem eqs eqs') (hv : C09.Valid key eqs) : C09.Valid key eqs' where
  lhsNodup := hl ▸ hv.lhsNodup
  keyNodup := hl ▸ hv.keyNodup
  refsOk := by
    intro e' he' r hr
    obtain ⟨e, he, _, _, hrefs, _⟩ := hs.2 e' he'
    have := hv.refsOk e he r ((hrefs r).mp hr)
    rw [C09.sameSystem_hasEq hs, C09.sameSystem_sf hs]
    exact this

/-- If `Model.graph` can be built under one iteration order it can be built under every other, with the same node
    SET and the same edge SET — no hypothesis on the keys. (With distinct `str` keys it is the same graph, lists and
    all: `graph_order_independent` below.) -/
theorem graph_indep (hπ : π.Fair) (hπ' : π'.Fair) {g : C09.Graph} (h : graph cx π obs F = .ok g) :
    ∃ g', graph cx π' obs F = .ok g' ∧ g'.nodes.Perm g.nodes ∧ ∀ e, e ∈ g'.edges ↔ e ∈ g.edges := by
  unfold graph at h ⊢
  obtain ⟨hvalid, hspec⟩ := C09.buildGraph_valid h
  have hs := system_same cx obs F hπ hπ'
  have hvalid' := valid_of_same (system_lhs cx π π' obs F) hs hvalid
  obtain ⟨g', hg'⟩ := C09.buildGraph_ok hvalid'
  obtain ⟨_, hspec'⟩ := C09.buildGraph_valid hg'
  refine ⟨g', hg', ?_, ?_⟩
  · rw [List.perm_ext_iff_of_nodup hspec'.wf.nodup hspec.wf.nodup]
    intro a
    rw [hspec'.nodes, hspec.nodes, C09.sameSystem_hasEq hs, C09.sameSystem_sf hs]
  · rintro ⟨u, v⟩
    exact ((C09.graphFor_edges (strip := false) hvalid'.lhsNodup hspec' u v).trans (C09.sameSystem_dep hs false u v)).trans
      (C09.graphFor_edges (strip := false) hvalid.lhsNodup hspec u v).symm

theorem graph_error_indep (hπ : π.Fair) (hπ' : π'.Fair) {x : C09.Err} (h : graph cx π obs F = .error x) :
    ∃ y, graph cx π' obs F = .error y := by
  cases h' : graph cx π' obs F with
  | error y => exact ⟨y, rfl⟩
  | ok g' =>
      obtain ⟨g, hg, _⟩ := graph_indep hπ' hπ h'
      rw [h] at hg; cases hg

/-! ## The node LIST (after the fix: references are sorted by `str` before they are walked) -/

/-- `str` keys tell the references of any one equation apart (variable names are unique in a model; a derivative
    prints as `Derivative(_x, _t)`) -/
def RefKeys (cx : Ctx) (F : Flat) : Prop :=
  ∀ e ∈ F.eqs, ∀ a ∈ e.rhs.leaves.map cx.num, ∀ b ∈ e.rhs.leaves.map cx.num, cx.key a = cx.key b → a = b

theorem toEqn_sameSorted (hπ : π.Fair) (hπ' : π'.Fair) (hk : RefKeys cx F) :
    ∀ e ∈ F.eqs, C09.SameSorted cx.key (toEqn cx π obs e) (toEqn cx π' obs e) := by
  intro e he
  refine ⟨rfl, rfl, ?_⟩
  simp only [toEqn]
  apply C09.sortStr_eq_of_perm cx.key ((hπ'.refs _ _).trans (hπ.refs _ _).symm)
  intro a ha b hb
  exact hk e he a ((hπ'.refs _ _).mem_iff.mp ha) b ((hπ'.refs _ _).mem_iff.mp hb)

theorem graph_order_independent (hπ : π.Fair) (hπ' : π'.Fair) (hk : RefKeys cx F) :
    graph cx π' obs F = graph cx π obs F := by
  unfold graph system
  exact C09.buildGraph_congr cx.key _ _ F.eqs (toEqn_sameSorted hπ hπ' hk)

/-- `str` keys are pairwise distinct on the graph NODES (variables with an equation, states, the free variable): the
    hypothesis of the query theorems of `Props/C15.lean`, which spell it out. `π` occurs in it but is idle: `hasEq` and
    `isStateOrFree` read only `lhs` and `ode` (`system_lhs`). -/
def NodeKeys (cx : Ctx) (π : Adv) (obs : FlatEq → List (Lhs VRef)) (F : Flat) : Prop :=
  ∀ a b, (C09.hasEq (system cx π obs F) a = true ∨ C09.isStateOrFree (system cx π obs F) a = true) →
    (C09.hasEq (system cx π obs F) b = true ∨ C09.isStateOrFree (system cx π obs F) b = true) →
    cx.key a = cx.key b → a = b

/-- `RefKeys` follows from `NodeKeys` once the graph builds: every reference is then a node -/
theorem refKeys_of_graph {g : C09.Graph} (hπ : π.Fair) (h : graph cx π obs F = .ok g)
    (hkey : NodeKeys cx π obs F) : RefKeys cx F := by
  obtain ⟨hvalid, _⟩ := C09.buildGraph_valid h
  intro e he a ha b hb
  have hmem : toEqn cx π obs e ∈ system cx π obs F := List.mem_map.mpr ⟨e, he, rfl⟩
  exact hkey a b (hvalid.refsOk _ hmem a ((hπ.refs _ _).mem_iff.mpr ha))
    (hvalid.refsOk _ hmem b ((hπ.refs _ _).mem_iff.mpr hb))

/-- **Whatever is computed from `Model.graph` does not depend on the iteration order of the sets** (or is refused
    alike), when `str` keys of graph nodes are pairwise distinct: the graph is then the same graph. The sorted role
    queries and `list(Model.graph.nodes)` are instances. -/
theorem graph_fn_indep {α : Type} (hπ : π.Fair) (hπ' : π'.Fair)
    (hkey : NodeKeys cx π obs F) (f : C09.Graph → α) :
    (match graph cx π obs F with | .error x => (.error x : Except C09.Err α) | .ok g => .ok (f g)).toOption =
    (match graph cx π' obs F with | .error x => (.error x : Except C09.Err α) | .ok g => .ok (f g)).toOption := by
  cases h : graph cx π obs F with
  | error x =>
      obtain ⟨y, hy⟩ := graph_error_indep hπ hπ' h
      rw [hy]; rfl
  | ok g => rw [graph_order_independent hπ hπ' (refKeys_of_graph hπ h hkey), h]

theorem mem_required (hπ : π.Fair) (g : C09.Graph) (vars : List Node) (recurse : Bool) (v : Node) :
    v ∈ required π g vars recurse ↔ v ∈ C09.required g vars recurse := by
  simp only [required, C09.required, List.mem_append, List.mem_flatMap]
  apply or_congr Iff.rfl
  apply exists_congr; intro r
  apply and_congr Iff.rfl
  exact (hπ.anc _).mem_iff

theorem getEquationsFor_eq (hπ : π.Fair) (vars : List Node) (recurse strip : Bool) :
    getEquationsFor cx π obs F vars recurse strip =
      C09.getEquationsFor cx.key (system cx π obs F) vars recurse strip := by
  simp only [getEquationsFor, C09.getEquationsFor, mem_required hπ]
  cases C09.buildGraph cx.key (system cx π obs F) with
  | error x => rfl
  | ok g0 =>
      simp only []
      split
      · rfl
      · cases C09.lexTopo cx.key (C09.graphFor (system cx π obs F) strip g0) <;> rfl

theorem eqsfor_ok_transfer {key : Node → String} {eqs eqs' : List C09.Eqn} {vars : List Node} {recurse strip : Bool}
    {res : List Node} (hl : eqs'.map (·.lhs) = eqs.map (·.lhs)) (hs : C09.SameSystem eqs eqs')
    (h : C09.getEquationsFor key eqs vars recurse strip = .ok res) :
    ∃ res', C09.getEquationsFor key eqs' vars recurse strip = .ok res' := by
  obtain ⟨hvalid, hvars, rank, hrank⟩ := C09.eqsfor_ok_iff.mp ⟨res, h⟩
  refine C09.eqsfor_ok_iff.mpr ⟨valid_of_same hl hs hvalid, fun v hv => ?_,
    rank, fun u v huv => hrank u v ((C09.sameSystem_dep hs strip u v).mp huv)⟩
  rw [C09.sameSystem_hasEq hs, C09.sameSystem_sf hs]
  exact hvars v hv

end C15
