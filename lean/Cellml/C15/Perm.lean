import Cellml.C15.Model

/-! # Element permutations: what `Load.prepare` / `Load.load` keep when order-insensitive elements are permuted;
    the three adversaries of the examples are fair (`fair_ident`, `fair_rev`, `fair_rot`) -/

namespace C15
open Load

theorem fair_ident : Adv.ident.Fair := ⟨fun _ => List.Perm.refl _, fun _ _ => List.Perm.refl _, fun _ => List.Perm.refl _⟩

theorem fair_rev : Adv.rev.Fair := ⟨fun _ => List.reverse_perm _, fun _ _ => List.reverse_perm _, fun _ => List.reverse_perm _⟩

theorem rotateLeft_perm {α : Type} (l : List α) (k : Nat) : (l.rotateLeft k).Perm l := by
  unfold List.rotateLeft
  simp only []
  split
  · exact List.Perm.refl _
  · exact List.perm_append_comm.trans (by rw [List.take_append_drop])

theorem fair_rot (k : Nat) : (Adv.rot k).Fair :=
  ⟨fun _ => rotateLeft_perm _ _, fun _ _ => rotateLeft_perm _ _, fun _ => rotateLeft_perm _ _⟩

theorem transcribe_congr (ust : Units.Store) {st st' : CState} (h : ∀ v, rootOf st v = rootOf st' v) (cname : String)
    (e : Eqn String String) : transcribe ust st cname e = transcribe ust st' cname e := by
  unfold transcribe
  congr 1
  funext x
  exact h _

theorem mathsOf_congr (ust : Units.Store) {st st' : CState} (h : ∀ v, rootOf st v = rootOf st' v) (comps : List Comp) :
    mathsOf ust st comps = mathsOf ust st' comps := by
  unfold mathsOf
  congr 1
  funext c
  congr 1
  funext e
  exact transcribe_congr ust h c.name e

/-- `flatVars` up to the cmeta id (which `transfer_cmeta_id` may have moved): name, units, initial value -/
def plainVars (F : Flat) : List (VRef × Container × Option Rat) := F.vars.map (fun v => (v.ref, v.units, v.init))

/-! ## Re-spelling the maths of the components (equations inside `<math>`, `<math>` elements inside a component) -/

/-- the same components with the equation list of each replaced by `σ c` -/
def respell (σ : Comp → List (Eqn String String)) (comps : List Comp) : List Comp :=
  comps.map (fun c => { c with eqs := σ c })

theorem respell_names (σ : Comp → List (Eqn String String)) (comps : List Comp) :
    (respell σ comps).map (·.name) = comps.map (·.name) := by
  simp only [respell, List.map_map]
  rfl

theorem respell_varTable (σ : Comp → List (Eqn String String)) (ust : Units.Store) (comps : List Comp) :
    varTable ust (respell σ comps) = varTable ust comps := by
  unfold varTable respell
  induction comps with
  | nil => rfl
  | cons c cs ih => simp only [List.map_cons, List.flatMap_cons, ih]

theorem respell_checkComps (σ : Comp → List (Eqn String String)) (ust : Units.Store) :
    ∀ (comps : List Comp) (seen : List String) (acc : List VRef × List String),
      checkComps ust (respell σ comps) seen acc = checkComps ust comps seen acc
  | [], _, _ => rfl
  | c :: cs, seen, acc => by
      simp only [respell, List.map_cons]
      unfold checkComps
      simp only
      split
      · rfl
      · cases checkVars ust c.name c.vars acc with
        | error e => rfl
        | ok acc' => exact respell_checkComps σ ust cs (c.name :: seen) acc'

/-- `prepare` never looks at the equations -/
theorem respell_prepare (σ : Comp → List (Eqn String String)) (doc : Doc) :
    prepare { doc with comps := respell σ doc.comps } = prepare doc := by
  unfold prepare
  simp only [respell_checkComps, respell_varTable, respell_names]

theorem respell_maths_perm (σ : Comp → List (Eqn String String)) (hσ : ∀ c, (σ c).Perm c.eqs) (ust : Units.Store)
    (st : CState) (comps : List Comp) : (mathsOf ust st (respell σ comps)).Perm (mathsOf ust st comps) := by
  unfold mathsOf respell
  induction comps with
  | nil => exact List.Perm.refl _
  | cons c cs ih =>
      simp only [List.map_cons, List.flatMap_cons]
      exact List.Perm.append ((hσ c).map _) ih

theorem statesOf_perm {eqs eqs' : List FlatEq} (h : eqs'.Perm eqs) : (statesOf eqs').Perm (statesOf eqs) := by
  unfold statesOf
  exact (h.filter _).map _

theorem contains_congr {d d' : List VRef} (h : ∀ v, v ∈ d ↔ v ∈ d') (v : VRef) : d.contains v = d'.contains v := by
  rw [Bool.eq_iff_iff, List.contains_iff_mem, List.contains_iff_mem]; exact h v

theorem constsOf_congr {s s' : List VRef} (h : ∀ v, v ∈ s' ↔ v ∈ s) (vt : VarTable) : constsOf s' vt = constsOf s vt := by
  unfold constsOf
  congr 1
  funext ⟨v, i⟩
  simp only [contains_congr h v]

theorem flatVars_congr {s s' : List VRef} (h : ∀ v, v ∈ s' ↔ v ∈ s) (st : CState) (vt : VarTable) :
    flatVars s' st vt = flatVars s st vt := by
  unfold flatVars
  congr 1
  funext ⟨v, i⟩
  simp only [contains_congr h v]

end C15
