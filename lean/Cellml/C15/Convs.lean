import Cellml.Load.PermOutcome

/-! # The conversion equations do not depend on the order of the connections (as a set)

    When the work list has finished, `assigned_to` of a variable is its `Anchor` and the conversion equations are those
    of the connections whose factor is not one (`J.asg_iff_anchor`, `J.mem_convs_iff`): both are stated without
    reference to any order, so two resolutions of the same connections agree; and with `assigned_to` the cmeta ids
    (`J.cm`). -/

namespace C15
open Load

theorem connect_perm_convs {reg : Registry} {vt : VarTable} {l l' : List (VRef × VRef)} {st st' : CState}
    (hl : ∀ c, c ∈ l ↔ c ∈ l') (h : connect reg vt l = .ok st) (h' : connect reg vt l' = .ok st') :
    (∀ v, st.asg v = st'.asg v) ∧ ∀ e, e ∈ st.convs ↔ e ∈ st'.convs := by
  have j := connect_J h
  have j' := connect_J h'
  have ha : ∀ v a, Anchor reg vt l v a ↔ Anchor reg vt l' v a := fun v a =>
    ⟨Anchor.congr fun c => (hl c).mp, Anchor.congr fun c => (hl c).mpr⟩
  constructor
  · intro v
    apply Option.ext
    intro a
    rw [j.asg_iff_anchor, j'.asg_iff_anchor, ha]
  · intro e
    simp only [j.mem_convs_iff, j'.mem_convs_iff, hl, ha]

/-- … and so is the place of every cmeta id: `CmInv.ids` finds the holder of an id through `assigned_to` alone -/
theorem connect_perm_cmeta {reg : Registry} {vt : VarTable} {l l' : List (VRef × VRef)} {st st' : CState}
    (hl : ∀ c, c ∈ l ↔ c ∈ l') (h : connect reg vt l = .ok st) (h' : connect reg vt l' = .ok st') :
    ∀ w, cmetaOf st w = cmetaOf st' w := by
  intro w
  apply Option.ext
  intro c
  simp only [(connect_J h).cm.ids, (connect_J h').cm.ids, home, (connect_perm_convs hl h h').1]

end C15
