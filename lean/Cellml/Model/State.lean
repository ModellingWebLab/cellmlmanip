import Cellml.Model.Graph

/-! # The state of a `cellmlmanip.model.Model` object and its editing operations (model.py: `Model.__init__`,
      `variables`, `get_free_variable`, `get_state_variables`, `get_variable_by_cmeta_id`, `has_cmeta_id`,
      `get_definition`, `graph`, `graph_with_sympy_numbers`, `add_variable`, `remove_variable`, `add_equation`,
      `remove_equation`, `create_quantity`, `add_cmeta_id`, `transfer_cmeta_id`, `_invalidate_cache`,
      `_check_duplicate_definitions`; class Variable)

    Core Lean only; shared by C08 (coherence / atomicity), C10 (roles), C13 (annotations), C06 (convert_variable).

    * `heap`: every `Variable` object the model ever created, by identity number (position). Python keeps such objects
      alive while an equation mentions them, also after `remove_variable`; their fields (`name`, `order_added`,
      `cmeta_id`, `initial_value`, and the `type` field written by `graph`) live on the object, not in the model.
    * `live`: `_name_to_variable` (a dict: insertion order), `cmetaMap`: `_cmeta_id_to_variable`,
      `equations`, `varDef` / `odeDef`: `_var_definition_map` / `_ode_definition_map` (dicts: insertion order),
      `graph` / `graphNum`: the two cached graphs, `nextOrder`: `_variables_added`.
    * `step` performs one API call and says whether it returned or raised. The code is modelled as it stands after
      the three `fix:` commits of C08; `addEquationToday` / `addVariableToday` keep the former behaviour for the
      proved counterexamples in `Props/C08.lean`.

    Convention: the calls that take a variable of the model (`remove_variable`, `add_cmeta_id`, `transfer_cmeta_id`,
    `get_definition`) answer `raised notInModel` without touching anything when given an identity number that is not
    in `live` — the Python code has no such check and its behaviour on foreign objects is not modelled. -/

namespace Model

structure Var where
  name : String
  order : Nat                 -- order_added
  cmeta : Option String
  init : Option Rat           -- initial_value
  type : Option VType := none -- the persistent `type` attribute
deriving DecidableEq, Repr, Inhabited

structure MState where
  modelCmeta : Option String := none
  heap : List Var := []
  live : List Nat := []
  cmetaMap : List (String × Nat) := []
  equations : List Eqn := []
  varDef : List (Nat × Eqn) := []
  odeDef : List (Nat × Eqn) := []
  graph : Option Graph := none
  graphNum : Option Graph := none
  nextOrder : Nat := 0
deriving DecidableEq, Repr, Inhabited

inductive Err
  | valueError | keyError | graphError (e : GErr) | notInModel | cmetaFuel
deriving DecidableEq, Repr, Inhabited

inductive Outcome | ok | raised (e : Err)
deriving DecidableEq, Repr, Inhabited

inductive Op
  | addVariable (name : String) (cmeta : Option String) (init : Option Rat)
  | removeVariable (v : Nat)
  | addEquation (e : Eqn)
  | removeEquation (e : Eqn)
  | createQuantity
  | addCmetaId (v : Nat)
  | transferCmetaId (src dst : Nat)
  | qGraph | qGraphNum | qStates | qFree | qDefinition (v : Nat)
deriving DecidableEq, Repr, Inhabited

/-- `Model(name, cmeta_id)` -/
def init (modelCmeta : Option String) : MState := { modelCmeta := modelCmeta }

-- ------------------------------------------------------------------------------------------------ small helpers
def names (s : MState) : List String := s.heap.map (·.name)

def nameOfVar (s : MState) (i : Nat) : String := nameOf (names s) i
def cmetaOf (s : MState) (i : Nat) : Option String := (s.heap[i]?).bind (·.cmeta)
def orderOf (s : MState) (i : Nat) : Nat := ((s.heap[i]?).map (·.order)).getD 0
def typeOf (s : MState) (i : Nat) : Option VType := (s.heap[i]?).bind (·.type)

def isLive (s : MState) (i : Nat) : Bool := s.live.contains i

/-- `del d[k]` on an insertion-ordered dict kept as an association list -/
def eraseKey {α β} [DecidableEq α] (k : α) (l : List (α × β)) : List (α × β) := l.filter (fun p => p.1 ≠ k)

def hasKey {α β} [DecidableEq α] (k : α) (l : List (α × β)) : Bool := l.any (fun p => p.1 = k)

/-- `d[k] = v`: in place when the key exists, at the end otherwise -/
def insertKey {α β} [DecidableEq α] (k : α) (v : β) : List (α × β) → List (α × β)
  | [] => [(k, v)]
  | (k', v') :: rest => if k' = k then (k, v) :: rest else (k', v') :: insertKey k v rest

def setVar (h : List Var) (i : Nat) (f : Var → Var) : List Var :=
  match h[i]? with
  | some v => h.set i (f v)
  | none => h

/-- `_invalidate_cache` -/
def invalidate (s : MState) : MState := { s with graph := none, graphNum := none }

-- ------------------------------------------------------------------------------------------------ queries
/-- `get_definition` -/
def getDefinition (s : MState) (v : Nat) : Option Eqn :=
  match s.odeDef.lookup v with
  | some e => some e
  | none => s.varDef.lookup v

/-- `_ode_definition_map.keys()` -/
def stateKeys (s : MState) : List Nat := s.odeDef.map (·.1)

/-- insert `x` before the first element whose key is greater or equal: `x` came earlier, so on a tie it stays first -/
def insertSorted (key : Nat → Nat) (x : Nat) : List Nat → List Nat
  | [] => [x]
  | y :: ys => if key x ≤ key y then x :: y :: ys else y :: insertSorted key x ys

/-- a stable sort (what `list.sort(key=…)` is), by insertion from the right -/
def sortByKey (key : Nat → Nat) : List Nat → List Nat
  | [] => []
  | x :: xs => insertSorted key x (sortByKey key xs)

/-- `get_state_variables(sort=True)` -/
def getStateVariables (s : MState) : List Nat := sortByKey (orderOf s) (stateKeys s)

/-- `get_free_variable`: the bound variable of the first ODE in dict order -/
def getFreeVariable (s : MState) : Option Nat :=
  match s.odeDef with
  | (_, e) :: _ => (match e.lhs with | .deriv _ t _ => some t | _ => none)
  | [] => none

/-- `has_cmeta_id` -/
def hasCmetaId (s : MState) (c : String) : Bool := s.modelCmeta == some c || hasKey c s.cmetaMap

/-- `get_variable_by_cmeta_id` (`none`: KeyError) -/
def getVariableByCmetaId (s : MState) (c : String) : Option Nat := s.cmetaMap.lookup c

-- ------------------------------------------------------------------------------------------------ graph queries
/-- the variables whose `type` the (repaired) builder resets before it starts -/
def relevant (live : List Nat) (eqs : List Eqn) : List Nat := live ++ eqs.flatMap Eqn.atoms

/-- reset + first loop of `graph`, seen from the objects: every relevant variable ends with the role the equations
    give it (or none) -/
def applyTypes (h : List Var) (rel : List Nat) (tm : List (Nat × VType)) : List Var :=
  h.mapIdx (fun i v => if rel.contains i then { v with type := tyOf tm i } else v)

/-- the `graph` property: `(state afterwards, graph or the error raised)` -/
def queryGraph (s : MState) : MState × Except GErr Graph :=
  match s.graph with
  | some g => (s, .ok g)
  | none =>
    let h := applyTypes s.heap (relevant s.live s.equations) (typeMap s.equations)
    match buildGraph (names s) s.equations with
    | .ok g => ({ s with heap := h, graph := some g }, .ok g)
    | .error e => ({ s with heap := h }, .error e)

/-- the `graph_with_sympy_numbers` property -/
def queryGraphNum (s : MState) : MState × Except GErr Graph :=
  match s.graphNum with
  | some g => (s, .ok g)
  | none =>
    match queryGraph s with
    | (s', .ok g) => ({ s' with graphNum := some (numGraph g) }, .ok (numGraph g))
    | (s', .error e) => (s', .error e)

-- ------------------------------------------------------------------------------------------------ edits
/-- the cmeta id asked for is in use (`cmeta_id is not None and self.has_cmeta_id(cmeta_id)`) -/
def cmetaTaken (s : MState) : Option String → Bool
  | some c => hasCmetaId s c
  | none => false

/-- `if cmeta_id is not None: self._cmeta_id_to_variable[cmeta_id] = var` -/
def registerCmeta (c : Option String) (id : Nat) (cm : List (String × Nat)) : List (String × Nat) :=
  match c with
  | some c => insertKey c id cm
  | none => cm

/-- `add_variable` (units are not modelled here) -/
def addVariable (s : MState) (name : String) (cmeta : Option String) (init : Option Rat) : MState × Outcome :=
  if s.live.any (fun i => nameOfVar s i == name) then (s, .raised .valueError)
  else if cmetaTaken s cmeta then (s, .raised .valueError)
  else
    let id := s.heap.length
    let s1 := { s with heap := s.heap ++ [⟨name, s.nextOrder, cmeta, init, none⟩], live := s.live ++ [id],
                       nextOrder := s.nextOrder + 1,
                       cmetaMap := registerCmeta cmeta id s.cmetaMap }
    (invalidate s1, .ok)

/-- `add_variable` before the fix: `order_added = len(_name_to_variable)` -/
def addVariableToday (s : MState) (name : String) (cmeta : Option String) (init : Option Rat) : MState × Outcome :=
  if s.live.any (fun i => nameOfVar s i == name) then (s, .raised .valueError)
  else if cmetaTaken s cmeta then (s, .raised .valueError)
  else
    let id := s.heap.length
    let s1 := { s with heap := s.heap ++ [⟨name, s.live.length, cmeta, init, none⟩], live := s.live ++ [id],
                       cmetaMap := registerCmeta cmeta id s.cmetaMap }
    (invalidate s1, .ok)

/-- `_check_duplicate_definitions` -/
def isDefined (s : MState) (v : Nat) : Bool := hasKey v s.odeDef || hasKey v s.varDef

/-- `add_equation` (repaired: validate, then append). `check` is the `check_duplicates` argument. -/
def addEquationCore (s : MState) (e : Eqn) (check : Bool) : MState × Outcome :=
  match e.lhs with
  | .deriv st _ order =>
      if order > 1 then (s, .raised .valueError)
      else if check && isDefined s st then (s, .raised .valueError)
      else (invalidate { s with odeDef := insertKey st e s.odeDef, equations := s.equations ++ [e] }, .ok)
  | .var v =>
      if check && isDefined s v then (s, .raised .valueError)
      else (invalidate { s with varDef := insertKey v e s.varDef, equations := s.equations ++ [e] }, .ok)
  | .other => (s, .raised .valueError)

/-- `add_equation` as it was before the fix: the equation is appended before the checks that may raise -/
def addEquationToday (s : MState) (e : Eqn) (check : Bool) : MState × Outcome :=
  match e.lhs with
  | .deriv st _ order =>
      if order > 1 then (s, .raised .valueError)
      else
        let s1 := { s with equations := s.equations ++ [e] }
        if check && isDefined s st then (s1, .raised .valueError)
        else (invalidate { s1 with odeDef := insertKey st e s.odeDef }, .ok)
  | .var v =>
      let s1 := { s with equations := s.equations ++ [e] }
      if check && isDefined s v then (s1, .raised .valueError)
      else (invalidate { s1 with varDef := insertKey v e s.varDef }, .ok)
  | .other => ({ s with equations := s.equations ++ [e] }, .raised .valueError)

/-- `remove_equation` -/
def removeEquation (s : MState) (e : Eqn) : MState × Outcome :=
  if !s.equations.contains e then (s, .raised .keyError)
  else
    let s1 := { s with equations := s.equations.erase e }
    match e.lhs with
    | .deriv st _ _ =>
        if hasKey st s.odeDef then (invalidate { s1 with odeDef := eraseKey st s.odeDef }, .ok)
        else (s1, .raised .keyError)          -- `del` on a missing key: after the list was changed
    | .var v =>
        if hasKey v s.varDef then (invalidate { s1 with varDef := eraseKey v s.varDef }, .ok)
        else (s1, .raised .keyError)
    | .other => (s1, .raised .keyError)

/-- second half of `remove_variable`: delete the name entry and the cmeta entry, invalidate the caches -/
def unregister (s1 : MState) (v : Nat) : MState × Outcome :=
  let s2 := { s1 with live := s1.live.erase v }
  match cmetaOf s1 v with
  | some c =>
      if hasKey c s2.cmetaMap then (invalidate { s2 with cmetaMap := eraseKey c s2.cmetaMap }, .ok)
      else (s2, .raised .keyError)        -- `del` on a missing key: after the name was deleted
  | none => (invalidate s2, .ok)

/-- `remove_variable` (annotations in the RDF store: see C13) -/
def removeVariable (s : MState) (v : Nat) : MState × Outcome :=
  if !isLive s v then (s, .raised .notInModel)
  else
    let r := match getDefinition s v with
      | some e => removeEquation s e
      | none => (s, .ok)
    match r with
    | (s1, .raised x) => (s1, .raised x)
    | (s1, .ok) => unregister s1 v

/-- the `while self.has_cmeta_id(cmeta_id): cmeta_id += '_'` loop, on fuel -/
def freeCmeta (s : MState) (c : String) : Nat → Option String
  | 0 => if hasCmetaId s c then none else some c
  | fuel + 1 => if hasCmetaId s c then freeCmeta s (c ++ "_") fuel else some c

/-- `add_cmeta_id` (`get_display_name` without annotations: the name with `$` replaced) -/
def addCmetaId (s : MState) (v : Nat) : MState × Outcome :=
  if !isLive s v then (s, .raised .notInModel)
  else match cmetaOf s v with
    | some _ => (s, .ok)
    | none =>
      match freeCmeta s ((nameOfVar s v).replace "$" "__") (s.cmetaMap.length + 1) with
      | none => (s, .raised .cmetaFuel)   -- cannot happen (more candidates than ids in use); kept as a total answer
      | some c => ({ s with heap := setVar s.heap v (fun x => { x with cmeta := some c }),
                            cmetaMap := insertKey c v s.cmetaMap }, .ok)

/-- `transfer_cmeta_id` -/
def transferCmetaId (s : MState) (src dst : Nat) : MState × Outcome :=
  if !isLive s src || !isLive s dst then (s, .raised .notInModel)
  else match cmetaOf s src with
    | none => (s, .raised .valueError)
    | some c =>
      match cmetaOf s dst with
      | some _ => (s, .raised .valueError)
      | none =>
        let h1 := setVar s.heap dst (fun x => { x with cmeta := some c })
        let h2 := setVar h1 src (fun x => { x with cmeta := none })
        ({ s with heap := h2, cmetaMap := insertKey c dst s.cmetaMap }, .ok)

def ofGraphResult : MState × Except GErr Graph → MState × Outcome
  | (s, .ok _) => (s, .ok)
  | (s, .error e) => (s, .raised (.graphError e))

/-- one API call -/
def step (s : MState) : Op → MState × Outcome
  | .addVariable n c i => addVariable s n c i
  | .removeVariable v => removeVariable s v
  | .addEquation e => addEquationCore s e true
  | .removeEquation e => removeEquation s e
  | .createQuantity => (s, .ok)
  | .addCmetaId v => addCmetaId s v
  | .transferCmetaId a b => transferCmetaId s a b
  | .qGraph => ofGraphResult (queryGraph s)
  | .qGraphNum => ofGraphResult (queryGraphNum s)
  | .qStates => (s, .ok)
  | .qFree => (s, match getFreeVariable s with | some _ => .ok | none => .raised .valueError)
  | .qDefinition v => if isLive s v then (s, .ok) else (s, .raised .notInModel)

/-- a history of API calls on a new model -/
def run (modelCmeta : Option String) (ops : List Op) : MState := ops.foldl (fun s op => (step s op).1) (init modelCmeta)

end Model
