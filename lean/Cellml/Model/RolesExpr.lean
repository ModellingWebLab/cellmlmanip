import Cellml.Model.Roles

/-! `Expr.nodes` and `Expr.vars` (`Model/Roles.lean`) on each constructor. Core Lean only. -/

namespace Model

theorem nodes_num (q : Rat) : (Expr.num q).nodes = [] := by rw [Expr.nodes]
theorem nodes_var (v : Nat) : (Expr.var v).nodes = [.var v] := by rw [Expr.nodes]
theorem nodes_deriv (s t : Nat) : (Expr.deriv s t).nodes = [.deriv s t] := by rw [Expr.nodes]
theorem nodes_bin (op : BinOp) (a b : Expr) : (Expr.bin op a b).nodes = a.nodes ++ b.nodes := by rw [Expr.nodes]
theorem nodes_pow (a : Expr) (n : Int) : (Expr.pow a n).nodes = a.nodes := by rw [Expr.nodes]
theorem nodes_opq (id : String) (args : List Expr) : (Expr.opq id args).nodes = args.flatMap Expr.nodes := by
  rw [Expr.nodes, Expr.nodesL_eq]

theorem vars_num (q : Rat) : (Expr.num q).vars = [] := by rw [Expr.vars, nodes_num]; rfl
theorem vars_var (v : Nat) : (Expr.var v).vars = [v] := by rw [Expr.vars, nodes_var]; rfl
theorem vars_deriv (s t : Nat) : (Expr.deriv s t).vars = [s, t] := by rw [Expr.vars, nodes_deriv]; rfl
theorem vars_bin (op : BinOp) (a b : Expr) : (Expr.bin op a b).vars = a.vars ++ b.vars := by
  rw [Expr.vars, nodes_bin, List.flatMap_append]; rfl
theorem vars_pow (a : Expr) (n : Int) : (Expr.pow a n).vars = a.vars := by rw [Expr.vars, nodes_pow]; rfl
theorem vars_opq (id : String) (args : List Expr) : (Expr.opq id args).vars = args.flatMap Expr.vars := by
  rw [Expr.vars, nodes_opq, List.flatMap_assoc]; rfl

/-- membership readings of `nodes_bin`, `nodes_opq`, `vars_opq` -/
theorem mem_nodes_bin {op : BinOp} {a b : Expr} {n : Node} : n ∈ (Expr.bin op a b).nodes ↔ n ∈ a.nodes ∨ n ∈ b.nodes := by
  rw [nodes_bin, List.mem_append]
theorem mem_nodes_opq {id : String} {args : List Expr} {n : Node} :
    n ∈ (Expr.opq id args).nodes ↔ ∃ a ∈ args, n ∈ a.nodes := by rw [nodes_opq, List.mem_flatMap]
theorem mem_vars_opq {id : String} {args : List Expr} {d : Nat} :
    d ∈ (Expr.opq id args).vars ↔ ∃ a ∈ args, d ∈ a.vars := by rw [vars_opq, List.mem_flatMap]

end Model
