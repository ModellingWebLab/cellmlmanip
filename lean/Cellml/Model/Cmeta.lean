import Cellml.Model.Inv

/-! # Annotations: cmeta ids, the RDF graph, and the lookups that go through them
      (model.py: `get_display_name`, `get_variable_by_cmeta_id`, `get_variable_by_ontology_term`,
      `get_variables_by_rdf`, `get_ontology_terms_by_variable`, `has_ontology_annotation`, `has_cmeta_id`, `add_variable`, `remove_variable`,
      `add_cmeta_id`, `add_rdf`, `transfer_cmeta_id`, the new variable and the mover in `_convert_variable_instance`,
      `Variable._set_cmeta_id`; rdf.py; parser.py: the substitution case of `_add_connections`)

    Core Lean only. Built on the C08 state (`MState`: `live`, `heap[i].cmeta`, `cmetaMap`, `modelCmeta`, and the
    operations `addVariable`, `removeVariable`, `addCmetaId`, `transferCmetaId`), to which this file adds

    * `rdf`: the model's `rdflib.Graph` as a list of triples without repetition (a graph is a SET of triples). A subject
      is the local cmeta id it names (`URIRef('#' + id)`, which is what `Variable.rdf_identity` is); subjects that are
      not local resources make `get_variable_by_cmeta_id` raise before any lookup and are not modelled;
    * `removeVariableA`: `remove_variable` with its deletion of the triples about the variable;
    * `convertVariable`: what `convert_variable` does to variables and ids (new variable under a unique name, the
      mover of `_convert_variable_instance`, the `_orig_deriv` variables); its equations belong to C06;
    * `loaderMove`: the mover of connection resolution (`Parser._add_connections`, repaired: to `source.assigned_to`);
    * the lookups: by id, by predicate/object, by ontology term, the terms of a variable, the display name. -/

namespace Model

/-- an RDF object node: a resource (the text of its URI) or a literal (its text); `str(node)` is `text` -/
inductive RNode
  | uri (s : String)
  | lit (s : String)
deriving DecidableEq, Repr, Inhabited

def RNode.text : RNode → String
  | .uri s => s
  | .lit s => s

structure Triple where
  subj : String      -- the cmeta id the subject `#id` names
  pred : String      -- URI of the predicate
  obj  : RNode
deriving DecidableEq, Repr, Inhabited

structure AState where
  m   : MState := {}
  rdf : List Triple := []
deriving DecidableEq, Repr, Inhabited

def ainit (modelCmeta : Option String) : AState := { m := init modelCmeta }

/-- `http://biomodels.net/biology-qualifiers/is` -/
def bqbiolIs : String := "http://biomodels.net/biology-qualifiers/is"

-- ------------------------------------------------------------------------------------------------ lookups
inductive LErr | keyError | valueError
deriving DecidableEq, Repr, Inhabited

/-- the live variable whose `cmeta_id` is `c`, found by looking at every variable (no registry) -/
def carrierOf (s : MState) (c : String) : Option Nat := s.live.find? (fun i => cmetaOf s i == some c)

/-- `rdf.subjects(predicate, object_)`: the triples that match; `o = none` is the wildcard -/
def tripleMatches (p : String) (o : Option RNode) (t : Triple) : Bool :=
  t.pred == p && (match o with | none => true | some x => t.obj == x)

/-- `[self.get_variable_by_cmeta_id(result) for result in …]` with a given id lookup: `none` = KeyError -/
def carriers (look : String → Option Nat) : List Triple → Option (List Nat)
  | [] => some []
  | t :: r =>
    match look t.subj, carriers look r with
    | some v, some vs => some (v :: vs)
    | _, _ => none

/-- `get_variables_by_rdf(predicate, object_, sort=True)`: one entry per matching triple -/
def byRdf (a : AState) (p : String) (o : Option RNode) : Except LErr (List Nat) :=
  match carriers (getVariableByCmetaId a.m) (a.rdf.filter (tripleMatches p o)) with
  | some vs => .ok (sortByKey (orderOf a.m) vs)
  | none => .error .keyError

/-- the same lookup computed from the variables alone -/
def byRdfSpec (a : AState) (p : String) (o : Option RNode) : Except LErr (List Nat) :=
  match carriers (carrierOf a.m) (a.rdf.filter (tripleMatches p o)) with
  | some vs => .ok (sortByKey (orderOf a.m) vs)
  | none => .error .keyError

/-- `get_variable_by_ontology_term` -/
def byTerm (a : AState) (term : RNode) : Except LErr Nat :=
  match byRdf a bqbiolIs (some term) with
  | .error e => .error e
  | .ok [v] => .ok v
  | .ok [] => .error .keyError
  | .ok _ => .error .valueError

/-- `str(object).split('#')[-1]` on the characters -/
def afterHash : List Char → List Char → List Char
  | [], acc => acc
  | c :: r, acc => if c = '#' then afterHash r r else afterHash r acc

def localName (s : String) : String := String.ofList (afterHash s.toList s.toList)

/-- `namespace_uri is None or str(object).startswith(namespace_uri)` -/
def nsOk (ns : Option String) (o : RNode) : Bool :=
  match ns with
  | none => true
  | some n => n.isPrefixOf o.text

/-- the triples `rdf.objects(variable.rdf_identity, bqbiol:is)` runs over -/
def annotationsOf (a : AState) (v : Nat) : List Triple :=
  match cmetaOf a.m v with
  | none => []
  | some c => a.rdf.filter (fun t => t.subj == c && t.pred == bqbiolIs)

/-- `get_ontology_terms_by_variable` (in the order of the triple list; rdflib's order is unspecified) -/
def termsOf (a : AState) (v : Nat) (ns : Option String) : List String :=
  ((annotationsOf a v).filter (fun t => nsOk ns t.obj)).map (fun t => localName t.obj.text)

/-- `get_display_name(var, ontology)` without excluded terms: any of these (a term if there is one — which one
    depends on rdflib's order —, else the cmeta id, else the name with `$` replaced) -/
def displayNames (a : AState) (v : Nat) (ns : Option String) : List String :=
  match termsOf a v ns with
  | [] => [match cmetaOf a.m v with | some c => c | none => (nameOfVar a.m v).replace "$" "__"]
  | ts => ts

-- ------------------------------------------------------------------------------------------------ edits
/-- `model.rdf.add(triple)` / `add_rdf`: a graph is a set -/
def addRdf (a : AState) (t : Triple) : AState :=
  if a.rdf.contains t then a else { a with rdf := a.rdf ++ [t] }

/-- `for triple in self.rdf.triples((variable.rdf_identity, None, None)): self.rdf.remove(triple)` -/
def dropSubject (c : Option String) (rdf : List Triple) : List Triple :=
  match c with
  | some c => rdf.filter (fun t => t.subj != c)
  | none => rdf

/-- `remove_variable`: defining equation, then the annotations, then the name and the registry entry -/
def removeVariableA (a : AState) (v : Nat) : AState × Outcome :=
  if !isLive a.m v then (a, .raised .notInModel)
  else
    let r := match getDefinition a.m v with
      | some e => removeEquation a.m e
      | none => (a.m, .ok)
    match r with
    | (s1, .raised x) => ({ a with m := s1 }, .raised x)
    | (s1, .ok) =>
      let r2 := unregister s1 v
      ({ m := r2.1, rdf := dropSubject (cmetaOf s1 v) a.rdf }, r2.2)

def nameTaken (s : MState) (n : String) : Bool := s.live.any (fun i => nameOfVar s i == n)

/-- `get_unique_name`: `if name in self._name_to_variable: name = self.get_unique_name(name + '_a')`, on fuel -/
def uniqueName (s : MState) (n : String) : Nat → String
  | 0 => n
  | k + 1 => if nameTaken s n then uniqueName s (n ++ "_a") k else n

/-- `add_variable(name=get_unique_name(base), units=…)` as `convert_variable` and its helpers call it: no cmeta id -/
def addUnique (s : MState) (base : String) : MState := (addVariable s (uniqueName s base (s.live.length + 1)) none none).1

/-- what the unit layer and the equations decide about a call of `convert_variable` (inputs of this model):
    `same`: conversion factor 1 (the original variable is returned) or `DimensionalityError` — nothing is touched;
    `output`: `DataDirectionFlow.OUTPUT`; `input derivs`: `INPUT`, with the state variables whose ODE is rewritten and
    gets a `…_orig_deriv` variable, in the order the code visits them (the variable itself when it is a state; every
    state in `order_added` order when it is the free variable) -/
inductive ConvKind
  | same
  | output
  | input (derivs : List Nat)
deriving DecidableEq, Repr, Inhabited

def ConvKind.derivs : ConvKind → List Nat
  | .input ds => ds
  | _ => []

/-- `_convert_variable_instance`:
    `if original_variable._cmeta_id is not None and move_annotations: transfer_cmeta_id(…)` -/
def convertMover (s : MState) (v nv : Nat) (move : Bool) : MState :=
  if move && (cmetaOf s v).isSome then (transferCmetaId s v nv).1 else s

/-- `convert_variable`, as far as variables and ids go. The new variable is number `a.m.heap.length`. -/
def convertVariable (a : AState) (v : Nat) (move : Bool) (k : ConvKind) : AState × Outcome :=
  if !isLive a.m v then (a, .raised .notInModel)
  else match k with
    | .same => (a, .ok)
    | k =>
      let nv := a.m.heap.length
      let s1 := addUnique a.m (nameOfVar a.m v ++ "_converted")
      let s2 := convertMover s1 v nv move
      let s3 := k.derivs.foldl (fun s d => addUnique s (nameOfVar s d ++ "_orig_deriv")) s2
      ({ a with m := s3 }, .ok)

/-- connection resolution, factor 1 (`Parser._add_connections`): `if target.cmeta_id is not None:
    self.model.transfer_cmeta_id(source=target, target=dst)`; `dst` is `source.assigned_to` (before the repair: `source`) -/
def loaderMove (s : MState) (target dst : Nat) : MState × Outcome :=
  match cmetaOf s target with
  | none => (s, .ok)
  | some _ => transferCmetaId s target dst

inductive AOp
  | base (op : Op)                                   -- every call of C08; `removeVariable` also deletes triples
  | addRdf (t : Triple)
  | convert (v : Nat) (move : Bool) (k : ConvKind)
  | loaderMove (target dst : Nat)
deriving DecidableEq, Repr, Inhabited

/-- one call -/
def astep (a : AState) : AOp → AState × Outcome
  | .base (.removeVariable v) => removeVariableA a v
  | .base op => ({ a with m := (step a.m op).1 }, (step a.m op).2)
  | .addRdf t => (addRdf a t, .ok)
  | .convert v move k => convertVariable a v move k
  | .loaderMove t d => ({ a with m := (loaderMove a.m t d).1 }, (loaderMove a.m t d).2)

/-- a history of calls on a new model -/
def arun (modelCmeta : Option String) (ops : List AOp) : AState :=
  ops.foldl (fun a op => (astep a op).1) (ainit modelCmeta)

end Model
