import Cellml.Model.State
import Cellml.Basic.Assoc

/-! An insertion-ordered python dict kept as an association list: `List.lookup` (`d.get(k)`), `Model.hasKey`
    (`k in d`), `Model.insertKey` (`d[k] = v`), `Model.eraseKey` (`del d[k]`). Both updates are characterised by what
    they do to `lookup` (`lookup_insertKey`, `lookup_eraseKey`); the keys after `insertKey` are given exactly, after
    `eraseKey` only as a sublist (`keys_eraseKey_sublist`); the facts about membership follow for dicts with distinct
    keys (`List.lookup_eq_some_iff_mem`). Core Lean only. -/

namespace Model

/-! ### `lookup` where a key has one value (any lawful `==`; none of the dict operations) -/
section
variable {α β : Type} [BEq α] [LawfulBEq α]

/-- one value for the key `k` is enough for `lookup k` to find every member with that key -/
theorem lookup_eq_some_iff (l : List (α × β)) (k : α) (v : β)
    (hf : ∀ a b, (k, a) ∈ l → (k, b) ∈ l → a = b) : l.lookup k = some v ↔ (k, v) ∈ l := by
  refine ⟨List.mem_of_lookup l k v, fun hm => ?_⟩
  cases hw : l.lookup k with
  | none => exact absurd (List.mem_map_of_mem (f := (·.1)) hm) (List.lookup_eq_none_iff_not_mem_keys.mp hw)
  | some w => rw [hf w v (List.mem_of_lookup l k w hw) hm]

theorem lookup_congr (l₁ l₂ : List (α × β)) (k : α)
    (hf₁ : ∀ a b, (k, a) ∈ l₁ → (k, b) ∈ l₁ → a = b) (hf₂ : ∀ a b, (k, a) ∈ l₂ → (k, b) ∈ l₂ → a = b)
    (h : ∀ v, (k, v) ∈ l₁ ↔ (k, v) ∈ l₂) : l₁.lookup k = l₂.lookup k := by
  apply Option.ext; intro v
  rw [lookup_eq_some_iff l₁ k v hf₁, lookup_eq_some_iff l₂ k v hf₂, h]

end

variable {α β : Type} [DecidableEq α]

theorem hasKey_cons (k a : α) (b : β) (l : List (α × β)) : hasKey k ((a, b) :: l) = (decide (a = k) || hasKey k l) := rfl

theorem hasKey_iff_mem_keys (k : α) (l : List (α × β)) : hasKey k l = true ↔ k ∈ l.map (·.1) := by
  simp only [hasKey, List.any_eq_true, decide_eq_true_eq, List.mem_map]

theorem hasKey_iff (k : α) (l : List (α × β)) : hasKey k l = true ↔ ∃ v, (k, v) ∈ l := by
  simp [hasKey_iff_mem_keys]

theorem hasKey_false_iff (k : α) (l : List (α × β)) :
    hasKey k l = false ↔ ¬ ∃ v, (k, v) ∈ l := by
  rw [← hasKey_iff]; cases hasKey k l <;> simp

theorem insertKey_of_not_hasKey (k : α) (v : β) (l : List (α × β)) (h : hasKey k l = false) :
    insertKey k v l = l ++ [(k, v)] :=
  List.ins_fresh (ins := insertKey k v) rfl (fun _ _ _ => rfl) l fun hm => by rw [(hasKey_iff_mem_keys k l).mpr hm] at h; cases h

theorem keys_insertKey_of_hasKey (k : α) (v : β) : ∀ l : List (α × β), hasKey k l = true →
    (insertKey k v l).map (·.1) = l.map (·.1)
  | [], h => by cases h
  | (a, b) :: l, h => by
    by_cases ha : a = k
    · simp [insertKey, ha]
    · simp only [insertKey, ha, if_false, List.map_cons]
      rw [keys_insertKey_of_hasKey k v l (by simpa [hasKey_cons, ha] using h)]

theorem keys_insertKey (k : α) (v : β) (l : List (α × β)) :
    (insertKey k v l).map (·.1) = if hasKey k l then l.map (·.1) else l.map (·.1) ++ [k] := by
  cases h : hasKey k l
  · simp [insertKey_of_not_hasKey k v l h]
  · simp [keys_insertKey_of_hasKey k v l h]

theorem nodup_keys_insertKey (k : α) (v : β) (l : List (α × β)) (h : (l.map (·.1)).Nodup) :
    ((insertKey k v l).map (·.1)).Nodup := by
  rw [keys_insertKey]
  split
  · exact h
  · rename_i hk
    exact List.nodup_append.mpr ⟨h, by simp, fun a ha b hb => by
      rw [List.mem_singleton.mp hb]; rintro rfl; exact hk ((hasKey_iff_mem_keys _ l).mpr ha)⟩

theorem mem_insertKey_weak (k : α) (w : β) (l : List (α × β)) (p : α × β) (hp : p ∈ insertKey k w l) :
    p = (k, w) ∨ p ∈ l := by
  induction l with
  | nil => simp [insertKey] at hp; exact Or.inl hp
  | cons q l ih =>
    obtain ⟨k0, v0⟩ := q
    by_cases h0 : k0 = k
    · simp only [insertKey, h0, if_true, List.mem_cons] at hp
      rcases hp with hp | hp
      · exact Or.inl hp
      · exact Or.inr (List.mem_cons_of_mem _ hp)
    · simp only [insertKey, h0, if_false, List.mem_cons] at hp
      rcases hp with hp | hp
      · exact Or.inr (hp ▸ List.mem_cons_self ..)
      · exact (ih hp).elim Or.inl (fun h => Or.inr (List.mem_cons_of_mem _ h))

theorem mem_eraseKey (k : α) (l : List (α × β)) (p : α × β) : p ∈ eraseKey k l ↔ p ∈ l ∧ p.1 ≠ k := by
  simp [eraseKey]

theorem keys_eraseKey_sublist (k : α) (l : List (α × β)) : ((eraseKey k l).map (·.1)).Sublist (l.map (·.1)) :=
  (List.filter_sublist (l := l)).map _

/-! ### `lookup`, for any lawful `==` on the keys (`List.lookup` is met with the `BEq` of pairs and with that of `DecidableEq`) -/

variable [BEq α] [LawfulBEq α]

theorem hasKey_eq_isSome (k : α) : ∀ l : List (α × β), hasKey k l = (l.lookup k).isSome :=
  fun l => Bool.eq_iff_iff.mpr ((hasKey_iff_mem_keys k l).trans List.lookup_isSome_iff_mem_keys.symm)

theorem lookup_eq_none_iff_hasKey (k : α) (l : List (α × β)) : l.lookup k = none ↔ hasKey k l = false := by
  rw [hasKey_eq_isSome]; cases l.lookup k <;> simp

theorem lookup_insertKey (k : α) (v : β) (k' : α) (l : List (α × β)) :
    (insertKey k v l).lookup k' = if k' = k then some v else l.lookup k' :=
  List.lookup_ins (ins := insertKey k v) rfl (fun _ _ _ => rfl) k' l

theorem hasKey_insertKey (k' k : α) (v : β) (l : List (α × β)) :
    hasKey k' (insertKey k v l) = (k' == k || hasKey k' l) := by
  rw [hasKey_eq_isSome, hasKey_eq_isSome, lookup_insertKey]
  by_cases h : k' = k <;> simp [h]

theorem functional_of_keys_nodup (l : List (α × β)) (h : (l.map (·.1)).Nodup) (k : α) (v w : β)
    (hv : (k, v) ∈ l) (hw : (k, w) ∈ l) : v = w :=
  Option.some.inj (((List.lookup_eq_some_iff_mem h).mpr hv).symm.trans ((List.lookup_eq_some_iff_mem h).mpr hw))

theorem mem_insertKey (k : α) (v : β) (l : List (α × β)) (hn : (l.map (·.1)).Nodup) (p : α × β) :
    p ∈ insertKey k v l ↔ p = (k, v) ∨ (p ∈ l ∧ p.1 ≠ k) := by
  obtain ⟨k', v'⟩ := p
  rw [← List.lookup_eq_some_iff_mem (nodup_keys_insertKey k v l hn), lookup_insertKey, ← List.lookup_eq_some_iff_mem hn]
  by_cases h : k' = k
  · subst h; simp [eq_comm]
  · simp [h]

theorem lookup_eraseKey (k k' : α) : ∀ l : List (α × β),
    (eraseKey k l).lookup k' = if k' = k then none else l.lookup k'
  | [] => by simp [eraseKey]
  | (a, b) :: l => by
    have ih := lookup_eraseKey k k' l
    by_cases ha : a = k
    · have : eraseKey k ((a, b) :: l) = eraseKey k l := by simp [eraseKey, ha]
      rw [this, ih, List.lookup_cons_ite]
      by_cases hk : k' = k <;> simp [hk, ha]
    · have : eraseKey k ((a, b) :: l) = (a, b) :: eraseKey k l := by simp [eraseKey, ha]
      rw [this, List.lookup_cons_ite, List.lookup_cons_ite, ih]
      by_cases hk : k' = a
      · subst hk; simp [ha]
      · simp [hk]

end Model
