import Cellml.Model.Inv

/-! # Role queries and the recursive evaluator of `cellmlmanip.model.Model` (model.py `get_free_variable`,
      `get_state_variables`, `get_derivatives`, `get_derived_quantities`, `is_state`, `is_constant`, `get_value`,
      `_get_value`)

    Core Lean only. Built on the C08 state model (`MState`): an `RModel` is a model state together with the
    right-hand side of every equation (by the equation's token: two equations with the same token are `==`, hence have
    the same right-hand side). Right-hand sides are arithmetic trees over numbers, variables and first-order
    derivatives (+ - * / and integer powers, exact over `Rat`); anything else SymPy can hold (a function application:
    `exp`, `log`, a trigonometric function, `Piecewise` …) is an UNINTERPRETED application `opq id args`: `id` names the
    term (the harness sends the printed term), `args` are its argument places, one per variable / derivative the term
    refers to - initially the reference itself (`Expr.ofWire`), later whatever `expand_derivatives` substitutes for it
    (python's `xreplace` reaches inside a function application). Its value is given by an INTERPRETATION
    `fn : Interp` (`fn id vals` = the float SymPy computes for the term `id` when its references have the values
    `vals`; `none`: SymPy yields no finite float), a parameter of `evalE`, `getValueAux`, `getValue`, `roles`: the
    theorems of `Props/C10.lean` hold for EVERY interpretation (as `Props/C02`, `Props/C05` treat transcendental
    functions).

    `_get_value` is modelled as it stands after the two `fix:` commits recorded in findings/C10.json:
    derivatives on a right-hand side are first replaced, recursively, by the right-hand side of their ODE
    (`expand`), then `deps = expr.atoms(Variable)`, the loop over `deps` with the `evaluated` memo (created with the
    states at their initial values and the free variable at 0), `xreplace` and `float` (`evalE`). The recursion of the
    Python code is on the call stack; here it is on fuel (`fuel` = `RecursionError`). -/

namespace Model

inductive BinOp | add | sub | mul | div
deriving DecidableEq, Repr, Inhabited

inductive Expr
  | num (q : Rat)
  | var (v : Nat)
  | deriv (s t : Nat)
  | bin (op : BinOp) (a b : Expr)
  | pow (a : Expr) (n : Int)
  | opq (id : String) (args : List Expr)
deriving Repr, Inhabited

/-- a reference as an expression -/
def nodeExpr : Node → Expr
  | .var v => .var v
  | .deriv s t => .deriv s t

/-- an opaque sub-term as it comes from the wire (`(opq "id" node…)`): every argument place is the reference itself -/
def Expr.ofWire (id : String) (refs : List Node) : Expr := .opq id (refs.map nodeExpr)

/-- what an uninterpreted application evaluates to: `fn id vals` is the value of the opaque term `id` when its
    argument places have the values `vals` (`none`: no finite float) -/
abbrev Interp := String → List Rat → Option Rat

/-- the interpretation that knows no function (what the compiled driver uses) -/
def Interp.none : Interp := fun _ _ => Option.none

mutual
  /-- `find_variables_and_derivatives([rhs])`, as a list in traversal order -/
  def Expr.nodes : Expr → List Node
    | .num _ => []
    | .var v => [.var v]
    | .deriv s t => [.deriv s t]
    | .bin _ a b => a.nodes ++ b.nodes
    | .pow a _ => a.nodes
    | .opq _ args => Expr.nodesL args
  def Expr.nodesL : List Expr → List Node
    | [] => []
    | a :: as => a.nodes ++ Expr.nodesL as
end

/-- induction over expressions: for an opaque term the hypothesis holds of every argument place (the `induction`
    tactic uses this principle: `Expr` is a nested inductive type) -/
@[induction_eliminator]
theorem Expr.induct {P : Expr → Prop} (num : ∀ q, P (.num q)) (var : ∀ v, P (.var v)) (deriv : ∀ s t, P (.deriv s t))
    (bin : ∀ op a b, P a → P b → P (.bin op a b)) (pow : ∀ a n, P a → P (.pow a n))
    (opq : ∀ id args, (∀ a ∈ args, P a) → P (.opq id args)) : ∀ e, P e :=
  @Expr.rec P (fun l => ∀ a ∈ l, P a) num var deriv bin pow opq
    (fun _ h => by cases h)
    (fun _ _ hh ht a ha => by
      rcases List.mem_cons.mp ha with rfl | ha
      · exact hh
      · exact ht a ha)

theorem Expr.nodesL_eq (l : List Expr) : Expr.nodesL l = l.flatMap Expr.nodes := by
  induction l with
  | nil => rfl
  | cons a as ih => simp [Expr.nodesL, ih]

theorem Expr.nodes_ofWire (id : String) (refs : List Node) : (Expr.ofWire id refs).nodes = refs := by
  simp only [Expr.ofWire, Expr.nodes, Expr.nodesL_eq]
  induction refs with
  | nil => rfl
  | cons r rs ih => cases r <;> simp [nodeExpr, Expr.nodes, ih]

/-- `rhs.atoms(Variable)` (the variables inside a derivative included) -/
def Expr.vars (e : Expr) : List Nat := e.nodes.flatMap Node.atoms

def applyBin : BinOp → Rat → Rat → Option Rat
  | .add, p, q => some (p + q)
  | .sub, p, q => some (p - q)
  | .mul, p, q => some (p * q)
  | .div, p, q => if q = 0 then none else some (p / q)

/-- integer power; `0 ** negative` has no value -/
def powInt (p : Rat) (n : Int) : Option Rat :=
  if 0 ≤ n then some (p ^ n.toNat) else if p = 0 then none else some ((p ^ n.natAbs)⁻¹)

/-- why `get_value` raised: ValueError (no definition), TypeError (`float(None)`), RecursionError, a division by
    zero (SymPy: `zoo`), an opaque term to which the interpretation gives no value (`unsupported`); the last two only
    in `getValueAuxToday`: "Can't calculate derivative wrt 0" (ValueError) and `.atoms` on a float (AttributeError) -/
inductive VErr | noDefinition | noInit | fuel | arith | unsupported | derivativeWrtNumber | floatHasNoAtoms
deriving DecidableEq, Repr, Inhabited

mutual
  /-- replace every derivative by what `f` gives for it, also inside the argument places of an opaque term (first
      error in traversal order) -/
  def Expr.bindD (f : Nat → Nat → Except VErr Expr) : Expr → Except VErr Expr
    | .deriv s t => f s t
    | .bin op a b =>
      match a.bindD f, b.bindD f with
      | .ok a', .ok b' => .ok (.bin op a' b')
      | .error e, _ => .error e
      | _, .error e => .error e
    | .pow a n =>
      match a.bindD f with
      | .ok a' => .ok (.pow a' n)
      | .error e => .error e
    | .opq id args =>
      match Expr.bindDL f args with
      | .ok args' => .ok (.opq id args')
      | .error e => .error e
    | .num q => .ok (.num q)
    | .var v => .ok (.var v)
  def Expr.bindDL (f : Nat → Nat → Except VErr Expr) : List Expr → Except VErr (List Expr)
    | [] => .ok []
    | a :: as =>
      match a.bindD f, Expr.bindDL f as with
      | .ok a', .ok as' => .ok (a' :: as')
      | .error e, _ => .error e
      | _, .error e => .error e
end

/-! `bindD` on the constructors, as sequential binds -/
section
variable (f : Nat → Nat → Except VErr Expr)

theorem bindD_bin (op : BinOp) (a b : Expr) :
    (Expr.bin op a b).bindD f = (do let a' ← a.bindD f; let b' ← b.bindD f; pure (.bin op a' b')) := by
  simp only [Expr.bindD]
  cases a.bindD f <;> cases b.bindD f <;> rfl

theorem bindD_pow (a : Expr) (n : Int) :
    (Expr.pow a n).bindD f = (do let a' ← a.bindD f; pure (.pow a' n)) := by
  simp only [Expr.bindD]
  cases a.bindD f <;> rfl

theorem bindD_opq (id : String) (args : List Expr) :
    (Expr.opq id args).bindD f = (do let args' ← Expr.bindDL f args; pure (.opq id args')) := by
  simp only [Expr.bindD]
  cases Expr.bindDL f args <;> rfl

theorem bindDL_cons (a : Expr) (as : List Expr) :
    Expr.bindDL f (a :: as) = (do let a' ← a.bindD f; let as' ← Expr.bindDL f as; pure (a' :: as')) := by
  simp only [Expr.bindDL]
  cases a.bindD f <;> cases Expr.bindDL f as <;> rfl

end

/-- a model state with the right-hand side of every equation (by token) -/
structure RModel where
  st : MState
  rhs : Nat → Expr

/-- `is_state`: `variable in self._ode_definition_map` -/
def isState (M : RModel) (v : Nat) : Bool := hasKey v M.st.odeDef

/-- `self._var_definition_map[variable].rhs` -/
def varRhs (M : RModel) (v : Nat) : Option Expr := (M.st.varDef.lookup v).map (fun e => M.rhs e.tok)

/-- the right-hand side of the ODE whose left-hand side is this derivative
    (`ode = self._ode_definition_map.get(d.args[0])`, `ode.lhs == d`) -/
def odeRhs (M : RModel) (s t : Nat) : Option Expr :=
  match M.st.odeDef.lookup s with
  | some e => if lhsNode e.lhs = some (.deriv s t) then some (M.rhs e.tok) else none
  | none => none

/-- `get_free_variable` -/
def freeVar (M : RModel) : Option Nat := getFreeVariable M.st

/-- `get_state_variables()` -/
def stateVars (M : RModel) : List Nat := getStateVariables M.st

/-- `is_constant`: defined by an assignment whose right-hand side has no `Variable` atoms -/
def isConstant (M : RModel) (v : Nat) : Bool :=
  match varRhs M v with
  | some r => r.vars.isEmpty
  | none => false

/-- insert `x` before the first element whose key is greater or equal (a stable insertion) -/
def insertBy {α} (key : α → Nat) (x : α) : List α → List α
  | [] => [x]
  | y :: ys => if key x ≤ key y then x :: y :: ys else y :: insertBy key x ys

/-- `list.sort(key=…)`: stable -/
def sortBy {α} (key : α → Nat) : List α → List α
  | [] => []
  | x :: xs => insertBy key x (sortBy key xs)

/-- `[v for v in graph if isinstance(v, Derivative)]` -/
def derivNodesL (ns : List GNode) : List (Nat × Nat) :=
  ns.filterMap (fun n => match n.node with | .deriv s t => some (s, t) | .var _ => none)

def derivNodes (g : Graph) : List (Nat × Nat) := derivNodesL g.nodes

/-- the variable nodes whose `variable_type` is none of FREE, STATE, PARAMETER -/
def derivedNodesL (ns : List GNode) : List Nat :=
  ns.filterMap (fun n => match n.node with
    | .var v => if n.vtype = some .free ∨ n.vtype = some .state ∨ n.vtype = some .parameter then none else some v
    | .deriv _ _ => none)

def derivedNodes (g : Graph) : List Nat := derivedNodesL g.nodes

/-- `get_derivatives()`: sorted by the `order_added` of the state variable -/
def derivatives (M : RModel) : Except GErr (List (Nat × Nat)) :=
  match (queryGraph M.st).2 with
  | .ok g => .ok (sortBy (fun p => orderOf M.st p.1) (derivNodes g))
  | .error e => .error e

/-- `get_derived_quantities()`: sorted by `order_added` -/
def derivedQuantities (M : RModel) : Except GErr (List Nat) :=
  match (queryGraph M.st).2 with
  | .ok g => .ok (sortBy (orderOf M.st) (derivedNodes g))
  | .error e => .error e

/-- `expand_derivatives` inside `_get_value`: every derivative is replaced by the expanded right-hand side of its ODE -/
def expand (M : RModel) : Nat → Expr → Except VErr Expr
  | 0, e => e.bindD (fun _ _ => .error .fuel)
  | f + 1, e => e.bindD (fun s t =>
      match odeRhs M s t with
      | none => .error .noDefinition
      | some r => expand M f r)

/-- the `evaluated` dictionary -/
abbrev Memo := List (Nat × Rat)

mutual
  /-- `float(expr.xreplace(evaluated))` under the interpretation `fn` of the opaque terms (`fn … = none`: SymPy gives no
      finite float there: `unsupported`) -/
  def evalE (fn : Interp) (m : Memo) : Expr → Except VErr Rat
    | .num q => .ok q
    | .var v => match m.lookup v with | some q => .ok q | none => .error .noDefinition
    | .deriv _ _ => .error .noDefinition
    | .bin op a b =>
      match evalE fn m a, evalE fn m b with
      | .ok p, .ok q => (match applyBin op p q with | some r => .ok r | none => .error .arith)
      | .error e, _ => .error e
      | _, .error e => .error e
    | .pow a n =>
      match evalE fn m a with
      | .ok p => (match powInt p n with | some r => .ok r | none => .error .arith)
      | .error e => .error e
    | .opq id args =>
      match evalEL fn m args with
      | .ok vals => (match fn id vals with | some r => .ok r | none => .error .unsupported)
      | .error e => .error e
  def evalEL (fn : Interp) (m : Memo) : List Expr → Except VErr (List Rat)
    | [] => .ok []
    | a :: as =>
      match evalE fn m a, evalEL fn m as with
      | .ok p, .ok ps => .ok (p :: ps)
      | .error e, _ => .error e
      | _, .error e => .error e
end

/-! `evalE` on the constructors, as sequential binds -/
section
variable (fn : Interp) (m : Memo)

theorem evalE_bin (op : BinOp) (a b : Expr) : evalE fn m (.bin op a b) = (do
    let p ← evalE fn m a
    let q ← evalE fn m b
    match applyBin op p q with | some r => .ok r | none => .error .arith) := by
  simp only [evalE]
  cases evalE fn m a <;> cases evalE fn m b <;> rfl

theorem evalE_pow (a : Expr) (n : Int) : evalE fn m (.pow a n) = (do
    let p ← evalE fn m a
    match powInt p n with | some r => .ok r | none => .error .arith) := by
  simp only [evalE]
  cases evalE fn m a <;> rfl

theorem evalE_opq (id : String) (args : List Expr) : evalE fn m (.opq id args) = (do
    let vals ← evalEL fn m args
    match fn id vals with | some r => .ok r | none => .error .unsupported) := by
  simp only [evalE]
  cases evalEL fn m args <;> rfl

theorem evalEL_cons (a : Expr) (as : List Expr) :
    evalEL fn m (a :: as) = (do let p ← evalE fn m a; let ps ← evalEL fn m as; pure (p :: ps)) := by
  simp only [evalEL]
  cases evalE fn m a <;> cases evalEL fn m as <;> rfl

end

/-- `{x: x.initial_value for x in self._ode_definition_map}` and `evaluated[time] = 0`
    (a state without initial value is left out: its evaluation then fails with `noInit`) -/
def memo0 (M : RModel) : Memo :=
  let states := M.st.odeDef.filterMap (fun p => (initOf M.st p.1).map (fun q => (p.1, q)))
  match freeVar M with
  | some t => insertKey t 0 states
  | none => states

/-- `for dep in deps: if dep not in evaluated: evaluated[dep] = self._get_value(dep, evaluated)` -/
def evalDeps (rec : Nat → Memo → Except VErr (Rat × Memo)) : List Nat → Memo → Except VErr Memo
  | [], m => .ok m
  | d :: ds, m =>
    if hasKey d m then evalDeps rec ds m
    else match rec d m with
      | .error e => .error e
      | .ok (q, m') => evalDeps rec ds (insertKey d q m')

/-- `_get_value(variable, evaluated)`; returns the value and the dictionary as the call leaves it.
    `F`: fuel for `expand`; the third argument: fuel for the recursion over variables. -/
def getValueAux (fn : Interp) (M : RModel) (F : Nat) : Nat → Nat → Memo → Except VErr (Rat × Memo)
  | 0, _, _ => .error .fuel
  | f + 1, v, m =>
    if isState M v then
      match initOf M.st v with
      | some q => .ok (q, m)
      | none => .error .noInit
    else match varRhs M v with
      | none => if freeVar M = some v then .ok (0, m) else .error .noDefinition
      | some r =>
        match expand M F r with
        | .error e => .error e
        | .ok r' =>
          match evalDeps (getValueAux fn M F f) r'.vars m with
          | .error e => .error e
          | .ok m' =>
            match evalE fn m' r' with
            | .ok q => .ok (q, m')
            | .error e => .error e

/-- `_get_value` as it was before the two `fix:` commits: no expansion of derivatives, so `xreplace` puts numbers
    inside the `Derivative` atom and SymPy raises `ValueError: Can't calculate derivative wrt 0`; and a right-hand side
    that is a bare variable comes back from `xreplace` as a Python float, on which `.atoms` raises `AttributeError` -/
def getValueAuxToday (fn : Interp) (M : RModel) : Nat → Nat → Memo → Except VErr (Rat × Memo)
  | 0, _, _ => .error .fuel
  | f + 1, v, m =>
    if isState M v then
      match initOf M.st v with
      | some q => .ok (q, m)
      | none => .error .noInit
    else match varRhs M v with
      | none => if freeVar M = some v then .ok (0, m) else .error .noDefinition
      | some r =>
        match evalDeps (getValueAuxToday fn M f) r.vars m with
        | .error e => .error e
        | .ok m' =>
          if !r.nodes.all (fun n => match n with | .var _ => true | .deriv _ _ => false) then .error .derivativeWrtNumber
          else match r with
            | .var _ => .error .floatHasNoAtoms
            | _ => match evalE fn m' r with
              | .ok q => .ok (q, m')
              | .error e => .error e

def getValueToday (fn : Interp) (M : RModel) (v : Nat) : Except VErr Rat :=
  match getValueAuxToday fn M (M.st.live.length + 1) v (memo0 M) with
  | .ok (q, _) => .ok q
  | .error e => .error e

def getValueFuel (fn : Interp) (M : RModel) (F : Nat) (v : Nat) : Except VErr Rat :=
  match getValueAux fn M F F v (memo0 M) with
  | .ok (q, _) => .ok q
  | .error e => .error e

/-- `get_value(variable)`: `|variables| + 1` levels of recursion are enough for acyclic definitions
    (`Props/C10.lean: getValue_fuel`) -/
def getValue (fn : Interp) (M : RModel) (v : Nat) : Except VErr Rat := getValueFuel fn M (M.st.live.length + 1) v

/-- everything C10 is about: the answers of the role queries and of `get_value` -/
structure Roles where
  states : List Nat
  free : Option Nat
  derivatives : Except GErr (List (Nat × Nat))
  derivedQuantities : Except GErr (List Nat)
  isState : Nat → Bool
  isConstant : Nat → Bool
  value : Nat → Except VErr Rat

def roles (fn : Interp) (M : RModel) : Roles :=
  ⟨stateVars M, freeVar M, derivatives M, derivedQuantities M, isState M, isConstant M, getValue fn M⟩

end Model
