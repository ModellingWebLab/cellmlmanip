/-! # The dependency graph of a `cellmlmanip.model.Model` (model.py `graph`, `graph_with_sympy_numbers`)

    Core Lean only. Variables are identity numbers (the n-th `Variable` object the model created), so a variable that
    was removed and a later variable with the same name are different things, exactly as the Python objects are.

    `buildGraph names eqs` is the repaired `Model.graph` builder: since the `fix:` commit "graph forgets Variable.type
    from earlier builds" every `type` field the builder reads has been reset and rewritten by the builder's own first
    loop, so the roles are a function `typeMap eqs` of the equation list alone; the builder then writes them back to the
    objects (`Model.applyTypes`). -/

namespace Model

inductive VType | state | free | parameter | computed
deriving DecidableEq, Repr, Inhabited

/-- a node of the graph: a variable, or a first-order derivative `d s / d t` (compared structurally, as sympy does) -/
inductive Node | var (v : Nat) | deriv (s t : Nat)
deriving DecidableEq, Repr, Inhabited

/-- the left-hand side of an equation as `add_equation` classifies it -/
inductive Lhs | var (v : Nat) | deriv (s t : Nat) (order : Nat) | other
deriving DecidableEq, Repr, Inhabited

/-- An equation. `tok` stands for everything `==` looks at that is not listed otherwise (the numbers and the shape
    of the right-hand side); two `Eqn` are the same equation for `list.remove` iff they are equal. -/
structure Eqn where
  tok : Nat
  lhs : Lhs
  refs : List Node          -- find_variables_and_derivatives([rhs]), a set: `Model.graph` walks it sorted by `str`; the
                            -- theorems of C08 / C10 only use the node and edge SETS, so any listing of it will do
  numRefs : List Node       -- the same after replacing Quantity objects by numbers (sympy may simplify references away)
  bareQuantity : Bool       -- isinstance(rhs, Quantity)
deriving DecidableEq, Repr, Inhabited

def lhsNode : Lhs → Option Node
  | .var v => some (.var v)
  | .deriv s t _ => some (.deriv s t)
  | .other => none

/-- the variable an equation defines (key of `_var_definition_map` / `_ode_definition_map`) -/
def defKey (e : Eqn) : Option Nat :=
  match e.lhs with
  | .var v => some v
  | .deriv s _ _ => some s
  | .other => none

/-- `equation.atoms(Variable)` -/
def Node.atoms : Node → List Nat
  | .var v => [v]
  | .deriv s t => [s, t]

def Eqn.atoms (e : Eqn) : List Nat :=
  (match e.lhs with | .var v => [v] | .deriv s t _ => [s, t] | .other => []) ++ e.refs.flatMap Node.atoms

/-- everything `graph` writes into `Variable.type` because of ONE equation: the role of an assigned left-hand side, or
    the two roles an ODE gives (state, free variable). `typeMapOld` runs it equation by equation. -/
def typeWrites (e : Eqn) : List (Nat × VType) :=
  match e.lhs with
  | .deriv s t _ => [(t, .free), (s, .state)]
  | .var v => [(v, if e.bareQuantity then .parameter else .computed)]
  | .other => []

/-- first loop of `graph`: the left-hand side of an ordinary equation is PARAMETER or COMPUTED; an ODE writes nothing
    here (since the `fix:` commit "the roles that come from the ODEs win") -/
def lhsWrites (e : Eqn) : List (Nat × VType) :=
  match e.lhs with
  | .var v => [(v, if e.bareQuantity then .parameter else .computed)]
  | _ => []

/-- the loop after it: the state variable of every ODE is STATE -/
def stateWrites (e : Eqn) : List (Nat × VType) :=
  match e.lhs with
  | .deriv s _ _ => [(s, .state)]
  | _ => []

/-- the last of the three: the free variable of every ODE is FREE -/
def freeWrites (e : Eqn) : List (Nat × VType) :=
  match e.lhs with
  | .deriv _ t _ => [(t, .free)]
  | _ => []

/-- one loop `for equation in self.equations` that writes types: association list, most recent write first -/
def tmAcc (w : Eqn → List (Nat × VType)) (acc : List (Nat × VType)) (eqs : List Eqn) : List (Nat × VType) :=
  eqs.foldl (fun tm e => w e ++ tm) acc

/-- the three type-writing loops of `graph` one after the other (most recent write first): all left-hand sides, then
    all states, then all free variables. A role that comes from an ODE therefore wins over PARAMETER / COMPUTED, and
    FREE over STATE, wherever the ODE stands in `eqs`: the roles are a function of the SET of equations
    (`tyOf_typeMap_perm`). -/
def typeMap (eqs : List Eqn) : List (Nat × VType) :=
  tmAcc freeWrites (tmAcc stateWrites (tmAcc lhsWrites [] eqs) eqs) eqs

/-- `graph` BEFORE that fix: one loop, `typeWrites` equation by equation, the LAST assignment stays — so a free
    variable that also has a defining equation was FREE or COMPUTED depending on the order of the equations
    (`variable_types_order_dependent_before_fix`, `Props/C10.lean`) -/
def typeMapOld (eqs : List Eqn) : List (Nat × VType) := tmAcc typeWrites [] eqs

def tyOf (tm : List (Nat × VType)) (v : Nat) : Option VType := tm.lookup v

structure GNode where
  node : Node
  eqn : Option Eqn          -- the `equation` attribute
  vtype : Option VType      -- the `variable_type` attribute (absent on derivative nodes)
deriving DecidableEq, Repr, Inhabited

structure Graph where
  nodes : List GNode
  edges : List (Node × Node)
deriving DecidableEq, Repr, Inhabited

/-- why `graph` raised: an assertion (`duplicate`: two equations with the same left-hand side or the same printed
    left-hand side; `lhs`: a left-hand side that is neither variable nor derivative), or, at the first equation with an
    unusable reference, `badRef hasVar hasDeriv`: an undefined variable raises AssertionError, an undefined derivative
    AttributeError, and which one is met first depends on set iteration order -/
inductive GErr | duplicate | lhs | badRef (hasVar hasDeriv : Bool)
deriving DecidableEq, Repr, Inhabited

def allDistinct {α} [DecidableEq α] : List α → Bool
  | [] => true
  | x :: xs => !(xs.contains x) && allDistinct xs

def nameOf (names : List String) (i : Nat) : String := (names[i]?).getD ""

/-- `str(node)`: `Variable.__str__` is the name; sympy prints a derivative of dummies as `Derivative(_x, _t)` -/
def nodeStr (names : List String) : Node → String
  | .var v => nameOf names v
  | .deriv s t => "Derivative(_" ++ nameOf names s ++ ", _" ++ nameOf names t ++ ")"

def hasNode (g : Graph) (n : Node) : Bool := g.nodes.any (fun x => x.node == n)

def nodeType (tm : List (Nat × VType)) : Node → Option VType
  | .var v => tyOf tm v
  | .deriv _ _ => none

def addBareNode (tm : List (Nat × VType)) (g : Graph) (n : Node) : Graph :=
  if hasNode g n then g else { g with nodes := g.nodes ++ [⟨n, none, nodeType tm n⟩] }

/-- a reference the edge loop cannot handle: not a node, and not a variable typed STATE or FREE -/
def badRef (tm : List (Nat × VType)) (g : Graph) (r : Node) : Bool :=
  !hasNode g r && (match r with
    | .deriv _ _ => true
    | .var v => !(tyOf tm v == some .state || tyOf tm v == some .free))

def isVarNode : Node → Bool | .var _ => true | .deriv _ _ => false

/-- second loop of `graph`, one equation -/
def addEdges (tm : List (Nat × VType)) (g : Graph) (e : Eqn) : Except GErr Graph :=
  match lhsNode e.lhs with
  | none => .error .lhs
  | some l =>
    let bad := e.refs.filter (badRef tm g)
    if !bad.isEmpty then .error (.badRef (bad.any isVarNode) (bad.any (fun r => !isVarNode r)))
    else
      let g1 := e.refs.foldl (fun g r => { addBareNode tm g r with edges := (addBareNode tm g r).edges ++ [(r, l)] }) g
      match e.lhs with
      | .deriv s t _ => .ok (addBareNode tm (addBareNode tm g1 (.var t)) (.var s))
      | _ => .ok g1

def addAllEdges (tm : List (Nat × VType)) : Graph → List Eqn → Except GErr Graph
  | g, [] => .ok g
  | g, e :: es =>
    match addEdges tm g e with
    | .error x => .error x
    | .ok g' => addAllEdges tm g' es

def lhsNodes : List Eqn → Option (List GNode)
  | [] => some []
  | e :: es =>
    match lhsNode e.lhs, lhsNodes es with
    | some n, some ns => some (⟨n, some e, none⟩ :: ns)
    | _, _ => none

/-- `Model.graph` (the build, without the cache) -/
def buildGraph (names : List String) (eqs : List Eqn) : Except GErr Graph :=
  let tm := typeMap eqs
  match lhsNodes eqs with
  | none => .error .lhs
  | some ns =>
    if !allDistinct (ns.map (·.node)) then .error .duplicate
    else if !allDistinct (ns.map (fun n => nodeStr names n.node)) then .error .duplicate
    else
      let ns' := ns.map (fun n => { n with vtype := nodeType tm n.node })
      addAllEdges tm ⟨ns', []⟩ eqs

def eqnOfNode (g : Graph) (n : Node) : Option Eqn :=
  match g.nodes.find? (fun x => x.node == n) with
  | some x => x.eqn
  | none => none

/-- `graph_with_sympy_numbers` from a built graph: edges whose source is no longer referenced once numbers are
    substituted are removed (the rewritten `equation` attribute is not modelled) -/
def numGraph (g : Graph) : Graph :=
  { g with edges := g.edges.filter (fun (a, b) =>
      match eqnOfNode g b with
      | some e => e.numRefs.contains a
      | none => true) }

end Model
