import Cellml.Model.Roles
import Cellml.Basic.ListLemmas

/-! Python's stable `sorted(…, key=…)` as the model has it (`sortBy` of `Roles.lean`, `sortByKey` of `State.lean`): the result
    is a permutation, it is sorted, and the two definitions agree. Core Lean only. -/

namespace Model

section Sorting
variable {α : Type} (key : α → Nat)

theorem insertBy_perm (x : α) (l : List α) : (insertBy key x l).Perm (x :: l) := by
  induction l with
  | nil => exact List.Perm.refl _
  | cons y ys ih =>
    unfold insertBy
    split
    · exact List.Perm.refl _
    · exact ((List.perm_cons y).mpr ih).trans (List.Perm.swap x y ys)

theorem sortBy_perm (l : List α) : (sortBy key l).Perm l := by
  induction l with
  | nil => exact List.Perm.refl _
  | cons x xs ih => exact (insertBy_perm key x _).trans ((List.perm_cons x).mpr ih)

theorem insertBy_sorted (x : α) (l : List α) (h : l.Pairwise (fun a b => key a ≤ key b)) :
    (insertBy key x l).Pairwise (fun a b => key a ≤ key b) := by
  induction l with
  | nil => simp [insertBy]
  | cons y ys ih =>
    unfold insertBy
    have hy := List.pairwise_cons.mp h
    split
    · rename_i hxy
      refine List.pairwise_cons.mpr ⟨?_, h⟩
      intro b hb
      rcases List.mem_cons.mp hb with rfl | hb
      · exact hxy
      · exact Nat.le_trans hxy (hy.1 b hb)
    · rename_i hxy
      refine List.pairwise_cons.mpr ⟨?_, ih hy.2⟩
      intro b hb
      rcases List.mem_cons.mp ((insertBy_perm key x ys).subset hb) with rfl | hb
      · exact Nat.le_of_lt (Nat.lt_of_not_le hxy)
      · exact hy.1 b hb

theorem sortBy_sorted (l : List α) : (sortBy key l).Pairwise (fun a b => key a ≤ key b) := by
  induction l with
  | nil => exact List.Pairwise.nil
  | cons x xs ih => exact insertBy_sorted key x _ ih

/-- two sorted lists with the same elements, sorted by a key that is injective on them, are equal -/
theorem sortBy_perm_eq {l₁ l₂ : List α} (hp : l₁.Perm l₂)
    (hinj : ∀ a ∈ l₁, ∀ b ∈ l₁, key a = key b → a = b) : sortBy key l₁ = sortBy key l₂ := by
  refine List.Perm.eq_of_pairwise (le := fun a b => key a ≤ key b) ?_ (sortBy_sorted key l₁) (sortBy_sorted key l₂)
    (((sortBy_perm key l₁).trans hp).trans (sortBy_perm key l₂).symm)
  intro a b ha hb hab hba
  exact hinj a ((sortBy_perm key l₁).mem_iff.mp ha) b (hp.mem_iff.mpr ((sortBy_perm key l₂).mem_iff.mp hb))
    (Nat.le_antisymm hab hba)

end Sorting

/-- the sort of `get_state_variables` (`State.lean`) is the sort of the role queries (`Roles.lean`) on variables -/
theorem sortBy_eq_sortByKey (key : Nat → Nat) (l : List Nat) : sortBy key l = sortByKey key l := by
  induction l with
  | nil => rfl
  | cons x xs ih =>
    simp only [sortBy, sortByKey, ih]
    generalize sortByKey key xs = ys
    induction ys with
    | nil => rfl
    | cons y ys ih2 => simp only [insertBy, insertSorted, ih2]

theorem sortByKey_perm (key : Nat → Nat) (l : List Nat) : (sortByKey key l).Perm l :=
  sortBy_eq_sortByKey key l ▸ sortBy_perm key l

theorem sortByKey_sorted (key : Nat → Nat) (l : List Nat) :
    (sortByKey key l).Pairwise (fun a b => key a ≤ key b) :=
  sortBy_eq_sortByKey key l ▸ sortBy_sorted key l

theorem pairwise_lt_inj {key : Nat → Nat} {l : List Nat} (h : (l.map key).Pairwise (· < ·)) (a b : Nat)
    (ha : a ∈ l) (hb : b ∈ l) (hab : key a = key b) : a = b :=
  List.inj_of_nodup_map key l (h.imp Nat.ne_of_lt) a ha b hb hab

end Model
