import Cellml.Model.State

/-! # `Model.convert_variable` and its helpers (model.py `convert_variable`, `_convert_variable_instance`,
      `_convert_state_variable_deriv`, `_convert_free_variable_deriv`, `_remove_ode_and_assign_rhs_to_new_variable`,
      `_replace_references_to_derivatives`, `get_unique_name`, and the parts of `add_variable`, `add_equation`,
      `remove_equation`, `transfer_cmeta_id` they use)

    Core Lean only. The state is the C08 state (`Model/State.lean`) specialised to what `convert_variable` touches and
    enriched with what the property needs: variables carry a *unit* (scale and dimension exponents), right-hand sides
    are expressions `X` (so that a model can be evaluated), and no variable is ever removed, so the identity number of a
    variable is its position in `vars` (which is also its `order_added`). `insertKey` / `eraseKey` / `hasKey` /
    `sortByKey` are the ones of `Model/State.lean`.

    A call that would raise in Python (`ValueError` of `add_variable` / `add_equation(check_duplicates=True)` /
    `transfer_cmeta_id`, `KeyError` of `remove_equation`, the `assert` on the free variable) sets `raised` and leaves
    the state as that call leaves it; `Props/C06.lean` shows that this never happens from a well-formed model (`WF`: the
    C08 invariant, one free variable, no `d x / d x`). The conversion factor `cf` is an input: it is
    `UnitStore.get_conversion_factor`, the subject of C07. -/

namespace Model.CV
open Model

-- ------------------------------------------------------------------------------------------------ units
/-- exponents of the (at most eight) base units of a registry -/
structure Dim where
  d0 : Int := 0
  d1 : Int := 0
  d2 : Int := 0
  d3 : Int := 0
  d4 : Int := 0
  d5 : Int := 0
  d6 : Int := 0
  d7 : Int := 0
deriving DecidableEq, Repr, Inhabited

def Dim.add (a b : Dim) : Dim :=
  ⟨a.d0 + b.d0, a.d1 + b.d1, a.d2 + b.d2, a.d3 + b.d3, a.d4 + b.d4, a.d5 + b.d5, a.d6 + b.d6, a.d7 + b.d7⟩
def Dim.sub (a b : Dim) : Dim :=
  ⟨a.d0 - b.d0, a.d1 - b.d1, a.d2 - b.d2, a.d3 - b.d3, a.d4 - b.d4, a.d5 - b.d5, a.d6 - b.d6, a.d7 - b.d7⟩

/-- a unit up to `is_equivalent`: scale to the base units and dimension -/
structure U where
  scale : Rat := 1
  dim : Dim := {}
deriving DecidableEq, Repr, Inhabited

def U.mul (a b : U) : U := ⟨a.scale * b.scale, a.dim.add b.dim⟩
def U.div (a b : U) : U := ⟨a.scale / b.scale, a.dim.sub b.dim⟩

-- ------------------------------------------------------------------------------------------------ expressions
/-- right-hand sides: variables, derivative atoms `d x / d t`, numbers with units (`Quantity`), arithmetic, and
    uninterpreted unary / binary function symbols for everything else -/
inductive X
  | var (v : Nat)
  | deriv (x t : Nat)
  | lit (q : Rat) (u : U)
  | add (a b : X)
  | sub (a b : X)
  | mul (a b : X)
  | div (a b : X)
  | fn1 (f : String) (a : X)
  | fn2 (f : String) (a b : X)
deriving DecidableEq, Repr, Inhabited

/-- plain evaluation over any carrier with the four operations; `lit` injects the rationals, `F1` / `F2` interpret
    the function symbols, `sv` / `sd` give the values of variables and derivative atoms -/
def X.eval {K : Type} [Add K] [Sub K] [Mul K] [Div K] (lit : Rat → K) (F1 : String → K → K)
    (F2 : String → K → K → K) (sv : Nat → K) (sd : Nat → Nat → K) : X → K
  | .var v => sv v
  | .deriv x t => sd x t
  | .lit q _ => lit q
  | .add a b => a.eval lit F1 F2 sv sd + b.eval lit F1 F2 sv sd
  | .sub a b => a.eval lit F1 F2 sv sd - b.eval lit F1 F2 sv sd
  | .mul a b => a.eval lit F1 F2 sv sd * b.eval lit F1 F2 sv sd
  | .div a b => a.eval lit F1 F2 sv sd / b.eval lit F1 F2 sv sd
  | .fn1 f a => F1 f (a.eval lit F1 F2 sv sd)
  | .fn2 f a b => F2 f (a.eval lit F1 F2 sv sd) (b.eval lit F1 F2 sv sd)

/-- `expr.atoms(sympy.Derivative)` -/
def X.derivs : X → List (Nat × Nat)
  | .var _ => []
  | .deriv x t => [(x, t)]
  | .lit _ _ => []
  | .add a b | .sub a b | .mul a b | .div a b | .fn2 _ a b => a.derivs ++ b.derivs
  | .fn1 _ a => a.derivs

/-- the variables an expression mentions, inside derivative atoms too (`expr.atoms(Variable)`) -/
def X.vars : X → List Nat
  | .var v => [v]
  | .deriv x t => [x, t]
  | .lit _ _ => []
  | .add a b | .sub a b | .mul a b | .div a b | .fn2 _ a b => a.vars ++ b.vars
  | .fn1 _ a => a.vars

/-- a dict from derivative atoms to the variables that replace them -/
abbrev Rep := List ((Nat × Nat) × Nat)

/-- `expr.xreplace(map)` for a map from derivatives to variables -/
def X.subst (rep : Rep) : X → X
  | .var v => .var v
  | .deriv x t => match rep.lookup (x, t) with | some w => .var w | none => .deriv x t
  | .lit q u => .lit q u
  | .add a b => .add (a.subst rep) (b.subst rep)
  | .sub a b => .sub (a.subst rep) (b.subst rep)
  | .mul a b => .mul (a.subst rep) (b.subst rep)
  | .div a b => .div (a.subst rep) (b.subst rep)
  | .fn1 f a => .fn1 f (a.subst rep)
  | .fn2 f a b => .fn2 f (a.subst rep) (b.subst rep)

-- ------------------------------------------------------------------------------------------------ state
structure CVar where
  name : String
  unit : U
  init : Option Rat
  cmeta : Option String
deriving DecidableEq, Repr, Inhabited

/-- left-hand sides `add_equation` accepts: a variable or a first-order derivative -/
inductive CLhs | var (v : Nat) | deriv (x t : Nat)
deriving DecidableEq, Repr, Inhabited

structure CEqn where
  lhs : CLhs
  rhs : X
deriving DecidableEq, Repr, Inhabited

structure CState where
  vars : List CVar := []                    -- `_name_to_variable`; position = identity = `order_added`
  cmetaMap : List (String × Nat) := []      -- `_cmeta_id_to_variable`
  equations : List CEqn := []
  varDef : List (Nat × CEqn) := []          -- `_var_definition_map`
  odeDef : List (Nat × CEqn) := []          -- `_ode_definition_map`
  raised : Bool := false                    -- some call made so far would have raised in Python
deriving DecidableEq, Repr, Inhabited

inductive Dir | input | output
deriving DecidableEq, Repr, Inhabited

def names (s : CState) : List String := s.vars.map (·.name)
def nameOfV (s : CState) (v : Nat) : String := ((s.vars[v]?).map (·.name)).getD ""
def unitOfV (s : CState) (v : Nat) : U := ((s.vars[v]?).map (·.unit)).getD {}
def initOfV (s : CState) (v : Nat) : Option Rat := (s.vars[v]?).bind (·.init)
def cmetaOfV (s : CState) (v : Nat) : Option String := (s.vars[v]?).bind (·.cmeta)

def setV (vs : List CVar) (i : Nat) (f : CVar → CVar) : List CVar :=
  match vs[i]? with
  | some v => vs.set i (f v)
  | none => vs

-- ------------------------------------------------------------------------------------------------ units of expressions
/-- the units the uninterpreted function symbols give their results (`none`: rejected) -/
structure UI where
  FU1 : String → U → Option U
  FU2 : String → U → U → Option U

/-- `units.evaluate_units` on right-hand sides: sums need equal units, products and quotients combine them -/
def unitOf (J : UI) (s : CState) : X → Option U
  | .var v => some (unitOfV s v)
  | .deriv x t => some ((unitOfV s x).div (unitOfV s t))
  | .lit _ u => some u
  | .add a b | .sub a b =>
      match unitOf J s a, unitOf J s b with
      | some ua, some ub => if ua = ub then some ua else none
      | _, _ => none
  | .mul a b =>
      match unitOf J s a, unitOf J s b with
      | some ua, some ub => some (ua.mul ub)
      | _, _ => none
  | .div a b =>
      match unitOf J s a, unitOf J s b with
      | some ua, some ub => some (ua.div ub)
      | _, _ => none
  | .fn1 f a => (unitOf J s a).bind (J.FU1 f)
  | .fn2 f a b =>
      match unitOf J s a, unitOf J s b with
      | some ua, some ub => J.FU2 f ua ub
      | _, _ => none

-- ------------------------------------------------------------------------------------------------ the calls used
/-- `get_unique_name`: append `_a` while the name is in use. On fuel; `names.length` tries are enough, because the
    candidates get longer and longer (`Props/C06.lean`, `convert_var_names_fresh`). -/
def uniqueName (names : List String) : Nat → String → String
  | 0, b => b
  | fuel + 1, b => if b ∈ names then uniqueName names fuel (b ++ "_a") else b

def freshName (s : CState) (base : String) : String := uniqueName (names s) (names s).length base

/-- `add_variable(name, units, initial_value)` without a cmeta id; answers the new variable -/
def addVariable (s : CState) (name : String) (u : U) (init : Option Rat) : CState × Nat :=
  if name ∈ names s then ({ s with raised := true }, s.vars.length)            -- ValueError
  else ({ s with vars := s.vars ++ [⟨name, u, init, none⟩] }, s.vars.length)

/-- `transfer_cmeta_id` -/
def transferCmeta (s : CState) (src dst : Nat) : CState :=
  match cmetaOfV s src with
  | none => { s with raised := true }                                          -- ValueError
  | some c =>
    match cmetaOfV s dst with
    | some _ => { s with raised := true }                                      -- ValueError
    | none =>
      { s with vars := setV (setV s.vars dst (fun x => { x with cmeta := some c })) src
                            (fun x => { x with cmeta := none }),
               cmetaMap := insertKey c dst s.cmetaMap }

/-- `_check_duplicate_definitions` -/
def isDefined (s : CState) (v : Nat) : Bool := hasKey v s.odeDef || hasKey v s.varDef

/-- `add_equation(eq, check_duplicates=check)` (validate, then append; the caches are not modelled here) -/
def addEq (s : CState) (e : CEqn) (check : Bool) : CState :=
  match e.lhs with
  | .deriv x _ =>
      if check && isDefined s x then { s with raised := true }                 -- ValueError
      else { s with odeDef := insertKey x e s.odeDef, equations := s.equations ++ [e] }
  | .var v =>
      if check && isDefined s v then { s with raised := true }                 -- ValueError
      else { s with varDef := insertKey v e s.varDef, equations := s.equations ++ [e] }

/-- `remove_equation` -/
def removeEq (s : CState) (e : CEqn) : CState :=
  if e ∈ s.equations then
    let s1 := { s with equations := s.equations.erase e }
    match e.lhs with
    | .deriv x _ =>
        if hasKey x s.odeDef then { s1 with odeDef := eraseKey x s.odeDef } else { s1 with raised := true }
    | .var v =>
        if hasKey v s.varDef then { s1 with varDef := eraseKey v s.varDef } else { s1 with raised := true }
  else { s with raised := true }                                               -- KeyError

/-- `get_free_variable`: the bound variable of the first ODE in dict order -/
def getFree (s : CState) : Option Nat :=
  match s.odeDef with
  | (_, e) :: _ => (match e.lhs with | .deriv _ t => some t | .var _ => none)
  | [] => none

/-- `units.evaluate_units(lhs)` of a left-hand side -/
def lhsUnit (s : CState) : CLhs → U
  | .var v => unitOfV s v
  | .deriv x t => (unitOfV s x).div (unitOfV s t)

def substLhs (rep : Rep) : CLhs → CLhs
  | .var v => .var v
  | .deriv x t => match rep.lookup (x, t) with | some w => .var w | none => .deriv x t

/-- `equation.xreplace(map)` -/
def substEq (rep : Rep) (e : CEqn) : CEqn := ⟨substLhs rep e.lhs, e.rhs.subst rep⟩

/-- `not derivatives_to_replace.isdisjoint(equation.rhs.atoms(sympy.Derivative))` -/
def mentions (rep : Rep) (e : CEqn) : Bool := e.rhs.derivs.any (fun d => hasKey d rep)

-- ------------------------------------------------------------------------------------------------ the helpers
/-- `_replace_references_to_derivatives`: over a copy of the list; an equation that mentions a replaced derivative
    is removed and its rewritten form appended -/
def replaceRefs (s : CState) (rep : Rep) : CState :=
  s.equations.foldl (fun st e => if mentions rep e then addEq (removeEq st e) (substEq rep e) true else st) s

/-- `_remove_ode_and_assign_rhs_to_new_variable`: answers the variable that now holds the right-hand side -/
def removeOdeAssign (s : CState) (ode : CEqn) (x : Nat) : CState × Nat :=
  let (s1, w) := addVariable s (freshName s (nameOfV s x ++ "_orig_deriv")) (lhsUnit s ode.lhs) none
  (addEq (removeEq s1 ode) ⟨.var w, ode.rhs⟩ true, w)

/-- `_convert_free_variable_deriv`: answers the entry for the replacement map -/
def convertFreeDeriv (s : CState) (ode : CEqn) (newT : Nat) (cfq : X) : CState × Rep :=
  match ode.lhs with
  | .deriv x t =>
      let (s1, w) := removeOdeAssign s ode x
      (addEq s1 ⟨.deriv x newT, .div (.var w) cfq⟩ true, [((x, t), w)])
  | .var _ => (s, [])                                                          -- not in `_ode_definition_map`

/-- `_convert_state_variable_deriv` -/
def convertStateDeriv (s : CState) (v nv : Nat) (cfq : X) : CState × Rep :=
  match s.odeDef.lookup v with
  | some ode =>
    (match ode.lhs with
     | .deriv x t =>
        let (s1, w) := removeOdeAssign s ode v
        (addEq s1 ⟨.deriv nv t, .mul (.var w) cfq⟩ true, [((x, t), w)])
     | .var _ => (s, []))
  | none => ({ s with raised := true }, [])                                    -- KeyError

/-- `_convert_variable_instance`, the INPUT branch after the new variable `nv` exists: replace the definition of `v`
    (if it has one) by a definition of `nv`, drop the initial value of `v`, define `v` from `nv` -/
def instInput (s2 : CState) (v nv : Nat) (cfq : X) : CState :=
  let s3 := match s2.varDef.lookup v with
    | some oe => addEq (removeEq s2 oe) ⟨.var nv, .mul oe.rhs cfq⟩ true
    | none => s2
  let s4 := { s3 with vars := setV s3.vars v (fun x => { x with init := none }) }
  addEq s4 ⟨.var v, .div (.var nv) cfq⟩ (!hasKey v s4.odeDef)

/-- `_convert_variable_instance`, the OUTPUT branch -/
def instOutput (s2 : CState) (v nv : Nat) (cfq : X) : CState :=
  addEq s2 ⟨.var nv, .mul (.var v) cfq⟩ true

/-- the initial value of the new variable -/
def newInit (s : CState) (v : Nat) (cf : Rat) : Dir → Option Rat
  | .input => (initOfV s v).map (· * cf)
  | .output => none

/-- `_convert_variable_instance` -/
def convertInstance (s : CState) (v : Nat) (cf : Rat) (u : U) (dir : Dir) (move : Bool) : CState × Nat :=
  let cfq : X := .lit cf (u.div (unitOfV s v))
  let (s1, nv) := addVariable s (freshName s (nameOfV s v ++ "_converted")) u (newInit s v cf dir)
  let s2 := if (cmetaOfV s1 v).isSome && move then transferCmeta s1 v nv else s1
  match dir with
  | .input => (instInput s2 v nv cfq, nv)
  | .output => (instOutput s2 v nv cfq, nv)

/-- the ODEs `sorted(self._ode_definition_map.items(), key=order_added)` -/
def sortedOdes (s : CState) : List CEqn :=
  (sortByKey id (s.odeDef.map (·.1))).filterMap (fun x => s.odeDef.lookup x)

/-- one turn of the loop over the ODEs in `convert_variable` -/
def freeStep (v nv : Nat) (cfq : X) (acc : CState × Rep) (ode : CEqn) : CState × Rep :=
  match ode.lhs with
  | .deriv _ t =>
      if t = v then
        let (st, r) := convertFreeDeriv acc.1 ode nv cfq
        (st, r.foldl (fun m p => insertKey p.1 p.2 m) acc.2)
      else ({ acc.1 with raised := true }, acc.2)                              -- AssertionError
  | .var _ => acc

/-- `if original_variable in state_symbols: …_convert_state_variable_deriv…` -/
def statePhase (isState : Bool) (s1 : CState) (v nv : Nat) (cfq : X) : CState × Rep :=
  if isState then convertStateDeriv s1 v nv cfq else (s1, [])

/-- `if original_variable == free_symbol: for … in sorted(odes): …_convert_free_variable_deriv…` -/
def freePhase (isFree : Bool) (acc : CState × Rep) (v nv : Nat) (cfq : X) : CState × Rep :=
  if isFree then (sortedOdes acc.1).foldl (freeStep v nv cfq) acc else acc

/-- `if derivative_replacements: self._replace_references_to_derivatives(derivative_replacements)` -/
def replacePhase (acc : CState × Rep) : CState :=
  if acc.2.isEmpty then acc.1 else replaceRefs acc.1 acc.2

/-- `convert_variable(v, units, direction, move_annotations)` with `cf = get_conversion_factor(v.units, units)`:
    answers the state, the variable returned, and the derivative replacement map that was applied -/
def convertVariable (s : CState) (v : Nat) (u : U) (cf : Rat) (dir : Dir) (move : Bool) : CState × Nat × Rep :=
  if cf = 1 then (s, v, [])
  else
    let cfq : X := .lit cf (u.div (unitOfV s v))
    let isState := hasKey v s.odeDef                    -- `original_variable in state_symbols`, read early
    let free := getFree s
    let ci := convertInstance s v cf u dir move
    match dir with
    | .output => (ci.1, ci.2, [])
    | .input =>
        let a := statePhase isState ci.1 v ci.2 cfq
        let b := freePhase (free == some v) a v ci.2 cfq
        (replacePhase b, ci.2, b.2)

end Model.CV
