import Cellml.Model.Cmeta
import Cellml.C08.Lemmas
import Cellml.C08.FreeCmeta
import Cellml.Basic.ListLemmas

/-! Lemmas for C13 (core Lean only): the bijection `Bij` between cmeta ids and live variables as a consequence of the C08
    invariant, and the invariant `AInv` of the annotated state; the lookups; the effect of each call on `live` /
    `cmetaOf`; the two candidate loops (`while has_cmeta_id`, `get_unique_name`) end by a pigeonhole argument;
    `convert_variable` as a chain of states that only gain variables (`Grows`), with or without one transfer of an id. -/

namespace Model

/-- **the bijection**: the registry is exactly "which live variable carries which id"; ids are pairwise distinct and
    distinct from the model's own id; `has_cmeta_id` is "the model's id or some live variable's id" -/
structure Bij (s : MState) : Prop where
  lookup_iff : ∀ c i, getVariableByCmetaId s c = some i ↔ (i ∈ s.live ∧ cmetaOf s i = some c)
  distinct : ∀ i ∈ s.live, ∀ j ∈ s.live, ∀ c, cmetaOf s i = some c → cmetaOf s j = some c → i = j
  notModel : ∀ i ∈ s.live, ∀ c, cmetaOf s i = some c → s.modelCmeta ≠ some c
  has_iff : ∀ c, hasCmetaId s c = true ↔ (s.modelCmeta = some c ∨ ∃ i ∈ s.live, cmetaOf s i = some c)

/-- invariant of the annotated state: the C08 invariant of the model, and the RDF graph is a set -/
structure AInv (a : AState) : Prop where
  inv : Inv a.m
  rdfNodup : a.rdf.Nodup

theorem bij_of_inv {s : MState} (h : Inv s) : Bij s := by
  have R := h.reg
  have hl : ∀ c i, getVariableByCmetaId s c = some i ↔ (i ∈ s.live ∧ cmetaOf s i = some c) := by
    intro c i
    unfold getVariableByCmetaId
    rw [List.lookup_eq_some_iff_mem R.cmetaKeys]
    exact R.cmetaIff c i
  refine ⟨hl, ?_, R.cmetaModel, ?_⟩
  · intro i hi j hj c hci hcj
    exact functional_of_keys_nodup s.cmetaMap R.cmetaKeys c i j ((R.cmetaIff c i).mpr ⟨hi, hci⟩)
      ((R.cmetaIff c j).mpr ⟨hj, hcj⟩)
  · intro c
    unfold hasCmetaId
    rw [Bool.or_eq_true, hasKey_iff]
    constructor
    · rintro (h | ⟨i, hi⟩)
      · left; simpa using h
      · right; exact ⟨i, (R.cmetaIff c i).mp hi⟩
    · rintro (h | ⟨i, hi⟩)
      · left; simp [h]
      · right; exact ⟨i, (R.cmetaIff c i).mpr hi⟩

theorem lookup_eq_carrier {s : MState} (B : Bij s) (c : String) : getVariableByCmetaId s c = carrierOf s c := by
  unfold carrierOf
  cases hf : s.live.find? (fun i => cmetaOf s i == some c) with
  | some i =>
    have hm := List.mem_of_find?_eq_some hf
    have hp := List.find?_some hf
    exact (B.lookup_iff c i).mpr ⟨hm, by simpa using hp⟩
  | none =>
    cases hl : getVariableByCmetaId s c with
    | none => rfl
    | some i =>
      obtain ⟨hi, hc⟩ := (B.lookup_iff c i).mp hl
      have := List.find?_eq_none.mp hf i hi
      simp [hc] at this

theorem carriers_some {f : String → Option Nat} : ∀ {l : List Triple} {vs : List Nat}, carriers f l = some vs →
    vs.length = l.length ∧ ∀ v, v ∈ vs ↔ ∃ t ∈ l, f t.subj = some v := by
  intro l
  induction l with
  | nil => intro vs h; simp only [carriers, Option.some.injEq] at h; subst h; simp
  | cons t r ih =>
    intro vs h
    simp only [carriers] at h
    cases h1 : f t.subj with
    | none => simp [h1] at h
    | some v0 =>
      cases h2 : carriers f r with
      | none => simp [h1, h2] at h
      | some vs0 =>
        simp only [h1, h2, Option.some.injEq] at h
        subst h
        obtain ⟨hl, hm⟩ := ih h2
        refine ⟨by simp [hl], ?_⟩
        intro v
        simp only [List.mem_cons, hm, exists_eq_or_imp, h1, Option.some.injEq]
        constructor
        · rintro (rfl | h); exact Or.inl rfl; exact Or.inr h
        · rintro (rfl | h); exact Or.inl rfl; exact Or.inr h

theorem carriers_none {f : String → Option Nat} : ∀ {l : List Triple}, carriers f l = none ↔ ∃ t ∈ l, f t.subj = none := by
  intro l
  induction l with
  | nil => simp [carriers]
  | cons t r ih =>
    simp only [carriers, List.mem_cons, exists_eq_or_imp]
    cases h1 : f t.subj with
    | none => simp
    | some v0 =>
      cases h2 : carriers f r with
      | none => simp only [true_iff]; right; exact ih.mp h2
      | some vs0 =>
        constructor
        · intro h; cases h
        · rintro (h | ⟨x, hx, hn⟩)
          · cases h
          · have := ih.mpr ⟨x, hx, hn⟩
            rw [h2] at this; cases this

theorem carrierOf_some {s : MState} {c : String} {v : Nat} (h : carrierOf s c = some v) :
    v ∈ s.live ∧ cmetaOf s v = some c := by
  unfold carrierOf at h
  exact ⟨List.mem_of_find?_eq_some h, by simpa using List.find?_some h⟩

theorem carrierOf_of {s : MState} (B : Bij s) {c : String} {v : Nat} (hv : v ∈ s.live) (hc : cmetaOf s v = some c) :
    carrierOf s c = some v := by
  rw [← lookup_eq_carrier B]; exact (B.lookup_iff c v).mpr ⟨hv, hc⟩

theorem carrierOf_none {s : MState} {c : String} : carrierOf s c = none ↔ ∀ i ∈ s.live, cmetaOf s i ≠ some c := by
  unfold carrierOf
  rw [List.find?_eq_none]
  simp

theorem lookup_none_iff {s : MState} (B : Bij s) (c : String) :
    getVariableByCmetaId s c = none ↔ ∀ i ∈ s.live, cmetaOf s i ≠ some c := by
  rw [lookup_eq_carrier B]; exact carrierOf_none

theorem byRdf_eq_spec {a : AState} (B : Bij a.m) (p : String) (o : Option RNode) : byRdf a p o = byRdfSpec a p o := by
  unfold byRdf byRdfSpec
  rw [funext (lookup_eq_carrier B)]

theorem byRdf_ok {a : AState} (B : Bij a.m) {p : String} {o : Option RNode} {vs : List Nat} (h : byRdf a p o = .ok vs) :
    vs.length = (a.rdf.filter (tripleMatches p o)).length ∧
    (∀ v, v ∈ vs ↔ v ∈ a.m.live ∧ ∃ t ∈ a.rdf, tripleMatches p o t = true ∧ cmetaOf a.m v = some t.subj) ∧
    vs.Pairwise (fun x y => orderOf a.m x ≤ orderOf a.m y) := by
  rw [byRdf_eq_spec B] at h
  unfold byRdfSpec at h
  cases hc : carriers (carrierOf a.m) (a.rdf.filter (tripleMatches p o)) with
  | none => rw [hc] at h; cases h
  | some ws =>
    rw [hc] at h
    simp only [Except.ok.injEq] at h
    subst h
    obtain ⟨hl, hm⟩ := carriers_some hc
    have hp := sortByKey_perm (orderOf a.m) ws
    refine ⟨by rw [hp.length_eq, hl], ?_, sortByKey_sorted _ _⟩
    intro v
    rw [hp.mem_iff, hm]
    constructor
    · rintro ⟨t, ht, hv⟩
      obtain ⟨ht1, ht2⟩ := List.mem_filter.mp ht
      obtain ⟨hv1, hv2⟩ := carrierOf_some hv
      exact ⟨hv1, t, ht1, ht2, hv2⟩
    · rintro ⟨hv1, t, ht1, ht2, hv2⟩
      exact ⟨t, List.mem_filter.mpr ⟨ht1, ht2⟩, carrierOf_of B hv1 hv2⟩

theorem byRdf_error {a : AState} (B : Bij a.m) (p : String) (o : Option RNode) (e : LErr) :
    byRdf a p o = .error e ↔
      (e = .keyError ∧ ∃ t ∈ a.rdf, tripleMatches p o t = true ∧ ∀ i ∈ a.m.live, cmetaOf a.m i ≠ some t.subj) := by
  rw [byRdf_eq_spec B]
  unfold byRdfSpec
  cases hc : carriers (carrierOf a.m) (a.rdf.filter (tripleMatches p o)) with
  | some ws =>
    constructor
    · intro h; cases h
    · rintro ⟨_, t, ht, hm, hn⟩
      have := carriers_none.mpr ⟨t, List.mem_filter.mpr ⟨ht, hm⟩, carrierOf_none.mpr hn⟩
      rw [hc] at this; cases this
  | none =>
    obtain ⟨t, ht, hn⟩ := carriers_none.mp hc
    obtain ⟨ht1, ht2⟩ := List.mem_filter.mp ht
    constructor
    · intro h
      simp only [Except.error.injEq] at h
      exact ⟨h.symm, t, ht1, ht2, carrierOf_none.mp hn⟩
    · rintro ⟨rfl, _⟩; rfl

theorem tripleMatches_some (p : String) (x : RNode) (t : Triple) :
    tripleMatches p (some x) t = true ↔ t.pred = p ∧ t.obj = x := by
  simp [tripleMatches]

theorem tripleMatches_none (p : String) (t : Triple) : tripleMatches p none t = true ↔ t.pred = p := by
  simp [tripleMatches]

theorem byTerm_ok_iff {a : AState} (B : Bij a.m) (term : RNode) (v : Nat) :
    byTerm a term = .ok v ↔
      ∃ c, a.rdf.filter (tripleMatches bqbiolIs (some term)) = [⟨c, bqbiolIs, term⟩] ∧ v ∈ a.m.live ∧
        cmetaOf a.m v = some c := by
  constructor
  · intro h
    -- `v` comes from the answer `[v]` of `get_variables_by_rdf`, and `byRdf_ok` says what that answer is
    have hr : byRdf a bqbiolIs (some term) = .ok [v] := by
      unfold byTerm at h
      split at h
      · cases h
      · rename_i w hw; cases h; exact hw
      · cases h
      · cases h
    obtain ⟨hlen, hmem, _⟩ := byRdf_ok B hr
    obtain ⟨hv1, t, ht, hm, hc⟩ := (hmem v).mp List.mem_cons_self
    obtain ⟨t', ht'⟩ := List.length_eq_one_iff.mp hlen.symm
    have hin : t ∈ [t'] := ht' ▸ List.mem_filter.mpr ⟨ht, hm⟩
    obtain rfl := List.mem_singleton.mp hin
    obtain ⟨hp, ho⟩ := (tripleMatches_some _ _ _).mp hm
    refine ⟨t.subj, ?_, hv1, hc⟩
    rw [ht']
    cases t
    simp only at hp ho
    subst hp ho
    rfl
  · rintro ⟨c, hl, hv1, hv2⟩
    unfold byTerm
    rw [byRdf_eq_spec B]
    unfold byRdfSpec
    rw [hl]
    simp only [carriers, carrierOf_of B hv1 hv2]
    rfl

theorem byTerm_none {a : AState} (term : RNode) (h : a.rdf.filter (tripleMatches bqbiolIs (some term)) = []) :
    byTerm a term = .error .keyError := by
  unfold byTerm byRdf
  rw [h]
  rfl

theorem termsOf_mem {a : AState} {v : Nat} {ns : Option String} {x : String} :
    x ∈ termsOf a v ns ↔
      ∃ t ∈ a.rdf, cmetaOf a.m v = some t.subj ∧ t.pred = bqbiolIs ∧ nsOk ns t.obj = true ∧ localName t.obj.text = x := by
  unfold termsOf annotationsOf
  cases hc : cmetaOf a.m v with
  | none => simp
  | some c =>
    simp only [List.mem_map, List.mem_filter, Bool.and_eq_true, beq_iff_eq, Option.some.injEq]
    constructor
    · rintro ⟨t, ⟨⟨ht, hs, hp⟩, hn⟩, hx⟩
      exact ⟨t, ht, hs.symm, hp, hn, hx⟩
    · rintro ⟨t, ht, hs, hp, hn, hx⟩
      exact ⟨t, ⟨⟨ht, hs.symm, hp⟩, hn⟩, hx⟩

theorem byTerm_mem_termsOf {a : AState} (B : Bij a.m) {term : RNode} {v : Nat} (h : byTerm a term = .ok v) :
    localName term.text ∈ termsOf a v none := by
  obtain ⟨c, hl, _, hv2⟩ := (byTerm_ok_iff B term v).mp h
  have ht : (⟨c, bqbiolIs, term⟩ : Triple) ∈ a.rdf.filter (tripleMatches bqbiolIs (some term)) := by
    rw [hl]; exact List.mem_singleton.mpr rfl
  exact termsOf_mem.mpr ⟨_, (List.mem_filter.mp ht).1, hv2, rfl, rfl, rfl⟩

theorem byTerm_moves {a a' : AState} (B : Bij a.m) (B' : Bij a'.m) (hrdf : a'.rdf = a.rdf) {src dst : Nat} {c : String}
    (hsrc : cmetaOf a.m src = some c) (hdst : dst ∈ a'.m.live ∧ cmetaOf a'.m dst = some c) {term : RNode}
    (h : byTerm a term = .ok src) : byTerm a' term = .ok dst := by
  obtain ⟨c', hl, _, hc'⟩ := (byTerm_ok_iff B term src).mp h
  obtain rfl : c' = c := Option.some.inj (hc'.symm.trans hsrc)
  exact (byTerm_ok_iff B' term dst).mpr ⟨c', by rw [hrdf]; exact hl, hdst.1, hdst.2⟩

/-- what a call may do to the variables and their ids, as far as this property can see it -/
structure SameIds (s s' : MState) : Prop where
  live : s'.live = s.live
  cmeta : ∀ i, cmetaOf s' i = cmetaOf s i
  model : s'.modelCmeta = s.modelCmeta

theorem SameIds.refl (s : MState) : SameIds s s := ⟨rfl, fun _ => rfl, rfl⟩

theorem SameIds.trans {s t u : MState} (h1 : SameIds s t) (h2 : SameIds t u) : SameIds s u :=
  ⟨h2.live.trans h1.live, fun i => (h2.cmeta i).trans (h1.cmeta i), h2.model.trans h1.model⟩

theorem sameIds_of_heap {s s' : MState} (hh : s'.heap = s.heap) (hl : s'.live = s.live)
    (hm : s'.modelCmeta = s.modelCmeta) : SameIds s s' :=
  ⟨hl, fun i => by unfold cmetaOf; rw [hh], hm⟩

theorem addEquationCore_frame (s : MState) (e : Eqn) (b : Bool) :
    (addEquationCore s e b).1.heap = s.heap ∧ (addEquationCore s e b).1.live = s.live ∧
    (addEquationCore s e b).1.modelCmeta = s.modelCmeta := by
  unfold addEquationCore
  split
  · split
    · exact ⟨rfl, rfl, rfl⟩
    · split <;> exact ⟨rfl, rfl, rfl⟩
  · split <;> exact ⟨rfl, rfl, rfl⟩
  · exact ⟨rfl, rfl, rfl⟩

theorem cmetaOf_applyTypes (s : MState) (rel : List Nat) (tm : List (Nat × VType)) (i : Nat) :
    ((applyTypes s.heap rel tm)[i]?).bind (·.cmeta) = cmetaOf s i := by
  unfold cmetaOf
  rw [getElem?_applyTypes]
  cases s.heap[i]? with
  | none => rfl
  | some v => simp only [Option.map_some, Option.bind_some]; split <;> rfl

theorem queryGraph_sameIds (s : MState) : SameIds s (queryGraph s).1 := by
  unfold queryGraph
  split
  · exact SameIds.refl s
  · split <;> exact ⟨rfl, fun i => cmetaOf_applyTypes s _ _ i, rfl⟩

theorem queryGraphNum_sameIds (s : MState) : SameIds s (queryGraphNum s).1 := by
  unfold queryGraphNum
  split
  · exact SameIds.refl s
  · have h := queryGraph_sameIds s
    split
    · rename_i s' g heq; rw [heq] at h; exact ⟨h.live, h.cmeta, h.model⟩
    · rename_i s' g heq; rw [heq] at h; exact h

theorem cmetaOf_ge {s : MState} {i : Nat} (h : s.heap.length ≤ i) : cmetaOf s i = none := by
  unfold cmetaOf; rw [List.getElem?_eq_none h]; rfl

theorem addVariable_raised {s : MState} {n : String} {c : Option String} {iv : Option Rat}
    (h : nameTaken s n = true ∨ cmetaTaken s c = true) : addVariable s n c iv = (s, .raised .valueError) := by
  unfold addVariable
  unfold nameTaken at h
  rcases h with h | h
  · rw [if_pos h]
  · split <;> rfl

theorem addVariable_ok {s : MState} {n : String} {c : Option String} {iv : Option Rat}
    (h1 : nameTaken s n = false) (h2 : cmetaTaken s c = false) :
    (addVariable s n c iv).2 = .ok ∧ (addVariable s n c iv).1.live = s.live ++ [s.heap.length] ∧
    (addVariable s n c iv).1.heap.length = s.heap.length + 1 ∧
    (addVariable s n c iv).1.modelCmeta = s.modelCmeta ∧
    (∀ i, cmetaOf (addVariable s n c iv).1 i = if i = s.heap.length then c else cmetaOf s i) ∧
    (∀ i, i < s.heap.length → nameOfVar (addVariable s n c iv).1 i = nameOfVar s i) ∧
    nameOfVar (addVariable s n c iv).1 s.heap.length = n := by
  unfold addVariable
  unfold nameTaken at h1
  rw [if_neg (by simp [h1]), if_neg (by simp [h2])]
  exact ⟨rfl, rfl, by simp [invalidate], rfl, fun i => cmetaOf_snoc (s := s) (x := ⟨n, s.nextOrder, c, iv, none⟩) rfl i,
    fun i hi => (nameOfVar_snoc (s := s) rfl i).trans (if_neg (Nat.ne_of_lt hi)),
    (nameOfVar_snoc (s := s) rfl _).trans (if_pos rfl)⟩

theorem transferCmetaId_raised {s : MState} {src dst : Nat} (hs : src ∈ s.live) (hd : dst ∈ s.live)
    (h : cmetaOf s src = none ∨ (cmetaOf s dst).isSome = true) :
    transferCmetaId s src dst = (s, .raised .valueError) := by
  unfold transferCmetaId
  have h1 : isLive s src = true := by simpa [isLive] using hs
  have h2 : isLive s dst = true := by simpa [isLive] using hd
  simp only [h1, h2, Bool.not_true, Bool.or_self, Bool.false_eq_true, if_false]
  cases hcs : cmetaOf s src with
  | none => rfl
  | some c =>
    cases hcd : cmetaOf s dst with
    | none => rcases h with h | h <;> simp_all
    | some d => rfl

theorem transferCmetaId_ok {s : MState} (R : RegInv s) {src dst : Nat} {c : String} (hs : src ∈ s.live)
    (hd : dst ∈ s.live) (hcs : cmetaOf s src = some c) (hcd : cmetaOf s dst = none) :
    (transferCmetaId s src dst).2 = .ok ∧ (transferCmetaId s src dst).1.live = s.live ∧
    (transferCmetaId s src dst).1.heap.length = s.heap.length ∧
    (transferCmetaId s src dst).1.modelCmeta = s.modelCmeta ∧
    (∀ i, cmetaOf (transferCmetaId s src dst).1 i = if i = src then none else if i = dst then some c else cmetaOf s i) ∧
    nameOfVar (transferCmetaId s src dst).1 = nameOfVar s := by
  have hslt := R.liveBound src hs
  have hdlt := R.liveBound dst hd
  unfold transferCmetaId
  have h1 : isLive s src = true := by simpa [isLive] using hs
  have h2 : isLive s dst = true := by simpa [isLive] using hd
  simp only [h1, h2, Bool.not_true, Bool.or_self, Bool.false_eq_true, if_false, hcs, hcd]
  refine ⟨trivial, trivial, by simp [length_setVar], trivial, ?_, ?_⟩
  · intro i
    show ((setVar (setVar s.heap dst _) src _)[i]?).bind (·.cmeta) = _
    rw [cmeta_setVar _ src i none (by rw [length_setVar]; exact hslt)]
    by_cases h1 : i = src
    · simp [h1]
    · simp only [h1, if_false]; exact cmeta_setVar s.heap dst i (some c) hdlt
  · funext i
    show nameOf ((setVar (setVar s.heap dst _) src _).map (·.name)) i = _
    rw [nameOf_setVar_cmeta, nameOf_setVar_cmeta]; rfl

theorem addCmetaId_ok {s : MState} (R : RegInv s) {v : Nat} (hv : v ∈ s.live) (hc : cmetaOf s v = none) :
    ∃ (c : String) (k : Nat), c = cand ((nameOfVar s v).replace "$" "__") k ∧
      (∀ j, j < k → hasCmetaId s (cand ((nameOfVar s v).replace "$" "__") j) = true) ∧
      hasCmetaId s c = false ∧
      (addCmetaId s v).2 = .ok ∧ (addCmetaId s v).1.live = s.live ∧
      (addCmetaId s v).1.heap.length = s.heap.length ∧ (addCmetaId s v).1.modelCmeta = s.modelCmeta ∧
      (∀ i, cmetaOf (addCmetaId s v).1 i = if i = v then some c else cmetaOf s i) ∧
      nameOfVar (addCmetaId s v).1 = nameOfVar s := by
  have hlt := R.liveBound v hv
  have hl : isLive s v = true := by simpa [isLive] using hv
  have hsome := freeCmeta_isSome s ((nameOfVar s v).replace "$" "__")
  cases hf : freeCmeta s ((nameOfVar s v).replace "$" "__") (s.cmetaMap.length + 1) with
  | none => rw [hf] at hsome; cases hsome
  | some c =>
    obtain ⟨k, _, he, hall, hfree⟩ := freeCmeta_some _ _ _ hf
    refine ⟨c, k, he, hall, hfree, ?_⟩
    unfold addCmetaId
    simp only [hl, Bool.not_true, Bool.false_eq_true, if_false, hc, hf]
    refine ⟨trivial, trivial, by simp [length_setVar], trivial, ?_, ?_⟩
    · intro i; exact cmeta_setVar s.heap v i (some c) hlt
    · funext i; exact nameOf_setVar_cmeta s.heap v i (some c)

theorem addCmetaId_noop {s : MState} {v : Nat} (h : v ∉ s.live ∨ (cmetaOf s v).isSome = true) :
    (addCmetaId s v).1 = s := by
  unfold addCmetaId
  by_cases hl : isLive s v = true
  · simp only [hl, Bool.not_true, Bool.false_eq_true, if_false]
    cases hc : cmetaOf s v with
    | some c => rfl
    | none => rcases h with h | h
              · exact absurd (by simpa [isLive] using hl) h
              · rw [hc] at h; cases h
  · have : isLive s v = false := by simpa using hl
    simp [this]

theorem removeVariableA_m (a : AState) (v : Nat) :
    (removeVariableA a v).1.m = (removeVariable a.m v).1 ∧ (removeVariableA a v).2 = (removeVariable a.m v).2 := by
  unfold removeVariableA removeVariable
  by_cases hl : isLive a.m v = true
  · simp only [hl, Bool.not_true, Bool.false_eq_true, if_false]
    cases hd : getDefinition a.m v with
    | none => exact ⟨rfl, rfl⟩
    | some e =>
      simp only
      cases hr : removeEquation a.m e with
      | mk s1 out => cases out <;> exact ⟨rfl, rfl⟩
  · have : isLive a.m v = false := by simpa using hl
    simp [this]

theorem unregister_effect {s1 : MState} (h1 : Inv s1) {v : Nat} (hv : v ∈ s1.live) :
    (unregister s1 v).2 = .ok ∧ (unregister s1 v).1.live = s1.live.erase v ∧ (unregister s1 v).1.heap = s1.heap ∧
    (unregister s1 v).1.modelCmeta = s1.modelCmeta := by
  have hok := (inv_unregister h1 v hv).2
  refine ⟨hok, ?_⟩
  unfold unregister at hok ⊢
  cases hc : cmetaOf s1 v with
  | none => exact ⟨rfl, rfl, rfl⟩
  | some c =>
    simp only [hc] at hok ⊢
    by_cases hk : hasKey c s1.cmetaMap = true
    · simp only [hk, if_true]; exact ⟨rfl, rfl, rfl⟩
    · simp [hk] at hok

theorem removeVariableA_ok {a : AState} (h : Inv a.m) {v : Nat} (hv : v ∈ a.m.live) :
    (removeVariableA a v).2 = .ok ∧ (removeVariableA a v).1.m.live = a.m.live.erase v ∧
    (removeVariableA a v).1.m.modelCmeta = a.m.modelCmeta ∧
    (∀ i, cmetaOf (removeVariableA a v).1.m i = cmetaOf a.m i) ∧
    (removeVariableA a v).1.rdf = dropSubject (cmetaOf a.m v) a.rdf := by
  have hl : isLive a.m v = true := by simpa [isLive] using hv
  unfold removeVariableA
  simp only [hl, Bool.not_true, Bool.false_eq_true, if_false]
  cases hd : getDefinition a.m v with
  | none =>
    obtain ⟨k1, k2, k3, k4⟩ := unregister_effect h hv
    exact ⟨k1, k2, k4, fun i => by unfold cmetaOf; rw [k3], rfl⟩
  | some e =>
    have he := getDefinition_mem h.eq v e hd
    obtain ⟨f1, f2, f3, _⟩ := removeEquation_frame a.m e
    have hinv := inv_removeEquation h e
    have hokE : (removeEquation a.m e).2 = .ok := by
      rcases removeEquation_cases h.eq e with ⟨hne, _⟩ | ⟨w, _, _, hr⟩ | ⟨st, t, o, _, _, hr⟩
      · exact absurd he hne
      · rw [hr]
      · rw [hr]
    simp only
    cases hr : removeEquation a.m e with
    | mk s1 out =>
      rw [hr] at hokE f1 f2 f3 hinv
      simp only at hokE f1 f2 f3 hinv
      subst hokE
      simp only
      obtain ⟨k1, k2, k3, k4⟩ := unregister_effect hinv (by rw [f2]; exact hv)
      refine ⟨k1, by rw [k2, f2], by rw [k4, f3], fun i => by unfold cmetaOf; rw [k3, f1], ?_⟩
      unfold cmetaOf; rw [f1]

theorem mem_dropSubject {c : Option String} {rdf : List Triple} {t : Triple} :
    t ∈ dropSubject c rdf ↔ t ∈ rdf ∧ c ≠ some t.subj := by
  unfold dropSubject
  cases c with
  | none => simp
  | some c =>
    simp only [List.mem_filter, bne_iff_ne, ne_eq, Option.some.injEq]
    constructor
    · rintro ⟨h1, h2⟩; exact ⟨h1, fun e => h2 e.symm⟩
    · rintro ⟨h1, h2⟩; exact ⟨h1, fun e => h2 e.symm⟩

theorem dropSubject_sublist (c : Option String) (rdf : List Triple) : (dropSubject c rdf).Sublist rdf := by
  unfold dropSubject
  cases c with
  | none => exact List.Sublist.refl _
  | some c => exact List.filter_sublist

theorem removeVariableA_rdf (a : AState) (v : Nat) :
    (removeVariableA a v).1.rdf = a.rdf ∨ ∃ c, (removeVariableA a v).1.rdf = dropSubject c a.rdf := by
  unfold removeVariableA
  split
  · exact Or.inl rfl
  · cases getDefinition a.m v with
    | none => exact Or.inr ⟨_, rfl⟩
    | some e =>
      simp only
      cases removeEquation a.m e with
      | mk s1 out =>
        cases out with
        | ok => exact Or.inr ⟨_, rfl⟩
        | raised x => exact Or.inl rfl

theorem inv_addUnique {s : MState} (h : Inv s) (base : String) : Inv (addUnique s base) :=
  inv_addVariable h _ none none

theorem inv_convertMover {s : MState} (h : Inv s) (v nv : Nat) (move : Bool) : Inv (convertMover s v nv move) := by
  unfold convertMover
  split
  · exact inv_transferCmetaId h v nv
  · exact h

theorem inv_convertVariable {a : AState} (h : Inv a.m) (v : Nat) (move : Bool) (k : ConvKind) :
    Inv (convertVariable a v move k).1.m := by
  unfold convertVariable
  split
  · exact h
  · cases k with
    | same => exact h
    | output | input ds =>
      exact List.foldl_inv _ Inv _ _ (inv_convertMover (inv_addUnique h _) _ _ _) fun _ _ _ h => inv_addUnique h _

theorem convertVariable_rdf (a : AState) (v : Nat) (move : Bool) (k : ConvKind) :
    (convertVariable a v move k).1.rdf = a.rdf := by
  unfold convertVariable
  split
  · rfl
  · cases k <;> rfl

theorem inv_loaderMove {s : MState} (h : Inv s) (t d : Nat) : Inv (loaderMove s t d).1 := by
  unfold loaderMove
  split
  · exact h
  · exact inv_transferCmetaId h t d

theorem ainv_step {a : AState} (A : AInv a) (op : AOp) : AInv (astep a op).1 := by
  cases op with
  | base op =>
    cases op with
    | removeVariable v =>
      refine ⟨?_, ?_⟩
      · show Inv (removeVariableA a v).1.m
        rw [(removeVariableA_m a v).1]; exact inv_removeVariable A.inv v
      · show (removeVariableA a v).1.rdf.Nodup
        rcases removeVariableA_rdf a v with h | ⟨c, h⟩
        · rw [h]; exact A.rdfNodup
        · rw [h]; exact (dropSubject_sublist c a.rdf).nodup A.rdfNodup
    | _ => exact ⟨inv_step A.inv _, A.rdfNodup⟩
  | addRdf t =>
    refine ⟨?_, ?_⟩
    · show Inv (addRdf a t).m
      unfold addRdf; split <;> exact A.inv
    · show (addRdf a t).rdf.Nodup
      unfold addRdf
      split
      · exact A.rdfNodup
      · rename_i hn
        have hn' : t ∉ a.rdf := by simpa using hn
        exact List.nodup_snoc A.rdfNodup hn'
  | convert v move k =>
    exact ⟨inv_convertVariable A.inv v move k, by
      show (convertVariable a v move k).1.rdf.Nodup
      rw [convertVariable_rdf]; exact A.rdfNodup⟩
  | loaderMove t d => exact ⟨inv_loaderMove A.inv t d, A.rdfNodup⟩

theorem ainv_init (mc : Option String) : AInv (ainit mc) := ⟨inv_init mc, List.nodup_nil⟩

theorem ainv_run (mc : Option String) (ops : List AOp) : AInv (arun mc ops) :=
  List.foldl_inv _ AInv _ _ (ainv_init mc) fun _ op _ h => ainv_step h op

/-- the candidates of `get_unique_name`: `n`, `n_a`, `n_a_a`, … -/
def candA (c : String) : Nat → String
  | 0 => c
  | k + 1 => candA (c ++ "_a") k

theorem candA_length (c : String) (k : Nat) : (candA c k).length = c.length + 2 * k := by
  induction k generalizing c with
  | zero => rfl
  | succ k ih =>
    show (candA (c ++ "_a") k).length = _
    rw [ih, String.length_append]
    show c.length + 2 + 2 * k = _
    omega

theorem candA_inj (c : String) (i j : Nat) (h : candA c i = candA c j) : i = j := by
  have := congrArg String.length h
  rw [candA_length, candA_length] at this
  omega

theorem uniqueName_taken {s : MState} : ∀ (n : Nat) (c : String), nameTaken s (uniqueName s c n) = true →
    ∀ k, k ≤ n → nameTaken s (candA c k) = true := by
  intro n
  induction n with
  | zero =>
    intro c h k hk
    have : k = 0 := by omega
    subst this; exact h
  | succ n ih =>
    intro c h k hk
    unfold uniqueName at h
    by_cases hh : nameTaken s c = true
    · simp only [hh, if_true] at h
      cases k with
      | zero => exact hh
      | succ k => exact ih _ h k (by omega)
    · simp [hh] at h

theorem uniqueName_free (s : MState) (c : String) : nameTaken s (uniqueName s c (s.live.length + 1)) = false := by
  cases h : nameTaken s (uniqueName s c (s.live.length + 1)) with
  | false => rfl
  | true =>
    exfalso
    have hall := uniqueName_taken _ _ h
    refine List.pigeon (candA c) (candA_inj c) (s.live.map (nameOfVar s)).length (s.live.map (nameOfVar s)) rfl ?_
    intro k hk
    have := hall k (by simp at hk; omega)
    unfold nameTaken at this
    rw [List.any_eq_true] at this
    obtain ⟨i, hi, he⟩ := this
    exact List.mem_map.mpr ⟨i, hi, by simpa using he⟩

structure Grows (s s' : MState) : Prop where
  live  : ∃ extra, s'.live = s.live ++ extra ∧ ∀ i ∈ extra, s.heap.length ≤ i
  len   : s.heap.length ≤ s'.heap.length
  model : s'.modelCmeta = s.modelCmeta
  cmeta : ∀ i, cmetaOf s' i = cmetaOf s i

theorem Grows.refl (s : MState) : Grows s s := ⟨⟨[], by simp, by simp⟩, Nat.le_refl _, rfl, fun _ => rfl⟩

theorem Grows.trans {s t u : MState} (h1 : Grows s t) (h2 : Grows t u) : Grows s u := by
  obtain ⟨e1, hl1, hg1⟩ := h1.live
  obtain ⟨e2, hl2, hg2⟩ := h2.live
  refine ⟨⟨e1 ++ e2, by rw [hl2, hl1, List.append_assoc], fun i hi => ?_⟩, Nat.le_trans h1.len h2.len,
    h2.model.trans h1.model, fun i => (h2.cmeta i).trans (h1.cmeta i)⟩
  rcases List.mem_append.mp hi with h | h
  · exact hg1 i h
  · exact Nat.le_trans h1.len (hg2 i h)

theorem grows_addUnique (s : MState) (base : String) :
    Grows s (addUnique s base) ∧ (addUnique s base).live = s.live ++ [s.heap.length] := by
  obtain ⟨_, h2, h3, h4, h5, _⟩ := addVariable_ok (s := s) (n := uniqueName s base (s.live.length + 1)) (c := none)
    (iv := none) (uniqueName_free s base) rfl
  refine ⟨⟨⟨_, h2, by simp⟩, by show _ ≤ (addVariable s _ none none).1.heap.length; omega, h4, fun i => ?_⟩, h2⟩
  show cmetaOf (addVariable s _ none none).1 i = _
  rw [h5 i]
  split
  · rename_i hi; subst hi; exact (cmetaOf_ge (Nat.le_refl _)).symm
  · rfl

theorem grows_foldl (f : MState → Nat → String) (ds : List Nat) (s : MState) :
    Grows s (ds.foldl (fun s d => addUnique s (f s d)) s) :=
  List.foldl_inv _ (Grows s) ds s (Grows.refl s) fun t d _ h => h.trans (grows_addUnique t (f t d)).1

theorem Grows.carried {s s' : MState} (h : Grows s s') (c : String) (i : Nat) :
    (i ∈ s'.live ∧ cmetaOf s' i = some c) ↔ (i ∈ s.live ∧ cmetaOf s i = some c) := by
  obtain ⟨extra, hl, hge⟩ := h.live
  rw [h.cmeta, hl]
  refine and_congr_left fun hci => ⟨fun hi => ?_, List.mem_append_left _⟩
  rcases List.mem_append.mp hi with hi | hi
  · exact hi
  · rw [cmetaOf_ge (hge i hi)] at hci; cases hci

theorem convertVariable_eq {a : AState} {v : Nat} (hv : v ∈ a.m.live) (move : Bool) {k : ConvKind} (hk : k ≠ .same) :
    convertVariable a v move k =
      ({ a with m := (k.derivs.foldl (fun s d => addUnique s (nameOfVar s d ++ "_orig_deriv"))
          (convertMover (addUnique a.m (nameOfVar a.m v ++ "_converted")) v a.m.heap.length move)) }, .ok) := by
  have hl : isLive a.m v = true := by simpa [isLive] using hv
  unfold convertVariable
  -- `hk` selects the last arm of the `match` on `k`
  simp only [hl, Bool.not_true, Bool.false_eq_true, if_false]

theorem convertVariable_keeps {a : AState} {v : Nat} (hv : v ∈ a.m.live) {move : Bool} {k : ConvKind} (hk : k ≠ .same)
    (hm : move = false ∨ cmetaOf a.m v = none) :
    (convertVariable a v move k).2 = .ok ∧ (convertVariable a v move k).1.rdf = a.rdf ∧
    Grows a.m (convertVariable a v move k).1.m := by
  obtain ⟨g1, _⟩ := grows_addUnique a.m (nameOfVar a.m v ++ "_converted")
  have hmv : convertMover (addUnique a.m (nameOfVar a.m v ++ "_converted")) v a.m.heap.length move =
      addUnique a.m (nameOfVar a.m v ++ "_converted") := by
    unfold convertMover
    rw [g1.cmeta, if_neg]
    rcases hm with rfl | hm
    · simp
    · simp [hm]
  rw [convertVariable_eq hv move hk, hmv]
  exact ⟨rfl, rfl, g1.trans (grows_foldl _ _ _)⟩

theorem convertVariable_moves {a : AState} (h : Inv a.m) {v : Nat} (hv : v ∈ a.m.live) {k : ConvKind} (hk : k ≠ .same)
    {c : String} (hc : cmetaOf a.m v = some c) :
    (convertVariable a v true k).2 = .ok ∧ (convertVariable a v true k).1.rdf = a.rdf ∧
    a.m.heap.length ∈ (convertVariable a v true k).1.m.live ∧
    (∀ i, cmetaOf (convertVariable a v true k).1.m i =
      if i = v then none else if i = a.m.heap.length then some c else cmetaOf a.m i) := by
  obtain ⟨g1, l1⟩ := grows_addUnique a.m (nameOfVar a.m v ++ "_converted")
  have hc1 : cmetaOf (addUnique a.m (nameOfVar a.m v ++ "_converted")) v = some c := by rw [g1.cmeta]; exact hc
  obtain ⟨_, t2, _, _, t5, _⟩ := transferCmetaId_ok (inv_addUnique h _).reg (src := v) (dst := a.m.heap.length)
    (by rw [l1]; exact List.mem_append_left _ hv) (by rw [l1]; simp) hc1
    (by rw [g1.cmeta]; exact cmetaOf_ge (Nat.le_refl _))
  have hmv : convertMover (addUnique a.m (nameOfVar a.m v ++ "_converted")) v a.m.heap.length true =
      (transferCmetaId (addUnique a.m (nameOfVar a.m v ++ "_converted")) v a.m.heap.length).1 := by
    unfold convertMover; rw [hc1]; rfl
  rw [convertVariable_eq hv true hk]
  have g3 := grows_foldl (fun s d => nameOfVar s d ++ "_orig_deriv") k.derivs
    (convertMover (addUnique a.m (nameOfVar a.m v ++ "_converted")) v a.m.heap.length true)
  obtain ⟨extra, hx, _⟩ := g3.live
  exact ⟨rfl, rfl, by rw [hx, hmv, t2, l1]; simp, fun i => by rw [g3.cmeta, hmv, t5, g1.cmeta]⟩

theorem convertVariable_noop {a : AState} {v : Nat} {move : Bool} {k : ConvKind} (h : v ∉ a.m.live ∨ k = .same) :
    (convertVariable a v move k).1 = a := by
  unfold convertVariable
  by_cases hl : isLive a.m v = true
  · rcases h with h | h
    · exact absurd (by simpa [isLive] using hl) h
    · subst h; simp [hl]
  · have : isLive a.m v = false := by simpa using hl
    simp [this]

end Model
