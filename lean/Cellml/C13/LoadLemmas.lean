import Cellml.Load.PermOutcome
import Cellml.Units.Lemmas

/-! Where connection resolution leaves the cmeta ids (the `cf == 1` branch of `Parser._add_connections`; `Load.stepConn`, `Load.connect`): the invariant
    `CmInv` (Load/Cmeta.lean) at the end of the work list; the rule before the repair (`stepConnToday`), for the witnesses
    of `Props/C13.lean` (the loop on fuel over either rule: `Load.loopF`). Core Lean only. -/

namespace Load

theorem connect_cm {reg : Registry} {vt : VarTable} {l : List (VRef × VRef)} {st : CState}
    (h : connect reg vt l = .ok st) : CmInv vt st :=
  (connect_J h).cm

/-- where the id of `v0` is after resolution, and why the flat equations know that variable -/
theorem home_facts {reg : Registry} {vt : VarTable} {l : List (VRef × VRef)} {st : CState}
    (h : connect reg vt l = .ok st) (v0 : VRef) :
    (st.asg v0 = none ∧ home st v0 = v0) ∨
    (st.asg v0 = some (home st v0) ∧ st.asg (home st v0) = some (home st v0) ∧
      ((Src vt (home st v0) ∧ rootOf st v0 = home st v0) ∨ ∃ e ∈ st.convs, e.target = home st v0)) := by
  have inv := connect_inv h
  have cm := connect_cm h
  cases ha : st.asg v0 with
  | none => left; exact ⟨rfl, home_target ha⟩
  | some a =>
    right
    rw [home_of_asg ha]
    have haa := inv.asg_self v0 a ha
    refine ⟨rfl, haa, ?_⟩
    rcases cm.selfAsg a haa with hs | hc
    · left
      refine ⟨hs, ?_⟩
      rw [connect_rootOf h, ← inv.asg_root v0 a ha]
      exact inv.wf.root_src hs
    · exact Or.inr hc

/-! ## the rule before the repair (commit df25620): the id went to the direct `source` of the connection -/

def stepConnToday (reg : Registry) (vt : VarTable) (st : CState) (c : VRef × VRef) : Except Err (Option CState) :=
  let (s, t) := c
  if (st.asg t).isSome then .error (.valueError "Target already assigned")
  else match st.asg s with
    | none => .ok none
    | some a =>
      let mapping := (t, s) :: st.mapping
      match Units.factor reg (unitsOf vt s) (unitsOf vt t) with
      | .error .dimensionality => .error .dimensionality
      | .error _ => .error (.keyError "undefined unit")
      | .ok f =>
        if f = [] then
          match cmetaOf st t with
          | none => .ok (some { st with mapping := mapping, assigned := (t, a) :: st.assigned })
          | some id =>
            if (cmetaOf st s).isSome then .error (.valueError "Cannot transfer cmeta id: target variable already has a cmeta id")
            else .ok (some { st with mapping := mapping, assigned := (t, a) :: st.assigned,
                                     cmeta := (s, some id) :: (t, none) :: st.cmeta })
        else
          .ok (some { st with mapping := mapping, assigned := (t, t) :: st.assigned,
                              convs := st.convs ++ [⟨t, a, f, unitsOf vt t, unitsOf vt s⟩] })

end Load
