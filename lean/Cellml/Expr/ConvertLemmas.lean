import Cellml.Expr.Convert
import Cellml.Expr.InferLemmas
import Cellml.Units.Local

/-! Facts about the model of `convert_expression_recursively` that need no valuation of the variables: what
    `maybe_convert_expr` can return; inversion of a successful conversion, constructor by constructor; and by induction
    from these: nothing converted means the same expression, an explicit target is the reported unit, the class of
    every error, and strict inference (`traverse`) of the result for units in a class `UClass`, with the instance
    `dimClass`. The letters (a), (b), (c) are the clauses of property C05 (`Cellml/Props/C05.lean`, where the theorems
    about physical values are). -/

namespace Convert
open Units Infer PMap

theorem bind_ok {α β : Type} {x : Except UnitErr α} {f : α → Except UnitErr β} {r : β} (h : (x >>= f) = .ok r) :
    ∃ a, x = .ok a ∧ f a = .ok r := (Infer.bind_ok x f r).mp h

theorem bind_error {α β : Type} {x : Except UnitErr α} {f : α → Except UnitErr β} {err : UnitErr}
    (h : (x >>= f) = .error err) : x = .error err ∨ ∃ a, x = .ok a ∧ f a = .error err := (Infer.bind_error x f err).mp h

theorem bind_pure_ok {α β : Type} {x : Except UnitErr α} {g : α → β} {r : β}
    (h : (x >>= fun a => (pure (g a) : Except UnitErr β)) = .ok r) : ∃ a, x = .ok a ∧ r = g a := by
  obtain ⟨a, ha, h⟩ := bind_ok h
  exact ⟨a, ha, (Except.ok.inj h).symm⟩

/-- everything `maybe_convert_expr` can return: unchanged in the source unit (no target), unchanged in the target unit
    (factor one), or multiplied by the factor `f = scale frm / scale t` as a Quantity in `t / frm` -/
theorem maybeConv_spec {reg : Registry} {ex : E} {wc : Bool} {frm : Container} {tgt : Option Container} {same : Bool}
    {r : CR} (h : maybeConv reg ex wc frm tgt same = .ok r) :
    (tgt = none ∧ r = ⟨ex, wc, frm, same⟩) ∨
    (∃ t, tgt = some t ∧ factor reg frm t = .ok [] ∧ r = ⟨ex, wc, t, same⟩) ∨
    (∃ t f, tgt = some t ∧ factor reg frm t = .ok f ∧ f ≠ [] ∧
        r = ⟨.mul (.cf f (divC t frm)) ex, true, t, false⟩) := by
  cases tgt with
  | none =>
      simp only [maybeConv, Except.ok.injEq] at h
      exact Or.inl ⟨rfl, h.symm⟩
  | some t =>
      right
      simp only [maybeConv, conversionFactor] at h
      cases hf : factor reg frm t with
      | error e' => rw [hf] at h; cases e' <;> simp at h
      | ok f =>
          rw [hf] at h
          by_cases hnil : f = []
          · subst hnil
            simp only [if_true, Except.ok.injEq] at h
            exact Or.inl ⟨t, rfl, hf, h.symm⟩
          · simp only [hnil, if_false, Except.ok.injEq] at h
            exact Or.inr ⟨t, f, rfl, hf, hnil, h.symm⟩

theorem maybeConv_some {reg : Registry} {ex : E} {wc : Bool} {frm t : Container} {same : Bool} {r : CR}
    (h : maybeConv reg ex wc frm (some t) same = .ok r) :
    r.u = t ∧ ∃ f, factor reg frm t = .ok f := by
  rcases maybeConv_spec h with ⟨h1, _⟩ | ⟨t', h1, hf, rfl⟩ | ⟨t', f, h1, hf, _, rfl⟩
  · cases h1
  · cases h1; exact ⟨rfl, _, hf⟩
  · cases h1; exact ⟨rfl, _, hf⟩

theorem maybeConv_none {reg : Registry} {ex : E} {wc : Bool} {frm : Container} {same : Bool} :
    maybeConv reg ex wc frm none same = .ok ⟨ex, wc, frm, same⟩ := rfl

/-- every error of `maybe_convert_expr`: a UnitConversionError exactly when pint reports a DimensionalityError,
    otherwise a Python-level exception that is not a UnitError (a unit name the registry does not know) -/
theorem maybeConv_error {reg : Registry} {ex : E} {wc : Bool} {frm : Container} {tgt : Option Container} {same : Bool}
    {err : UnitErr} (h : maybeConv reg ex wc frm tgt same = .error err) :
    ∃ t, tgt = some t ∧
      ((err = .cannotConvert ∧ factor reg frm t = .error .dimensionality) ∨
       (err = .otherException "UndefinedUnitError" ∧ ∃ e', factor reg frm t = .error e' ∧ e' ≠ .dimensionality)) := by
  cases tgt with
  | none => simp [maybeConv] at h
  | some t =>
      refine ⟨t, rfl, ?_⟩
      simp only [maybeConv, conversionFactor] at h
      cases hf : factor reg frm t with
      | ok f => rw [hf] at h; by_cases hnil : f = [] <;> simp [hnil] at h
      | error e' =>
          rw [hf] at h
          cases e' with
          | dimensionality => simp only [Except.error.injEq] at h; exact Or.inl ⟨h.symm, rfl⟩
          | undefinedUnit | valueError | other _ =>
              simp only [Except.error.injEq] at h
              exact Or.inr ⟨h.symm, _, rfl, nofun⟩

theorem maybeConv_cannotConvert_iff {reg : Registry} {ex : E} {wc : Bool} {frm t : Container} {same : Bool}
    (hk : allKnown reg frm = true) (hk' : allKnown reg t = true) :
    maybeConv reg ex wc frm (some t) same = .error .cannotConvert ↔ ¬ dimsOf reg frm ≃ dimsOf reg t := by
  constructor
  · intro h hd
    have hf := factor_of_dims hk hk' hd
    obtain ⟨t', ht', hcase⟩ := maybeConv_error h
    cases ht'
    rcases hcase with ⟨_, h2⟩ | ⟨h1, _⟩
    · rw [hf] at h2; cases h2
    · cases h1
  · intro hd
    have := factor_mismatch hk hk' hd
    simp only [maybeConv, conversionFactor, this]

/-! ### inversion: a successful conversion determines the recursive calls and the shape of the result -/

section inversion
variable {reg : Registry} {Γ : VarEnv} {tgt : Option Container} {r : CR}

private theorem throw_bind_ne {α : Type} {err : UnitErr} {f : PUnit → Except UnitErr α} {r : α} :
    ((throw err : Except UnitErr PUnit) >>= f) ≠ .ok r := by
  intro h; cases h

theorem convert_var_inv {i : Nat} (h : convert reg Γ (.var i) tgt = .ok r) :
    ∃ vi, Γ[i]? = some vi ∧ maybeConv reg (.var i) false vi.unit tgt true = .ok r := by
  simp only [convert] at h
  split at h
  · rename_i vi hvi; exact ⟨vi, hvi, h⟩
  · cases h

theorem convert_deriv_inv {v t : Nat} (h : convert reg Γ (.deriv v t) tgt = .ok r) :
    ∃ vv vt, Γ[v]? = some vv ∧ Γ[t]? = some vt ∧
      maybeConv reg (.deriv v t) false (divC vv.unit vt.unit) tgt true = .ok r := by
  simp only [convert] at h
  split at h
  · rename_i vv vt hvv hvt; exact ⟨vv, vt, hvv, hvt, h⟩
  · cases h

theorem convert_mul_inv {a b : E} (h : convert reg Γ (.mul a b) tgt = .ok r) :
    ∃ ra rb, convert reg Γ a none = .ok ra ∧ convert reg Γ b none = .ok rb ∧
      maybeConv reg (if (ra.wc || rb.wc) = true then .mul ra.e rb.e else .mul a b) (ra.wc || rb.wc)
        (mulC ra.u rb.u) tgt (!(ra.wc || rb.wc)) = .ok r := by
  simp only [convert] at h
  obtain ⟨ra, hra, h⟩ := bind_ok h
  obtain ⟨rb, hrb, h⟩ := bind_ok h
  exact ⟨ra, rb, hra, hrb, h⟩

theorem convert_pow_inv {b x : E} (h : convert reg Γ (.pow b x) tgt = .ok r) :
    ∃ rx q rb, convert reg Γ x (some []) = .ok rx ∧ evalClosed rx.e = some (some q) ∧
      convert reg Γ b none = .ok rb ∧
      maybeConv reg (if (rx.wc || rb.wc) = true then .pow rb.e rx.e else .pow b x) (rx.wc || rb.wc)
        (powC rb.u q) tgt (!(rx.wc || rb.wc)) = .ok r := by
  simp only [convert] at h
  obtain ⟨rx, hrx, h⟩ := bind_ok h
  split at h
  · cases h
  · cases h
  · rename_i q hq
    obtain ⟨q', hq', h⟩ := bind_ok h
    cases hq'
    obtain ⟨rb, hrb, h⟩ := bind_ok h
    exact ⟨rx, q, rb, hrx, hq, hrb, h⟩

theorem convert_add_inv {a b : E} (h : convert reg Γ (.add a b) tgt = .ok r) :
    ∃ ra rb, convert reg Γ a tgt = .ok ra ∧ convert reg Γ b (some (tgt.getD ra.u)) = .ok rb ∧
      r = ⟨if (ra.wc || rb.wc) = true then .add ra.e rb.e else .add a b, ra.wc || rb.wc, rb.u, !(ra.wc || rb.wc)⟩ := by
  simp only [convert] at h
  obtain ⟨ra, hra, h⟩ := bind_ok h
  obtain ⟨rb, hrb, h⟩ := bind_pure_ok h
  exact ⟨ra, rb, hra, hrb, h⟩

theorem convert_rel_inv {rr : Rel} {a b : E} (h : convert reg Γ (.rel rr a b) tgt = .ok r) :
    dimlessTarget tgt = true ∧ ∃ ra rb, convert reg Γ a none = .ok ra ∧ convert reg Γ b (some ra.u) = .ok rb ∧
      r = ⟨if (ra.wc || rb.wc) = true then .rel rr ra.e rb.e else .rel rr a b, ra.wc || rb.wc, [],
            !(ra.wc || rb.wc)⟩ := by
  simp only [convert] at h
  split at h
  · exact absurd h throw_bind_ne
  · rename_i hd
    obtain ⟨ra, hra, h⟩ := bind_ok h
    obtain ⟨rb, hrb, h⟩ := bind_pure_ok h
    exact ⟨by simpa using hd, ra, rb, hra, hrb, h⟩

theorem convert_ite_inv {c t el : E} (h : convert reg Γ (.ite c t el) tgt = .ok r) :
    ∃ rt rc, convert reg Γ t tgt = .ok rt ∧ convert reg Γ c (some []) = .ok rc ∧
      ((el = .undef ∧
          r = ⟨if (rt.wc || rc.wc) = true then .ite rc.e rt.e .undef else .ite c t .undef, rt.wc || rc.wc, rt.u,
                !(rt.wc || rc.wc)⟩) ∨
       (el ≠ .undef ∧ ∃ re, convert reg Γ el (some (tgt.getD rt.u)) = .ok re ∧
          r = ⟨if (rt.wc || rc.wc || re.wc) = true then .ite rc.e rt.e re.e else .ite c t el,
                rt.wc || rc.wc || re.wc, re.u, !(rt.wc || rc.wc || re.wc)⟩)) := by
  simp only [convert] at h
  obtain ⟨rt, hrt, h⟩ := bind_ok h
  obtain ⟨rc, hrc, h⟩ := bind_ok h
  refine ⟨rt, rc, hrt, hrc, ?_⟩
  split at h
  · rename_i hel
    exact Or.inl ⟨hel, (Except.ok.inj h).symm⟩
  · rename_i hel
    exact Or.inr ⟨hel, bind_pure_ok h⟩

/-! `Abs`, `floor`, `ceiling` pass the target on; every other function node wants it dimensionless. One inversion for
    each of the three shapes, the node `mk` a parameter; that `convert` has the shape on `mk` is an unfolding. -/

theorem convert_pass_inv {mk : E → E} {a : E} (h : convert reg Γ (mk a) tgt = .ok r)
    (hmk : convert reg Γ (mk a) tgt = (do
      let ra ← convert reg Γ a tgt
      pure ⟨if ra.wc then mk ra.e else mk a, ra.wc, ra.u, !ra.wc⟩) := by rfl) :
    ∃ ra, convert reg Γ a tgt = .ok ra ∧
      r = ⟨if ra.wc = true then mk ra.e else mk a, ra.wc, ra.u, !ra.wc⟩ :=
  bind_pure_ok (hmk ▸ h)

theorem convert_dimless1_inv {mk : E → E} {a : E} (h : convert reg Γ (mk a) tgt = .ok r)
    (hmk : convert reg Γ (mk a) tgt = (do
      if !dimlessTarget tgt then throw .mustBeDimensionless
      let ra ← convert reg Γ a (some [])
      pure ⟨if ra.wc then mk ra.e else mk a, ra.wc, ra.u, !ra.wc⟩) := by rfl) :
    dimlessTarget tgt = true ∧ ∃ ra, convert reg Γ a (some []) = .ok ra ∧
      r = ⟨if ra.wc = true then mk ra.e else mk a, ra.wc, ra.u, !ra.wc⟩ := by
  rw [hmk] at h
  split at h
  · exact absurd h throw_bind_ne
  · rename_i hd
    exact ⟨by simpa using hd, bind_pure_ok h⟩

theorem convert_dimless2_inv {mk : E → E → E} {a b : E} (h : convert reg Γ (mk a b) tgt = .ok r)
    (hmk : convert reg Γ (mk a b) tgt = (do
      if !dimlessTarget tgt then throw .mustBeDimensionless
      let ra ← convert reg Γ a (some [])
      let rb ← convert reg Γ b (some [])
      let wc := ra.wc || rb.wc
      pure ⟨if wc then mk ra.e rb.e else mk a b, wc, rb.u, !wc⟩) := by rfl) :
    dimlessTarget tgt = true ∧ ∃ ra rb, convert reg Γ a (some []) = .ok ra ∧ convert reg Γ b (some []) = .ok rb ∧
      r = ⟨if (ra.wc || rb.wc) = true then mk ra.e rb.e else mk a b, ra.wc || rb.wc, rb.u,
            !(ra.wc || rb.wc)⟩ := by
  rw [hmk] at h
  split at h
  · exact absurd h throw_bind_ne
  · rename_i hd
    obtain ⟨ra, hra, h⟩ := bind_ok h
    obtain ⟨rb, hrb, h⟩ := bind_pure_ok h
    exact ⟨by simpa using hd, ra, rb, hra, hrb, h⟩

theorem convert_abs_inv {a : E} (h : convert reg Γ (.abs a) tgt = .ok r) :
    ∃ ra, convert reg Γ a tgt = .ok ra ∧
      r = ⟨if ra.wc = true then .abs ra.e else .abs a, ra.wc, ra.u, !ra.wc⟩ :=
  convert_pass_inv h

theorem convert_floor_inv {a : E} (h : convert reg Γ (.floor a) tgt = .ok r) :
    ∃ ra, convert reg Γ a tgt = .ok ra ∧
      r = ⟨if ra.wc = true then .floor ra.e else .floor a, ra.wc, ra.u, !ra.wc⟩ :=
  convert_pass_inv h

theorem convert_ceil_inv {a : E} (h : convert reg Γ (.ceil a) tgt = .ok r) :
    ∃ ra, convert reg Γ a tgt = .ok ra ∧
      r = ⟨if ra.wc = true then .ceil ra.e else .ceil a, ra.wc, ra.u, !ra.wc⟩ :=
  convert_pass_inv h

theorem convert_fn1_inv {f : String} {a : E} (h : convert reg Γ (.fn1 f a) tgt = .ok r) :
    dimlessTarget tgt = true ∧ ∃ ra, convert reg Γ a (some []) = .ok ra ∧
      r = ⟨if ra.wc = true then .fn1 f ra.e else .fn1 f a, ra.wc, ra.u, !ra.wc⟩ :=
  convert_dimless1_inv h

theorem convert_not_inv {a : E} (h : convert reg Γ (.not a) tgt = .ok r) :
    dimlessTarget tgt = true ∧ ∃ ra, convert reg Γ a (some []) = .ok ra ∧
      r = ⟨if ra.wc = true then .not ra.e else .not a, ra.wc, ra.u, !ra.wc⟩ :=
  convert_dimless1_inv h

theorem convert_fnN_inv {f : String} {a b : E} (h : convert reg Γ (.fnN f a b) tgt = .ok r) :
    dimlessTarget tgt = true ∧ ∃ ra rb, convert reg Γ a (some []) = .ok ra ∧ convert reg Γ b (some []) = .ok rb ∧
      r = ⟨if (ra.wc || rb.wc) = true then .fnN f ra.e rb.e else .fnN f a b, ra.wc || rb.wc, rb.u,
            !(ra.wc || rb.wc)⟩ :=
  convert_dimless2_inv h

theorem convert_and_inv {a b : E} (h : convert reg Γ (.and a b) tgt = .ok r) :
    dimlessTarget tgt = true ∧ ∃ ra rb, convert reg Γ a (some []) = .ok ra ∧ convert reg Γ b (some []) = .ok rb ∧
      r = ⟨if (ra.wc || rb.wc) = true then .and ra.e rb.e else .and a b, ra.wc || rb.wc, rb.u,
            !(ra.wc || rb.wc)⟩ :=
  convert_dimless2_inv h

theorem convert_or_inv {a b : E} (h : convert reg Γ (.or a b) tgt = .ok r) :
    dimlessTarget tgt = true ∧ ∃ ra rb, convert reg Γ a (some []) = .ok ra ∧ convert reg Γ b (some []) = .ok rb ∧
      r = ⟨if (ra.wc || rb.wc) = true then .or ra.e rb.e else .or a b, ra.wc || rb.wc, rb.u,
            !(ra.wc || rb.wc)⟩ :=
  convert_dimless2_inv h

/-- numbers, constants, `true`, `false`: leaves that can only be dimensionless -/
def isNumLeaf : E → Bool
  | .int _ | .rat _ | .flt _ | .pi | .e | .oo | .nan | .tt | .ff => true
  | _ => false

theorem convert_numLeaf {ex : E} (hl : isNumLeaf ex = true) :
    convert reg Γ ex tgt =
      if dimlessTarget tgt = true then .ok ⟨ex, false, [], true⟩ else .error .mustBeDimensionless := by
  cases ex <;> first | rfl | cases hl

theorem convert_numLeaf_inv {ex : E} (hl : isNumLeaf ex = true) (h : convert reg Γ ex tgt = .ok r) :
    dimlessTarget tgt = true ∧ r = ⟨ex, false, [], true⟩ := by
  rw [convert_numLeaf hl] at h
  split at h
  · rename_i hd; simp only [Except.ok.injEq] at h; exact ⟨hd, h.symm⟩
  · cases h

theorem dimlessTarget_some {t : Container} (h : dimlessTarget (some t) = true) : t = [] := by
  simpa [dimlessTarget] using h

end inversion

/-! ### (c) identity: nothing converted ⇒ the very same expression, and the same object -/

theorem maybeConv_ident {reg : Registry} {ex : E} {wc : Bool} {frm : Container} {tgt : Option Container} {same : Bool}
    {r : CR} (h : maybeConv reg ex wc frm tgt same = .ok r) :
    (same = (!wc) → r.same = !r.wc) ∧ (r.wc = false → r.e = ex ∧ wc = false) := by
  rcases maybeConv_spec h with ⟨_, rfl⟩ | ⟨t', _, _, rfl⟩ | ⟨t', f, _, _, _, rfl⟩
  · exact ⟨fun hs => hs, fun hw => ⟨rfl, hw⟩⟩
  · exact ⟨fun hs => hs, fun hw => ⟨rfl, hw⟩⟩
  · exact ⟨fun _ => rfl, fun hw => by cases hw⟩

private theorem ident_mk (wc : Bool) (X Y : E) (u : Container) :
    (⟨if wc = true then X else Y, wc, u, !wc⟩ : CR).same = !(⟨if wc = true then X else Y, wc, u, !wc⟩ : CR).wc ∧
    ((⟨if wc = true then X else Y, wc, u, !wc⟩ : CR).wc = false →
      (⟨if wc = true then X else Y, wc, u, !wc⟩ : CR).e = Y) :=
  ⟨rfl, fun hw => by simp only at hw; simp only [hw, Bool.false_eq_true, if_false]⟩

private theorem ident_mc {reg : Registry} {X Y : E} {wc : Bool} {frm : Container} {tgt : Option Container} {r : CR}
    (h : maybeConv reg (if wc = true then X else Y) wc frm tgt (!wc) = .ok r) :
    r.same = (!r.wc) ∧ (r.wc = false → r.e = Y) := by
  obtain ⟨h1, h2⟩ := maybeConv_ident h
  refine ⟨h1 rfl, fun hw => ?_⟩
  obtain ⟨he, hwc⟩ := h2 hw
  rw [he, hwc]; simp

/-- `same` (the returned object IS the argument) is exactly "nothing was converted", and then the expression is
    unchanged -/
theorem convert_ident {reg : Registry} {Γ : VarEnv} {ex : E} {tgt : Option Container} {r : CR}
    (h : convert reg Γ ex tgt = .ok r) : r.same = (!r.wc) ∧ (r.wc = false → r.e = ex) := by
  have leaf : ∀ {ex' : E} {frm : Container}, maybeConv reg ex' false frm tgt true = .ok r →
      r.same = (!r.wc) ∧ (r.wc = false → r.e = ex') := by
    intro ex' frm h'
    obtain ⟨h1, h2⟩ := maybeConv_ident h'
    exact ⟨h1 rfl, fun hw => (h2 hw).1⟩
  cases ex with
  | qty _ _ | cf _ _ => simp only [convert] at h; exact leaf h
  | var i => obtain ⟨vi, _, h'⟩ := convert_var_inv h; exact leaf h'
  | deriv v t => obtain ⟨vv, vt, _, _, h'⟩ := convert_deriv_inv h; exact leaf h'
  | mul a b => obtain ⟨ra, rb, _, _, h'⟩ := convert_mul_inv h; exact ident_mc h'
  | pow b x => obtain ⟨rx, q, rb, _, _, _, h'⟩ := convert_pow_inv h; exact ident_mc h'
  | add a b => obtain ⟨ra, rb, _, _, rfl⟩ := convert_add_inv h; exact ident_mk _ _ _ _
  | rel rr a b => obtain ⟨_, ra, rb, _, _, rfl⟩ := convert_rel_inv h; exact ident_mk _ _ _ _
  | ite c t el =>
      obtain ⟨rt, rc, _, _, hcase⟩ := convert_ite_inv h
      rcases hcase with ⟨hel, rfl⟩ | ⟨_, re, _, rfl⟩
      · subst hel; exact ident_mk _ _ _ _
      · exact ident_mk _ _ _ _
  | abs a | floor a | ceil a => obtain ⟨ra, _, rfl⟩ := convert_pass_inv h; exact ident_mk _ _ _ _
  | fn1 _ a | not a => obtain ⟨_, ra, _, rfl⟩ := convert_dimless1_inv h; exact ident_mk _ _ _ _
  | fnN _ a b | and a b | or a b => obtain ⟨_, ra, rb, _, _, rfl⟩ := convert_dimless2_inv h; exact ident_mk _ _ _ _
  | undef | other _ => cases h
  | int _ | rat _ | flt _ | pi | e | oo | nan | tt | ff => obtain ⟨_, rfl⟩ := convert_numLeaf_inv rfl h; exact ⟨rfl, fun _ => rfl⟩

/-! rebuilding with unchanged operands is the identity, so the result is ALWAYS the constructor applied to the
    converted operands -/
theorem rebuild1 {mk : E → E} {wa : Bool} {a a' : E} (ha : wa = false → a' = a) :
    (if wa = true then mk a' else mk a) = mk a' := by
  cases wa
  · rw [ha rfl]; rfl
  · rfl

theorem rebuild2 {mk : E → E → E} {wa wb : Bool} {a a' b b' : E} (ha : wa = false → a' = a)
    (hb : wb = false → b' = b) : (if (wa || wb) = true then mk a' b' else mk a b) = mk a' b' := by
  cases wa <;> cases wb <;> simp_all

theorem rebuild3 {mk : E → E → E → E} {wa wb wc : Bool} {a a' b b' c c' : E} (ha : wa = false → a' = a)
    (hb : wb = false → b' = b) (hc : wc = false → c' = c) :
    (if (wa || wb || wc) = true then mk a' b' c' else mk a b c) = mk a' b' c' := by
  cases wa <;> cases wb <;> cases wc <;> simp_all

/-- with an explicit target the reported unit is the target itself, whatever the construct -/
theorem convert_target {reg : Registry} {Γ : VarEnv} :
    ∀ (ex : E) (t : Container) (r : CR), convert reg Γ ex (some t) = .ok r → r.u = t := by
  intro ex
  induction ex with
  | qty _ _ | cf _ _ => intro t r h; simp only [convert] at h; exact (maybeConv_some h).1
  | var i => intro t r h; obtain ⟨vi, _, h'⟩ := convert_var_inv h; exact (maybeConv_some h').1
  | deriv v t' => intro t r h; obtain ⟨vv, vt, _, _, h'⟩ := convert_deriv_inv h; exact (maybeConv_some h').1
  | mul a b _ _ => intro t r h; obtain ⟨ra, rb, _, _, h'⟩ := convert_mul_inv h; exact (maybeConv_some h').1
  | pow b x _ _ => intro t r h; obtain ⟨rx, q, rb, _, _, _, h'⟩ := convert_pow_inv h; exact (maybeConv_some h').1
  | add a b _ ihb =>
      intro t r h
      obtain ⟨ra, rb, _, hrb, rfl⟩ := convert_add_inv h
      exact ihb _ rb hrb
  | rel rr a b _ _ =>
      intro t r h
      obtain ⟨hd, ra, rb, _, _, rfl⟩ := convert_rel_inv h
      exact (dimlessTarget_some hd).symm
  | ite c t' el _ iht ihel =>
      intro t r h
      obtain ⟨rt, rc, hrt, _, hcase⟩ := convert_ite_inv h
      rcases hcase with ⟨_, rfl⟩ | ⟨_, re, hre, rfl⟩
      · exact iht _ rt hrt
      · exact ihel _ re hre
  | abs a iha | floor a iha | ceil a iha =>
      intro t r h
      obtain ⟨ra, hra, rfl⟩ := convert_pass_inv h
      exact iha _ ra hra
  | fn1 _ a iha | not a iha =>
      intro t r h
      obtain ⟨hd, ra, hra, rfl⟩ := convert_dimless1_inv h
      rw [dimlessTarget_some hd]
      exact iha _ ra hra
  | fnN _ a b _ ihb | and a b _ ihb | or a b _ ihb =>
      intro t r h
      obtain ⟨hd, ra, rb, _, hrb, rfl⟩ := convert_dimless2_inv h
      rw [dimlessTarget_some hd]
      exact ihb _ rb hrb
  | undef | other _ => intro t r h; cases h
  | int _ | rat _ | flt _ | pi | e | oo | nan | tt | ff => intro t r h; obtain ⟨hd, rfl⟩ := convert_numLeaf_inv rfl h; exact (dimlessTarget_some hd).symm

/-- first-operand rule: the unit the remaining operands are converted to is the unit of the first result -/
theorem getD_target {reg : Registry} {Γ : VarEnv} {ex : E} {tgt : Option Container} {r : CR}
    (h : convert reg Γ ex tgt = .ok r) : tgt.getD r.u = r.u := by
  cases tgt with
  | none => rfl
  | some t => simp only [Option.getD_some]; exact (convert_target ex t r h).symm

/-! ### every error is a UnitError, except for unknown unit names and the two `unsupported` situations -/

/-- the errors a conversion can end in: the five UnitError classes the method documents, pint's UndefinedUnitError
    (a unit name the registry does not know), and the two situations outside the modelled fragment -/
def errClass : UnitErr → Bool
  | .unexpectedMath | .mustBeDimensionless | .mustBeNumber | .boolean | .cannotConvert => true
  | .otherException w => w == "UndefinedUnitError"
  | .unsupported w => w == "unknown variable" || w == "exponent value not tracked"
  | _ => false

private theorem throw_bind_err {α : Type} {e0 err : UnitErr} {f : PUnit → Except UnitErr α}
    (h : ((throw e0 : Except UnitErr PUnit) >>= f) = .error err) : err = e0 := by
  cases h; rfl

theorem maybeConv_errClass {reg : Registry} {ex : E} {wc : Bool} {frm : Container} {tgt : Option Container}
    {same : Bool} {err : UnitErr} (h : maybeConv reg ex wc frm tgt same = .error err) : errClass err = true := by
  obtain ⟨t, _, hc⟩ := maybeConv_error h
  rcases hc with ⟨rfl, _⟩ | ⟨rfl, _⟩ <;> rfl

theorem bind_errClass {α β : Type} {x : Except UnitErr α} {f : α → Except UnitErr β} {err : UnitErr}
    (hx : ∀ e, x = .error e → errClass e = true) (hf : ∀ a e, f a = .error e → errClass e = true)
    (h : (x >>= f) = .error err) : errClass err = true := by
  rcases bind_error h with h1 | ⟨a, _, h2⟩
  · exact hx _ h1
  · exact hf _ _ h2

theorem convert_errClass {reg : Registry} {Γ : VarEnv} :
    ∀ (ex : E) (tgt : Option Container) (err : UnitErr), convert reg Γ ex tgt = .error err → errClass err = true := by
  intro ex
  induction ex with
  | qty _ _ | cf _ _ => intro tgt err h; simp only [convert] at h; exact maybeConv_errClass h
  | var _ | deriv _ _ =>
      intro tgt err h; simp only [convert] at h
      split at h
      · exact maybeConv_errClass h
      · cases h; rfl
  | mul a b iha ihb =>
      intro tgt err h; simp only [convert] at h
      exact bind_errClass (iha _) (fun _ _ => bind_errClass (ihb _) fun _ _ => maybeConv_errClass) h
  | pow b x ihb ihx =>
      intro tgt err h; simp only [convert] at h
      refine bind_errClass (ihx _) (fun rx _ h => ?_) h
      split at h
      · cases h; rfl
      · cases h; rfl
      · exact bind_errClass (fun _ h => by cases h)
          (fun _ _ => bind_errClass (ihb _) fun _ _ => maybeConv_errClass) h
  | add a b iha ihb =>
      intro tgt err h; simp only [convert] at h
      exact bind_errClass (iha _) (fun _ _ => bind_errClass (ihb _) fun _ _ h => by cases h) h
  | rel _ a b iha ihb | fnN _ a b iha ihb | and a b iha ihb | or a b iha ihb =>
      intro tgt err h; simp only [convert] at h
      split at h
      · rw [throw_bind_err h]; rfl
      · exact bind_errClass (iha _) (fun _ _ => bind_errClass (ihb _) fun _ _ h => by cases h) h
  | ite c t el ihc iht ihe =>
      intro tgt err h; simp only [convert] at h
      refine bind_errClass (iht _) (fun _ _ => bind_errClass (ihc _) fun _ _ h => ?_) h
      split at h
      · cases h
      · exact bind_errClass (ihe _) (fun _ _ h => by cases h) h
  | abs a iha | floor a iha | ceil a iha =>
      intro tgt err h; simp only [convert] at h
      exact bind_errClass (iha _) (fun _ _ h => by cases h) h
  | fn1 _ a iha | not a iha =>
      intro tgt err h; simp only [convert] at h
      split at h
      · rw [throw_bind_err h]; rfl
      · exact bind_errClass (iha _) (fun _ _ h => by cases h) h
  | undef | other _ => intro tgt err h; cases h; rfl
  | int _ | rat _ | flt _ | pi | e | oo | nan | tt | ff =>
      intro tgt err h; rw [convert_numLeaf rfl] at h; split at h <;> cases h; rfl

/-! ### an exponent that `float()` can evaluate exactly was not converted -/

theorem evalClosed_cf_mul {f : Scale} {u : Container} {ex : E} {q : Rat} (hf : f ≠ [])
    (h : evalClosed (.mul (.cf f u) ex) = some (some q)) : False := by
  simp only [evalClosed, hf, if_false] at h
  split at h
  · rename_i h1 _; cases h1
  · simp at h
  · simp at h

theorem maybeConv_closed {reg : Registry} {ex : E} {wc : Bool} {frm : Container} {tgt : Option Container}
    {same : Bool} {r : CR} {q : Rat} (h : maybeConv reg ex wc frm tgt same = .ok r)
    (hq : evalClosed r.e = some (some q)) : r.e = ex ∧ r.wc = wc := by
  rcases maybeConv_spec h with ⟨_, rfl⟩ | ⟨t, _, _, rfl⟩ | ⟨t, f, _, _, hne, rfl⟩
  · exact ⟨rfl, rfl⟩
  · exact ⟨rfl, rfl⟩
  · exact (evalClosed_cf_mul hne hq).elim

/-! what `float()` has seen when it answers with an exactly known number -/

theorem evalClosed_mul_inv {a b : E} {q : Rat} (h : evalClosed (.mul a b) = some (some q)) :
    ∃ x y, evalClosed a = some (some x) ∧ evalClosed b = some (some y) ∧ q = x * y := by
  simp only [evalClosed] at h
  split at h <;> simp only [Option.some.injEq, reduceCtorEq] at h
  rename_i x y hx hy; exact ⟨x, y, hx, hy, h.symm⟩

theorem evalClosed_add_inv {a b : E} {q : Rat} (h : evalClosed (.add a b) = some (some q)) :
    ∃ x y, evalClosed a = some (some x) ∧ evalClosed b = some (some y) ∧ q = x + y := by
  simp only [evalClosed] at h
  split at h <;> simp only [Option.some.injEq, reduceCtorEq] at h
  rename_i x y hx hy; exact ⟨x, y, hx, hy, h.symm⟩

theorem evalClosed_pow_inv {a b : E} {q : Rat} (h : evalClosed (.pow a b) = some (some q)) :
    ∃ x y, evalClosed a = some (some x) ∧ evalClosed b = some (some y) ∧ (y.den = 1 ∧ ¬ (x = 0 ∧ y < 0)) ∧
      q = ratPowInt x y.num := by
  simp only [evalClosed] at h
  split at h <;> try (simp only [Option.some.injEq, reduceCtorEq] at h)
  rename_i x y hx hy
  split at h <;> simp only [Option.some.injEq, reduceCtorEq] at h
  rename_i hc; exact ⟨x, y, hx, hy, hc, h.symm⟩

theorem evalClosed_abs_inv {a : E} {q : Rat} (h : evalClosed (.abs a) = some (some q)) :
    ∃ x, evalClosed a = some (some x) ∧ q = if x < 0 then -x else x := by
  simp only [evalClosed] at h
  split at h
  · rename_i x hx; exact ⟨x, hx, (Option.some.inj (Option.some.inj h)).symm⟩
  · rename_i hr; exact (hr q h).elim

/-- a conversion inserts a factor Quantity `cf f u` with `f ≠ []`, whose `float()` value the exact model does not track
    (`evalClosed` answers `some none`); so a result that evaluates to an exactly known number contains no conversion -/
theorem closed_not_converted {reg : Registry} {Γ : VarEnv} :
    ∀ (ex : E) (tgt : Option Container) (r : CR) (q : Rat), convert reg Γ ex tgt = .ok r →
      evalClosed r.e = some (some q) → r.wc = false := by
  intro ex
  induction ex with
  | qty _ _ | cf _ _ => intro tgt r q h hq; simp only [convert] at h; exact (maybeConv_closed h hq).2
  | var i => intro tgt r q h hq; obtain ⟨vi, _, h'⟩ := convert_var_inv h; exact (maybeConv_closed h' hq).2
  | deriv v t =>
      intro tgt r q h hq; obtain ⟨vv, vt, _, _, h'⟩ := convert_deriv_inv h; exact (maybeConv_closed h' hq).2
  | mul a b iha ihb =>
      intro tgt r q h hq
      obtain ⟨ra, rb, hra, hrb, h'⟩ := convert_mul_inv h
      rw [rebuild2 (mk := E.mul) (convert_ident hra).2 (convert_ident hrb).2] at h'
      obtain ⟨he, hw⟩ := maybeConv_closed h' hq
      rw [he] at hq
      obtain ⟨x, y, hx, hy, _⟩ := evalClosed_mul_inv hq
      rw [hw, iha _ ra x hra hx, ihb _ rb y hrb hy]; rfl
  | pow b x ihb ihx =>
      intro tgt r q h hq
      obtain ⟨rx, q', rb, hrx, hq', hrb, h'⟩ := convert_pow_inv h
      rw [rebuild2 (mk := fun x' b' => E.pow b' x') (convert_ident hrx).2 (convert_ident hrb).2] at h'
      obtain ⟨he, hw⟩ := maybeConv_closed h' hq
      rw [he] at hq
      obtain ⟨x0, y, hx, hy, _⟩ := evalClosed_pow_inv hq
      rw [hw, ihx _ rx y hrx hy, ihb _ rb x0 hrb hx]; rfl
  | add a b iha ihb =>
      intro tgt r q h hq
      obtain ⟨ra, rb, hra, hrb, rfl⟩ := convert_add_inv h
      rw [rebuild2 (mk := E.add) (convert_ident hra).2 (convert_ident hrb).2] at hq
      obtain ⟨x, y, hx, hy, _⟩ := evalClosed_add_inv hq
      simp only [iha _ ra x hra hx, ihb _ rb y hrb hy]; rfl
  | abs a iha =>
      intro tgt r q h hq
      obtain ⟨ra, hra, rfl⟩ := convert_abs_inv h
      rw [rebuild1 (mk := E.abs) (convert_ident hra).2] at hq
      obtain ⟨x, hx, _⟩ := evalClosed_abs_inv hq
      exact iha _ ra x hra hx
  | floor a _ | ceil a _ =>
      intro tgt r q h hq
      obtain ⟨ra, hra, rfl⟩ := convert_pass_inv h
      rw [rebuild1 (convert_ident hra).2] at hq
      simp only [evalClosed] at hq; split at hq <;> simp at hq
  | fn1 f a _ =>
      intro tgt r q h hq
      obtain ⟨_, ra, hra, rfl⟩ := convert_fn1_inv h
      rw [rebuild1 (mk := E.fn1 f) (convert_ident hra).2] at hq
      simp only [evalClosed] at hq; split at hq <;> simp at hq
  -- the remaining constructors keep their head, which `float()` rejects
  | rel rr a b _ _ =>
      intro tgt r q h hq
      obtain ⟨_, ra, rb, _, _, rfl⟩ := convert_rel_inv h
      split at hq <;> cases hq
  | ite c t el _ _ _ =>
      intro tgt r q h hq
      obtain ⟨rt, rc, _, _, hcase⟩ := convert_ite_inv h
      rcases hcase with ⟨_, rfl⟩ | ⟨_, re, _, rfl⟩
      · split at hq <;> cases hq
      · split at hq <;> cases hq
  | not a _ =>
      intro tgt r q h hq
      obtain ⟨_, ra, _, rfl⟩ := convert_not_inv h
      split at hq <;> cases hq
  | fnN _ a b _ _ | and a b _ _ | or a b _ _ =>
      intro tgt r q h hq
      obtain ⟨_, ra, rb, _, _, rfl⟩ := convert_dimless2_inv h
      split at hq <;> cases hq
  | undef | other _ => intro tgt r q h; cases h
  | int _ | rat _ | flt _ | pi | e | oo | nan | tt | ff => intro tgt r q h _; obtain ⟨_, rfl⟩ := convert_numLeaf_inv rfl h; rfl

/-! ### (b) the result passes strict unit inference (`traverse`) with a unit equivalent to the reported one -/

section strict
open Spec

/-- Python exceptions raised by ARITHMETIC ON MAGNITUDES inside `traverse` (0 to a negative power, `math.exp`
    overflow, floor of a complex number, quotient of initial values, power of a magnitude the exact model does not
    track): none of them is a UnitError, none depends on units -/
def magErr : UnitErr → Bool
  | .otherException w => w == "ZeroDivisionError" || w == "OverflowError" || w == "TypeError"
  | .unsupported w => w == "power of an untracked magnitude"
  | _ => false

/-- verdict of strict inference on a result that is reported to be in unit `u` -/
def Good (reg : Registry) (res : Except UnitErr (M × Container)) (u : Container) : Prop :=
  match res with
  | .ok q => isEquivalent reg q.2 u = true
  | .error err => magErr err = true

/-- A class of units closed under the unit arithmetic of the converter on which "converts with factor one" implies
    `is_equivalent`. (It cannot be ALL units: `radian` converts to `dimensionless` with factor one and is not
    equivalent to it — known finding of C07, see `radian_not_strict`.) -/
structure UClass (reg : Registry) where
  P : Container → Prop
  nil : P []
  mul : ∀ {a b}, P a → P b → P (mulC a b)
  div : ∀ {a b}, P a → P b → P (divC a b)
  pow : ∀ {a} (q : Rat), P a → P (powC a q)
  faithful : ∀ {a b}, P a → P b → factor reg a b = .ok [] → isEquivalent reg a b = true

/-- the operators for which strict inference of the result is proved: everything with a unit except `oo`/`nan`;
    exponents are products of numeric leaves (C04's "numeric exponent") -/
def strictFrag : E → Bool
  | .qty _ _ | .cf _ _ | .var _ | .deriv _ _ | .int _ | .rat _ | .flt _ | .pi | .e => true
  | .mul a b | .add a b => strictFrag a && strictFrag b
  | .pow b x => strictFrag b && numProd x
  | .abs a | .floor a | .ceil a | .fn1 _ a => strictFrag a
  | .ite _ t el => strictFrag t && (decide (el = .undef) || strictFrag el)
  | _ => false

/-- every unit written in the value part of the expression belongs to the class -/
def unitsIn (P : Container → Prop) : E → Prop
  | .qty _ u | .cf _ u => P u
  | .mul a b | .add a b => unitsIn P a ∧ unitsIn P b
  | .pow b _ => unitsIn P b
  | .abs a | .floor a | .ceil a | .fn1 _ a => unitsIn P a
  | .ite _ t el => unitsIn P t ∧ unitsIn P el
  | _ => True

variable {reg : Registry} {Γ : VarEnv}

theorem isEq_iff (a b : Container) : isEquivalent reg a b = true ↔ toRoot reg a ≃₂ toRoot reg b :=
  isEquivalent_iff reg a b

theorem isEq_mulC {a a' b b' : Container} (ha : isEquivalent reg a a' = true) (hb : isEquivalent reg b b' = true) :
    isEquivalent reg (mulC a b) (mulC a' b') = true := by
  rw [isEq_iff] at *
  exact (sem_mulC reg a b).trans ((mul_congr ha hb).trans (sem_mulC reg a' b').symm)

theorem isEq_powC {a a' : Container} (q : Rat) (ha : isEquivalent reg a a' = true) :
    isEquivalent reg (powC a q) (powC a' q) = true := by
  rw [isEq_iff] at *
  exact (sem_powC reg a q).trans ((pow_congr q ha).trans (sem_powC reg a' q).symm)

/-- the unit of `cf · e`: (t / frm) · frm = t -/
theorem isEq_conv {u frm t : Container} (hu : isEquivalent reg u frm = true) :
    isEquivalent reg (mulC (divC t frm) u) t = true := by
  rw [isEq_iff] at *
  refine (sem_mulC reg _ _).trans ?_
  have hd := sem_divC reg t frm
  refine ⟨?_, ?_⟩ <;> intro p
  · have h1 := hd.1 p; have h2 := hu.1 p
    simp only [Spec.mul, Spec.div, get_add, get_sub] at h1 ⊢
    rw [h1, h2]; grind
  · have h1 := hd.2 p; have h2 := hu.2 p
    simp only [Spec.mul, Spec.div, get_add, get_sub] at h1 ⊢
    rw [h1, h2]; grind

theorem isEq_dimless {u : Container} (hu : isEquivalent reg u [] = true) : isDimless reg u = true := by
  rw [isEq_iff] at hu
  exact (isDimless_iff reg u).mpr ((dimsOfRoot_congr reg (hu.trans (sem_nil reg)).2).trans (dimsOfRoot_nil reg))

theorem good_error {err : UnitErr} {u u' : Container} (h : Good reg (.error err) u) : Good reg (.error err) u' := h

theorem good_maybeConv (C : UClass reg) {ex : E} {wc : Bool} {frm : Container} {tgt : Option Container}
    {same : Bool} {r : CR} (hfrm : C.P frm) (htgt : ∀ t, tgt = some t → C.P t)
    (h : maybeConv reg ex wc frm tgt same = .ok r) (hg : Good reg (traverse reg Γ ex) frm) :
    Good reg (traverse reg Γ r.e) r.u ∧ C.P r.u := by
  rcases maybeConv_spec h with ⟨_, rfl⟩ | ⟨t, ht, hf, rfl⟩ | ⟨t, f, ht, hf, _, rfl⟩
  · exact ⟨hg, hfrm⟩
  · refine ⟨?_, htgt t ht⟩
    have he := C.faithful hfrm (htgt t ht) hf
    cases hq : traverse reg Γ ex with
    | error err => rw [hq] at hg; exact hg
    | ok q =>
        rw [hq] at hg
        simp only [Good] at hg ⊢
        exact isEquivalent_trans hg he
  · refine ⟨?_, htgt t ht⟩
    simp only
    rw [traverse_mul, traverse_cf]
    cases hq : traverse reg Γ ex with
    | error err => rw [hq] at hg; exact hg
    | ok q =>
        rw [hq] at hg
        simp only [Good, bind, Except.bind, pure, Except.pure] at hg ⊢
        exact isEq_conv hg

theorem good_ok_refl {m : M} {u : Container} : Good reg (.ok (m, u)) u :=
  isEquivalent_refl reg u

/-- the verdict of a step that follows a good one depends only on what the step does with an equivalent unit -/
theorem good_bind {x : Except UnitErr (M × Container)} {f : M × Container → Except UnitErr (M × Container)}
    {u u' : Container} (hx : Good reg x u) (hf : ∀ q, isEquivalent reg q.2 u = true → Good reg (f q) u') :
    Good reg (x >>= f) u' := by
  cases x with
  | error err => exact hx
  | ok q => exact hf q hx

theorem good_mul {a b : E} {ua ub : Container} (ha : Good reg (traverse reg Γ a) ua)
    (hb : Good reg (traverse reg Γ b) ub) : Good reg (traverse reg Γ (.mul a b)) (mulC ua ub) := by
  rw [traverse_mul]
  exact good_bind ha fun qa ha' => good_bind hb fun qb hb' => isEq_mulC ha' hb'

theorem magErr_powM {a b : M} {err : UnitErr} (h : powM a b = .error err) : magErr err = true := by
  rcases powM_error a b err h with rfl | rfl <;> rfl

theorem good_pow {b x : E} {ub : Container} {q : Rat} {f : Bool} (hb : Good reg (traverse reg Γ b) ub)
    (hx : traverse reg Γ x = .ok (.num q f, [])) : Good reg (traverse reg Γ (.pow b x)) (powC ub q) := by
  rw [traverse_pow, hx]
  refine good_bind hb fun qb hb => ?_
  simp only [bind, Except.bind, powStep_num]
  cases hp : powM qb.1 (.num q f) with
  | error err => exact magErr_powM hp
  | ok m => exact isEq_powC q hb

theorem good_add {a b : E} {u : Container} (ha : Good reg (traverse reg Γ a) u)
    (hb : Good reg (traverse reg Γ b) u) : Good reg (traverse reg Γ (.add a b)) u := by
  rw [traverse_add]
  cases hta : trav reg Γ a with
  | error err =>
      rw [trav_error_traverse reg Γ a err hta] at ha
      exact ha
  | ok qa =>
      have hfa : traverse reg Γ a = finish reg qa := by simp [traverse, hta, bind, Except.bind]
      rw [hfa] at ha
      cases hf : finish reg qa with
      | error err =>
          rw [hf] at ha
          rcases finish_error reg qa err hf with rfl | rfl <;> cases ha
      | ok ra =>
          rw [hf] at ha
          cases hqb : traverse reg Γ b with
          | error err => rw [hqb] at hb; exact hb
          | ok qb =>
              rw [hqb] at hb
              simp only [Good] at ha hb
              have hs : sameUnits reg ra.2 qb.2 = true :=
                isEquivalent_trans ha (isEquivalent_symm hb)
              simp only [bind, Except.bind]
              rw [finish_snoc_ok reg qa qb ra hf hs]
              exact ha

theorem good_abs {a : E} {u : Container} (ha : Good reg (traverse reg Γ a) u) :
    Good reg (traverse reg Γ (.abs a)) u := by
  rw [traverse_abs]
  exact good_bind ha fun _ h => h

/-- `floor` (`c = false`) and `ceiling` (`c = true`) -/
theorem good_floorM (c : Bool) {x : Except UnitErr (M × Container)} {u : Container} (hx : Good reg x u) :
    Good reg (x >>= fun q => floorM c q.1 >>= fun m => pure (m, q.2)) u := by
  refine good_bind hx fun q hq => ?_
  cases hm : floorM c q.1 with
  | error err => rw [floorM_error c q.1 err hm]; rfl
  | ok m => exact hq

theorem fn1Step_error_dimless {f : String} {q : M × Container} {err : UnitErr} (hd : isDimless reg q.2 = true)
    (h : fn1Step reg f q = .error err) : err = .otherException "OverflowError" := by
  unfold fn1Step at h
  simp only [hd, if_true] at h
  repeat' split at h
  all_goals cases h
  rfl

theorem good_fn1 {f : String} {a : E} (ha : Good reg (traverse reg Γ a) []) :
    Good reg (traverse reg Γ (.fn1 f a)) [] := by
  rw [traverse_fn1]
  refine good_bind ha fun qa ha => ?_
  cases hs : fn1Step reg f qa with
  | error err => rw [fn1Step_error_dimless (isEq_dimless ha) hs]; rfl
  | ok r' =>
      simp only [Good]
      rw [(fn1Step_ok reg f qa r' hs).2]
      exact isEquivalent_refl reg []

theorem good_ite {c t el : E} {u : Container} (ht : Good reg (traverse reg Γ t) u)
    (he : el ≠ .undef → Good reg (traverse reg Γ el) u) : Good reg (traverse reg Γ (.ite c t el)) u := by
  rw [traverse_ite]
  refine good_bind ht fun qt ht => ?_
  split
  · exact ht
  · rename_i hel
    refine good_bind (he hel) fun qe he' => ?_
    have hs : sameUnits reg qt.2 qe.2 = true :=
      isEquivalent_trans ht (isEquivalent_symm he')
    simp only [hs, if_true]
    exact ht

theorem varQ_some {i : Nat} {vi : VarInfo} (h : Γ[i]? = some vi) : ∃ m, varQ Γ i = .ok (m, vi.unit) := by
  simp only [varQ, h]
  repeat' split
  all_goals exact ⟨_, rfl⟩

theorem good_deriv {v t : Nat} {vv vt : VarInfo} (hv : Γ[v]? = some vv) (ht : Γ[t]? = some vt) :
    Good reg (traverse reg Γ (.deriv v t)) (divC vv.unit vt.unit) := by
  rw [traverse_deriv]
  obtain ⟨mv, hmv⟩ := varQ_some hv
  obtain ⟨mt, hmt⟩ := varQ_some ht
  simp only [hmv, hmt, bind, Except.bind]
  cases hd : divM mv mt with
  | error err => rw [divM_error mv mt err hd]; rfl
  | ok m => exact isEquivalent_refl reg _

/-! numeric exponents (products of numeric leaves): never converted, value known to `float()` and to `traverse` -/

theorem convert_numProd {x : E} (hx : numProd x = true) :
    ∀ tgt : Option Container, (tgt = none ∨ tgt = some []) → convert reg Γ x tgt = .ok ⟨x, false, [], true⟩ := by
  induction x with
  | qty v u =>
      intro tgt ht
      simp only [numProd, decide_eq_true_eq] at hx; subst hx
      rcases ht with rfl | rfl
      · rfl
      · simp only [convert, maybeConv, conversionFactor, factor_nil, if_true]
  | int _ | rat _ | flt _ => intro tgt ht; rw [convert_numLeaf rfl]; rcases ht with rfl | rfl <;> rfl
  | mul a b iha ihb =>
      intro tgt ht
      simp only [numProd, Bool.and_eq_true] at hx
      have ha := iha hx.1 none (Or.inl rfl)
      have hb := ihb hx.2 none (Or.inl rfl)
      have hm : mulC ([] : Container) [] = [] := rfl
      simp only [convert, ha, hb, bind, Except.bind, Bool.or_self, Bool.false_eq_true, if_false, hm, Bool.not_false]
      rcases ht with rfl | rfl
      · rfl
      · simp only [maybeConv, conversionFactor, factor_nil, if_true]
  | _ => simp [numProd] at hx

theorem evalClosed_numProd {x : E} (hx : numProd x = true) :
    ∃ q, constVal x = some q ∧ evalClosed x = some (some q) := by
  induction x with
  | qty _ _ | int _ | rat _ | flt _ => exact ⟨_, rfl, rfl⟩
  | mul a b iha ihb =>
      simp only [numProd, Bool.and_eq_true] at hx
      obtain ⟨qa, ca, ea⟩ := iha hx.1
      obtain ⟨qb, cb, eb⟩ := ihb hx.2
      exact ⟨qa * qb, by simp only [constVal, ca, cb], by simp only [evalClosed, ea, eb]⟩
  | _ => simp [numProd] at hx

theorem convert_strict_aux (C : UClass reg) (hΓ : ∀ (i : Nat) (vi : VarInfo), Γ[i]? = some vi → C.P vi.unit) :
    ∀ ex : E, strictFrag ex = true → unitsIn C.P ex → ∀ (tgt : Option Container) (r : CR),
      (∀ t, tgt = some t → C.P t) → convert reg Γ ex tgt = .ok r →
      Good reg (traverse reg Γ r.e) r.u ∧ C.P r.u := by
  intro ex
  induction ex with
  | qty _ u | cf _ u =>
      intro _ hu tgt r ht h
      simp only [convert] at h
      refine good_maybeConv C hu ht h ?_
      simp only [traverse_qty, traverse_cf]
      exact good_ok_refl
  | var i =>
      intro _ _ tgt r ht h
      obtain ⟨vi, hvi, h'⟩ := convert_var_inv h
      obtain ⟨m, hm⟩ := varQ_some hvi
      exact good_maybeConv C (hΓ i vi hvi) ht h' (by rw [traverse_var, hm]; exact good_ok_refl)
  | deriv v t =>
      intro _ _ tgt r ht h
      obtain ⟨vv, vt, hvv, hvt, h'⟩ := convert_deriv_inv h
      exact good_maybeConv C (C.div (hΓ v vv hvv) (hΓ t vt hvt)) ht h' (good_deriv hvv hvt)
  | int _ | rat _ | flt _ | pi | e =>
      intro _ _ tgt r _ h
      obtain ⟨_, rfl⟩ := convert_numLeaf_inv rfl h
      simp only [traverse_int, traverse_rat, traverse_flt, traverse_pi, traverse_e]
      exact ⟨good_ok_refl, C.nil⟩
  | mul a b iha ihb =>
      intro hf hu tgt r ht h
      simp only [strictFrag, Bool.and_eq_true] at hf
      obtain ⟨ra, rb, hra, hrb, h'⟩ := convert_mul_inv h
      rw [rebuild2 (mk := E.mul) (convert_ident hra).2 (convert_ident hrb).2] at h'
      obtain ⟨ga, pa⟩ := iha hf.1 hu.1 none ra (by intro t ht'; cases ht') hra
      obtain ⟨gb, pb⟩ := ihb hf.2 hu.2 none rb (by intro t ht'; cases ht') hrb
      exact good_maybeConv C (C.mul pa pb) ht h' (good_mul ga gb)
  | pow b x ihb _ =>
      intro hf hu tgt r ht h
      simp only [strictFrag, Bool.and_eq_true] at hf
      obtain ⟨rx, q, rb, hrx, hq, hrb, h'⟩ := convert_pow_inv h
      rw [convert_numProd hf.2 (some []) (Or.inr rfl)] at hrx
      cases hrx
      obtain ⟨q', hc, hq'⟩ := evalClosed_numProd hf.2
      rw [hq'] at hq; cases hq
      obtain ⟨q'', f, htx, hc'⟩ := numProd_traverse reg Γ x hf.2
      rw [hc] at hc'; cases hc'
      rw [rebuild2 (mk := fun x' b' => E.pow b' x') (fun _ => rfl) (convert_ident hrb).2] at h'
      obtain ⟨gb, pb⟩ := ihb hf.1 hu none rb (by intro t ht'; cases ht') hrb
      exact good_maybeConv C (C.pow _ pb) ht h' (good_pow gb htx)
  | add a b iha ihb =>
      intro hf hu tgt r ht h
      simp only [strictFrag, Bool.and_eq_true] at hf
      obtain ⟨ra, rb, hra, hrb, rfl⟩ := convert_add_inv h
      rw [rebuild2 (mk := E.add) (convert_ident hra).2 (convert_ident hrb).2]
      rw [getD_target hra] at hrb
      obtain ⟨ga, pa⟩ := iha hf.1 hu.1 tgt ra ht hra
      obtain ⟨gb, pb⟩ := ihb hf.2 hu.2 _ rb (by intro t ht'; cases ht'; exact pa) hrb
      have hub : rb.u = ra.u := convert_target b _ rb hrb
      simp only [hub] at gb ⊢
      exact ⟨good_add ga gb, pa⟩
  | abs a iha =>
      intro hf hu tgt r ht h
      obtain ⟨ra, hra, rfl⟩ := convert_abs_inv h
      rw [rebuild1 (mk := E.abs) (convert_ident hra).2]
      obtain ⟨ga, pa⟩ := iha hf hu tgt ra ht hra
      exact ⟨good_abs ga, pa⟩
  | floor a iha | ceil a iha =>
      intro hf hu tgt r ht h
      obtain ⟨ra, hra, rfl⟩ := convert_pass_inv h
      rw [rebuild1 (convert_ident hra).2]
      obtain ⟨ga, pa⟩ := iha hf hu tgt ra ht hra
      simp only [traverse_floor, traverse_ceil]
      exact ⟨good_floorM _ ga, pa⟩
  | fn1 f a iha =>
      intro hf hu tgt r ht h
      obtain ⟨_, ra, hra, rfl⟩ := convert_fn1_inv h
      rw [rebuild1 (mk := E.fn1 f) (convert_ident hra).2]
      obtain ⟨ga, pa⟩ := iha hf hu _ ra (by intro t ht'; cases ht'; exact C.nil) hra
      have hua : ra.u = [] := convert_target a _ ra hra
      simp only [hua] at ga ⊢
      exact ⟨good_fn1 ga, C.nil⟩
  | ite c t el _ iht ihe =>
      intro hf hu tgt r ht h
      simp only [strictFrag, Bool.and_eq_true, Bool.or_eq_true, decide_eq_true_eq] at hf
      obtain ⟨rt, rc, hrt, hrc, hcase⟩ := convert_ite_inv h
      obtain ⟨gt, pt⟩ := iht hf.1 hu.1 tgt rt ht hrt
      rcases hcase with ⟨hel, rfl⟩ | ⟨hel, re, hre, rfl⟩
      · rw [rebuild2 (mk := fun t' c' => E.ite c' t' .undef) (convert_ident hrt).2 (convert_ident hrc).2]
        exact ⟨good_ite gt (fun hne => absurd rfl hne), pt⟩
      · rw [rebuild3 (mk := fun t' c' e' => E.ite c' t' e') (convert_ident hrt).2 (convert_ident hrc).2
          (convert_ident hre).2]
        rw [getD_target hrt] at hre
        have hfe : strictFrag el = true := by
          rcases hf.2 with h0 | h0
          · exact absurd h0 hel
          · exact h0
        obtain ⟨ge, _⟩ := ihe hfe hu.2 _ re (by intro t' ht'; cases ht'; exact pt) hre
        have hue : re.u = rt.u := convert_target el _ re hre
        simp only [hue] at ge ⊢
        exact ⟨good_ite gt (fun _ => ge), pt⟩
  | _ => intro hf; simp [strictFrag] at hf

/-! ### a real instance of `UClass`: units whose root units all carry a dimension

    For a registry whose dimensioned root units have pairwise different dimensions (checked by `decide` for a concrete
    registry), "same dimension" determines the root units of such units, hence factor one implies `is_equivalent`. -/

/-- the root units that carry a dimension, with it -/
def dimBases : Registry → List (String × String)
  | [] => []
  | (n, .base (some d)) :: r => (n, d) :: dimBases r
  | _ :: r => dimBases r

/-- coefficient of dimension `d0` in the dimensionality of a root container -/
def dimCoef (L : List (String × String)) (c : Container) (d0 : String) : Rat :=
  match L with
  | [] => 0
  | (n, d) :: t => (if d = d0 then c.get n else 0) + dimCoef t c d0

theorem get_dimsOfRoot (reg : Registry) (c : Container) (d0 : String) :
    get (dimsOfRoot reg c) d0 = dimCoef (dimBases reg) c d0 := by
  induction reg with
  | nil => rfl
  | cons hd tl ih =>
      obtain ⟨n, df⟩ := hd
      cases df with
      | base dim =>
          cases dim with
          | none => simpa [dimsOfRoot, dimBases] using ih
          | some d => simp only [dimsOfRoot, dimBases, dimCoef, get_add, get_single, ih]
      | derived k of => simpa [dimsOfRoot, dimBases] using ih

theorem dimCoef_absent (L : List (String × String)) (c : Container) (d0 : String)
    (h : d0 ∉ L.map Prod.snd) : dimCoef L c d0 = 0 := by
  induction L with
  | nil => rfl
  | cons hd tl ih =>
      obtain ⟨n, d⟩ := hd
      simp only [List.map_cons, List.mem_cons, not_or] at h
      have hne : ¬ d = d0 := fun e => h.1 e.symm
      simp only [dimCoef, hne, if_false, ih h.2]; grind

theorem dimCoef_unique (L : List (String × String)) (c : Container) (n0 d0 : String)
    (hnd : (L.map Prod.snd).Nodup) (hm : (n0, d0) ∈ L) : dimCoef L c d0 = c.get n0 := by
  induction L with
  | nil => cases hm
  | cons hd tl ih =>
      obtain ⟨n, d⟩ := hd
      simp only [List.map_cons, List.nodup_cons] at hnd
      simp only [List.mem_cons, Prod.mk.injEq] at hm
      rcases hm with ⟨rfl, rfl⟩ | hm
      · simp only [dimCoef, if_true, dimCoef_absent tl c d0 hnd.1]; grind
      · have hne : ¬ d = d0 := by
          intro e; subst e
          exact hnd.1 (List.mem_map.mpr ⟨(n0, d), hm, rfl⟩)
        simp only [dimCoef, hne, if_false, ih hnd.2 hm]; grind

/-- the dimensioned root units of the registry have pairwise different dimensions -/
def dimsDistinct (reg : Registry) : Bool := decide ((dimBases reg).map Prod.snd).Nodup

/-- every root unit of the unit carries a dimension (no `radian`, no unknown name) -/
def RootsDim (reg : Registry) (c : Container) : Prop :=
  ∀ n, get (toRoot reg c).2 n ≠ 0 → ∃ d, (n, d) ∈ dimBases reg

/-- executable sufficient test for `RootsDim` -/
def rootsDimB (reg : Registry) (c : Container) : Bool :=
  (rootOf reg c).all (fun p => (dimBases reg).any (fun nd => nd.1 == p.1))

theorem rootsDim_of_test {reg : Registry} {c : Container} (h : rootsDimB reg c = true) : RootsDim reg c := by
  intro n hn
  have hn' : get (rootOf reg c) n ≠ 0 := by simpa only [rootOf, get_norm] using hn
  obtain ⟨x, hx⟩ := mem_of_get_ne_zero _ _ hn'
  simp only [rootsDimB, List.all_eq_true] at h
  have := h (n, x) hx
  simp only [List.any_eq_true, beq_iff_eq] at this
  obtain ⟨⟨n', d⟩, hmem, heq⟩ := this
  simp only at heq; subst heq
  exact ⟨d, hmem⟩

theorem dimBases_restrict {S : List String} {p : String × String} :
    ∀ reg : Registry, p ∈ dimBases (restrict S reg) → p ∈ dimBases reg := by
  intro reg
  induction reg with
  | nil => exact id
  | cons hd tl ih =>
      obtain ⟨n, d⟩ := hd
      intro h
      have tail : p ∈ dimBases tl → p ∈ dimBases ((n, d) :: tl) := by
        cases d with
        | base dim => cases dim with
          | none => exact id
          | some dn => exact List.mem_cons_of_mem _
        | derived k of => exact id
      by_cases hn : n ∈ S
      · rw [restrict_cons_mem d tl hn] at h
        cases d with
        | base dim => cases dim with
          | none => exact ih h
          | some dn =>
              rcases List.mem_cons.mp h with h | h
              · rw [h]; exact List.mem_cons_self
              · exact List.mem_cons_of_mem _ (ih h)
        | derived k of => exact ih h
      · rw [restrict_cons_not_mem d tl hn] at h
        exact tail (ih h)

theorem rootsDim_restrict {S : List String} {reg : Registry} (hS : Closed S reg) {c : Container} (hc : Within S c)
    (h : RootsDim (restrict S reg) c) : RootsDim reg c := by
  intro n hn
  rw [(toRoot_restrict hS hc).2 n] at hn
  obtain ⟨d, hd⟩ := h n hn
  exact ⟨d, dimBases_restrict reg hd⟩

theorem faithful_of_distinct {reg : Registry} (hreg : dimsDistinct reg = true) {a b : Container}
    (ha : RootsDim reg a) (hb : RootsDim reg b) (hf : factor reg a b = .ok []) : isEquivalent reg a b = true := by
  obtain ⟨ka, kb, hd, _⟩ := (factor_ok_iff reg a b []).mp hf
  refine (isEquivalent_iff_factor ka kb).mpr ⟨hf, ?_⟩
  have hdd : dimsOfRoot reg (toRoot reg a).2 ≃ dimsOfRoot reg (toRoot reg b).2 :=
    (dimsOf_equiv reg a).symm.trans ((equiv_of_beq hd).trans (dimsOf_equiv reg b))
  have hnd : ((dimBases reg).map Prod.snd).Nodup := of_decide_eq_true hreg
  intro n
  by_cases hex : ∃ d, (n, d) ∈ dimBases reg
  · obtain ⟨d, hmem⟩ := hex
    have h1 := dimCoef_unique (dimBases reg) (toRoot reg a).2 n d hnd hmem
    have h2 := dimCoef_unique (dimBases reg) (toRoot reg b).2 n d hnd hmem
    rw [← h1, ← h2, ← get_dimsOfRoot, ← get_dimsOfRoot]
    exact hdd d
  · have za : get (toRoot reg a).2 n = 0 := Classical.byContradiction fun h0 => hex (ha n h0)
    have zb : get (toRoot reg b).2 n = 0 := Classical.byContradiction fun h0 => hex (hb n h0)
    rw [za, zb]

/-- the class of units without dimensionless root units, for a registry with distinct base dimensions -/
def dimClass (reg : Registry) (hreg : dimsDistinct reg = true) : UClass reg where
  P := RootsDim reg
  nil := by
    intro n hn
    exact absurd (by have := (sem_nil reg).2 n; simpa [Spec.one] using this) hn
  mul := by
    intro a b ha hb n hn
    have h := (sem_mulC reg a b).2 n
    simp only [Spec.mul, get_add] at h
    by_cases h0 : get (toRoot reg a).2 n = 0
    · apply hb n; intro h1; apply hn; rw [h, h0, h1]; grind
    · exact ha n h0
  div := by
    intro a b ha hb n hn
    have h := (sem_divC reg a b).2 n
    simp only [Spec.div, get_sub] at h
    by_cases h0 : get (toRoot reg a).2 n = 0
    · apply hb n; intro h1; apply hn; rw [h, h0, h1]; grind
    · exact ha n h0
  pow := by
    intro a q ha n hn
    have h := (sem_powC reg a q).2 n
    simp only [Spec.pow, get_smul] at h
    apply ha n; intro h0; apply hn; rw [h, h0]; grind
  faithful := fun ha hb hf => faithful_of_distinct hreg ha hb hf

end strict

end Convert
