import Cellml.Units.Local
import Cellml.Expr.InferLemmas
import Cellml.Expr.Convert

/-! Unit inference and unit conversion of expressions look only at the definitions of the units that occur: `traverse`
    asks the registry two questions (`sameUnits`, `isDimless`), `convert` one (`conversionFactor`), and only about
    containers built by the unit arithmetic from those of the expression, the environment and the target. Over a registry
    cut down to a closed set `S` of names that covers them (`Units.restrict`) both therefore run exactly as over the
    whole registry. The closed examples of Props/C04.lean, C04Denotes.lean and C05.lean are evaluated that way. -/

-- expressions are called `e`, which is also the constructor `E.e` (Euler's number)
set_option linter.constructorNameAsVariable false

namespace Infer
open Units

/-- every container written in the expression has its keys in `S` -/
def unitsB (S : List String) : E → Bool
  | .qty _ u | .cf _ u => withinB S u
  | .add a b | .mul a b | .pow a b | .fnN _ a b | .rel _ a b | .and a b | .or a b => unitsB S a && unitsB S b
  | .abs a | .floor a | .ceil a | .fn1 _ a | .not a => unitsB S a
  | .ite c t el => unitsB S c && unitsB S t && unitsB S el
  | _ => true

def envB (S : List String) (Γ : VarEnv) : Bool := Γ.all fun vi => withinB S vi.unit

/-- two runs give the same result, and a returned value satisfies `Q`. Every step of a `do` block keeps this
    (`Agree.bind`), so agreement of two runs of the same block is shown step by step, with no inversion. -/
def Agree {α : Type} (Q : α → Prop) (x y : Except UnitErr α) : Prop := x = y ∧ Post Q x

theorem Agree.bind {α β : Type} {Q : α → Prop} {R : β → Prop} {x y : Except UnitErr α}
    {f g : α → Except UnitErr β} (h : Agree Q x y) (hf : ∀ a, Q a → Agree R (f a) (g a)) :
    Agree R (x >>= f) (y >>= g) := by
  obtain ⟨rfl, hq⟩ := h
  cases x with
  | error e => exact ⟨rfl, fun _ h => by cases h⟩
  | ok a => exact hf a (hq a rfl)

theorem Agree.ok {α : Type} {Q : α → Prop} {a : α} (h : Q a) : Agree Q (.ok a) (.ok a) :=
  ⟨rfl, fun _ h' => by cases h'; exact h⟩

theorem Agree.error {α : Type} {Q : α → Prop} {e : UnitErr} : Agree Q (.error e) (.error e) :=
  ⟨rfl, fun _ h' => by cases h'⟩

theorem Agree.of_error {α : Type} {Q : α → Prop} {x : Except UnitErr α} {e : UnitErr} (h : x = .error e) :
    Agree Q x x := ⟨rfl, fun a ha => by rw [h] at ha; cases ha⟩

/-- a step that does not ask the registry -/
theorem Agree.rfl {α : Type} {x : Except UnitErr α} : Agree (fun _ => True) x x := ⟨_root_.rfl, fun _ _ => trivial⟩

section
variable {S : List String} {reg : Registry} {Γ : VarEnv}

abbrev Over (S : List String) (l : List (M × Container)) : Prop := ∀ q ∈ l, withinB S q.2 = true

theorem sameUnits_restrict (hS : Closed S reg) {a b : Container} (ha : withinB S a = true) (hb : withinB S b = true) :
    sameUnits reg a b = sameUnits (restrict S reg) a b :=
  isEquivalent_restrict hS (within_of_test ha) (within_of_test hb)

theorem isDimless_restrict (hS : Closed S reg) {u : Container} (hu : withinB S u = true) :
    isDimless reg u = isDimless (restrict S reg) u :=
  congrArg PMap.isZero (dimsOf_restrict hS (within_of_test hu))

theorem over_single {m : M} {u : Container} (h : withinB S u = true) : Over S [(m, u)] := by
  intro q hq; rw [List.mem_singleton.mp hq]; exact h

theorem finish_agree (hS : Closed S reg) {l : List (M × Container)} (hl : Over S l) :
    Agree (fun q => withinB S q.2 = true) (finish reg l) (finish (restrict S reg) l) := by
  cases l with
  | nil => exact .error
  | cons q rest =>
      have hq := hl q List.mem_cons_self
      have : (rest.all fun r => sameUnits reg q.2 r.2) = rest.all fun r => sameUnits (restrict S reg) q.2 r.2 := by
        rw [Bool.eq_iff_iff, List.all_eq_true, List.all_eq_true]
        exact forall_congr' fun r => forall_congr' fun hr => by
          rw [sameUnits_restrict hS hq (hl r (List.mem_cons_of_mem _ hr))]
      simp only [finish, this]
      split
      · exact .ok hq
      · exact .error

theorem varQ_agree (hΓ : envB S Γ = true) (i : Nat) : Agree (fun q => withinB S q.2 = true) (varQ Γ i) (varQ Γ i) := by
  refine ⟨rfl, fun q h => ?_⟩
  obtain ⟨vi, hvi, hu⟩ := varQ_ok Γ i q h
  rw [hu]; exact List.all_eq_true.mp hΓ vi (List.mem_of_getElem? hvi)

theorem trav_agree (hS : Closed S reg) (hΓ : envB S Γ = true) : ∀ e : E, unitsB S e = true →
    Agree (Over S) (trav reg Γ e) (trav (restrict S reg) Γ e) := by
  intro e
  induction e with
  | qty _ u | cf _ u => intro hu; exact .ok (over_single hu)
  | int _ | rat _ | flt _ | pi | e => intro _; exact .ok (over_single rfl)
  | oo | nan | undef | tt | ff | other _ => intro _; exact .error
  | var i => intro _; exact (varQ_agree hΓ i).bind fun q hq => .ok (over_single hq)
  | deriv v t =>
      intro _
      simp only [trav]
      exact (varQ_agree hΓ v).bind fun qv hv => (varQ_agree hΓ t).bind fun qt ht => Agree.rfl.bind fun m _ =>
        .ok (over_single (withinB_norm (withinB_add hv (withinB_smul (-1) ht))))
  | mul a b iha ihb =>
      intro hu
      simp only [unitsB, Bool.and_eq_true] at hu
      simp only [trav]
      exact (iha hu.1).bind fun la hla => (finish_agree hS hla).bind fun qa hqa =>
        (ihb hu.2).bind fun lb hlb => (finish_agree hS hlb).bind fun qb hqb =>
          .ok (over_single (withinB_norm (withinB_add hqa hqb)))
  | add a b iha ihb =>
      intro hu
      simp only [unitsB, Bool.and_eq_true] at hu
      simp only [trav]
      refine (iha hu.1).bind fun la hla => (ihb hu.2).bind fun lb hlb => (finish_agree hS hlb).bind fun qb hqb =>
        .ok fun q hq => ?_
      rcases List.mem_append.mp hq with h | h
      · exact hla q h
      · rw [List.mem_singleton.mp h]; exact hqb
  | pow b x ihb ihx =>
      intro hu
      simp only [unitsB, Bool.and_eq_true] at hu
      rw [trav_pow, trav_pow, traverse_def, traverse_def, traverse_def, traverse_def]
      refine (((ihb hu.1).bind fun lb hlb => finish_agree hS hlb).bind fun qb hqb =>
        ((ihx hu.2).bind fun lx hlx => finish_agree hS hlx).bind fun qx _ => ?_).bind fun q hq =>
          .ok (over_single hq)
      refine ⟨rfl, fun r hr => ?_⟩
      rcases powStep_unit hr with h | ⟨q, h⟩ <;> rw [h]
      · rfl
      · exact withinB_norm (withinB_smul q hqb)
  | abs a iha =>
      intro hu
      simp only [trav]
      exact (iha hu).bind fun la hla => (finish_agree hS hla).bind fun qa hqa => .ok (over_single hqa)
  | floor a iha | ceil a iha =>
      intro hu
      simp only [trav]
      exact (iha hu).bind fun la hla => (finish_agree hS hla).bind fun qa hqa =>
        Agree.rfl.bind fun m _ => .ok (over_single hqa)
  | not a iha =>
      intro hu
      simp only [trav]
      exact (iha hu).bind fun la hla => (finish_agree hS hla).bind fun _ _ => .error
  | rel _ a b iha ihb | and a b iha ihb | or a b iha ihb =>
      intro hu
      simp only [unitsB, Bool.and_eq_true] at hu
      simp only [trav]
      exact (iha hu.1).bind fun la hla => (finish_agree hS hla).bind fun _ _ =>
        (ihb hu.2).bind fun lb hlb => (finish_agree hS hlb).bind fun _ _ => .error
  | ite c t el _ iht ihe =>
      intro hu
      simp only [unitsB, Bool.and_eq_true] at hu
      simp only [trav]
      refine (iht hu.1.2).bind fun lt hlt => (finish_agree hS hlt).bind fun qt hqt => ?_
      by_cases hel : el = .undef
      · simp only [hel, if_true]; exact .ok (over_single hqt)
      · simp only [hel, if_false]
        refine (ihe hu.2).bind fun le hle => (finish_agree hS hle).bind fun qe hqe => ?_
        rw [sameUnits_restrict hS hqt hqe]
        split
        · exact .ok (over_single hqt)
        · exact .error
  | fn1 f a iha =>
      intro hu
      simp only [trav]
      refine (iha hu).bind fun la hla => (finish_agree hS hla).bind fun qa hqa => ?_
      rw [isDimless_restrict hS hqa]
      refine ⟨rfl, fun l hl => ?_⟩
      repeat' split at hl
      all_goals cases hl
      all_goals exact over_single rfl
  | fnN f a b iha ihb =>
      intro hu
      simp only [unitsB, Bool.and_eq_true] at hu
      -- the node always fails: only equality of the two runs is to be shown; the left operand is looked at as a whole
      obtain ⟨err, he⟩ := trav_fnN reg Γ f a b
      suffices h : trav reg Γ (.fnN f a b) = trav (restrict S reg) Γ (.fnN f a b) from
        ⟨h, fun l hl => by rw [he] at hl; cases hl⟩
      obtain ⟨hab, hq⟩ := iha hu.1
      have hb := ((ihb hu.2).bind fun lb hlb => finish_agree hS hlb).1
      simp only [trav]
      rw [← hab]
      generalize trav reg Γ a = ta at hq ⊢
      have ha := (Agree.bind (Q := Over S) ⟨rfl, hq⟩ fun la hla => finish_agree hS hla).1
      -- what follows the left operand, and the check of the left operand, are the same in both runs
      have hT : (trav reg Γ b >>= fun l => finish reg l >>= fun _ =>
            (throw UnitErr.deferredFn : Except UnitErr (List (M × Container)))) =
          (trav (restrict S reg) Γ b >>= fun l => finish (restrict S reg) l >>= fun _ => throw UnitErr.deferredFn) := by
        simpa only [bind_assoc] using
          congrArg (· >>= fun _ => (throw UnitErr.deferredFn : Except UnitErr (List (M × Container)))) hb
      rw [hT]
      split
      · rfl
      · simpa only [bind_assoc] using congrArg (· >>= fun _ => (trav (restrict S reg) Γ b >>= fun l =>
          finish (restrict S reg) l >>= fun _ => (throw UnitErr.deferredFn : Except UnitErr (List (M × Container))))) ha

/-- **unit inference over the whole registry is unit inference over the entries the expression can reach** -/
theorem traverse_restrict {e : E} (hS : closedB S reg = true) (he : (unitsB S e && envB S Γ) = true) :
    traverse reg Γ e = traverse (restrict S reg) Γ e := by
  rw [Bool.and_eq_true] at he
  have hC := closed_of_test hS
  rw [traverse_def, traverse_def]
  exact ((trav_agree hC he.2 e he.1).bind fun l hl => finish_agree hC hl).1

end
/-! ### the specification side: the CellML rules look at the registry only through the root forms of the units that occur -/

section
open PMap Spec
variable {S : List String} {reg : Registry} {Γ : VarEnv}

/-- both registries give no unit, or units of the same meaning, over `S` -/
def SpecAgree (S : List String) (x y : Option SUnit) : Prop :=
  (x = none ∧ y = none) ∨ ∃ a b, x = some a ∧ y = some b ∧ a ≃₂ b ∧ Within S a.2

theorem SpecAgree.some {a b : SUnit} (e : a ≃₂ b) (w : Within S a.2) : SpecAgree S (some a) (some b) :=
  .inr ⟨a, b, rfl, rfl, e, w⟩

theorem specUnit_agree (hS : Closed S reg) (hΓ : envB S Γ = true) : ∀ e : E, unitsB S e = true →
    SpecAgree S (specUnit reg Γ e) (specUnit (restrict S reg) Γ e) := by
  have leaf : ∀ {u : Container}, withinB S u = true → SpecAgree S (some (toRoot reg u)) (some (toRoot (restrict S reg) u)) :=
    fun h => .some (toRoot_restrict hS (within_of_test h)) (expand_within reg hS _ (within_of_test h))
  have hvar : ∀ {i : Nat} {vi : VarInfo}, Γ[i]? = some vi → withinB S vi.unit = true :=
    fun h => List.all_eq_true.mp hΓ _ (List.mem_of_getElem? h)
  intro e
  induction e with
  | qty _ u | cf _ u => intro hu; exact leaf hu
  | var i =>
      intro _
      simp only [specUnit]
      cases h : Γ[i]? with
      | none => exact .inl ⟨rfl, rfl⟩
      | some vi => exact leaf (hvar h)
  | int _ | rat _ | flt _ | pi | e | oo | nan => intro _; exact .some (Equiv₂.refl _) Within.nil
  | mul a b iha ihb =>
      intro hu
      simp only [unitsB, Bool.and_eq_true] at hu
      rcases iha hu.1 with ⟨h1, h2⟩ | ⟨x, x', h1, h2, ex, wx⟩ <;> simp only [specUnit, h1, h2]
      · exact .inl ⟨rfl, rfl⟩
      rcases ihb hu.2 with ⟨h3, h4⟩ | ⟨y, y', h3, h4, ey, wy⟩ <;> simp only [h3, h4]
      · exact .inl ⟨rfl, rfl⟩
      · exact .some (mul_congr ex ey) (Within.add wx wy)
  | add a b iha ihb =>
      intro hu
      simp only [unitsB, Bool.and_eq_true] at hu
      rcases iha hu.1 with ⟨h1, h2⟩ | ⟨x, x', h1, h2, ex, wx⟩ <;> simp only [specUnit, h1, h2]
      · exact .inl ⟨rfl, rfl⟩
      rcases ihb hu.2 with ⟨h3, h4⟩ | ⟨y, y', h3, h4, ey, wy⟩ <;> simp only [h3, h4]
      · exact .inl ⟨rfl, rfl⟩
      · rw [same_congr ex ey]
        split
        · exact .some ex wx
        · exact .inl ⟨rfl, rfl⟩
  | pow b x ihb ihx =>
      intro hu
      simp only [unitsB, Bool.and_eq_true] at hu
      rcases ihb hu.1 with ⟨h1, h2⟩ | ⟨sb, sb', h1, h2, eb, wb⟩ <;> simp only [specUnit, h1, h2]
      · exact .inl ⟨rfl, rfl⟩
      rcases ihx hu.2 with ⟨h3, h4⟩ | ⟨sx, sx', h3, h4, ex, _⟩ <;> simp only [h3, h4]
      · exact .inl ⟨rfl, rfl⟩
      rw [isOne_congr ex, isOne_congr eb]
      split
      · split
        · exact .some (pow_congr _ eb) (Within.smul _ wb)
        · split
          · exact .some (Equiv₂.refl _) Within.nil
          · exact .inl ⟨rfl, rfl⟩
      · exact .inl ⟨rfl, rfl⟩
  | ite c t el _ iht ihe =>
      intro hu
      simp only [unitsB, Bool.and_eq_true] at hu
      simp only [specUnit]
      split
      · exact iht hu.1.2
      rcases iht hu.1.2 with ⟨h1, h2⟩ | ⟨x, x', h1, h2, ex, wx⟩ <;> simp only [h1, h2]
      · exact .inl ⟨rfl, rfl⟩
      rcases ihe hu.2 with ⟨h3, h4⟩ | ⟨y, y', h3, h4, ey, _⟩ <;> simp only [h3, h4]
      · exact .inl ⟨rfl, rfl⟩
      · rw [same_congr ex ey]
        split
        · exact .some ex wx
        · exact .inl ⟨rfl, rfl⟩
  | abs a ih | floor a ih | ceil a ih => intro hu; exact ih hu
  | fn1 _ a ih =>
      intro hu
      rcases ih hu with ⟨h1, h2⟩ | ⟨x, x', h1, h2, ex, wx⟩ <;> simp only [specUnit, h1, h2]
      · exact .inl ⟨rfl, rfl⟩
      have hd : dimsOfRoot reg x.2 ≃ dimsOfRoot (restrict S reg) x'.2 :=
        (dimsOfRoot_restrict reg wx).trans (dimsOfRoot_congr _ ex.2)
      have : dimZero reg x = dimZero (restrict S reg) x' := by
        rw [Bool.eq_iff_iff]
        simp only [dimZero, isZero_iff]
        exact ⟨fun h => hd.symm.trans h, fun h => hd.trans h⟩
      rw [this]
      split
      · exact .some (Equiv₂.refl _) Within.nil
      · exact .inl ⟨rfl, rfl⟩
  | deriv v t =>
      intro _
      simp only [specUnit]
      cases hv : Γ[v]? with
      | none => exact .inl ⟨rfl, rfl⟩
      | some vv =>
          cases ht : Γ[t]? with
          | none => exact .inl ⟨rfl, rfl⟩
          | some vt =>
              have wv := within_of_test (hvar hv)
              have wt := within_of_test (hvar ht)
              exact .some (div_congr (toRoot_restrict hS wv) (toRoot_restrict hS wt))
                (Within.add (expand_within reg hS _ wv) (Within.smul (-1) (expand_within reg hS _ wt)))
  | undef | rel _ _ _ _ _ | and _ _ _ _ | or _ _ _ _ | not _ _ | tt | ff | fnN _ _ _ _ _ | other _ =>
      intro _; exact .inl ⟨rfl, rfl⟩

/-- **the unit the rules assign, seen through anything that respects the meaning of units, is the same over the
    entries the expression can reach** -/
theorem specUnit_restrict {α : Type} {e : E} (f : SUnit → α) (hf : ∀ a b, a ≃₂ b → f a = f b)
    (hS : closedB S reg = true) (he : (unitsB S e && envB S Γ) = true) :
    (specUnit reg Γ e).map f = (specUnit (restrict S reg) Γ e).map f := by
  rw [Bool.and_eq_true] at he
  rcases specUnit_agree (closed_of_test hS) he.2 e he.1 with ⟨h1, h2⟩ | ⟨a, b, h1, h2, eab, _⟩ <;> rw [h1, h2]
  exact congrArg some (hf a b eab)

end

end Infer

namespace Convert
open Units Infer

variable {S : List String} {reg : Registry} {Γ : VarEnv}

theorem maybeConv_agree (hS : Closed S reg) {ex : E} {wc : Bool} {frm : Container} {tgt : Option Container}
    {same : Bool} (hf : withinB S frm = true) (ht : tgt.all (withinB S) = true) :
    Agree (fun r => withinB S r.u = true) (maybeConv reg ex wc frm tgt same)
      (maybeConv (restrict S reg) ex wc frm tgt same) := by
  cases tgt with
  | none => exact .ok hf
  | some t =>
      simp only [maybeConv, conversionFactor, factor_restrict hS hf ht]
      refine ⟨rfl, fun r hr => ?_⟩
      split at hr <;> cases hr <;> exact ht

theorem convert_agree (hS : Closed S reg) (hΓ : envB S Γ = true) : ∀ e : E, unitsB S e = true →
    ∀ tgt : Option Container, tgt.all (withinB S) = true →
      Agree (fun r => withinB S r.u = true) (convert reg Γ e tgt) (convert (restrict S reg) Γ e tgt) := by
  have hvar : ∀ {i : Nat} {vi : VarInfo}, Γ[i]? = some vi → withinB S vi.unit = true :=
    fun h => List.all_eq_true.mp hΓ _ (List.mem_of_getElem? h)
  intro e
  induction e with
  | qty _ u | cf _ u => intro hu tgt ht; simp only [convert]; exact maybeConv_agree hS hu ht
  | var i =>
      intro _ tgt ht
      simp only [convert]
      cases h : Γ[i]? with
      | none => exact .error
      | some vi => exact maybeConv_agree hS (hvar h) ht
  | deriv v t =>
      intro _ tgt ht
      simp only [convert]
      cases hv : Γ[v]? with
      | none => exact .error
      | some vv =>
          cases h : Γ[t]? with
          | none => exact .error
          | some vt =>
              exact maybeConv_agree hS (withinB_norm (withinB_add (hvar hv) (withinB_smul (-1) (hvar h)))) ht
  | mul a b iha ihb =>
      intro hu tgt ht
      simp only [unitsB, Bool.and_eq_true] at hu
      simp only [convert]
      exact (iha hu.1 none rfl).bind fun ra hra => (ihb hu.2 none rfl).bind fun rb hrb =>
        maybeConv_agree hS (withinB_norm (withinB_add hra hrb)) ht
  | pow b x ihb ihx =>
      intro hu tgt ht
      simp only [unitsB, Bool.and_eq_true] at hu
      simp only [convert]
      refine (ihx hu.2 (some []) rfl).bind fun rx _ => ?_
      split
      · exact Agree.of_error rfl
      · exact Agree.of_error rfl
      · exact Agree.rfl.bind fun xv _ => (ihb hu.1 none rfl).bind fun rb hrb =>
          maybeConv_agree hS (withinB_norm (withinB_smul _ hrb)) ht
  | add a b iha ihb =>
      intro hu tgt ht
      simp only [unitsB, Bool.and_eq_true] at hu
      simp only [convert]
      refine (iha hu.1 tgt ht).bind fun ra hra => (ihb hu.2 _ ?_).bind fun rb hrb => .ok hrb
      cases tgt with
      | none => exact hra
      | some t' => exact ht
  | abs a iha | floor a iha | ceil a iha =>
      intro hu tgt ht
      simp only [convert]
      exact (iha hu tgt ht).bind fun ra hra => .ok hra
  | undef | other _ => intro _ tgt _; exact .error
  | rel _ a b iha ihb =>
      intro hu tgt ht
      simp only [unitsB, Bool.and_eq_true] at hu
      simp only [convert]
      split
      · exact Agree.of_error rfl
      · exact (iha hu.1 none rfl).bind fun ra hra => (ihb hu.2 (some ra.u) hra).bind fun rb _ => .ok rfl
  | fn1 _ a iha | not a iha =>
      intro hu tgt ht
      simp only [convert]
      split
      · exact Agree.of_error rfl
      · exact (iha hu (some []) rfl).bind fun ra hra => .ok hra
  | fnN _ a b iha ihb | and a b iha ihb | or a b iha ihb =>
      intro hu tgt ht
      simp only [unitsB, Bool.and_eq_true] at hu
      simp only [convert]
      split
      · exact Agree.of_error rfl
      · exact (iha hu.1 (some []) rfl).bind fun ra _ => (ihb hu.2 (some []) rfl).bind fun rb hrb => .ok hrb
  | ite c t el ihc iht ihe =>
      intro hu tgt ht
      simp only [unitsB, Bool.and_eq_true] at hu
      simp only [convert]
      refine (iht hu.1.2 tgt ht).bind fun rt hrt => (ihc hu.1.1 (some []) rfl).bind fun rc _ => ?_
      split
      · exact .ok hrt
      · refine (ihe hu.2 _ ?_).bind fun re hre => .ok hre
        cases tgt with
        | none => exact hrt
        | some t' => exact ht
  | int _ | rat _ | flt _ | pi | e | oo | nan | tt | ff =>
      intro _ tgt _
      simp only [convert]
      split
      · exact .ok rfl
      · exact .error

/-- **unit conversion of an expression over the whole registry is the conversion over the entries it can reach** -/
theorem convert_restrict {e : E} {tgt : Option Container} (hS : closedB S reg = true)
    (he : (unitsB S e && envB S Γ && tgt.all (withinB S)) = true) :
    convert reg Γ e tgt = convert (restrict S reg) Γ e tgt := by
  simp only [Bool.and_eq_true] at he
  exact (convert_agree (closed_of_test hS) he.1.2 e he.1.1 tgt he.2).1

end Convert
