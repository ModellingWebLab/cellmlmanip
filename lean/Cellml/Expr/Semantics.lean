import Mathlib.Algebra.Field.Basic
import Mathlib.Algebra.Order.Field.Basic
import Mathlib.Tactic.Ring
import Mathlib.Tactic.FieldSimp
import Mathlib.Tactic.Linarith
import Cellml.Expr.ConvertLemmas

/-! The two semantics of expressions (DESIGN.md 2.2) over an arbitrary ordered field `K`.

    * `evalNum` / `evalB`  : plain arithmetic on magnitudes — what generated code computes.
    * `evalPhys` / `physB` : the physical quantity denoted (value in SI, dimension) — `none` on a dimension clash.

    Everything that is not field arithmetic is a parameter (`Interp`): the meaning `φ` of a scale (prime ↦ exponent map,
    ⟦s⟧ = ∏ pᵉ), rational powers `pw`, the transcendental functions `fn`. The laws the proofs need are FIELDS of the
    structure, i.e. hypotheses of every theorem, never axioms. The intended instance is `K = ℝ`, `φ s = ∏ p ^ e`,
    `pw = Real.rpow`; a (degenerate) instance over `Rat` is exhibited at the end so that the hypotheses are consistent.
    Not linked into the driver; proof-side only. -/

namespace Sem
open Units Infer

variable {K : Type} [Field K] [LinearOrder K] [IsStrictOrderedRing K]

structure Interp (K : Type) [Field K] [LinearOrder K] [IsStrictOrderedRing K] where
  /-- ⟦s⟧ = ∏ pᵉ, a positive number -/
  φ        : Scale → K
  φ_pos    : ∀ s, 0 < φ s
  φ_congr  : ∀ {a b : Scale}, PMap.Equiv a b → φ a = φ b
  φ_add    : ∀ a b, φ (PMap.add a b) = φ a * φ b
  φ_nil    : φ [] = 1
  /-- `x ** q` for a rational exponent -/
  pw       : K → Rat → K
  /-- powers are covariant under positive rescaling: (x·c)^q = x^q · c^q -/
  pw_cov   : ∀ x s q, pw (x * φ s) q = pw x q * φ (PMap.smul q s)
  /-- an integer exponent is the integer power (wherever Python does not raise ZeroDivisionError) -/
  pw_int   : ∀ (x : K) (n : Int), ¬ (x = 0 ∧ n < 0) → pw x (n : Rat) = x ^ n
  /-- `x ** y` for an exponent that is not a closed number (never produced by a successful conversion) -/
  pwK      : K → K → K
  /-- exp, log, sin, … : uninterpreted -/
  fn       : String → K → K
  fn2      : String → K → K → K
  flr      : K → K
  clg      : K → K
  /-- values of pi, e (and placeholders for oo, nan) -/
  cst      : E → K

def relHolds (r : Rel) (x y : K) : Bool :=
  match r with
  | .eq => decide (x = y) | .ne => decide (x ≠ y)
  | .lt => decide (x < y) | .le => decide (x ≤ y)
  | .gt => decide (y < x) | .ge => decide (y ≤ x)

mutual
/-- plain arithmetic on magnitudes -/
noncomputable def evalNum (I : Interp K) (ρ : Nat → K) (δ : Nat → Nat → K) : E → K
  | .qty v _ => (v : K)
  | .cf s _ => I.φ s
  | .var i => ρ i
  | .deriv v t => δ v t
  | .int n => (n : K)
  | .rat q => (q : K)
  | .flt q => (q : K)
  | .pi => I.cst .pi
  | .e => I.cst .e
  | .oo => I.cst .oo
  | .nan => I.cst .nan
  | .add a b => evalNum I ρ δ a + evalNum I ρ δ b
  | .mul a b => evalNum I ρ δ a * evalNum I ρ δ b
  | .pow b x =>
      match Convert.evalClosed x with
      | some (some q) => I.pw (evalNum I ρ δ b) q
      | _ => I.pwK (evalNum I ρ δ b) (evalNum I ρ δ x)
  | .abs a => |evalNum I ρ δ a|
  | .floor a => I.flr (evalNum I ρ δ a)
  | .ceil a => I.clg (evalNum I ρ δ a)
  | .fn1 f a => I.fn f (evalNum I ρ δ a)
  | .fnN f a b => I.fn2 f (evalNum I ρ δ a) (evalNum I ρ δ b)
  | .ite c t el => if evalB I ρ δ c then evalNum I ρ δ t else evalNum I ρ δ el
  -- no piece applies: SymPy yields nan, which is absorbing for the multiplication by a factor; 0 stands for it
  | .undef => 0
  | .rel _ _ _ => 0
  | .and _ _ => 0
  | .or _ _ => 0
  | .not _ => 0
  | .tt => 0
  | .ff => 0
  | .other _ => 0
/-- conditions, by the order of `K` -/
noncomputable def evalB (I : Interp K) (ρ : Nat → K) (δ : Nat → Nat → K) : E → Bool
  | .rel r a b => relHolds r (evalNum I ρ δ a) (evalNum I ρ δ b)
  | .and a b => evalB I ρ δ a && evalB I ρ δ b
  | .or a b => evalB I ρ δ a || evalB I ρ δ b
  | .not a => !evalB I ρ δ a
  | .tt => true
  | .ff => false
  | .qty _ _ => false
  | .cf _ _ => false
  | .var _ => false
  | .deriv _ _ => false
  | .int _ => false
  | .rat _ => false
  | .flt _ => false
  | .pi => false
  | .e => false
  | .oo => false
  | .nan => false
  | .add _ _ => false
  | .mul _ _ => false
  | .pow _ _ => false
  | .abs _ => false
  | .floor _ => false
  | .ceil _ => false
  | .fn1 _ _ => false
  | .fnN _ _ _ => false
  | .ite _ _ _ => false
  | .undef => false
  | .other _ => false
end

mutual
/-- the physical quantity denoted: (value in SI, dimension); `none` = no physical meaning (dimension clash, …) -/
noncomputable def evalPhys (I : Interp K) (reg : Registry) (Γ : VarEnv) (ρ : Nat → K) (δ : Nat → Nat → K) :
    E → Option (K × Dims)
  | .qty v u => some ((v : K) * I.φ (scaleOf reg u), dimsOf reg u)
  | .cf s u => some (I.φ s * I.φ (scaleOf reg u), dimsOf reg u)
  | .var i =>
      match Γ[i]? with
      | some vi => some (ρ i * I.φ (scaleOf reg vi.unit), dimsOf reg vi.unit)
      | none => none
  | .deriv v t =>
      match Γ[v]?, Γ[t]? with
      | some vv, some vt =>
          some (δ v t * (I.φ (scaleOf reg vv.unit) / I.φ (scaleOf reg vt.unit)),
                PMap.sub (dimsOf reg vv.unit) (dimsOf reg vt.unit))
      | _, _ => none
  | .int n => some ((n : K), [])
  | .rat q => some ((q : K), [])
  | .flt q => some ((q : K), [])
  | .pi => some (I.cst .pi, [])
  | .e => some (I.cst .e, [])
  | .oo => none
  | .nan => none
  | .add a b =>
      match evalPhys I reg Γ ρ δ a, evalPhys I reg Γ ρ δ b with
      | some (x, d), some (y, d') => if PMap.beq d d' then some (x + y, d) else none
      | _, _ => none
  | .mul a b =>
      match evalPhys I reg Γ ρ δ a, evalPhys I reg Γ ρ δ b with
      | some (x, d), some (y, d') => some (x * y, PMap.add d d')
      | _, _ => none
  | .pow b x =>
      -- the exponent is a dimensionless quantity whose PHYSICAL value is the number q
      match evalPhys I reg Γ ρ δ b, evalPhys I reg Γ ρ δ x, Convert.evalClosed x with
      | some (xb, db), some (xx, dx), some (some q) =>
          if PMap.isZero dx ∧ xx = (q : K) then some (I.pw xb q, PMap.smul q db) else none
      | _, _, _ => none
  | .abs a =>
      match evalPhys I reg Γ ρ δ a with
      | some (x, d) => some (|x|, d)
      | none => none
  -- floor / ceiling are not scale-covariant: no unit-independent physical meaning (known finding)
  | .floor _ => none
  | .ceil _ => none
  | .fn1 f a =>
      match evalPhys I reg Γ ρ δ a with
      | some (x, d) => if PMap.isZero d then some (I.fn f x, []) else none
      | none => none
  | .fnN f a b =>
      match evalPhys I reg Γ ρ δ a, evalPhys I reg Γ ρ δ b with
      | some (x, d), some (y, d') => if PMap.isZero d ∧ PMap.isZero d' then some (I.fn2 f x y, []) else none
      | _, _ => none
  | .ite c t el =>
      match physB I reg Γ ρ δ c, evalPhys I reg Γ ρ δ t with
      | some bc, some (x, d) =>
          if el = .undef then some (if bc then x else 0, d)
          else
            match evalPhys I reg Γ ρ δ el with
            | some (y, d') => if PMap.beq d d' then some (if bc then x else y, d) else none
            | none => none
      | _, _ => none
  | .undef => none
  | .rel _ _ _ => none
  | .and _ _ => none
  | .or _ _ => none
  | .not _ => none
  | .tt => none
  | .ff => none
  | .other _ => none
/-- the truth value of a condition between physical quantities; `none` when two comparands differ in dimension -/
noncomputable def physB (I : Interp K) (reg : Registry) (Γ : VarEnv) (ρ : Nat → K) (δ : Nat → Nat → K) :
    E → Option Bool
  | .rel r a b =>
      match evalPhys I reg Γ ρ δ a, evalPhys I reg Γ ρ δ b with
      | some (x, d), some (y, d') => if PMap.beq d d' then some (relHolds r x y) else none
      | _, _ => none
  | .and a b =>
      match physB I reg Γ ρ δ a, physB I reg Γ ρ δ b with
      | some p, some q => some (p && q)
      | _, _ => none
  | .or a b =>
      match physB I reg Γ ρ δ a, physB I reg Γ ρ δ b with
      | some p, some q => some (p || q)
      | _, _ => none
  | .not a =>
      match physB I reg Γ ρ δ a with
      | some p => some (!p)
      | none => none
  | .tt => some true
  | .ff => some false
  | .qty _ _ => none
  | .cf _ _ => none
  | .var _ => none
  | .deriv _ _ => none
  | .int _ => none
  | .rat _ => none
  | .flt _ => none
  | .pi => none
  | .e => none
  | .oo => none
  | .nan => none
  | .add _ _ => none
  | .mul _ _ => none
  | .pow _ _ => none
  | .abs _ => none
  | .floor _ => none
  | .ceil _ => none
  | .fn1 _ _ => none
  | .fnN _ _ _ => none
  | .ite _ _ _ => none
  | .undef => none
  | .other _ => none
end

namespace Interp
variable (I : Interp K)

theorem φ_ne (s : Scale) : I.φ s ≠ 0 := ne_of_gt (I.φ_pos s)

theorem φ_norm (s : Scale) : I.φ (PMap.norm s) = I.φ s := I.φ_congr (PMap.norm_equiv s)

theorem φ_neg (s : Scale) : I.φ (PMap.neg s) = (I.φ s)⁻¹ := by
  have h : I.φ (PMap.add (PMap.neg s) s) = 1 := by
    rw [← I.φ_nil]; apply I.φ_congr
    intro k; simp only [PMap.get_add, PMap.get_neg, PMap.get_nil]; grind
  rw [I.φ_add] at h
  exact eq_inv_of_mul_eq_one_left h

theorem φ_sub (a b : Scale) : I.φ (PMap.sub a b) = I.φ a / I.φ b := by
  rw [PMap.sub, I.φ_add, I.φ_neg, div_eq_mul_inv]

theorem φ_eq_of_sub_nil {a b : Scale} (h : PMap.Equiv (PMap.sub a b) []) : I.φ a = I.φ b := by
  apply I.φ_congr
  intro k; have := h k; simp only [PMap.get_sub, PMap.get_nil] at this; grind

end Interp

/-! The unit arithmetic of containers is the arithmetic of semantic units (`Infer.sem_nil/mulC/powC/divC`); the SI scale
    under `φ` and the dimension see a container only through its semantic unit, so each fact below is one line. -/

section units
variable (I : Interp K) (reg : Registry)

theorem φ_scaleOf (c : Container) : I.φ (scaleOf reg c) = I.φ (toRoot reg c).1 := I.φ_norm _

theorem φ_scaleOf_of_sem {c : Container} {su : Spec.SUnit} (h : sem reg c ≃₂ su) :
    I.φ (scaleOf reg c) = I.φ su.1 := (φ_scaleOf I reg c).trans (I.φ_congr h.1)

theorem φ_scaleOf_mulC (a b : Container) :
    I.φ (scaleOf reg (mulC a b)) = I.φ (scaleOf reg a) * I.φ (scaleOf reg b) := by
  rw [φ_scaleOf_of_sem I reg (sem_mulC reg a b), φ_scaleOf, φ_scaleOf]; exact I.φ_add _ _

theorem φ_scaleOf_powC (a : Container) (q : Rat) :
    I.φ (scaleOf reg (powC a q)) = I.φ (PMap.smul q (scaleOf reg a)) :=
  (φ_scaleOf_of_sem I reg (sem_powC reg a q)).trans (I.φ_congr (PMap.smul_congr q (PMap.norm_equiv _).symm))

theorem φ_scaleOf_divC (a b : Container) :
    I.φ (scaleOf reg (divC a b)) = I.φ (scaleOf reg a) / I.φ (scaleOf reg b) := by
  rw [φ_scaleOf_of_sem I reg (sem_divC reg a b), φ_scaleOf, φ_scaleOf]; exact I.φ_sub _ _

theorem φ_scaleOf_nil : I.φ (scaleOf reg []) = 1 :=
  (φ_scaleOf_of_sem I reg (sem_nil reg)).trans I.φ_nil

end units

section dims
variable (reg : Registry)
open PMap

theorem dimsOf_of_sem {c : Container} {su : Spec.SUnit} (h : sem reg c ≃₂ su) :
    dimsOf reg c ≃ dimsOfRoot reg su.2 := (dimsOf_equiv reg c).trans (dimsOfRoot_congr reg h.2)

theorem dimsOf_mulC (a b : Container) : dimsOf reg (mulC a b) ≃ add (dimsOf reg a) (dimsOf reg b) :=
  ((dimsOf_of_sem reg (sem_mulC reg a b)).trans (dimsOfRoot_add reg _ _)).trans
    (add_congr (dimsOf_equiv reg a).symm (dimsOf_equiv reg b).symm)

theorem dimsOf_powC (a : Container) (q : Rat) : dimsOf reg (powC a q) ≃ smul q (dimsOf reg a) :=
  ((dimsOf_of_sem reg (sem_powC reg a q)).trans (dimsOfRoot_smul reg q _)).trans
    (smul_congr q (dimsOf_equiv reg a).symm)

theorem dimsOf_divC (a b : Container) : dimsOf reg (divC a b) ≃ sub (dimsOf reg a) (dimsOf reg b) :=
  ((dimsOf_of_sem reg (sem_divC reg a b)).trans (dimsOfRoot_add reg _ _)).trans
    (add_congr (dimsOf_equiv reg a).symm
      ((dimsOfRoot_smul reg (-1) _).trans (smul_congr (-1) (dimsOf_equiv reg b).symm)))

theorem dimsOf_nil : dimsOf reg [] ≃ [] := (dimsOf_of_sem reg (sem_nil reg)).trans (dimsOfRoot_nil reg)

end dims

theorem relHolds_scale (r : Rel) (a b c : K) (hc : 0 < c) : relHolds r (a * c) (b * c) = relHolds r a b := by
  cases r <;> simp only [relHolds]
  · exact decide_eq_decide.mpr ⟨fun h => mul_right_cancel₀ (ne_of_gt hc) h, fun h => by rw [h]⟩
  · exact decide_eq_decide.mpr (not_congr ⟨fun h => mul_right_cancel₀ (ne_of_gt hc) h, fun h => by rw [h]⟩)
  · exact decide_eq_decide.mpr (mul_lt_mul_iff_left₀ hc)
  · exact decide_eq_decide.mpr (mul_le_mul_iff_left₀ hc)
  · exact decide_eq_decide.mpr (mul_lt_mul_iff_left₀ hc)
  · exact decide_eq_decide.mpr (mul_le_mul_iff_left₀ hc)

theorem cast_ratPowInt (x : Rat) (n : Int) : ((ratPowInt x n : Rat) : K) = (x : K) ^ n := by
  unfold ratPowInt
  split
  · rename_i h
    rw [Rat.cast_pow]
    conv_rhs => rw [← Int.toNat_of_nonneg h]
    exact (zpow_natCast _ _).symm
  · rename_i h
    have hn : 0 ≤ -n := by omega
    rw [Rat.cast_pow, Rat.cast_div, Rat.cast_one, one_div]
    have : n = -((-n).toNat : Int) := by rw [Int.toNat_of_nonneg hn]; omega
    conv_rhs => rw [this]
    rw [zpow_neg, zpow_natCast, inv_pow]

/-- `float(expr)` on a closed numeric expression is what plain arithmetic computes -/
theorem evalClosed_evalNum (I : Interp K) (ρ : Nat → K) (δ : Nat → Nat → K) :
    ∀ (t : E) (q : Rat), Convert.evalClosed t = some (some q) → evalNum I ρ δ t = (q : K) := by
  intro t
  induction t with
  | qty v _ | rat v | flt v =>
      intro q h; simp only [Convert.evalClosed, Option.some.injEq] at h; subst h; simp only [evalNum]
  | cf s u =>
      intro q h
      simp only [Convert.evalClosed] at h
      split at h
      · rename_i hs; simp only [Option.some.injEq] at h; subst h; subst hs
        simp only [evalNum, I.φ_nil, Rat.cast_one]
      · simp at h
  | int n => intro q h; simp only [Convert.evalClosed, Option.some.injEq] at h; subst h; simp only [evalNum, Rat.cast_intCast]
  | mul a b iha ihb =>
      intro q h
      obtain ⟨x, y, hx, hy, rfl⟩ := Convert.evalClosed_mul_inv h
      simp only [evalNum, iha x hx, ihb y hy, Rat.cast_mul]
  | add a b iha ihb =>
      intro q h
      obtain ⟨x, y, hx, hy, rfl⟩ := Convert.evalClosed_add_inv h
      simp only [evalNum, iha x hx, ihb y hy, Rat.cast_add]
  | pow a b iha ihb =>
      intro q h
      obtain ⟨x, y, hx, hy, ⟨hden, hz⟩, rfl⟩ := Convert.evalClosed_pow_inv h
      have hy' : y = ((y.num : Int) : Rat) := by
        have := Rat.num_div_den y
        rw [hden] at this; simpa using this.symm
      simp only [evalNum, hy, iha x hx, cast_ratPowInt]
      rw [hy']
      have hz' : ¬ ((x : K) = 0 ∧ y.num < 0) := by
        intro ⟨h0, hn⟩
        apply hz
        refine ⟨by exact_mod_cast h0, ?_⟩
        exact Rat.num_neg.mp hn
      simpa using I.pw_int (x : K) y.num hz'
  | abs a iha =>
      intro q h
      obtain ⟨x, hx, rfl⟩ := Convert.evalClosed_abs_inv h
      simp only [evalNum, iha x hx]
      split
      · rename_i hneg
        have : (x : K) < 0 := by exact_mod_cast hneg
        rw [abs_of_neg this, Rat.cast_neg]
      · rename_i hnn
        have : (0 : K) ≤ (x : K) := by exact_mod_cast (not_lt.mp hnn)
        rw [abs_of_nonneg this]
  | floor a _ | ceil a _ | fn1 _ a _ => intro q h; simp only [Convert.evalClosed] at h; split at h <;> simp at h
  | _ => intro q h; simp [Convert.evalClosed] at h

/-! ### non-vacuity: the hypotheses (fields of `Interp`) are consistent

    Over `Rat` the only multiplicative `φ` is the trivial one (the exponent group is divisible, `ℚ₊` is free), so this
    instance is degenerate; the intended instance is `ℝ` with `φ s = ∏ p ^ e` and `pw = Real.rpow`, for which
    `pw_cov` is `(x·c)^q = x^q·c^q` (`c > 0`) and `pw_int` is `Real.rpow_intCast`. -/
noncomputable def ratInterp : Interp Rat where
  φ _ := 1
  φ_pos _ := one_pos
  φ_congr _ := rfl
  φ_add _ _ := (mul_one 1).symm
  φ_nil := rfl
  pw x q := if q.den = 1 then x ^ q.num else 1
  pw_cov x s q := by simp
  pw_int x n _ := by simp
  pwK _ _ := 0
  fn _ x := x
  fn2 _ x _ := x
  flr x := (Rat.floor x : Rat)
  clg x := (Rat.ceil x : Rat)
  cst _ := 3

/-! ### a computable evaluator over `Rat` with the TRUE value of integer-exponent scales
    (used only for the proved counterexample `floor_value_changes`; no theorem depends on it) -/

/-- ∏ pᵉ for integer exponents -/
def scaleQ : Scale → Rat
  | [] => 1
  | (p, x) :: t => ratPowInt (p : Rat) x.num * scaleQ t

/-- plain arithmetic over `Rat` with genuine floor / ceiling -/
def evalQ (ρ : Nat → Rat) : E → Rat
  | .qty v _ => v
  | .cf s _ => scaleQ s
  | .var i => ρ i
  | .int n => n
  | .rat q => q
  | .flt q => q
  | .add a b => evalQ ρ a + evalQ ρ b
  | .mul a b => evalQ ρ a * evalQ ρ b
  | .abs a => if evalQ ρ a < 0 then - evalQ ρ a else evalQ ρ a
  | .floor a => (Rat.floor (evalQ ρ a) : Int)
  | .ceil a => (Rat.ceil (evalQ ρ a) : Int)
  | _ => 0

end Sem
