import Cellml.Units.Conv
import Cellml.Basic.Sexp

/-! SymPy expression trees as cellmlmanip handles them (units.py 442-801), as ONE plain inductive type so that
    structural recursion and `induction` apply. SymPy's n-ary `Add`/`Mul`/`And`/`Or` are left-nested by the
    serialiser (both traversals in units.py are left folds over `expr.args`, so this is faithful); a `Piecewise` is a
    first-match chain `ite cond piece rest` ending in `undef`. Core Lean only. -/

inductive Rel where | eq | ne | lt | le | gt | ge
deriving Repr, DecidableEq

inductive E where
  | qty (val : Rat) (u : Container)      -- model.Quantity: float value (exact rational), pint unit
  | cf (s : Scale) (u : Container)       -- a conversion-factor Quantity: value ⟦s⟧ (possibly irrational), pint unit
  | var (i : Nat)                        -- model.Variable, by index into the variable environment
  | int (n : Int) | rat (q : Rat) | flt (q : Rat)    -- sympy Integer / Rational / Float
  | pi | e | oo | nan
  | add (a b : E) | mul (a b : E) | pow (b x : E)
  | abs (a : E) | floor (a : E) | ceil (a : E)
  | fn1 (f : String) (a : E)             -- one-argument function, by SymPy class name (exp, log, sin, acos, …)
  | fnN (f : String) (a b : E)           -- two-argument function (Max, Min, Mod)
  | ite (c t el : E) | undef             -- Piecewise chain
  | deriv (v t : Nat)                    -- first-order Derivative(Variable, Variable)
  | rel (r : Rel) (a b : E)
  | and (a b : E) | or (a b : E) | not (a : E) | tt | ff
  | other (name : String)                -- anything else (Matrix, higher derivatives, …)
deriving Repr, DecidableEq

structure VarInfo where
  unit : Container
  init : Option Rat := none
deriving Repr, DecidableEq

abbrev VarEnv := List VarInfo

/-- nothing uses it: what `traverse` carries along is `Infer.M` (Expr/Infer.lean) -/
inductive Mag where
  | num (q : Rat)
  | sym                 -- a SymPy expression
  | weird               -- inf, nan, complex: outside the exact model
deriving Repr, DecidableEq

inductive UnitErr where
  | unexpectedMath | argsInvalidUnits | mustBeDimensionless | mustBeNumber | boolean | cannotConvert
  | deferredFn                          -- UnexpectedMathUnitsError raised by an n-ary function after ALL its operands
  | otherException (what : String)      -- a Python-level failure that is NOT a UnitError
  | unsupported (what : String)         -- outside the modelled fragment (the correspondence skips the case)
deriving Repr, DecidableEq

namespace E
open Sexp

def relOf? : String → Option Rel
  | "Eq" => some .eq | "Ne" => some .ne | "Lt" => some .lt | "Le" => some .le | "Gt" => some .gt | "Ge" => some .ge
  | _ => none

/-- container given on the wire as `((name exp) …)` with already qualified names -/
def container? (e : Sexp) : Option Container := do
  let xs ← listOf? e
  xs.mapM (fun x => match x with
    | .list [n, q] => do let n ← atomOf? n; let q ← rat? q; some (n, q)
    | _ => none)

def scale? (e : Sexp) : Option Scale := do
  let xs ← listOf? e
  xs.mapM (fun x => match x with
    | .list [p, q] => do let p ← nat? p; let q ← rat? q; some (p, q)
    | _ => none)

/-- wire format of expressions (head atom = constructor) -/
partial def ofSexpWith? (resolve : Sexp → Option Container) : Sexp → Option E
  | .list [.atom "qty", v, u] => do some (.qty (← rat? v) (← resolve u))
  | .list [.atom "var", i] => do some (.var (← nat? i))
  | .list [.atom "cf", sc, u] => do some (.cf (← scale? sc) (← resolve u))
  | .list [.atom "int", n] => do some (.int (← int? n))
  | .list [.atom "rat", q] => do some (.rat (← rat? q))
  | .list [.atom "flt", q] => do some (.flt (← rat? q))
  | .atom "pi" => some .pi | .atom "e" => some .e | .atom "oo" => some .oo | .atom "nan" => some .nan
  | .atom "tt" => some .tt | .atom "ff" => some .ff | .atom "undef" => some .undef
  | .list [.atom "add", a, b] => do some (.add (← ofSexpWith? resolve a) (← ofSexpWith? resolve b))
  | .list [.atom "mul", a, b] => do some (.mul (← ofSexpWith? resolve a) (← ofSexpWith? resolve b))
  | .list [.atom "pow", a, b] => do some (.pow (← ofSexpWith? resolve a) (← ofSexpWith? resolve b))
  | .list [.atom "abs", a] => do some (.abs (← ofSexpWith? resolve a))
  | .list [.atom "floor", a] => do some (.floor (← ofSexpWith? resolve a))
  | .list [.atom "ceil", a] => do some (.ceil (← ofSexpWith? resolve a))
  | .list [.atom "fn1", f, a] => do some (.fn1 (← atomOf? f) (← ofSexpWith? resolve a))
  | .list [.atom "fnN", f, a, b] => do some (.fnN (← atomOf? f) (← ofSexpWith? resolve a) (← ofSexpWith? resolve b))
  | .list [.atom "ite", c, t, el] => do some (.ite (← ofSexpWith? resolve c) (← ofSexpWith? resolve t) (← ofSexpWith? resolve el))
  | .list [.atom "deriv", v, t] => do some (.deriv (← nat? v) (← nat? t))
  | .list [.atom "rel", r, a, b] => do some (.rel (← relOf? (← atomOf? r)) (← ofSexpWith? resolve a) (← ofSexpWith? resolve b))
  | .list [.atom "and", a, b] => do some (.and (← ofSexpWith? resolve a) (← ofSexpWith? resolve b))
  | .list [.atom "or", a, b] => do some (.or (← ofSexpWith? resolve a) (← ofSexpWith? resolve b))
  | .list [.atom "not", a] => do some (.not (← ofSexpWith? resolve a))
  | .list [.atom "other", n] => do some (.other (← atomOf? n))
  | _ => none

/-- containers given directly as `((name exp) …)` -/
def ofSexp? (e : Sexp) : Option E := ofSexpWith? (fun u => PMap.norm <$> container? u) e

def relName : Rel → String
  | .eq => "Eq" | .ne => "Ne" | .lt => "Lt" | .le => "Le" | .gt => "Gt" | .ge => "Ge"

def containerSexp (c : Container) : Sexp := .list (c.map (fun (n, q) => .list [.str n, ofRat q]))

def toSexp : E → Sexp
  | .qty v u => .list [.atom "qty", ofRat v, containerSexp u]
  | .var i => .list [.atom "var", ofNat i]
  | .cf sc u => .list [.atom "cf", .list (sc.map (fun (p, q) => .list [ofNat p, ofRat q])), containerSexp u]
  | .int n => .list [.atom "int", ofInt n]
  | .rat q => .list [.atom "rat", ofRat q]
  | .flt q => .list [.atom "flt", ofRat q]
  | .pi => .atom "pi" | .e => .atom "e" | .oo => .atom "oo" | .nan => .atom "nan"
  | .tt => .atom "tt" | .ff => .atom "ff" | .undef => .atom "undef"
  | .add a b => .list [.atom "add", toSexp a, toSexp b]
  | .mul a b => .list [.atom "mul", toSexp a, toSexp b]
  | .pow a b => .list [.atom "pow", toSexp a, toSexp b]
  | .abs a => .list [.atom "abs", toSexp a]
  | .floor a => .list [.atom "floor", toSexp a]
  | .ceil a => .list [.atom "ceil", toSexp a]
  | .fn1 f a => .list [.atom "fn1", .atom f, toSexp a]
  | .fnN f a b => .list [.atom "fnN", .atom f, toSexp a, toSexp b]
  | .ite c t el => .list [.atom "ite", toSexp c, toSexp t, toSexp el]
  | .deriv v t => .list [.atom "deriv", ofNat v, ofNat t]
  | .rel r a b => .list [.atom "rel", .atom (relName r), toSexp a, toSexp b]
  | .and a b => .list [.atom "and", toSexp a, toSexp b]
  | .or a b => .list [.atom "or", toSexp a, toSexp b]
  | .not a => .list [.atom "not", toSexp a]
  | .other n => .list [.atom "other", .atom n]

end E

def UnitErr.name : UnitErr → String
  | .unexpectedMath => "UnexpectedMathUnitsError"
  | .deferredFn => "UnexpectedMathUnitsError"
  | .argsInvalidUnits => "InputArgumentsInvalidUnitsError"
  | .mustBeDimensionless => "InputArgumentsMustBeDimensionlessError"
  | .mustBeNumber => "InputArgumentMustBeNumberError"
  | .boolean => "BooleanUnitsError"
  | .cannotConvert => "UnitConversionError"
  | .otherException w => "Other:" ++ w
  | .unsupported w => "unsupported:" ++ w
