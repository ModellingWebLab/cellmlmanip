import Cellml.Expr.Infer
import Cellml.Expr.Spec

/-! What the proofs about `Infer.traverse` use of it: the semantic unit of the containers it builds, its recursion
    equations node by node (the operand lists of `trav` and the check `finish` appear only for sums), and where its
    errors come from - with the definitions `powStep`, `fn1Step`, `isUnitError`, `pyErrors`, `outside` that the
    statements of C04 are written in. -/

-- expressions are called `e`, which is also the constructor `E.e` (Euler's number)
set_option linter.constructorNameAsVariable false

namespace Infer
open Units PMap Spec

theorem same_iff (x y : SUnit) : Spec.same x y = true ↔ x ≃₂ y := by
  simp only [Spec.same, Bool.and_eq_true, beq_iff_equiv, Equiv₂]

theorem isOne_iff (x : SUnit) : Spec.isOne x = true ↔ x ≃₂ Spec.one := by
  simp only [Spec.isOne, Bool.and_eq_true, isZero_iff, Equiv₂, Spec.one]

theorem mul_congr {x x' y y' : SUnit} (hx : x ≃₂ x') (hy : y ≃₂ y') : Spec.mul x y ≃₂ Spec.mul x' y' :=
  ⟨add_congr hx.1 hy.1, add_congr hx.2 hy.2⟩

theorem div_congr {x x' y y' : SUnit} (hx : x ≃₂ x') (hy : y ≃₂ y') : Spec.div x y ≃₂ Spec.div x' y' :=
  ⟨sub_congr hx.1 hy.1, sub_congr hx.2 hy.2⟩

theorem pow_congr (q : Rat) {x x' : SUnit} (hx : x ≃₂ x') : Spec.pow q x ≃₂ Spec.pow q x' :=
  ⟨smul_congr q hx.1, smul_congr q hx.2⟩

theorem pow_one (q : Rat) : Spec.pow q Spec.one ≃₂ Spec.one := Equiv₂.refl _

theorem same_congr {x x' y y' : SUnit} (hx : x ≃₂ x') (hy : y ≃₂ y') : Spec.same x y = Spec.same x' y' := by
  rw [Bool.eq_iff_iff, same_iff, same_iff]
  exact ⟨fun h => hx.symm.trans (h.trans hy), fun h => hx.trans (h.trans hy.symm)⟩

theorem isOne_congr {x x' : SUnit} (hx : x ≃₂ x') : Spec.isOne x = Spec.isOne x' :=
  same_congr hx (Equiv₂.refl Spec.one)

theorem dimZero_congr (reg : Registry) {x y : SUnit} (h : x ≃₂ y) : dimZero reg x = dimZero reg y := by
  simp only [dimZero, PMap.isZero, norm_eq_of_equiv (dimsOfRoot_congr reg h.2)]

/-- the semantic unit of a container: SI scale and root units (`registry.get_base_units`) -/
abbrev sem (reg : Registry) (u : Container) : SUnit := toRoot reg u

theorem sem_nil (reg : Registry) : sem reg [] ≃₂ Spec.one := toRoot_nil reg

theorem sem_mulC (reg : Registry) (a b : Container) : sem reg (mulC a b) ≃₂ Spec.mul (sem reg a) (sem reg b) :=
  (toRoot_congr reg (norm_equiv _)).trans (toRoot_add reg a b)

theorem sem_powC (reg : Registry) (a : Container) (q : Rat) : sem reg (powC a q) ≃₂ Spec.pow q (sem reg a) :=
  (toRoot_congr reg (norm_equiv _)).trans (toRoot_smul reg q a)

theorem sem_divC (reg : Registry) (a b : Container) : sem reg (divC a b) ≃₂ Spec.div (sem reg a) (sem reg b) :=
  ((toRoot_congr reg (norm_equiv _)).trans (toRoot_add reg a (neg b))).trans
    (mul_congr (Equiv₂.refl _) (toRoot_smul reg (-1) b))

theorem sameUnits_iff (reg : Registry) (a b : Container) :
    sameUnits reg a b = true ↔ sem reg a ≃₂ sem reg b :=
  isEquivalent_iff reg a b

theorem isDimless_iff (reg : Registry) (u : Container) :
    isDimless reg u = true ↔ dimsOfRoot reg (sem reg u).2 ≃ [] := by
  simp only [isDimless, isZero_iff]
  exact ⟨fun h => (dimsOf_equiv reg u).symm.trans h, fun h => (dimsOf_equiv reg u).trans h⟩

theorem isDimless_eq_dimZero (reg : Registry) (u : Container) : isDimless reg u = dimZero reg (sem reg u) := by
  simp only [isDimless, dimZero, PMap.isZero, norm_eq_of_equiv (dimsOf_equiv reg u)]

theorem bind_ok {α β : Type} (x : Except UnitErr α) (f : α → Except UnitErr β) (r : β) :
    (x >>= f) = .ok r ↔ ∃ a, x = .ok a ∧ f a = .ok r := by
  cases x <;> simp [bind, Except.bind]

theorem bind_error {α β : Type} (x : Except UnitErr α) (f : α → Except UnitErr β) (err : UnitErr) :
    (x >>= f) = .error err ↔ x = .error err ∨ ∃ a, x = .ok a ∧ f a = .error err := by
  cases x <;> simp [bind, Except.bind]

theorem pure_ok {α : Type} (a r : α) : (pure a : Except UnitErr α) = .ok r ↔ a = r := by
  simp [pure, Except.pure]

/-- if the run returns, its value satisfies `Q`. A `do` block keeps this step by step (`Post.bind`), so a statement of
    the form `x = .ok r → Q r` about a block is shown by walking the block forwards instead of taking `x = .ok r` apart. -/
def Post {α : Type} (Q : α → Prop) (x : Except UnitErr α) : Prop := ∀ a, x = .ok a → Q a

theorem Post.bind {α β : Type} {Q : α → Prop} {R : β → Prop} {x : Except UnitErr α} {f : α → Except UnitErr β}
    (h : Post Q x) (hf : ∀ a, Q a → Post R (f a)) : Post R (x >>= f) := by
  cases x with
  | error e => intro _ h'; cases h'
  | ok a => exact hf a (h a rfl)

theorem Post.ok {α : Type} {Q : α → Prop} {a : α} (h : Q a) : Post Q (.ok a : Except UnitErr α) :=
  fun _ h' => by cases h'; exact h

theorem Post.error {α : Type} {Q : α → Prop} {e : UnitErr} : Post Q (.error e : Except UnitErr α) :=
  fun _ h' => by cases h'

/-- a step of which nothing is needed -/
theorem Post.any {α : Type} {x : Except UnitErr α} : Post (fun _ => True) x := fun _ _ => trivial

theorem ite_error {α : Type} {c : Prop} [Decidable c] {x y : Except UnitErr α} {err : UnitErr}
    (h : (if c then x else y) = .error err) : x = .error err ∨ y = .error err := by
  split at h
  · exact .inl h
  · exact .inr h

variable (reg : Registry) (Γ : VarEnv)

theorem finish_single (q : M × Container) : finish reg [q] = .ok q := by
  simp [finish]

theorem finish_snoc (qs : List (M × Container)) (q r : M × Container) (hne : qs ≠ []) :
    finish reg (qs ++ [q]) = .ok r ↔ finish reg qs = .ok r ∧ sameUnits reg r.2 q.2 = true := by
  cases qs with
  | nil => exact absurd rfl hne
  | cons hd tl =>
      simp only [List.cons_append, finish, List.all_append, List.all_cons, List.all_nil, Bool.and_true]
      cases tl.all fun r => sameUnits reg hd.2 r.2
      · simp
      · by_cases hs : sameUnits reg hd.2 q.2 = true
        · simp only [hs, Bool.and_self, if_true, Except.ok.injEq]
          exact ⟨fun h => ⟨h, h ▸ hs⟩, And.left⟩
        · simp only [hs, Bool.and_false, Bool.false_eq_true, if_false, if_true, Except.ok.injEq, reduceCtorEq, false_iff]
          rintro ⟨rfl, h⟩
          exact hs h

theorem finish_snoc_ok (qs : List (M × Container)) (q r : M × Container)
    (h₁ : finish reg qs = .ok r) (h₂ : sameUnits reg r.2 q.2 = true) : finish reg (qs ++ [q]) = .ok r :=
  (finish_snoc reg qs q r (fun h => by rw [h] at h₁; cases h₁)).mpr ⟨h₁, h₂⟩

theorem finish_error (qs : List (M × Container)) (err : UnitErr) (h : finish reg qs = .error err) :
    err = .unexpectedMath ∨ err = .argsInvalidUnits := by
  cases qs with
  | nil => cases h; exact .inl rfl
  | cons hd tl => rcases ite_error h with h | h <;> cases h; exact .inr rfl

theorem finish_snoc_error (qs : List (M × Container)) (q : M × Container) (err : UnitErr)
    (h : finish reg (qs ++ [q]) = .error err) : err = .argsInvalidUnits := by
  cases qs with
  | nil => simp [finish] at h
  | cons hd tl => rcases ite_error h with h | h <;> cases h; rfl

theorem sameUnits_congr (a b c : Container) (h : sameUnits reg a b = true) :
    sameUnits reg a c = sameUnits reg b c :=
  Bool.eq_iff_iff.mpr ⟨isEquivalent_trans (isEquivalent_symm h), isEquivalent_trans h⟩

/-- comparing a further quantity with the first of an accepted list is comparing it with the whole list -/
theorem finish_cons (q : M × Container) (qs : List (M × Container)) (hne : qs ≠ []) :
    (finish reg qs >>= fun qe => if sameUnits reg q.2 qe.2 then pure q else .error .argsInvalidUnits) =
      finish reg (q :: qs) := by
  cases qs with
  | nil => exact absurd rfl hne
  | cons q2 rest =>
    simp only [finish, List.all_cons]
    by_cases h12 : sameUnits reg q.2 q2.2 = true
    · have hall : (rest.all fun r => sameUnits reg q.2 r.2) = rest.all fun r => sameUnits reg q2.2 r.2 := by
        congr 1; funext r; exact sameUnits_congr reg _ _ _ h12
      simp only [h12, hall, Bool.true_and]
      cases rest.all fun r => sameUnits reg q2.2 r.2
      · rfl
      · simp only [if_true, bind, Except.bind, h12]; rfl
    · simp only [h12, Bool.false_and, Bool.false_eq_true, if_false]
      cases rest.all fun r => sameUnits reg q2.2 r.2
      · rfl
      · simp only [if_true, bind, Except.bind, h12, Bool.false_eq_true, if_false]

theorem traverse_def (e : E) : traverse reg Γ e = (trav reg Γ e >>= finish reg) := rfl

theorem trav_error_traverse (e : E) (err : UnitErr) (h : trav reg Γ e = .error err) :
    traverse reg Γ e = .error err := by
  rw [traverse_def, h]; rfl

/-- a node whose operand list is the single quantity `r`: the check of `traverse` returns `r`. Every recursion
    equation below comes from this; what is left to show is that `trav` on the node, whose `do` block unfolds by
    `rfl`, is the right-hand side up to associativity of `>>=`. -/
theorem traverse_of_trav {e : E} {r : Except UnitErr (M × Container)}
    (h : trav reg Γ e = r >>= fun q => pure [q]) : traverse reg Γ e = r := by
  rw [traverse_def, h, bind_assoc]
  simp only [pure_bind, finish_single]
  exact bind_pure r

theorem traverse_qty (v : Rat) (u : Container) : traverse reg Γ (.qty v u) = .ok (.num v true, u) := rfl
theorem traverse_cf (s : Scale) (u : Container) :
    traverse reg Γ (.cf s u) = .ok (if s = [] then .num 1 true else .anynum, u) := rfl
theorem traverse_int (n : Int) : traverse reg Γ (.int n) = .ok (.num n false, []) := rfl
theorem traverse_rat (q : Rat) : traverse reg Γ (.rat q) = .ok (.num q true, []) := rfl
theorem traverse_flt (q : Rat) : traverse reg Γ (.flt q) = .ok (.num q true, []) := rfl
theorem traverse_pi : traverse reg Γ .pi = .ok (.anynum, []) := rfl
theorem traverse_e : traverse reg Γ .e = .ok (.anynum, []) := rfl
theorem traverse_oo : traverse reg Γ .oo = .error (.unsupported "infinity") := rfl
theorem traverse_nan : traverse reg Γ .nan = .error (.unsupported "nan") := rfl
theorem traverse_undef : traverse reg Γ .undef = .error .unexpectedMath := rfl
theorem traverse_tt : traverse reg Γ .tt = .error .boolean := rfl
theorem traverse_ff : traverse reg Γ .ff = .error .boolean := rfl
theorem traverse_other (n : String) : traverse reg Γ (.other n) = .error .unexpectedMath := rfl

theorem traverse_var (i : Nat) : traverse reg Γ (.var i) = varQ Γ i := traverse_of_trav reg Γ rfl

/-! binary and unary nodes: the operands' quantities are those of `traverse` on the operands -/

theorem traverse_mul (a b : E) : traverse reg Γ (.mul a b) =
    (traverse reg Γ a >>= fun qa => traverse reg Γ b >>= fun qb => pure (mulM qa.1 qb.1, mulC qa.2 qb.2)) := by
  apply traverse_of_trav; simp only [traverse_def, bind_assoc, pure_bind]; rfl

theorem traverse_abs (a : E) : traverse reg Γ (.abs a) =
    (traverse reg Γ a >>= fun q => pure (absM q.1, q.2)) := by
  apply traverse_of_trav; simp only [traverse_def, bind_assoc, pure_bind]; rfl

theorem traverse_floor (a : E) : traverse reg Γ (.floor a) =
    (traverse reg Γ a >>= fun q => floorM false q.1 >>= fun m => pure (m, q.2)) := by
  apply traverse_of_trav; simp only [traverse_def, bind_assoc, pure_bind]; rfl

theorem traverse_ceil (a : E) : traverse reg Γ (.ceil a) =
    (traverse reg Γ a >>= fun q => floorM true q.1 >>= fun m => pure (m, q.2)) := by
  apply traverse_of_trav; simp only [traverse_def, bind_assoc, pure_bind]; rfl

theorem traverse_rel (r : Rel) (a b : E) : traverse reg Γ (.rel r a b) =
    (traverse reg Γ a >>= fun _ => traverse reg Γ b >>= fun _ => .error .boolean) := by
  apply traverse_of_trav; simp only [traverse_def, bind_assoc]; rfl
theorem traverse_and (a b : E) : traverse reg Γ (.and a b) =
    (traverse reg Γ a >>= fun _ => traverse reg Γ b >>= fun _ => .error .boolean) := by
  apply traverse_of_trav; simp only [traverse_def, bind_assoc]; rfl
theorem traverse_or (a b : E) : traverse reg Γ (.or a b) =
    (traverse reg Γ a >>= fun _ => traverse reg Γ b >>= fun _ => .error .boolean) := by
  apply traverse_of_trav; simp only [traverse_def, bind_assoc]; rfl
theorem traverse_not (a : E) : traverse reg Γ (.not a) =
    (traverse reg Γ a >>= fun _ => .error .boolean) := by
  apply traverse_of_trav; simp only [traverse_def, bind_assoc]; rfl

theorem traverse_deriv (v t : Nat) : traverse reg Γ (.deriv v t) =
    (varQ Γ v >>= fun qv => varQ Γ t >>= fun qt => divM qv.1 qt.1 >>= fun m => pure (m, divC qv.2 qt.2)) := by
  apply traverse_of_trav; simp only [bind_assoc, pure_bind]; rfl

/-- the `Pow` branch on the two operand quantities -/
def powStep (qb qx : M × Container) : Except UnitErr (M × Container) :=
  if qx.2 ≠ [] then .error .mustBeDimensionless
  else if !qx.1.isNumber then .error .mustBeNumber
  else powM qb.1 qx.1 >>= fun m =>
    if qb.2 = [] then .ok (m, [])
    else match qx.1 with
      | .num q _ => .ok (m, powC qb.2 q)
      | _ => .error (.unsupported "exponent value not tracked")

theorem trav_pow (b x : E) : trav reg Γ (.pow b x) =
    (traverse reg Γ b >>= fun qb => traverse reg Γ x >>= fun qx => powStep qb qx) >>= fun q => pure [q] := by
  simp only [traverse_def, bind_assoc]
  refine bind_congr fun _ => bind_congr fun qb => bind_congr fun _ => bind_congr fun qx => ?_
  obtain ⟨mb, ub⟩ := qb
  obtain ⟨mx, ux⟩ := qx
  unfold powStep
  by_cases h1 : ux = []
  · by_cases h2 : mx.isNumber = true
    · simp only [h1, h2, ne_eq, not_true_eq_false, if_false, Bool.not_true, Bool.false_eq_true, bind_assoc]
      refine bind_congr fun m => ?_
      by_cases h3 : ub = []
      · simp only [h3, if_true]; rfl
      · simp only [h3, if_false]; cases mx <;> rfl
    · simp only [h1, h2, ne_eq, not_true_eq_false, if_false, Bool.not_false, if_true]; rfl
  · simp only [h1, ne_eq, not_false_eq_true, if_true]; rfl

theorem traverse_pow (b x : E) : traverse reg Γ (.pow b x) =
    (traverse reg Γ b >>= fun qb => traverse reg Γ x >>= fun qx => powStep qb qx) :=
  traverse_of_trav reg Γ (trav_pow reg Γ b x)

theorem trav_ite (c t el : E) : trav reg Γ (.ite c t el) =
    (traverse reg Γ t >>= fun qt =>
      if el = .undef then pure qt
      else traverse reg Γ el >>= fun qe =>
        if sameUnits reg qt.2 qe.2 then pure qt else .error .argsInvalidUnits) >>= fun q => pure [q] := by
  simp only [traverse_def, bind_assoc]
  refine bind_congr fun _ => bind_congr fun qt => ?_
  by_cases hu : el = .undef
  · subst hu; rfl
  · simp only [hu, if_false, bind_assoc]
    refine bind_congr fun _ => bind_congr fun qe => ?_
    by_cases hs : sameUnits reg qt.2 qe.2 = true
    · simp only [hs, if_true]; rfl
    · simp only [hs]; rfl

theorem traverse_ite (c t el : E) : traverse reg Γ (.ite c t el) =
    (traverse reg Γ t >>= fun qt =>
      if el = .undef then pure qt
      else traverse reg Γ el >>= fun qe =>
        if sameUnits reg qt.2 qe.2 then pure qt else .error .argsInvalidUnits) :=
  traverse_of_trav reg Γ (trav_ite reg Γ c t el)

/-- the one-argument function branch on the operand quantity -/
def fn1Step (f : String) (q : M × Container) : Except UnitErr (M × Container) :=
  if f == "log" || f == "factorial" then
    if isDimless reg q.2 then .ok dimless1 else .error .mustBeDimensionless
  else if f == "exp" then
    if isDimless reg q.2 then
      match q.1 with
      | .num v true => if v > 709 then .error (.otherException "OverflowError") else .ok (.anynum, [])
      | .anynum => .ok (.anynum, [])
      | .weird => .ok (.anynum, [])
      | _ => .ok dimless1
    else .error .mustBeDimensionless
  else if Cellml.Gen.trigFunctions.contains f then
    if isDimless reg q.2 then .ok dimless1 else .error .mustBeDimensionless
  else if isDimless reg q.2 then .ok dimless1
  else .error .unexpectedMath

theorem trav_fn1 (f : String) (a : E) : trav reg Γ (.fn1 f a) =
    (traverse reg Γ a >>= fun q => fn1Step reg f q) >>= fun q => pure [q] := by
  simp only [traverse_def, bind_assoc]
  refine bind_congr fun _ => bind_congr fun q => ?_
  obtain ⟨m, u⟩ := q
  -- `fn1Step` has the branches of `trav`; `>>= fun q => pure [q]` is pushed to their ends
  rcases m with ⟨v, _ | _⟩ | _ | _ | _ <;>
    simp only [fn1Step, apply_ite (fun x : Except UnitErr (M × Container) => x >>= fun q => pure [q])] <;> rfl

theorem traverse_fn1 (f : String) (a : E) : traverse reg Γ (.fn1 f a) =
    (traverse reg Γ a >>= fun q => fn1Step reg f q) :=
  traverse_of_trav reg Γ (trav_fn1 reg Γ f a)

theorem fn1Step_ok (f : String) (q r : M × Container) (h : fn1Step reg f q = .ok r) :
    isDimless reg q.2 = true ∧ r.2 = [] := by
  unfold fn1Step at h
  -- without a dimensionless argument every leaf is an error; with one, every `.ok` leaf has the unit `[]`
  cases hd : isDimless reg q.2 with
  | false =>
      simp only [hd, Bool.false_eq_true, if_false] at h
      repeat' split at h
      all_goals cases h
  | true =>
      simp only [hd, if_true] at h
      repeat' split at h
      all_goals cases h
      all_goals exact ⟨rfl, rfl⟩

theorem fn1Step_error (f : String) (q : M × Container) (err : UnitErr) (h : fn1Step reg f q = .error err) :
    err = .mustBeDimensionless ∨ err = .unexpectedMath ∨ (f = "exp" ∧ err = .otherException "OverflowError") := by
  unfold fn1Step at h
  -- with a dimensionless argument the one error leaf is the overflow of `exp`
  cases hd : isDimless reg q.2 with
  | false =>
      simp only [hd, Bool.false_eq_true, if_false] at h
      repeat' split at h
      all_goals cases h
      all_goals simp
  | true =>
      simp only [hd, if_true] at h
      repeat' split at h
      all_goals cases h
      simp_all

/-! sums: all operands along the left spine are traversed before their units are compared -/

theorem trav_add (a b : E) : trav reg Γ (.add a b) =
    (trav reg Γ a >>= fun qa => traverse reg Γ b >>= fun qb => pure (qa ++ [qb])) := by
  simp only [traverse_def, bind_assoc]; rfl

theorem traverse_add (a b : E) : traverse reg Γ (.add a b) =
    (trav reg Γ a >>= fun qa => traverse reg Γ b >>= fun qb => finish reg (qa ++ [qb])) := by
  rw [traverse_def, trav_add]; simp only [bind_assoc, pure_bind]

theorem error_of_not_ok {α : Type} {x : Except UnitErr α} (h : ∀ r, x = .ok r → False) : ∃ err, x = .error err := by
  cases x with
  | error err => exact ⟨err, rfl⟩
  | ok r => exact (h r rfl).elim

theorem bind_fails {α β : Type} (x : Except UnitErr α) (k : α → Except UnitErr β)
    (hk : ∀ a, ∃ err, k a = .error err) : ∃ err, x >>= k = .error err := by
  cases x with
  | error e => exact ⟨e, rfl⟩
  | ok a => exact hk a

theorem trav_fnN (f : String) (a b : E) : ∃ err, trav reg Γ (.fnN f a b) = .error err := by
  simp only [trav]
  -- every branch ends in a `throw`: its own, or the tail "right operand, then `throw .deferredFn`"
  have tail : ∃ err, (trav reg Γ b >>= fun l => finish reg l >>= fun _ =>
      (throw UnitErr.deferredFn : Except UnitErr (List (M × Container)))) = .error err :=
    bind_fails _ _ fun l => bind_fails _ _ fun _ => ⟨_, rfl⟩
  split
  · split
    · split
      · exact tail
      · exact ⟨_, rfl⟩
    · exact ⟨_, rfl⟩
    · exact tail
  · exact bind_fails _ _ fun _ => bind_fails _ _ fun _ => tail

theorem trav_of_not_add (e : E) (hns : ∀ a b, e ≠ .add a b) :
    trav reg Γ e = traverse reg Γ e >>= fun q => pure [q] := by
  cases e
  case add a b => exact absurd rfl (hns a b)
  case fnN f a b => obtain ⟨err, he⟩ := trav_fnN reg Γ f a b; rw [traverse_def, he]; rfl
  case pow b x => rw [traverse_pow]; exact trav_pow reg Γ b x
  case ite c t el => rw [traverse_ite]; exact trav_ite reg Γ c t el
  case fn1 f a => rw [traverse_fn1]; exact trav_fn1 reg Γ f a
  case var i => rw [traverse_var]; rfl
  case qty | cf | int | rat | flt | pi | e | oo | nan | undef | tt | ff | other => rfl
  all_goals
    simp only [traverse_mul, traverse_abs, traverse_floor, traverse_ceil, traverse_rel, traverse_and,
      traverse_or, traverse_not, traverse_deriv]
    simp only [traverse_def, bind_assoc, pure_bind]
    rfl

theorem trav_singleton (e : E) (hns : ∀ a b, e ≠ .add a b) (l : List (M × Container))
    (h : trav reg Γ e = .ok l) : ∃ q, l = [q] := by
  rw [trav_of_not_add reg Γ e hns] at h
  obtain ⟨q, _, h⟩ := (bind_ok _ _ _).mp h
  exact ⟨q, ((pure_ok _ _).mp h).symm⟩

theorem trav_ne_nil (e : E) (l : List (M × Container)) (h : trav reg Γ e = .ok l) : l ≠ [] := by
  cases e
  case add a b =>
    rw [trav_add] at h
    obtain ⟨qa, _, h⟩ := (bind_ok _ _ _).mp h
    obtain ⟨qb, _, h⟩ := (bind_ok _ _ _).mp h
    cases (pure_ok _ _).mp h
    exact List.append_ne_nil_of_right_ne_nil _ (List.cons_ne_nil _ _)
  all_goals
    obtain ⟨q, rfl⟩ := trav_singleton reg Γ _ (by intro a b h; cases h) l h
    exact List.cons_ne_nil _ _

theorem traverse_iff_of_not_add (e : E) (hns : ∀ a b, e ≠ .add a b) (q : M × Container) :
    traverse reg Γ e = .ok q ↔ trav reg Γ e = .ok [q] := by
  rw [trav_of_not_add reg Γ e hns]
  cases traverse reg Γ e <;> simp [bind, Except.bind, pure, Except.pure]

theorem traverse_add_ok (a b : E) (r : M × Container) (h : traverse reg Γ (.add a b) = .ok r) :
    traverse reg Γ a = .ok r ∧ ∃ qb, traverse reg Γ b = .ok qb ∧ sameUnits reg r.2 qb.2 = true := by
  rw [traverse_add] at h
  obtain ⟨qa, ha, h⟩ := (bind_ok _ _ _).mp h
  obtain ⟨qb, hb, h⟩ := (bind_ok _ _ _).mp h
  obtain ⟨h₁, h₂⟩ := (finish_snoc reg qa qb r (trav_ne_nil reg Γ a qa ha)).mp h
  exact ⟨by rw [traverse_def, ha]; exact h₁, qb, hb, h₂⟩

theorem traverse_add_intro (a b : E) (r qb : M × Container) (ha : traverse reg Γ a = .ok r)
    (hb : traverse reg Γ b = .ok qb) (hs : sameUnits reg r.2 qb.2 = true) :
    traverse reg Γ (.add a b) = .ok r := by
  rw [traverse_def] at ha
  obtain ⟨qa, hta, ha⟩ := (bind_ok _ _ _).mp ha
  rw [traverse_add, hta, hb]
  exact finish_snoc_ok reg qa qb r ha hs

theorem traverse_add_error (a b : E) (err : UnitErr) (h : traverse reg Γ (.add a b) = .error err) :
    traverse reg Γ a = .error err ∨ traverse reg Γ b = .error err ∨ err = .argsInvalidUnits := by
  rw [traverse_add] at h
  rcases (bind_error _ _ _).mp h with h | ⟨qa, _, h⟩
  · exact .inl (trav_error_traverse reg Γ a err h)
  rcases (bind_error _ _ _).mp h with h | ⟨qb, _, h⟩
  · exact .inr (.inl h)
  · exact .inr (.inr (finish_snoc_error reg qa qb err h))

theorem traverse_add_mismatch (a b : E) (ra rb : M × Container) (ha : traverse reg Γ a = .ok ra)
    (hb : traverse reg Γ b = .ok rb) (hs : sameUnits reg ra.2 rb.2 = false) :
    traverse reg Γ (.add a b) = .error .argsInvalidUnits := by
  cases h : traverse reg Γ (.add a b) with
  | ok r =>
      obtain ⟨h₁, qb, h₂, h₃⟩ := traverse_add_ok reg Γ a b r h
      rw [ha] at h₁; rw [hb] at h₂; cases h₁; cases h₂
      rw [hs] at h₃; cases h₃
  | error err =>
      rcases traverse_add_error reg Γ a b err h with h' | h' | rfl
      · rw [ha] at h'; cases h'
      · rw [hb] at h'; cases h'
      · rfl

theorem varQ_ok (i : Nat) (q : M × Container) (h : varQ Γ i = .ok q) :
    ∃ vi, Γ[i]? = some vi ∧ q.2 = vi.unit := by
  simp only [varQ] at h
  repeat' split at h
  all_goals simp_all
  all_goals (cases h; rfl)

theorem varQ_error (i : Nat) (err : UnitErr) (h : varQ Γ i = .error err) :
    Γ[i]? = none ∧ err = .unsupported "unknown variable" := by
  simp only [varQ] at h
  repeat' split at h
  all_goals simp_all

/-- the magnitude carried along for a product of numeric leaves is its value, and its unit is `dimensionless`
    structurally: exactly what the `Pow` branch needs of an exponent -/
theorem numProd_traverse (x : E) (hx : numProd x = true) :
    ∃ q f, traverse reg Γ x = .ok (.num q f, []) ∧ constVal x = some q := by
  induction x with
  | qty v u =>
      simp only [numProd, decide_eq_true_eq] at hx; subst hx
      exact ⟨v, true, traverse_qty reg Γ v [], rfl⟩
  | int n => exact ⟨n, false, traverse_int reg Γ n, rfl⟩
  | rat q => exact ⟨q, true, traverse_rat reg Γ q, rfl⟩
  | flt q => exact ⟨q, true, traverse_flt reg Γ q, rfl⟩
  | mul a b iha ihb =>
      simp only [numProd, Bool.and_eq_true] at hx
      obtain ⟨qa, fa, ha, ca⟩ := iha hx.1
      obtain ⟨qb, fb, hb, cb⟩ := ihb hx.2
      refine ⟨qa * qb, fa || fb, ?_, ?_⟩
      · rw [traverse_mul, ha, hb]; rfl
      · simp [constVal, ca, cb]
  | _ => simp [numProd] at hx

theorem traverse_fnN (f : String) (a b : E) : ∃ err, traverse reg Γ (.fnN f a b) = .error err := by
  obtain ⟨err, h⟩ := trav_fnN reg Γ f a b
  exact ⟨err, trav_error_traverse reg Γ _ err h⟩

theorem traverse_fnN_error (f : String) (a b : E) (err : UnitErr) (h : traverse reg Γ (.fnN f a b) = .error err) :
    err = .deferredFn ∨ err = .unexpectedMath ∨ traverse reg Γ a = .error err ∨ traverse reg Γ b = .error err := by
  obtain ⟨err', h'⟩ := trav_fnN reg Γ f a b
  have : err' = err := by simpa [traverse, h', bind, Except.bind] using h
  subst this
  have tail : (trav reg Γ b >>= fun l => finish reg l >>= fun _ =>
      (throw UnitErr.deferredFn : Except UnitErr (List (M × Container)))) = .error err' →
      err' = .deferredFn ∨ err' = .unexpectedMath ∨ traverse reg Γ a = .error err' ∨
        traverse reg Γ b = .error err' := by
    rw [← bind_assoc, ← traverse_def]
    cases traverse reg Γ b with
    | error e => intro he; cases he; exact .inr (.inr (.inr rfl))
    | ok q => intro he; cases he; exact .inl rfl
  simp only [trav] at h'
  split at h'
  -- the left operand is a call: its marker under the same name, under another name, its own error, no error
  · split at h'
    · split at h'
      · exact tail h'
      · cases h'; exact .inr (.inl rfl)
    · cases h'; exact .inr (.inr (.inl (trav_error_traverse reg Γ _ _ ‹_›)))
    · exact tail h'
  · rw [← bind_assoc, ← traverse_def] at h'
    cases ha : traverse reg Γ a with
    | error e => rw [ha] at h'; cases h'; exact .inr (.inr (.inl rfl))
    | ok q => rw [ha] at h'; rw [← ha]; exact tail h'

theorem simpleExps_of_numProd (x : E) (hx : numProd x = true) : SimpleExps x = true := by
  induction x with
  | mul a b iha ihb =>
      simp only [numProd, Bool.and_eq_true] at hx
      simp only [SimpleExps, Bool.and_eq_true]; exact ⟨iha hx.1, ihb hx.2⟩
  | _ => first | rfl | simp [numProd] at hx

/-- the error is one of cellmlmanip's `UnitError` subclasses -/
def isUnitError : UnitErr → Bool
  | .otherException _ | .unsupported _ => false
  | _ => true

/-- Python exceptions that are NOT `UnitError`s and that the magnitude computations inside the expression can raise:
    `**` on magnitudes (0 to a negative power), `math.floor`/`math.ceil` (of a complex magnitude), `math.exp` (overflow),
    the quotient of two initial values in a derivative -/
def pyErrors : E → List String
  | .pow b x => "ZeroDivisionError" :: (pyErrors b ++ pyErrors x)
  | .floor a | .ceil a => "TypeError" :: pyErrors a
  | .deriv _ _ => ["ZeroDivisionError"]
  | .fn1 f a => (if f = "exp" then ["OverflowError"] else []) ++ pyErrors a
  | .add a b | .mul a b | .fnN _ a b | .rel _ a b | .and a b | .or a b => pyErrors a ++ pyErrors b
  | .ite _ t el => pyErrors t ++ pyErrors el
  | .abs a | .not a => pyErrors a
  | _ => []

/-- the expression has a node outside the exactly modelled fragment: infinity, nan, a variable that is not in the
    environment, or a power (whose magnitude may be irrational and then feed another exponent) -/
def outside (Γ : VarEnv) : E → Bool
  | .oo | .nan | .pow _ _ => true
  | .var i => Γ[i]?.isNone
  | .deriv v t => Γ[v]?.isNone || Γ[t]?.isNone
  | .add a b | .mul a b | .fnN _ a b | .rel _ a b | .and a b | .or a b => outside Γ a || outside Γ b
  | .ite _ t el => outside Γ t || outside Γ el
  | .abs a | .floor a | .ceil a | .fn1 _ a | .not a => outside Γ a
  | _ => false

theorem powM_error (a b : M) (err : UnitErr) (h : powM a b = .error err) :
    err = .otherException "ZeroDivisionError" ∨ err = .unsupported "power of an untracked magnitude" := by
  cases a <;> cases b <;> dsimp only [powM] at h
  case num.num =>
    rcases ite_error h with h | h
    · cases h; exact .inr rfl
    rcases ite_error h with h | h
    · rcases ite_error h with h | h
      · cases h; exact .inl rfl
      rcases ite_error h with h | h
      · cases h; exact .inr rfl
      rcases ite_error h with h | h <;> cases h
      exact .inr rfl
    · rcases ite_error h with h | h
      · cases h
      rcases ite_error h with h | h <;> cases h
  case anynum.num =>
    rcases ite_error h with h | h <;> cases h
    exact .inr rfl
  all_goals cases h
  all_goals exact .inr rfl

theorem floorM_error (up : Bool) (a : M) (err : UnitErr) (h : floorM up a = .error err) :
    err = .otherException "TypeError" := by
  cases a <;> simp_all [floorM]

theorem divM_error (a b : M) (err : UnitErr) (h : divM a b = .error err) :
    err = .otherException "ZeroDivisionError" := by
  cases a <;> cases b <;> simp only [divM] at h <;> (repeat' split at h) <;> simp_all

theorem powStep_error (qb qx : M × Container) (err : UnitErr) (h : powStep qb qx = .error err) :
    isUnitError err = true ∨ err = .otherException "ZeroDivisionError" ∨ ∃ w, err = .unsupported w := by
  simp only [powStep] at h
  split at h
  · cases h; exact Or.inl rfl
  · split at h
    · cases h; exact Or.inl rfl
    · rcases (bind_error _ _ _).mp h with h | ⟨m, _, h⟩
      · rcases powM_error _ _ _ h with rfl | rfl
        · exact Or.inr (Or.inl rfl)
        · exact Or.inr (Or.inr ⟨_, rfl⟩)
      · split at h
        · cases h
        · split at h
          · cases h
          · cases h; exact Or.inr (Or.inr ⟨_, rfl⟩)

/-- with an exponent that `traverse` knows as the number `q` in `dimensionless`, the `Pow` branch can only fail in `powM`,
    and the unit of its result is the base's unit to the power `q` (`powC [] q` is `[]`) -/
theorem powStep_num {qb : M × Container} {q : Rat} {f : Bool} :
    powStep qb (.num q f, []) = powM qb.1 (.num q f) >>= fun m => .ok (m, powC qb.2 q) := by
  simp only [powStep, ne_eq, not_true_eq_false, if_false, M.isNumber, Bool.not_true, Bool.false_eq_true]
  refine bind_congr fun m => ?_
  split
  · rename_i h; rw [h]; rfl
  · rfl

theorem powStep_unit {qb qx r : M × Container} (h : powStep qb qx = .ok r) : r.2 = [] ∨ ∃ q, r.2 = powC qb.2 q := by
  unfold powStep at h
  split at h
  · cases h
  split at h
  · cases h
  obtain ⟨m, _, h⟩ := (bind_ok _ _ _).mp h
  split at h
  · cases h; exact .inl rfl
  split at h
  · cases h; exact .inr ⟨_, rfl⟩
  · cases h

end Infer

/-- `xs`: the operands of the left spine `a` of the n-ary node `n`; `size`, `P`: the measure and the domain of the closed
    generated recursions of Props/C04Gen.lean and Props/C05Gen.lean -/
theorem E.snoc_sub {size : E → Nat} {P : E → Bool} (n : E) {a b : E} {xs : List E}
    (hxs : ∀ x ∈ xs, size x ≤ size a ∧ (P a = true → P x = true)) (hs : size n = size a + size b + 1)
    (hw : P n = true → P a = true ∧ P b = true) : ∀ x ∈ xs ++ [b], size x < size n ∧ (P n = true → P x = true) := by
  intro x hx
  rw [List.mem_append, List.mem_singleton] at hx
  rcases hx with hx | rfl
  · have := (hxs x hx).1
    exact ⟨by omega, fun h => (hxs x hx).2 (hw h).1⟩
  · exact ⟨by omega, fun h => (hw h).2⟩
