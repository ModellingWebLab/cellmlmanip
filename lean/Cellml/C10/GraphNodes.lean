import Cellml.C10.WF

/-! # C10: which nodes `Model.graph` has, and with which `variable_type`

    `buildGraph names eqs = .ok g` ⇒ the nodes of `g` are the left-hand sides (in equation order, typed by `typeMap`)
    followed by bare variable nodes typed STATE or FREE. Hence the derivative nodes are exactly the ODE left-hand
    sides and the nodes that are neither FREE, STATE nor PARAMETER are left-hand-side variables. The first part of the
    file is about `typeMap`: the role of a variable in closed form (`tyOf_typeMap`), hence that the roles do not depend
    on the order of the equations. (`buildGraph` here is `Model.buildGraph` of `Model/Graph.lean`; the model of the same
    python property that is tied to the generated code is `C09.buildGraph`, `Tie/GraphBuild.lean`.) Core Lean only. -/

namespace Model

theorem mem_lhsWrites {e : Eqn} {p : Nat × VType} :
    p ∈ lhsWrites e ↔ e.lhs = .var p.1 ∧ p.2 = if e.bareQuantity then .parameter else .computed := by
  obtain ⟨x, ty⟩ := p
  unfold lhsWrites
  cases e.lhs with
  | var v => simp only [List.mem_singleton, Prod.mk.injEq, Lhs.var.injEq, @eq_comm _ x v]
  | deriv s t o => simp
  | other => simp

theorem mem_stateWrites {e : Eqn} {p : Nat × VType} : p ∈ stateWrites e ↔ p.2 = .state ∧ ∃ t o, e.lhs = .deriv p.1 t o := by
  obtain ⟨x, ty⟩ := p
  unfold stateWrites
  cases e.lhs <;> simp [eq_comm, and_comm]

theorem mem_freeWrites {e : Eqn} {p : Nat × VType} : p ∈ freeWrites e ↔ p.2 = .free ∧ ∃ s o, e.lhs = .deriv s p.1 o := by
  obtain ⟨x, ty⟩ := p
  unfold freeWrites
  cases e.lhs <;> simp [eq_comm, and_comm]

def isStateIn (eqs : List Eqn) (x : Nat) : Bool := eqs.any fun e => (stateWrites e).any (·.1 == x)
def isFreeIn (eqs : List Eqn) (x : Nat) : Bool := eqs.any fun e => (freeWrites e).any (·.1 == x)

theorem isStateIn_iff {eqs : List Eqn} {x : Nat} : isStateIn eqs x = true ↔ ∃ e ∈ eqs, ∃ t o, e.lhs = .deriv x t o := by
  simp only [isStateIn, List.any_eq_true, beq_iff_eq]
  exact ⟨fun ⟨e, he, p, hp, hx⟩ => ⟨e, he, hx ▸ (mem_stateWrites.mp hp).2⟩,
    fun ⟨e, he, t, o, hl⟩ => ⟨e, he, (x, .state), mem_stateWrites.mpr ⟨rfl, t, o, hl⟩, rfl⟩⟩

theorem isFreeIn_iff {eqs : List Eqn} {x : Nat} : isFreeIn eqs x = true ↔ ∃ e ∈ eqs, ∃ s o, e.lhs = .deriv s x o := by
  simp only [isFreeIn, List.any_eq_true, beq_iff_eq]
  exact ⟨fun ⟨e, he, p, hp, hx⟩ => ⟨e, he, hx ▸ (mem_freeWrites.mp hp).2⟩,
    fun ⟨e, he, s, o, hl⟩ => ⟨e, he, (x, .free), mem_freeWrites.mpr ⟨rfl, s, o, hl⟩, rfl⟩⟩

/-- **the role of a variable, in closed form**: FREE if some ODE differentiates by it, else STATE if some ODE is its,
    else what the loop over the left-hand sides wrote -/
theorem tyOf_typeMap (eqs : List Eqn) (x : Nat) :
    tyOf (typeMap eqs) x = if isFreeIn eqs x then some .free else if isStateIn eqs x then some .state
      else (tmAcc lhsWrites [] eqs).lookup x := by
  unfold tyOf typeMap isFreeIn isStateIn
  rw [tmAcc, List.lookup_writes_const freeWrites .free (fun _ _ h => (mem_freeWrites.mp h).1),
    tmAcc, List.lookup_writes_const stateWrites .state (fun _ _ h => (mem_stateWrites.mp h).1)]

/-- **the roles are a function of the SET of equations** (the roles that come from the ODEs win): permuting
    `Model.equations` changes the `type` of no variable, as long as no variable is assigned both a bare number and
    something else (`Model.graph` refuses two equations with the same left-hand side anyway) -/
theorem tyOf_typeMap_perm {eqs eqs' : List Eqn} (hp : eqs'.Perm eqs)
    (hfun : ∀ e₁ ∈ eqs, ∀ e₂ ∈ eqs, ∀ v, e₁.lhs = .var v → e₂.lhs = .var v → e₁.bareQuantity = e₂.bareQuantity)
    (x : Nat) : tyOf (typeMap eqs') x = tyOf (typeMap eqs) x := by
  rw [tyOf_typeMap, tyOf_typeMap, isFreeIn, isFreeIn, isStateIn, isStateIn, hp.any_eq, hp.any_eq]
  congr 2
  refine List.lookup_writes_perm lhsWrites x hp rfl fun e₁ h₁ e₂ h₂ t₁ t₂ m₁ m₂ => ?_
  obtain ⟨hl₁, rfl⟩ := mem_lhsWrites.mp m₁
  obtain ⟨hl₂, rfl⟩ := mem_lhsWrites.mp m₂
  rw [hfun e₁ h₁ e₂ h₂ _ hl₁ hl₂]

/-- the state and the bound variable of an ODE are typed STATE or FREE (whether or not they are assigned as well) -/
theorem tyOf_state_or_free {eqs : List Eqn} {e : Eqn} (he : e ∈ eqs) {s t o : Nat} (hl : e.lhs = .deriv s t o)
    {x : Nat} (hx : x = s ∨ x = t) :
    tyOf (typeMap eqs) x = some .state ∨ tyOf (typeMap eqs) x = some .free := by
  rw [tyOf_typeMap]
  by_cases hf : isFreeIn eqs x = true
  · simp [hf]
  · by_cases hs : isStateIn eqs x = true
    · simp [hf, hs]
    · rcases hx with rfl | rfl
      · exact absurd (isStateIn_iff.mpr ⟨e, he, _, _, hl⟩) hs
      · exact absurd (isFreeIn_iff.mpr ⟨e, he, _, _, hl⟩) hf

/-- a node added for a reference or for the variables of an ODE: a variable without equation, typed STATE or FREE -/
def BareOK (tm : List (Nat × VType)) (x : GNode) : Prop :=
  ∃ v, x = ⟨.var v, none, tyOf tm v⟩ ∧ (tyOf tm v = some .state ∨ tyOf tm v = some .free)

def Ext (tm : List (Nat × VType)) (g g' : Graph) : Prop :=
  ∃ extra, g'.nodes = g.nodes ++ extra ∧ ∀ x ∈ extra, BareOK tm x

theorem Ext.refl (tm : List (Nat × VType)) (g : Graph) : Ext tm g g := ⟨[], by simp, fun _ h => by cases h⟩

theorem Ext.trans {tm : List (Nat × VType)} {g g' g'' : Graph} (h1 : Ext tm g g') (h2 : Ext tm g' g'') : Ext tm g g'' := by
  obtain ⟨x1, e1, b1⟩ := h1
  obtain ⟨x2, e2, b2⟩ := h2
  refine ⟨x1 ++ x2, by rw [e2, e1, List.append_assoc], fun x hx => ?_⟩
  rcases List.mem_append.mp hx with h | h
  · exact b1 x h
  · exact b2 x h

theorem Ext.has {tm : List (Nat × VType)} {g g' : Graph} (h : Ext tm g g') {n : Node} (hn : hasNode g n = true) :
    hasNode g' n = true := by
  obtain ⟨x, e, _⟩ := h
  unfold hasNode at hn ⊢
  rw [e, List.any_append, hn]; rfl

def bareRef (tm : List (Nat × VType)) (r : Node) : Prop :=
  ∃ v, r = .var v ∧ (tyOf tm v = some .state ∨ tyOf tm v = some .free)

theorem ext_addBareNode (tm : List (Nat × VType)) (g : Graph) (n : Node) (h : hasNode g n = true ∨ bareRef tm n) :
    Ext tm g (addBareNode tm g n) := by
  unfold addBareNode
  by_cases hn : hasNode g n = true
  · rw [if_pos hn]; exact Ext.refl tm g
  · rw [if_neg hn]
    rcases h with h | ⟨v, rfl, hv⟩
    · exact absurd h hn
    · exact ⟨[⟨.var v, none, nodeType tm (.var v)⟩], rfl, fun x hx => by
        simp only [List.mem_singleton] at hx
        exact ⟨v, hx, hv⟩⟩

theorem ext_refs_fold (tm : List (Nat × VType)) (l : Node) : ∀ (refs : List Node) (g : Graph),
    (∀ r ∈ refs, hasNode g r = true ∨ bareRef tm r) →
    Ext tm g (refs.foldl (fun g r => { addBareNode tm g r with edges := (addBareNode tm g r).edges ++ [(r, l)] }) g)
  | refs, g, h =>
    -- `Ext` looks at the nodes only, and the new edge leaves them alone
    List.foldl_inv _ (Ext tm g) refs g (Ext.refl tm g) fun b r hr hb =>
      hb.trans (show Ext tm b _ from ext_addBareNode tm b r ((h r hr).imp hb.has id))

theorem not_badRef {tm : List (Nat × VType)} {g : Graph} {r : Node} (h : badRef tm g r = false) :
    hasNode g r = true ∨ bareRef tm r := by
  unfold badRef at h
  by_cases hn : hasNode g r = true
  · exact .inl hn
  · right
    have hn' : hasNode g r = false := by simpa using hn
    rw [hn'] at h
    cases r with
    | deriv s t => simp at h
    | var v =>
      simp only [Bool.not_false, Bool.true_and, Bool.not_eq_false', Bool.or_eq_true, beq_iff_eq] at h
      exact ⟨v, rfl, h⟩

theorem ext_addEdges {eqs : List Eqn} {g g' : Graph} {e : Eqn} (he : e ∈ eqs)
    (h : addEdges (typeMap eqs) g e = .ok g') : Ext (typeMap eqs) g g' := by
  unfold addEdges at h
  rcases hl : lhsNode e.lhs with _ | l
  · rw [hl] at h; cases h
  · rw [hl] at h
    dsimp only at h
    by_cases hbad : (!(e.refs.filter (badRef (typeMap eqs) g)).isEmpty) = true
    · rw [if_pos hbad] at h; cases h
    · rw [if_neg hbad] at h
      have hempty : e.refs.filter (badRef (typeMap eqs) g) = [] := by simpa using hbad
      have hrefs : ∀ r ∈ e.refs, hasNode g r = true ∨ bareRef (typeMap eqs) r := fun r hr =>
        not_badRef (by simpa using List.filter_eq_nil_iff.mp hempty r hr)
      have h1 := ext_refs_fold (typeMap eqs) l e.refs g hrefs
      cases hlhs' : e.lhs with
      | var v | other => rw [hlhs'] at h; cases h; exact h1
      | deriv s t o =>
        rw [hlhs'] at h
        dsimp only at h
        cases h
        exact (h1.trans (ext_addBareNode _ _ _ (.inr ⟨t, rfl, tyOf_state_or_free he hlhs' (.inr rfl)⟩))).trans
          (ext_addBareNode _ _ _ (.inr ⟨s, rfl, tyOf_state_or_free he hlhs' (.inl rfl)⟩))

theorem ext_addAllEdges {eqs : List Eqn} : ∀ (es : List Eqn) (g g' : Graph), (∀ e ∈ es, e ∈ eqs) →
    addAllEdges (typeMap eqs) g es = .ok g' → Ext (typeMap eqs) g g'
  | [], g, g', _, h => by simp only [addAllEdges] at h; cases h; exact Ext.refl _ g
  | e :: es, g, g', hsub, h => by
    simp only [addAllEdges] at h
    rcases h1 : addEdges (typeMap eqs) g e with err | g1
    · rw [h1] at h; cases h
    · rw [h1] at h
      exact (ext_addEdges (hsub e (List.mem_cons_self ..)) h1).trans
        (ext_addAllEdges es g1 g' (fun x hx => hsub x (List.mem_cons_of_mem _ hx)) h)

/-- the nodes the builder starts the edge loop with: the left-hand sides, in equation order, with their roles -/
def lhsGNodes (tm : List (Nat × VType)) (eqs : List Eqn) : List GNode :=
  eqs.filterMap (fun e => (lhsNode e.lhs).map fun n => ⟨n, some e, nodeType tm n⟩)

theorem lhsNodes_spec (tm : List (Nat × VType)) : ∀ (eqs : List Eqn) (ns : List GNode), lhsNodes eqs = some ns →
    ns.map (fun n => { n with vtype := nodeType tm n.node }) = lhsGNodes tm eqs
  | [], ns, h => by simp only [lhsNodes, Option.some.injEq] at h; subst h; rfl
  | e :: es, ns, h => by
    simp only [lhsNodes] at h
    rcases hl : lhsNode e.lhs with _ | n
    · rw [hl] at h; simp at h
    · rcases hr : lhsNodes es with _ | ns'
      · rw [hl, hr] at h; simp at h
      · rw [hl, hr] at h
        simp only [Option.some.injEq] at h
        subst h
        have ih := lhsNodes_spec tm es ns' hr
        simp only [List.map_cons, lhsGNodes, List.filterMap_cons, hl, Option.map_some]
        rw [ih]; rfl

theorem hasNode_lhsGNodes (tm : List (Nat × VType)) (eqs : List Eqn) (es : List (Node × Node)) {e : Eqn}
    (he : e ∈ eqs) {n : Node} (hn : lhsNode e.lhs = some n) : hasNode ⟨lhsGNodes tm eqs, es⟩ n = true := by
  unfold hasNode
  rw [List.any_eq_true]
  exact ⟨⟨n, some e, nodeType tm n⟩, List.mem_filterMap.mpr ⟨e, he, by simp [hn]⟩, by simp⟩

theorem buildGraph_nodes {names : List String} {eqs : List Eqn} {g : Graph} (h : buildGraph names eqs = .ok g) :
    ∃ extra, g.nodes = lhsGNodes (typeMap eqs) eqs ++ extra ∧ ∀ x ∈ extra, BareOK (typeMap eqs) x := by
  unfold buildGraph at h
  dsimp only at h
  rcases hl : lhsNodes eqs with _ | ns
  · rw [hl] at h; cases h
  · rw [hl] at h
    dsimp only at h
    -- the two sanity asserts (left-hand sides distinct, their printed names distinct) raise or let through
    split at h
    · cases h
    · split at h
      · cases h
      · rw [lhsNodes_spec (typeMap eqs) eqs ns hl] at h
        exact ext_addAllEdges eqs _ g (fun _ he => he) h

/-- the derivatives that are left-hand sides, in equation order -/
def derivLhs (eqs : List Eqn) : List (Nat × Nat) :=
  eqs.filterMap (fun e => match e.lhs with | .deriv s t _ => some (s, t) | _ => none)

theorem mem_derivLhs (eqs : List Eqn) (s t : Nat) : (s, t) ∈ derivLhs eqs ↔ ∃ e ∈ eqs, ∃ o, e.lhs = .deriv s t o := by
  unfold derivLhs
  rw [List.mem_filterMap]
  constructor
  · rintro ⟨e, he, h⟩
    cases hl : e.lhs with
    | var v | other => rw [hl] at h; cases h
    | deriv s' t' o => rw [hl] at h; simp at h; obtain ⟨rfl, rfl⟩ := h; exact ⟨e, he, o, hl⟩
  · rintro ⟨e, he, o, hl⟩; exact ⟨e, he, by rw [hl]⟩

def computedLhs (tm : List (Nat × VType)) (eqs : List Eqn) : List Nat :=
  eqs.filterMap (fun e => match e.lhs with
    | .var v => if tyOf tm v = some .free ∨ tyOf tm v = some .state ∨ tyOf tm v = some .parameter then none else some v
    | _ => none)

/-- (two `filterMap`s in a row are one) -/
theorem derivNodesL_lhsGNodes (tm : List (Nat × VType)) (eqs : List Eqn) : derivNodesL (lhsGNodes tm eqs) = derivLhs eqs := by
  unfold derivNodesL lhsGNodes derivLhs
  rw [List.filterMap_filterMap]
  congr 1; funext e
  cases e.lhs <;> rfl

theorem derivedNodesL_lhsGNodes (tm : List (Nat × VType)) (eqs : List Eqn) :
    derivedNodesL (lhsGNodes tm eqs) = computedLhs tm eqs := by
  unfold derivedNodesL lhsGNodes computedLhs
  rw [List.filterMap_filterMap]
  congr 1; funext e
  cases e.lhs <;> rfl

theorem bare_no_deriv {tm : List (Nat × VType)} {extra : List GNode} (h : ∀ x ∈ extra, BareOK tm x) :
    derivNodesL extra = [] ∧ derivedNodesL extra = [] := by
  constructor
  · unfold derivNodesL
    rw [List.filterMap_eq_nil_iff]
    intro x hx
    obtain ⟨v, rfl, _⟩ := h x hx
    rfl
  · unfold derivedNodesL
    rw [List.filterMap_eq_nil_iff]
    intro x hx
    obtain ⟨v, rfl, hv⟩ := h x hx
    rcases hv with hv | hv <;> simp [hv]

theorem derivNodesL_append (a b : List GNode) : derivNodesL (a ++ b) = derivNodesL a ++ derivNodesL b :=
  List.filterMap_append

theorem derivedNodesL_append (a b : List GNode) : derivedNodesL (a ++ b) = derivedNodesL a ++ derivedNodesL b :=
  List.filterMap_append

theorem derivNodes_of_build {names : List String} {eqs : List Eqn} {g : Graph} (h : buildGraph names eqs = .ok g) :
    derivNodes g = derivLhs eqs := by
  obtain ⟨extra, hn, hb⟩ := buildGraph_nodes h
  rw [derivNodes, hn, derivNodesL_append, (bare_no_deriv hb).1, List.append_nil, derivNodesL_lhsGNodes]

theorem derivedNodes_of_build {names : List String} {eqs : List Eqn} {g : Graph} (h : buildGraph names eqs = .ok g) :
    derivedNodes g = computedLhs (typeMap eqs) eqs := by
  obtain ⟨extra, hn, hb⟩ := buildGraph_nodes h
  rw [derivedNodes, hn, derivedNodesL_append, (bare_no_deriv hb).2, List.append_nil, derivedNodesL_lhsGNodes]

end Model
