import Cellml.C10.GraphNodes

/-! # C10: the role queries follow from the equations; they do not depend on the history. Core Lean only. -/

namespace Model

variable {M : RModel}

theorem isState_iff (E : EqInv M.st) (v : Nat) :
    isState M v = true ↔ ∃ e ∈ M.st.equations, ∃ t o, e.lhs = .deriv v t o := by
  unfold isState
  rw [hasKey_iff, E.odeDef]
  exact exists_congr fun e => mem_deriveOdeDef _ _ _

theorem mem_stateVars (v : Nat) : v ∈ stateVars M ↔ isState M v = true := by
  unfold stateVars getStateVariables isState
  rw [(sortByKey_perm _ _).mem_iff, hasKey_iff_mem_keys]
  rfl

theorem freeVar_none (E : EqInv M.st) (h : ∀ e ∈ M.st.equations, bvarOf e = none) : freeVar M = none :=
  Option.eq_none_iff_forall_ne_some.mpr fun t ht => by
    obtain ⟨e, he, s, o, hl⟩ := ode_of_freeVar E ht
    simpa [bvarOf, hl] using h e he

theorem isConstant_iff (E : EqInv M.st) (v : Nat) :
    isConstant M v = true ↔ ∃ e ∈ M.st.equations, e.lhs = .var v ∧ (M.rhs e.tok).vars = [] := by
  unfold isConstant
  constructor
  · intro h
    rcases hr : varRhs M v with _ | r
    · rw [hr] at h; cases h
    · rw [hr] at h
      obtain ⟨e, he, hl, rfl⟩ := varRhs_spec E hr
      exact ⟨e, he, hl, by simpa using h⟩
  · rintro ⟨e, he, hl, hv⟩
    rw [varRhs_of_mem E he hl]; simp [hv]

/-- `get_derivatives()` is the list of ODE left-hand sides, stably sorted by the `order_added` of the state -/
theorem derivatives_spec (h : Inv M.st) {l : List (Nat × Nat)} (hd : derivatives M = .ok l) :
    l = sortBy (fun p => orderOf M.st p.1) (derivLhs M.st.equations) := by
  unfold derivatives at hd
  rw [queryGraph_snd h.cache] at hd
  rcases hb : buildGraph (names M.st) M.st.equations with err | g
  · rw [hb] at hd; cases hd
  · rw [hb] at hd
    simp only [Except.ok.injEq] at hd
    rw [← hd, derivNodes_of_build hb]

/-- `get_derived_quantities()` is the list of assigned variables whose role is none of FREE, STATE, PARAMETER
    (`computedLhs`), stably sorted by `order_added` -/
theorem derivedQuantities_spec (h : Inv M.st) {l : List Nat} (hd : derivedQuantities M = .ok l) :
    l = sortBy (orderOf M.st) (computedLhs (typeMap M.st.equations) M.st.equations) := by
  unfold derivedQuantities at hd
  rw [queryGraph_snd h.cache] at hd
  rcases hb : buildGraph (names M.st) M.st.equations with err | g
  · rw [hb] at hd; cases hd
  · rw [hb] at hd
    simp only [Except.ok.injEq] at hd
    rw [← hd, derivedNodes_of_build hb]

/-- in a well-formed model the role of an assigned variable is written by its own equation only -/
theorem tyOf_assigned (W : WF M) {e : Eqn} (he : e ∈ M.st.equations) {v : Nat} (hl : e.lhs = .var v) :
    tyOf (typeMap M.st.equations) v = some (if e.bareQuantity then .parameter else .computed) := by
  have hkey : defKey e = some v := by simp [defKey, hl]
  have hf : ¬ isFreeIn M.st.equations v = true := fun h => by
    -- `v` would be the free variable, which has no definition
    obtain ⟨e', he', s, o, hl'⟩ := isFreeIn_iff.mp h
    have hok := W.freeOk
    simp only [freeOkB, freeVar_of_ode W he' hl', Bool.and_eq_true, Option.isNone_iff_eq_none] at hok
    rw [varRhs_of_mem W.inv.eq he hl] at hok
    cases hok.2
  have hs : ¬ isStateIn M.st.equations v = true := fun h => by
    obtain ⟨e', he', t, o, hl'⟩ := isStateIn_iff.mp h
    have : e' = e := def_unique (k := v) _ he' he (by simp [defKey, hl']) hkey W.inv.eq.nodup
    rw [this, hl] at hl'; cases hl'
  rw [tyOf_typeMap, if_neg hf, if_neg hs]
  rcases List.lookup_writes_cases lhsWrites v M.st.equations [] with ⟨e', he', ty, hw, hty⟩ | ⟨hno, _⟩
  · obtain ⟨hl', rfl⟩ := mem_lhsWrites.mp hw
    rw [← def_unique (k := v) _ he' he (by simp [defKey, hl']) hkey W.inv.eq.nodup]
    exact hty
  · exact absurd (mem_lhsWrites.mpr ⟨hl, rfl⟩) (hno e he (if e.bareQuantity then .parameter else .computed))

theorem mem_computedLhs (W : WF M) (v : Nat) :
    v ∈ computedLhs (typeMap M.st.equations) M.st.equations ↔
      ∃ e ∈ M.st.equations, e.lhs = .var v ∧ e.bareQuantity = false := by
  unfold computedLhs
  rw [List.mem_filterMap]
  constructor
  · rintro ⟨e, he, h⟩
    cases hl : e.lhs with
    | deriv s t o | other => rw [hl] at h; cases h
    | var v' =>
      rw [hl] at h
      dsimp only at h
      rw [tyOf_assigned W he hl] at h
      cases hb : e.bareQuantity with
      | true => rw [hb] at h; simp at h
      | false => rw [hb] at h; simp at h; subst h; exact ⟨e, he, hl, hb⟩
  · rintro ⟨e, he, hl, hb⟩
    refine ⟨e, he, ?_⟩
    rw [hl]
    dsimp only
    rw [tyOf_assigned W he hl, hb]
    simp

theorem expand_congr {M₁ M₂ : RModel} (h3 : odeRhs M₁ = odeRhs M₂) : ∀ (F : Nat) (e : Expr), expand M₁ F e = expand M₂ F e
  | 0, _ => rfl
  | F + 1, e => by
    simp only [expand]
    congr 1
    funext s t
    rw [h3]
    cases odeRhs M₂ s t with
    | none => rfl
    | some r => exact expand_congr h3 F r

theorem getValueAux_congr (fn : Interp) {M₁ M₂ : RModel} (h1 : isState M₁ = isState M₂) (h2 : varRhs M₁ = varRhs M₂)
    (h3 : odeRhs M₁ = odeRhs M₂) (h4 : freeVar M₁ = freeVar M₂) (h5 : initOf M₁.st = initOf M₂.st) (F : Nat) :
    ∀ (f : Nat), getValueAux fn M₁ F f = getValueAux fn M₂ F f
  | 0 => rfl
  | f + 1 => by
    funext v memo
    simp only [getValueAux, h1, h2, h4, h5, expand_congr h3, getValueAux_congr fn h1 h2 h3 h4 h5 F f]

theorem roles_congr (fn : Interp) {s₁ s₂ : MState} (rhs : Nat → Expr) (hl : s₁.live = s₂.live) (hvd : s₁.varDef = s₂.varDef)
    (hod : s₁.odeDef = s₂.odeDef) (hinit : initOf s₁ = initOf s₂) (hord : orderOf s₁ = orderOf s₂)
    (hg : (queryGraph s₁).2 = (queryGraph s₂).2) : roles fn ⟨s₁, rhs⟩ = roles fn ⟨s₂, rhs⟩ := by
  have h1 : isState ⟨s₁, rhs⟩ = isState ⟨s₂, rhs⟩ := by funext v; simp only [isState, hod]
  have h2 : varRhs ⟨s₁, rhs⟩ = varRhs ⟨s₂, rhs⟩ := by funext v; simp only [varRhs, hvd]
  have h3 : odeRhs ⟨s₁, rhs⟩ = odeRhs ⟨s₂, rhs⟩ := by funext s t; simp only [odeRhs, hod]
  have h4 : freeVar ⟨s₁, rhs⟩ = freeVar ⟨s₂, rhs⟩ := by simp only [freeVar, getFreeVariable, hod]
  have hm : memo0 ⟨s₁, rhs⟩ = memo0 ⟨s₂, rhs⟩ := by simp only [memo0, h4, hod, hinit]
  have hv : getValue fn ⟨s₁, rhs⟩ = getValue fn ⟨s₂, rhs⟩ := by
    funext v
    simp only [getValue, getValueFuel, hl, hm, getValueAux_congr fn h1 h2 h3 h4 hinit]
  have hc : isConstant ⟨s₁, rhs⟩ = isConstant ⟨s₂, rhs⟩ := by funext v; simp only [isConstant, h2]
  simp only [roles, stateVars, getStateVariables, stateKeys, derivatives, derivedQuantities, h1, hc, h4, hv,
    hod, hord, hg]

/-- same variables and equations ⇒ same answers (the C08 invariant makes the maps and the cached graph functions of the
    content) -/
theorem roles_of_content (fn : Interp) {s₁ s₂ : MState} (i₁ : Inv s₁) (i₂ : Inv s₂) (hc : content s₁ = content s₂)
    (rhs : Nat → Expr) : roles fn ⟨s₁, rhs⟩ = roles fn ⟨s₂, rhs⟩ := by
  have hheap : s₁.heap.map (fun v => { v with type := none }) = s₂.heap.map (fun v => { v with type := none }) :=
    congrArg Content.heap hc
  have hlive : s₁.live = s₂.live := congrArg Content.live hc
  have heqs : s₁.equations = s₂.equations := congrArg Content.equations hc
  -- each heap agrees with its type-erased copy on the registry fields, and the two copies are equal
  have hsame : SameButTypes s₂.heap s₁.heap := fun i => by
    rw [← sameButTypes_eraseTypes s₁.heap i, ← sameButTypes_eraseTypes s₂.heap i, hheap]
  refine roles_congr fn rhs hlive ?_ ?_ hsame.initOf hsame.orderOf ?_
  · rw [i₁.eq.varDef, i₂.eq.varDef, heqs]
  · rw [i₁.eq.odeDef, i₂.eq.odeDef, heqs]
  · rw [queryGraph_snd i₁.cache, queryGraph_snd i₂.cache, heqs, hsame.names]

end Model
