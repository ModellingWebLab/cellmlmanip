import Cellml.C10.Eval
import Cellml.C08.Lemmas
import Cellml.Basic.Writes
import Cellml.Basic.ListLemmas

/-! # C10: well-formed models, and `getValue` on them

    `WF M`: the conditions under which the property is claimed — the C08 invariant (each variable at most one
    definition, the maps agree with the equation list, `order_added` increasing), `refs` of every equation are the
    references of its right-hand side, all ODEs share one bound variable which is neither a state nor defined, every
    variable mentioned is in the model, every reference is defined, the definitions are acyclic (a ranking exists),
    every state has an initial value. All fields except `inv` and the ranking are bounded statements that `decide`
    evaluates on a concrete model. Core Lean only. -/

namespace Model

/-- the bound variable of an ODE -/
def bvarOf (e : Eqn) : Option Nat :=
  match e.lhs with
  | .deriv _ t _ => some t
  | _ => none

/-- the reference is a state, the free variable or defined by an equation; a derivative is the left-hand side of an ODE -/
def definedRef (M : RModel) : Node → Bool
  | .var v => isState M v || (varRhs M v).isSome || freeVar M == some v
  | .deriv s t => (odeRhs M s t).isSome

/-- the free variable is neither a state nor defined by an equation -/
def freeOkB (M : RModel) : Bool :=
  match freeVar M with
  | some t => !isState M t && (varRhs M t).isNone
  | none => true

/-- every reference of every equation ranks below the left-hand side -/
def rankedByB (M : RModel) (rank : Node → Nat) : Bool :=
  M.st.equations.all fun e => e.refs.all fun r =>
    match lhsNode e.lhs with
    | some l => rank r < rank l
    | none => true

structure WF (M : RModel) : Prop where
  inv : Inv M.st
  refs : ∀ e ∈ M.st.equations, (∀ n ∈ e.refs, n ∈ (M.rhs e.tok).nodes) ∧ (∀ n ∈ (M.rhs e.tok).nodes, n ∈ e.refs)
  oneBvar : ∀ e ∈ M.st.equations, ∀ e' ∈ M.st.equations, bvarOf e = none ∨ bvarOf e' = none ∨ bvarOf e = bvarOf e'
  freeOk : freeOkB M = true
  live : ∀ e ∈ M.st.equations, ∀ v ∈ e.atoms, v ∈ M.st.live
  closed : ∀ e ∈ M.st.equations, ∀ n ∈ e.refs, definedRef M n = true
  acyclic : ∃ rank : Node → Nat, rankedByB M rank = true
  inits : ∀ s ∈ stateKeys M.st, (initOf M.st s).isSome = true

variable {fn : Interp} {M : RModel}

theorem varRhs_spec (E : EqInv M.st) {v : Nat} {r : Expr} (h : varRhs M v = some r) :
    ∃ e ∈ M.st.equations, e.lhs = .var v ∧ r = M.rhs e.tok := by
  unfold varRhs at h
  rcases hl : M.st.varDef.lookup v with _ | e
  · rw [hl] at h; cases h
  · rw [hl] at h
    have hm := List.mem_of_lookup _ _ _ hl
    rw [E.varDef] at hm
    obtain ⟨he, hlhs⟩ := (mem_deriveVarDef _ _ _).mp hm
    exact ⟨e, he, hlhs, by simpa using h.symm⟩

theorem odeRhs_spec (E : EqInv M.st) {s t : Nat} {r : Expr} (h : odeRhs M s t = some r) :
    ∃ e ∈ M.st.equations, lhsNode e.lhs = some (.deriv s t) ∧ r = M.rhs e.tok := by
  unfold odeRhs at h
  rcases hl : M.st.odeDef.lookup s with _ | e
  · rw [hl] at h; cases h
  · rw [hl] at h
    have hm := List.mem_of_lookup _ _ _ hl
    rw [E.odeDef] at hm
    obtain ⟨he, _⟩ := (mem_deriveOdeDef _ _ _).mp hm
    dsimp only at h
    by_cases hc : lhsNode e.lhs = some (.deriv s t)
    · rw [if_pos hc] at h; exact ⟨e, he, hc, by simpa using h.symm⟩
    · rw [if_neg hc] at h; cases h

theorem lhs_of_lhsNode_deriv {l : Lhs} {s t : Nat} (h : lhsNode l = some (.deriv s t)) : ∃ o, l = .deriv s t o := by
  cases l with
  | var v => simp [lhsNode] at h
  | deriv s' t' o => simp [lhsNode] at h; obtain ⟨rfl, rfl⟩ := h; exact ⟨o, rfl⟩
  | other => simp [lhsNode] at h

/-- two equations of a list with distinct keys that define the same thing are one -/
theorem def_unique {k : Nat} {a b : Eqn} : ∀ (l : List Eqn), a ∈ l → b ∈ l → defKey a = some k → defKey b = some k →
    (l.filterMap defKey).Nodup → a = b
  | [], h, _, _, _, _ => by cases h
  | x :: xs, hx, hy, ha, hb, hn => by
    rcases List.mem_cons.mp hx with rfl | hx' <;> rcases List.mem_cons.mp hy with rfl | hy'
    · rfl
    · rw [List.filterMap_cons, ha] at hn
      exact absurd (List.mem_filterMap.mpr ⟨b, hy', hb⟩) (List.nodup_cons.mp hn).1
    · rw [List.filterMap_cons, hb] at hn
      exact absurd (List.mem_filterMap.mpr ⟨a, hx', ha⟩) (List.nodup_cons.mp hn).1
    · rw [List.filterMap_cons] at hn
      cases hd : defKey x with
      | none => rw [hd] at hn; exact def_unique xs hx' hy' ha hb hn
      | some k' => rw [hd] at hn; exact def_unique xs hx' hy' ha hb (List.nodup_cons.mp hn).2

/-- under the invariant a definition map holds one equation per key, so membership decides the lookup -/
theorem lookup_def (E : EqInv M.st) {l : List (Nat × Eqn)}
    (hl : ∀ k e, (k, e) ∈ l → e ∈ M.st.equations ∧ defKey e = some k) {k : Nat} {e : Eqn} (h : (k, e) ∈ l) :
    l.lookup k = some e :=
  (lookup_eq_some_iff _ _ _ fun _ _ ha hb =>
    def_unique _ (hl _ _ ha).1 (hl _ _ hb).1 (hl _ _ ha).2 (hl _ _ hb).2 E.nodup).mpr h

theorem varRhs_of_mem (E : EqInv M.st) {e : Eqn} (he : e ∈ M.st.equations) {v : Nat} (hl : e.lhs = .var v) :
    varRhs M v = some (M.rhs e.tok) := by
  unfold varRhs
  rw [lookup_def E (fun k a h => by
      obtain ⟨h1, h2⟩ := (mem_deriveVarDef _ _ _).mp (E.varDef ▸ h)
      exact ⟨h1, by simp [defKey, h2]⟩)
    (E.varDef ▸ (mem_deriveVarDef _ _ _).mpr ⟨he, hl⟩)]
  rfl

theorem odeRhs_of_mem (E : EqInv M.st) {e : Eqn} (he : e ∈ M.st.equations) {s t : Nat}
    (hl : lhsNode e.lhs = some (.deriv s t)) : odeRhs M s t = some (M.rhs e.tok) := by
  obtain ⟨o, hlhs⟩ := lhs_of_lhsNode_deriv hl
  unfold odeRhs
  rw [lookup_def E (fun k a h => by
      obtain ⟨h1, _, _, h2⟩ := (mem_deriveOdeDef _ _ _).mp (E.odeDef ▸ h)
      exact ⟨h1, by simp [defKey, h2]⟩)
    (E.odeDef ▸ (mem_deriveOdeDef _ _ _).mpr ⟨he, t, o, hlhs⟩)]
  simp [hl]

/-- under the C08 invariant the two definition maps are read off the SET of equations -/
theorem varRhs_iff (E : EqInv M.st) {v : Nat} {r : Expr} :
    varRhs M v = some r ↔ ∃ e ∈ M.st.equations, e.lhs = .var v ∧ r = M.rhs e.tok :=
  ⟨varRhs_spec E, fun ⟨_, he, hl, hr⟩ => hr ▸ varRhs_of_mem E he hl⟩

theorem odeRhs_iff (E : EqInv M.st) {s t : Nat} {r : Expr} :
    odeRhs M s t = some r ↔ ∃ e ∈ M.st.equations, lhsNode e.lhs = some (.deriv s t) ∧ r = M.rhs e.tok :=
  ⟨odeRhs_spec E, fun ⟨_, he, hl, hr⟩ => hr ▸ odeRhs_of_mem E he hl⟩

theorem freeVar_of_ode (W : WF M) {e : Eqn} (he : e ∈ M.st.equations) {s t o : Nat} (hl : e.lhs = .deriv s t o) :
    freeVar M = some t := by
  have hmem : (s, e) ∈ M.st.odeDef := by
    rw [W.inv.eq.odeDef]; exact (mem_deriveOdeDef _ _ _).mpr ⟨he, t, o, hl⟩
  unfold freeVar getFreeVariable
  rcases hod : M.st.odeDef with _ | ⟨⟨s0, e0⟩, rest⟩
  · rw [hod] at hmem; cases hmem
  · have h0 : (s0, e0) ∈ M.st.odeDef := by rw [hod]; exact List.mem_cons_self ..
    rw [W.inv.eq.odeDef] at h0
    obtain ⟨he0, t0, o0, hl0⟩ := (mem_deriveOdeDef _ _ _).mp h0
    dsimp only
    rw [hl0]
    have := W.oneBvar e he e0 he0
    simp only [bvarOf, hl, hl0] at this
    rcases this with h | h | h
    · cases h
    · cases h
    · simp at h; rw [h]

theorem ode_of_freeVar (E : EqInv M.st) {t : Nat} (h : freeVar M = some t) :
    ∃ e ∈ M.st.equations, ∃ s o, e.lhs = .deriv s t o := by
  unfold freeVar getFreeVariable at h
  rcases hod : M.st.odeDef with _ | ⟨⟨s0, e0⟩, rest⟩
  · rw [hod] at h; cases h
  · rw [hod] at h
    have h0 : (s0, e0) ∈ M.st.odeDef := by rw [hod]; exact List.mem_cons_self ..
    rw [E.odeDef] at h0
    cases hl : e0.lhs <;> simp only [hl, Option.some.injEq] at h <;> try cases h
    exact ⟨e0, ((mem_deriveOdeDef _ _ _).mp h0).1, _, _, hl⟩

theorem freeVar_iff (W : WF M) {t : Nat} : freeVar M = some t ↔ ∃ e ∈ M.st.equations, ∃ s o, e.lhs = .deriv s t o :=
  ⟨ode_of_freeVar W.inv.eq, fun ⟨_, he, _, _, hl⟩ => freeVar_of_ode W he hl⟩

/-- the `Occ` of `Ranked` -/
def OccIn (M : RModel) (n : Node) : Prop := ∃ e ∈ M.st.equations, n ∈ e.refs

/-- how many variables of the model rank below a node (among the nodes of its own kind): what fuel is compared with.
    `t0` is the bound variable the states are paired with; `ranked_of_wf` takes the free variable, since under `oneBvar`
    every derivative that occurs is `deriv w t0` for that one (the `0` of `getD` is met only where no derivative occurs). -/
def measure (M : RModel) (rank : Node → Nat) (t0 : Nat) : Node → Nat
  | .var v => M.st.live.countP (fun w => rank (.var w) < rank (.var v))
  | .deriv s t => M.st.live.countP (fun w => rank (.deriv w t0) < rank (.deriv s t))

theorem measure_le (rank : Node → Nat) (t0 : Nat) (n : Node) : measure M rank t0 n ≤ M.st.live.length := by
  cases n <;> exact List.countP_le_length

theorem rankedBy_spec {rank : Node → Nat} (hr : rankedByB M rank = true) {e : Eqn} (he : e ∈ M.st.equations)
    {l : Node} (hl : lhsNode e.lhs = some l) {r : Node} (hrr : r ∈ e.refs) : rank r < rank l := by
  simp only [rankedByB, List.all_eq_true] at hr
  have := hr e he r hrr
  rw [hl] at this
  simpa using this

theorem mem_atoms_of_ref {e : Eqn} {n : Node} (hn : n ∈ e.refs) {v : Nat} (hv : v ∈ n.atoms) : v ∈ e.atoms := by
  unfold Eqn.atoms
  exact List.mem_append_right _ (List.mem_flatMap.mpr ⟨n, hn, hv⟩)

theorem ranked_of_wf (W : WF M) {rank : Node → Nat} (hr : rankedByB M rank = true) :
    Ranked M rank (OccIn M) (measure M rank ((freeVar M).getD 0)) where
  varDec := by
    intro v r h n hn
    obtain ⟨e, he, hl, rfl⟩ := varRhs_spec W.inv.eq h
    have hnr := (W.refs e he).2 n hn
    exact ⟨rankedBy_spec hr he (by rw [hl]; rfl) hnr, e, he, hnr⟩
  odeDec := by
    intro s t r h n hn
    obtain ⟨e, he, hl, rfl⟩ := odeRhs_spec W.inv.eq h
    have hnr := (W.refs e he).2 n hn
    exact ⟨rankedBy_spec hr he hl hnr, e, he, hnr⟩
  mVar := by
    intro a b ⟨e, he, hae⟩ hab
    have halive : a ∈ M.st.live := W.live e he a (mem_atoms_of_ref hae (by simp [Node.atoms]))
    exact List.countP_lt_of _ _ _ (fun w _ hw => by
      simp only [decide_eq_true_eq] at hw ⊢; omega) a halive (by simpa using hab) (by simp)
  mDer := by
    intro s t s' t' ⟨e, he, hse⟩ hlt
    have hslive : s ∈ M.st.live := W.live e he s (mem_atoms_of_ref hse (by simp [Node.atoms]))
    have hdef := W.closed e he _ hse
    simp only [definedRef] at hdef
    obtain ⟨r, hr'⟩ := Option.isSome_iff_exists.mp hdef
    obtain ⟨e', he', hl', _⟩ := odeRhs_spec W.inv.eq hr'
    obtain ⟨o, hlhs⟩ := lhs_of_lhsNode_deriv hl'
    have hfree := freeVar_of_ode W he' hlhs
    simp only [measure, hfree, Option.getD_some]
    exact List.countP_lt_of _ _ _ (fun w _ hw => by
      simp only [decide_eq_true_eq] at hw ⊢; omega) s hslive (by simpa using hlt) (by simp)

theorem lookup_states (init : Nat → Option Rat) (l : List (Nat × Eqn)) (d : Nat) (q : Rat)
    (h : (l.filterMap (fun p => (init p.1).map (fun q => (p.1, q)))).lookup d = some q) :
    hasKey d l = true ∧ init d = some q := by
  obtain ⟨⟨a, e⟩, hp, hq⟩ := List.mem_filterMap.mp (List.mem_of_lookup _ _ _ h)
  cases hi : init a with
  | none => simp [hi] at hq
  | some q' =>
    simp only [hi, Option.map_some, Option.some.injEq, Prod.mk.injEq] at hq
    obtain ⟨rfl, rfl⟩ := hq
    exact ⟨(hasKey_iff _ _).mpr ⟨e, hp⟩, hi⟩

theorem memo0_ok (W : WF M) : MemoOK fn M (memo0 M) := by
  intro d q h
  unfold memo0 at h
  have hstates : ∀ q, (M.st.odeDef.filterMap (fun p => (initOf M.st p.1).map (fun q => (p.1, q)))).lookup d = some q →
      Den fn M (.v d) q := fun q hq => by
    obtain ⟨h1, h2⟩ := lookup_states (initOf M.st) M.st.odeDef d q hq
    exact Den.state h1 h2
  rcases hf : freeVar M with _ | t
  · rw [hf] at h; exact hstates q h
  · rw [hf] at h
    dsimp only at h
    rw [lookup_insertKey] at h
    by_cases hdt : d = t
    · subst hdt
      simp only [if_true, Option.some.injEq] at h
      subst h
      have hok := W.freeOk
      simp only [freeOkB, hf, Bool.and_eq_true, Bool.not_eq_true', Option.isNone_iff_eq_none] at hok
      exact Den.free hok.1 hok.2 hf
    · rw [if_neg hdt] at h; exact hstates q h

def GoodAnswer (fn : Interp) (M : RModel) (v : Nat) : Except VErr Rat → Prop :=
  Good (Den fn M (.v v)) (∀ q, ¬ Den fn M (.v v) q)

theorem GoodAnswer.ok_iff {v : Nat} {a : Except VErr Rat} (h : GoodAnswer fn M v a) (q : Rat) :
    a = .ok q ↔ Den fn M (.v v) q := by
  cases a with
  | error err => exact ⟨nofun, fun hd => absurd hd (h.2 q)⟩
  | ok q' => exact ⟨fun e => Except.ok.inj e ▸ h, fun hd => by rw [den_unique h hd]⟩

theorem getValueFuel_good (fn : Interp) (W : WF M) (F : Nat) (hF : M.st.live.length < F) (v : Nat) :
    GoodAnswer fn M v (getValueFuel fn M F v) := by
  obtain ⟨rank, hr⟩ := W.acyclic
  have R := ranked_of_wf W hr
  have hm := fun n => measure_le (M := M) rank ((freeVar M).getD 0) n
  have h := getValueAux_good fn R F (fun s t _ => Nat.lt_of_le_of_lt (hm _) hF) F v (memo0 M) (memo0_ok W)
    (Nat.lt_of_le_of_lt (hm _) hF)
  unfold getValueFuel
  rcases hg : getValueAux fn M F F v (memo0 M) with err | ⟨q, memo'⟩
  · rw [hg] at h; exact h
  · rw [hg] at h; exact h.1

end Model
