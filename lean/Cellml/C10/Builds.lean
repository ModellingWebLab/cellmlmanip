import Cellml.C10.Order

/-! # C10: `Model.graph` builds for a well-formed model whose left-hand sides print differently

    So `get_derivatives` / `get_derived_quantities` return (rather than raise) there. The hypothesis on the printed
    left-hand sides is the second sanity assertion of `graph` (`len(set(str(x) for x in graph.nodes))`): a variable may
    legally be *named* `Derivative(_x, _t)`. Core Lean only. -/

namespace Model

theorem allDistinct_of_nodup {α} [DecidableEq α] : ∀ (l : List α), l.Nodup → allDistinct l = true
  | [], _ => rfl
  | x :: xs, h => by
    have h' := List.nodup_cons.mp h
    simp only [allDistinct, Bool.and_eq_true, Bool.not_eq_true', List.contains_eq_mem, decide_eq_false_iff_not]
    exact ⟨h'.1, allDistinct_of_nodup xs h'.2⟩

theorem lhsNodes_some : ∀ (eqs : List Eqn), (∀ e ∈ eqs, e.lhs ≠ .other) →
    ∃ ns, lhsNodes eqs = some ns ∧ ns.map (·.node) = eqs.filterMap (fun e => lhsNode e.lhs)
  | [], _ => ⟨[], rfl, rfl⟩
  | e :: es, h => by
    obtain ⟨ns, h1, h2⟩ := lhsNodes_some es (fun x hx => h x (List.mem_cons_of_mem _ hx))
    have he := h e (List.mem_cons_self ..)
    cases hl : e.lhs with
    | other => exact absurd hl he
    | var v =>
      refine ⟨⟨.var v, some e, none⟩ :: ns, by simp [lhsNodes, hl, lhsNode, h1], ?_⟩
      simp [hl, lhsNode, h2]
    | deriv s t o =>
      refine ⟨⟨.deriv s t, some e, none⟩ :: ns, by simp [lhsNodes, hl, lhsNode, h1], ?_⟩
      simp [hl, lhsNode, h2]

theorem lhs_nodes_nodup : ∀ (eqs : List Eqn), (eqs.filterMap defKey).Nodup → (∀ e ∈ eqs, e.lhs ≠ .other) →
    (eqs.filterMap (fun e => lhsNode e.lhs)).Nodup
  | [], _, _ => List.nodup_nil
  | e :: es, hn, hl => by
    have he := hl e (List.mem_cons_self ..)
    have key_of_node : ∀ (x : Eqn) (n : Node), lhsNode x.lhs = some n → lhsNode e.lhs = some n → defKey x = defKey e := by
      -- `defKey` is a function of `lhsNode`, which forgets only the order of a derivative
      have hk : ∀ y : Eqn, defKey y = (lhsNode y.lhs).map fun | .var v => v | .deriv s _ => s := fun y => by
        unfold defKey; cases y.lhs <;> rfl
      intro x n h1 h2
      rw [hk, hk, h1, h2]
    cases hk : defKey e with
    | none =>
      -- only `.other` has no key, and `he` excludes it
      cases hle : e.lhs <;> simp_all [defKey]
    | some k =>
      rw [List.filterMap_cons, hk] at hn
      have hn' := List.nodup_cons.mp hn
      have ih := lhs_nodes_nodup es hn'.2 (fun x hx => hl x (List.mem_cons_of_mem _ hx))
      rcases hnode : lhsNode e.lhs with _ | n
      · rw [List.filterMap_cons, hnode]; exact ih
      · rw [List.filterMap_cons, hnode]
        refine List.nodup_cons.mpr ⟨fun hmem => ?_, ih⟩
        obtain ⟨x, hx, hxn⟩ := List.mem_filterMap.mp hmem
        have := key_of_node x n hxn hnode
        exact hn'.1 (List.mem_filterMap.mpr ⟨x, hx, by rw [this, hk]⟩)

theorem addAllEdges_ok {eqs : List Eqn} : ∀ (es : List Eqn) (g : Graph), (∀ e ∈ es, e ∈ eqs) →
    (∀ e' ∈ eqs, ∀ n, lhsNode e'.lhs = some n → hasNode g n = true) →
    (∀ e ∈ es, (lhsNode e.lhs).isSome = true ∧
      ∀ r ∈ e.refs, (∃ e' ∈ eqs, lhsNode e'.lhs = some r) ∨ bareRef (typeMap eqs) r) →
    ∃ g', addAllEdges (typeMap eqs) g es = .ok g'
  | [], g, _, _, _ => ⟨g, rfl⟩
  | e :: es, g, hsub, hlhs, hok => by
    obtain ⟨hsome, hrefs⟩ := hok e (List.mem_cons_self ..)
    obtain ⟨l, hl⟩ := Option.isSome_iff_exists.mp hsome
    have hnobad : e.refs.filter (badRef (typeMap eqs) g) = [] := by
      rw [List.filter_eq_nil_iff]
      intro r hr
      rcases hrefs r hr with ⟨e', he', hn⟩ | ⟨v, rfl, hv⟩
      · simp [badRef, hlhs e' he' r hn]
      · rcases hv with hv | hv <;> simp [badRef, hv]
    have h1 : ∃ g1, addEdges (typeMap eqs) g e = .ok g1 := by
      unfold addEdges
      rw [hl]
      simp only [hnobad, List.isEmpty_nil, Bool.not_true, Bool.false_eq_true, if_false]
      cases e.lhs <;> exact ⟨_, rfl⟩
    obtain ⟨g1, hg1⟩ := h1
    have e1 := ext_addEdges (hsub e (List.mem_cons_self ..)) hg1
    obtain ⟨g', hg'⟩ := addAllEdges_ok es g1 (fun x hx => hsub x (List.mem_cons_of_mem _ hx))
      (fun e' he' n hn => e1.has (hlhs e' he' n hn)) (fun x hx => hok x (List.mem_cons_of_mem _ hx))
    exact ⟨g', by simp only [addAllEdges, hg1]; exact hg'⟩

variable {M : RModel}

theorem ref_ok (W : WF M) {e : Eqn} (he : e ∈ M.st.equations) {r : Node} (hr : r ∈ e.refs) :
    (∃ e' ∈ M.st.equations, lhsNode e'.lhs = some r) ∨ bareRef (typeMap M.st.equations) r := by
  have hd := W.closed e he r hr
  cases r with
  | deriv s t =>
    simp only [definedRef] at hd
    obtain ⟨x, hx⟩ := Option.isSome_iff_exists.mp hd
    obtain ⟨e', he', hl', _⟩ := odeRhs_spec W.inv.eq hx
    exact .inl ⟨e', he', hl'⟩
  | var v =>
    simp only [definedRef, Bool.or_eq_true, beq_iff_eq] at hd
    by_cases hdef : (varRhs M v).isSome = true
    · obtain ⟨x, hx⟩ := Option.isSome_iff_exists.mp hdef
      obtain ⟨e', he', hl', _⟩ := varRhs_spec W.inv.eq hx
      exact .inl ⟨e', he', by rw [hl']; rfl⟩
    · right
      rcases hd with (hs | hd) | hf
      · obtain ⟨e', he', t, o, hl'⟩ := (isState_iff W.inv.eq v).mp hs
        exact ⟨v, rfl, tyOf_state_or_free he' hl' (.inl rfl)⟩
      · exact absurd hd hdef
      · obtain ⟨e', he', s, o, hl'⟩ := (freeVar_iff W).mp hf
        exact ⟨v, rfl, tyOf_state_or_free he' hl' (.inr rfl)⟩

theorem graph_builds (W : WF M)
    (hstr : ((M.st.equations.filterMap (fun e => lhsNode e.lhs)).map (nodeStr (names M.st))).Nodup) :
    ∃ g, (queryGraph M.st).2 = .ok g := by
  rw [queryGraph_snd W.inv.cache]
  obtain ⟨ns, hns, hnodes⟩ := lhsNodes_some M.st.equations W.inv.eq.lhsOk
  have hd1 : allDistinct (ns.map (·.node)) = true := by
    rw [hnodes]; exact allDistinct_of_nodup _ (lhs_nodes_nodup _ W.inv.eq.nodup W.inv.eq.lhsOk)
  have hd2 : allDistinct (ns.map (fun n => nodeStr (names M.st) n.node)) = true := by
    have : ns.map (fun n => nodeStr (names M.st) n.node) = (ns.map (·.node)).map (nodeStr (names M.st)) := by
      rw [List.map_map]; rfl
    rw [this, hnodes]; exact allDistinct_of_nodup _ hstr
  unfold buildGraph
  simp only [hns, hd1, hd2, Bool.not_true, Bool.false_eq_true, if_false]
  rw [lhsNodes_spec (typeMap M.st.equations) M.st.equations ns hns]
  exact addAllEdges_ok M.st.equations _ (fun _ h => h) (fun e' he' n hn => hasNode_lhsGNodes _ _ _ he' hn)
    (fun e he => ⟨by
      cases hl : e.lhs with
      | other => exact absurd hl (W.inv.eq.lhsOk e he)
      | var v => rfl
      | deriv s t o => rfl, fun r hr => ref_ok W he hr⟩)

end Model
