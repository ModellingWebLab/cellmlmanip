import Cellml.Basic.Assoc

/-! # Prelude of the code translator (harness/translate_code.py)

    The generated definitions (`Cellml/Generated/Code/*.lean`) are `do` blocks in `Except PyErr`. This file holds the few
    python notions the translator's generic rules refer to: the exception value (class name only: messages are not
    behaviour the properties speak about), truthiness in condition positions, `%`-formatting, `in`, `is`, the fuelled
    `while`, dicts as association lists, and `errClass`, which forgets the message of a model-side error. After them,
    the lemmas every package's tie proofs use: `Except` and `errClass` inverted, a `for` loop over a list as a fold or a
    `mapM`, lookup after `d[k] = v`. Core Lean only (`Basic/Assoc.lean` is too). -/

namespace Cellml.Tie

/-- a raised python exception, identified by the name of its class. Views and closures also answer class strings that no
    python exception has (`"outside: …"`, `"<outside the model>"`, `"unmodelled"`, `"unreachable"`, `"FuelExhausted"`,
    `"MeasureViolation"`, `"NonTermination"`) where the model says nothing or a cut-off was reached: a theorem that
    concludes `.ok` or a python class has excluded them; a theorem about rejection has to exclude them by name. -/
structure PyErr where
  cls : String
deriving DecidableEq, Repr

namespace Py

/-- python truthiness, for the types that occur in condition positions of the translated functions -/
class Truthy (α : Type) where
  truthy : α → Bool

export Truthy (truthy)

instance : Truthy Bool := ⟨id⟩
instance {α} : Truthy (Option α) := ⟨Option.isSome⟩
instance {α} : Truthy (List α) := ⟨fun l => !l.isEmpty⟩
instance : Truthy String := ⟨fun s => !(s == "")⟩
instance : Truthy Nat := ⟨fun n => !(n == 0)⟩
instance : Truthy Int := ⟨fun n => !(n == 0)⟩

@[simp] theorem truthy_bool (b : Bool) : truthy b = b := rfl
@[simp] theorem truthy_option {α} (o : Option α) : truthy o = o.isSome := rfl
@[simp] theorem truthy_list {α} (l : List α) : truthy l = !l.isEmpty := rfl
@[simp] theorem truthy_nat (n : Nat) : truthy n = !(n == 0) := rfl

/-- python `fmt % (a, b, …)` restricted to `%s` / `%d` place-holders over arguments that are already strings:
    the i-th place-holder is replaced by the i-th argument; `%%` is a literal percent sign -/
def fmtAux : List Char → List String → List Char
  | [], _ => []
  | '%' :: '%' :: cs, args => '%' :: fmtAux cs args
  | '%' :: 's' :: cs, a :: args => a.toList ++ fmtAux cs args
  | '%' :: 'd' :: cs, a :: args => a.toList ++ fmtAux cs args
  | c :: cs, args => c :: fmtAux cs args

def fmt (f : String) (args : List String) : String := String.ofList (fmtAux f.toList args)

/-- python `x in xs` for lists -/
def isIn {α} [BEq α] (x : α) (xs : List α) : Bool := xs.contains x

/-- `while test(s): s = body(s)` cut off after at most `n` iterations (the state reached is returned; the tie theorems
    say for which `n` the test is false at the end, i.e. the python loop has really finished). With the spec key
    `while_fuel` given as a list the translator writes `Cellml.Tie.PCmeta.Py.whileFuel` (`Tie/PyM.lean`) instead, which
    raises `FuelExhausted`. -/
def whileUpTo {σ : Type} (n : Nat) (test : σ → Bool) (body : σ → Except PyErr σ) (s : σ) : Except PyErr σ :=
  match n with
  | 0 => .ok s
  | n + 1 => if test s then (body s) >>= whileUpTo n test body else .ok s

/-- python `a is b` for objects that are represented by their identity -/
def is_ {α} [BEq α] (a b : α) : Bool := a == b

/-- `d[k] = v` on an insertion-ordered dict kept as an association list: in place when the key exists, at the end
    otherwise -/
def setAssoc {κ ν} [DecidableEq κ] (k : κ) (v : ν) : List (κ × ν) → List (κ × ν)
  | [] => [(k, v)]
  | (k', v') :: rest => if k' = k then (k, v) :: rest else (k', v') :: setAssoc k v rest

/-- dict-like objects: `x in d` looks at the keys (`Py.isIn x (Py.keys d)`), `d[k] = v` is `Py.setItem d k v` -/
class DictLike (δ : Type) (κ : outParam Type) (ν : outParam Type) where
  keys : δ → List κ
  setItem : δ → κ → ν → δ

export DictLike (keys setItem)

instance {κ ν} [DecidableEq κ] : DictLike (List (κ × ν)) κ ν := ⟨fun d => d.map (·.1), fun d k v => setAssoc k v d⟩

/-- `{}` -/
def emptyDict {κ ν} : List (κ × ν) := []

/-- `{k: v for x in xs}` from the list of its (key, value) pairs in iteration order -/
def dictOf {κ ν} [DecidableEq κ] (l : List (κ × ν)) : List (κ × ν) := l.foldl (fun d p => setAssoc p.1 p.2 d) []

end Py

/-- forget the message of a model-side error: only the class is compared -/
def errClass {ε α} (cls : ε → String) : Except ε α → Except PyErr α
  | .ok a => .ok a
  | .error e => .error ⟨cls e⟩

theorem _root_.Except.ok_bind {ε α β} (a : α) (f : α → Except ε β) : (Except.ok a >>= f) = f a := rfl
theorem _root_.Except.bind_ok {ε α β} (a : α) (f : α → Except ε β) : (Except.ok a : Except ε α).bind f = f a := rfl

theorem _root_.Except.map_eq_ok {ε α β} {x : Except ε α} {f : α → β} {b : β} : x.map f = .ok b ↔ ∃ a, x = .ok a ∧ f a = b := by
  cases x <;> simp [Except.map]

theorem _root_.Except.bind_eq_ok {ε α β} {x : Except ε α} {f : α → Except ε β} {b : β} :
    x.bind f = .ok b ↔ ∃ a, x = .ok a ∧ f a = .ok b := by
  cases x <;> simp [Except.bind]

theorem errClass_eq_ok {ε α} (cls : ε → String) (x : Except ε α) (a : α) : errClass cls x = .ok a ↔ x = .ok a := by
  cases x <;> simp [errClass]

theorem errClass_eq_error {ε α} (cls : ε → String) (x : Except ε α) (e : PyErr) :
    errClass cls x = .error e ↔ ∃ e', x = .error e' ∧ e = ⟨cls e'⟩ := by
  cases x <;> simp [errClass, eq_comm]

theorem _root_.List.forIn_congr_mem {m : Type → Type} [Monad m] {α σ : Type} {f g : α → σ → m (ForInStep σ)} :
    ∀ (l : List α) (s : σ), (∀ x ∈ l, ∀ s, f x s = g x s) → forIn l s f = forIn l s g :=
  fun l s h => List.forIn'_congr (f := fun a _ b => f a b) (g := fun a _ b => g a b) rfl rfl fun a m b => h a m b

/-- a python `for` loop whose body neither breaks nor returns is a fold that stops at the first exception -/
theorem _root_.List.forIn_eq_foldlM_of_yield {ε α σ : Type} (step : σ → α → Except ε σ)
    (body : α → σ → Except ε (ForInStep σ)) :
    ∀ (l : List α) (s : σ), (∀ a ∈ l, ∀ s, body a s = (step s a).map ForInStep.yield) →
      forIn l s body = l.foldlM step s :=
  fun l s h => (List.forIn_congr_mem l s h).trans
    ((List.forIn_yield_eq_foldlM (fun a b => step b a) (fun _ _ c => c) s).trans (by simp))

/-- … and when the body cannot raise either, a plain fold -/
theorem _root_.List.forIn_eq_foldl_of_yield {ε α σ : Type} (step : σ → α → σ) (body : α → σ → Except ε (ForInStep σ)) :
    ∀ (l : List α) (s : σ), (∀ a ∈ l, ∀ s, body a s = .ok (.yield (step s a))) →
      forIn l s body = .ok (l.foldl step s) :=
  fun l s h => (List.forIn_congr_mem l s h).trans (List.forIn_pure_yield_eq_foldl (fun a s => step s a) s)

theorem _root_.List.forIn_noop {ε α σ : Type} (f : α → σ → Except ε (ForInStep σ)) (s : σ) :
    ∀ (l : List α), (∀ a ∈ l, f a s = .ok (.yield s)) → forIn l s f = .ok s
  | [], _ => rfl
  | a :: l, h => by
    rw [List.forIn_cons, h a List.mem_cons_self]
    exact List.forIn_noop f s l fun a ha => h a (List.mem_cons_of_mem _ ha)

/-- a python loop `for x in l: acc.append(f(x))` is `mapM f` (first exception wins) -/
theorem _root_.List.forIn_append_eq_mapM {ε α β : Type} (f : α → Except ε β)
    (body : α → List β → Except ε (ForInStep (List β))) :
    ∀ (l : List α) (acc : List β), (∀ a ∈ l, ∀ s, body a s = (f a).map fun v => .yield (s ++ [v])) →
      forIn l acc body = (l.mapM f).map (acc ++ ·)
  | [], acc, _ => by simp [pure, Except.pure, Except.map]
  | a :: l, acc, h => by
    rw [List.forIn_cons, h a List.mem_cons_self, List.mapM_cons]
    cases f a with
    | error e => rfl
    | ok v =>
      have ih := List.forIn_append_eq_mapM f body l (acc ++ [v]) fun b hb => h b (List.mem_cons_of_mem _ hb)
      simp only [Except.map, bind, Except.bind, ih, pure, Except.pure]
      cases l.mapM f <;> simp

theorem _root_.List.mapM_congr_mem {ε α β : Type} {f g : α → Except ε β} :
    ∀ (l : List α), (∀ a ∈ l, f a = g a) → l.mapM f = l.mapM g
  | [], _ => rfl
  | a :: l, h => by
    rw [List.mapM_cons, List.mapM_cons, h a List.mem_cons_self,
      List.mapM_congr_mem l fun b hb => h b (List.mem_cons_of_mem _ hb)]

theorem errClass_mapM {ε α β : Type} (cls : ε → String) (f : α → Except ε β) :
    ∀ l : List α, l.mapM (fun a => errClass cls (f a)) = errClass cls (l.mapM f)
  | [] => rfl
  | a :: l => by
    rw [List.mapM_cons, List.mapM_cons, errClass_mapM cls f l]
    cases f a with
    | error e => rfl
    | ok b => cases l.mapM f <;> rfl

theorem Py.lookup_setAssoc {κ ν} [DecidableEq κ] (k : κ) (v : ν) (k' : κ) (l : List (κ × ν)) :
    (Py.setAssoc k v l).lookup k' = if k' = k then some v else l.lookup k' :=
  List.lookup_ins (ins := Py.setAssoc k v) rfl (fun _ _ _ => rfl) k' l

/-- `d[k] = v` for a key that is not in the dict appends the item -/
theorem Py.setAssoc_fresh {κ ν} [DecidableEq κ] (k : κ) (v : ν) (l : List (κ × ν)) (h : k ∉ l.map (·.1)) :
    Py.setAssoc k v l = l ++ [(k, v)] :=
  List.ins_fresh (ins := Py.setAssoc k v) rfl (fun _ _ _ => rfl) l h

theorem Py.dictOf_foldl {κ ν} [DecidableEq κ] (l : List (κ × ν)) : ∀ (acc : List (κ × ν)),
    (l.map (·.1)).Nodup → (∀ k ∈ l.map (·.1), k ∉ acc.map (·.1)) →
    l.foldl (fun d p => Py.setAssoc p.1 p.2 d) acc = acc ++ l := by
  induction l with
  | nil => intro acc _ _; simp
  | cons p rest ih =>
    intro acc hnd hdis
    simp only [List.map_cons, List.nodup_cons] at hnd
    simp only [List.foldl_cons]
    rw [Py.setAssoc_fresh _ _ _ (hdis p.1 (by simp)), ih _ hnd.2]
    · simp
    · intro k hk
      simp only [List.map_append, List.map_cons, List.map_nil, List.mem_append, List.mem_singleton, not_or]
      exact ⟨hdis k (by simp [hk]), fun hh => hnd.1 (hh ▸ hk)⟩

theorem Py.dictOf_nodup {κ ν} [DecidableEq κ] (l : List (κ × ν)) (h : (l.map (·.1)).Nodup) : Py.dictOf l = l := by
  unfold Py.dictOf
  rw [Py.dictOf_foldl l [] h (by simp)]
  rfl

end Cellml.Tie
