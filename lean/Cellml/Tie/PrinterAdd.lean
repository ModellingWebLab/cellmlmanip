import Cellml.Generated.Code.PrinterAdd
import Cellml.Tie.Printer

/-! # Tie: `Printer._print_Add` (generated from the source) = `C11.addDoc` (the `add` case of `C11.pr`)

    python peels the sign off the printed TEXT of a term (`t.startswith('-')`, `t[1:]`); the model peels it off the
    layout tree (`startsMinus`, `peelLeft`). The two agree (`MinusOK`) on trees whose leftmost token is no name starting
    with `-` (`signOK`, which the closing induction uses; `atomsOK` asks it of every atom and function name); on `Add(y, Symbol('-x'), evaluate=False)` the code prints `y - x`, the model
    `y + -x`. -/


namespace Cellml.Tie.PPrinter
open C11 Cellml.Gen

/-- the text of the tree starts with `-` exactly when the tree does, and then `t[1:]` is the text of the peeled tree -/
def MinusOK (d : Doc) : Prop :=
  headMinus (flatten d) = startsMinus d ∧ (startsMinus d = true → flatten (peelLeft d) = tailStr (flatten d))

def addSign (i : Item) : String := if headMinus (flatten i.doc) then "-" else "+"

def addPiece (i : Item) : String :=
  let t := if headMinus (flatten i.doc) then tailStr (flatten i.doc) else flatten i.doc
  if prec i.e < 40 then "(" ++ t ++ ")" else t

def addTail : List Item → String
  | [] => ""
  | i :: r => " " ++ addSign i ++ " " ++ addPiece i ++ addTail r

/-- what one iteration of the loop appends to `parts` -/
def addG (print : E → Except PyErr String) (parts : List String) (term : E) : List String :=
  match print term with
  | .ok t =>
    parts ++ [if headMinus t then "-" else "+"] ++
      [if prec term < 40 then "(" ++ (if headMinus t then tailStr t else t) ++ ")"
       else (if headMinus t then tailStr t else t)]
  | .error _ => parts

theorem addG_fold (print : E → Except PyErr String) (items : List Item)
    (h : ∀ i ∈ items, print i.e = .ok (flatten i.doc)) (parts : List String) :
    (items.map (·.e)).foldl (addG print) parts = parts ++ items.flatMap (fun i => [addSign i, addPiece i]) := by
  induction items generalizing parts with
  | nil => simp
  | cons i r ih =>
    rw [List.map_cons, List.foldl_cons, ih (fun j hj => h j (by simp [hj]))]
    simp [addG, h i (by simp), addSign, addPiece, List.append_assoc]

theorem intercalate_addTail (x : String) (r : List Item) :
    String.intercalate " " (x :: r.flatMap (fun i => [addSign i, addPiece i])) = x ++ addTail r := by
  induction r generalizing x with
  | nil => simp [addTail]
  | cons i r ih =>
    simp only [List.flatMap_cons, List.cons_append, List.nil_append, String.intercalate_cons_cons, ih, addTail,
      String.append_assoc]

theorem flatten_addTerm (i : Item) (hm : MinusOK i.doc) :
    flatten (if decide (prec i.e < 40) = true
        then Doc.paren (if startsMinus i.doc = true then peelLeft i.doc else i.doc)
        else (if startsMinus i.doc = true then peelLeft i.doc else i.doc)) = addPiece i := by
  obtain ⟨h1, h2⟩ := hm
  unfold addPiece
  cases hs : startsMinus i.doc
  · simp [h1, hs]; split_ifs <;> simp [flatten]
  · simp [h1, hs]; split_ifs <;> simp [flatten, h2 hs]

theorem addSign_eq (i : Item) (hm : MinusOK i.doc) : addSign i = if startsMinus i.doc then "-" else "+" := by
  simp [addSign, hm.1]

theorem flatten_addFold (r : List Item) (hm : ∀ i ∈ r, MinusOK i.doc) (a : Doc) :
    flatten ((r.foldl addStep (some a)).getD .nil) = flatten a ++ addTail r := by
  induction r generalizing a with
  | nil => simp [addTail]
  | cons i r ih =>
    rw [List.foldl_cons]
    simp only [addStep]
    rw [ih (fun j hj => hm j (by simp [hj])), flatten_spliceSum, flatten_addTerm i (hm i (by simp)), addTail,
      addSign_eq i (hm i (by simp))]
    cases startsMinus i.doc <;> simp [String.append_assoc]

/-- **`Printer._print_Add` = `C11.addDoc`** (the `add` case of `C11.pr`), for a sum with at least one term (SymPy never
    builds an empty `Add`; python would raise IndexError, the model answers `unsup`) -/
theorem printAdd_tie (print : E → Except PyErr String) (args : E) (i : Item) (r : List Item)
    (ha : elems args = (i :: r).map (·.e)) (h : ∀ j ∈ i :: r, print j.e = .ok (flatten j.doc))
    (hm : ∀ j ∈ i :: r, MinusOK j.doc) :
    PrinterAdd.printAdd print (.add args) = .ok (flatten (addDoc (i :: r))) := by
  unfold PrinterAdd.printAdd
  have hp : prec (.add args) = 40 := rfl
  simp only [argsOf, ha, hp, bind]
  rw [List.forIn_eq_foldl_of_yield (addG print)]
  · rw [addG_fold print (i :: r) h]
    simp only [except_run, List.nil_append, List.flatMap_cons, List.cons_append, idx0, List.drop_succ_cons,
      List.drop_zero, intercalate_addTail, str_add]
    unfold addDoc
    rw [List.foldl_cons]
    have hi := hm i (by simp)
    have e1 : addStep none i = some (if startsMinus i.doc = true
        then (if decide (prec i.e < 40) = true then Doc.neg (Doc.paren (peelLeft i.doc)) else i.doc)
        else (if decide (prec i.e < 40) = true then Doc.paren i.doc else i.doc)) := by
      simp only [addStep]; cases startsMinus i.doc <;> simp <;> split_ifs <;> rfl
    rw [e1, flatten_addFold r (fun j hj => hm j (by simp [hj]))]
    have hpiece := flatten_addTerm i hi
    rw [addSign_eq i hi]
    cases hs : startsMinus i.doc
    · simp only [hs, Bool.false_eq_true, if_false] at hpiece ⊢
      simp [← hpiece]
    · simp only [hs, if_true] at hpiece ⊢
      have hne : ("-" == "+") = false := by decide
      simp only [hne, Bool.false_eq_true, if_false, ← hpiece]
      by_cases hb : prec i.e < 40
      · simp [hb, flatten, String.append_assoc]
      · simp only [hb, decide_false, Bool.false_eq_true, if_false]
        rw [hi.2 hs, ← String.append_assoc, minus_tail _ (by rw [hi.1, hs])]
  · intro x hx s
    obtain ⟨j, hj, rfl⟩ := List.mem_map.mp hx
    simp only [h j hj, addG, except_run, Py.truthy_bool, str_add]
    split_ifs <;> simp_all

/-- no atom and no function name starts with `-` -/
def atomsOK : Doc → Bool
  | .atom s => !headMinus s
  | .call f args => !headMinus f && atomsOK args
  | .neg d | .paren d => atomsOK d
  | .bin _ a b | .cmp _ a b | .and a b | .or a b | .cons a b => atomsOK a && atomsOK b
  | .ite a b c => atomsOK a && atomsOK b && atomsOK c
  | .nil => true

theorem headMinus_append (s t : String) :
    headMinus (s ++ t) = if s.toList = [] then headMinus t else headMinus s := by
  unfold headMinus
  rw [String.toList_append]
  cases h : s.toList with
  | nil => simp
  | cons c cs =>
    by_cases hc : c = '-'
    · subst hc; simp
    · simp only [List.cons_append, reduceCtorEq, if_false]
      split <;> split <;> simp_all

theorem tailStr_append (s t : String) (h : s.toList ≠ []) : tailStr (s ++ t) = tailStr s ++ t := by
  unfold tailStr
  apply String.toList_injective
  cases hs : s.toList with
  | nil => exact absurd hs h
  | cons c cs => simp [hs]

theorem headMinus_nonempty (s : String) (h : headMinus s = true) : s.toList ≠ [] := by
  intro e; simp [headMinus, e] at h

theorem minusOK_prefix (a : Doc) (rest : String) (ha : MinusOK a) (hr : headMinus rest = false) :
    headMinus (flatten a ++ rest) = startsMinus a ∧
      (startsMinus a = true → flatten (peelLeft a) ++ rest = tailStr (flatten a ++ rest)) := by
  obtain ⟨h1, h2⟩ := ha
  constructor
  · rw [headMinus_append]
    split_ifs with he
    · rw [hr, ← h1]; simp [headMinus, he]
    · exact h1
  · intro hs
    rw [tailStr_append _ _ (headMinus_nonempty _ (by rw [h1, hs])), h2 hs]

end Cellml.Tie.PPrinter

namespace Cellml.Tie.PPrinter2
open C11 Cellml.Tie.PPrinter

/-- the leftmost token of the text is not a name starting with `-` -/
def signOK : Doc → Bool
  | .atom s => !headMinus s
  | .call f _ => !headMinus f
  | .neg _ | .paren _ | .nil => true
  | .bin _ a _ | .cmp _ a _ | .and a _ | .or a _ | .ite a _ _ | .cons a _ => signOK a

theorem minusOK_of_signOK (d : Doc) (h : signOK d = true) : MinusOK d := by
  induction d with
  | atom s => simp only [signOK, Bool.not_eq_true'] at h; exact ⟨by simp [flatten, startsMinus, h], by simp [startsMinus]⟩
  | call f args ih =>
    simp only [signOK, Bool.not_eq_true'] at h
    refine ⟨?_, by simp [startsMinus]⟩
    simp only [flatten, startsMinus, String.append_assoc]
    rw [headMinus_append]; split_ifs
    · rw [headMinus_append]; simp; rfl
    · exact h
  | neg d ih =>
    refine ⟨by simp [flatten, startsMinus, headMinus_append]; rfl, fun _ => ?_⟩
    simp only [flatten, peelLeft, tailStr]
    apply String.toList_injective; simp
  | paren d ih => exact ⟨by simp [flatten, startsMinus, String.append_assoc, headMinus_append]; rfl, by simp [startsMinus]⟩
  | nil => exact ⟨by simp [flatten, startsMinus]; rfl, by simp [startsMinus]⟩
  | bin op a b iha ihb =>
    simp only [signOK] at h
    have := minusOK_prefix a (op.text ++ flatten b) (iha h) (by cases op <;> simp [Bop.text, headMinus_append] <;> rfl)
    simpa [flatten, startsMinus, peelLeft, MinusOK, String.append_assoc] using this
  | cmp r a b iha ihb =>
    simp only [signOK] at h
    have := minusOK_prefix a (" " ++ r.text ++ " " ++ flatten b) (iha h) (by simp [String.append_assoc, headMinus_append]; rfl)
    simpa [flatten, startsMinus, peelLeft, MinusOK, String.append_assoc] using this
  | and a b iha ihb =>
    simp only [signOK] at h
    have := minusOK_prefix a (" and " ++ flatten b) (iha h) (by simp [headMinus_append]; rfl)
    simpa [flatten, startsMinus, peelLeft, MinusOK, String.append_assoc] using this
  | or a b iha ihb =>
    simp only [signOK] at h
    have := minusOK_prefix a (" or " ++ flatten b) (iha h) (by simp [headMinus_append]; rfl)
    simpa [flatten, startsMinus, peelLeft, MinusOK, String.append_assoc] using this
  | ite a b c iha ihb ihc =>
    simp only [signOK] at h
    have := minusOK_prefix a (" if " ++ flatten b ++ " else " ++ flatten c) (iha h)
      (by simp [String.append_assoc, headMinus_append]; rfl)
    simpa [flatten, startsMinus, peelLeft, MinusOK, String.append_assoc] using this
  | cons a t iha iht =>
    simp only [signOK] at h
    by_cases ht : t = .nil
    · subst ht
      have := iha h
      simpa [flatten, startsMinus, peelLeft, MinusOK] using this
    · have := minusOK_prefix a (", " ++ flatten t) (iha h) (by simp [headMinus_append]; rfl)
      have e1 : flatten (.cons a t) = flatten a ++ ", " ++ flatten t := by
        cases t <;> first | exact absurd rfl ht | rfl
      have e2 : flatten (.cons (peelLeft a) t) = flatten (peelLeft a) ++ ", " ++ flatten t := by
        cases t <;> first | exact absurd rfl ht | rfl
      simpa [e1, e2, startsMinus, peelLeft, MinusOK, String.append_assoc] using this

end Cellml.Tie.PPrinter2

namespace Cellml.Tie.PPrinter
open C11 Cellml.Tie.PPrinter2

theorem signOK_of_atomsOK (d : Doc) (h : atomsOK d = true) : signOK d = true := by
  induction d with
  | atom s => exact h
  | call f args => simp only [atomsOK, Bool.and_eq_true] at h; exact h.1
  | neg d | paren d | nil => rfl
  | bin _ a b iha | cmp _ a b iha | and a b iha | or a b iha | cons a b iha =>
    simp only [atomsOK, Bool.and_eq_true] at h; exact iha h.1
  | ite a b c iha => simp only [atomsOK, Bool.and_eq_true] at h; exact iha h.1.1

theorem minusOK_of_atomsOK (d : Doc) (h : atomsOK d = true) : MinusOK d :=
  minusOK_of_signOK d (signOK_of_atomsOK d h)

end Cellml.Tie.PPrinter
