import Cellml.Tie.PrinterAdd

/-! # The per-method ties, instantiated with the model's own recursion `C11.pr`

    `C11.pr` hands a parent the printed children as `(pr args).items`. The theorems below instantiate the `items` of
    the per-method ties with them: if `print` returns the model's text for every child, the generated method returns
    the model's text `flatten (pr parent).doc` for the parent — one step of the induction over the expression, for
    every node class except `Mul` (`printMul_tie` in Tie/PrinterMul2.lean). `printPiecewise_pr` asks for the text of every
    pair; the closing induction knows it only up to the first `True` condition and takes `printPiecewise_tie` itself. -/

namespace Cellml.Tie.PPrinter
open C11 Cellml.Gen

def properList : E → Bool
  | .nil => true
  | .cons _ t => properList t
  | _ => false

theorem pr_items (args : E) (h : properList args = true) :
    (pr args).items.map (·.e) = elems args ∧
    (∀ i ∈ (pr args).items, i.doc = (pr i.e).doc ∧ i.base = (pr i.e).base) ∧
    (pr args).doc = docOfItems (pr args).items := by
  induction args with
  | nil => simp [pr, okDoc, elems, docOfItems]
  | cons hd tl _ iht =>
    have := iht (by simpa [properList] using h)
    refine ⟨by simp [pr, elems, this.1], ?_, by simp [pr, docOfItems, this.2.2]⟩
    intro i hi
    simp only [pr, List.mem_cons] at hi
    rcases hi with rfl | hi
    · simp
    · exact this.2.1 i hi
  | _ => simp [properList] at h

theorem printed_items (print : E → Except PyErr String) (args : E) (hl : properList args = true)
    (h : ∀ x ∈ elems args, print x = .ok (flatten (pr x).doc)) :
    ∀ i ∈ (pr args).items, print i.e = .ok (flatten i.doc) := by
  intro i hi
  obtain ⟨h1, h2, _⟩ := pr_items args hl
  rw [(h2 i hi).1]
  exact h i.e (by rw [← h1]; exact List.mem_map_of_mem hi)

theorem printAnd_pr (print : E → Except PyErr String) (args : E) (hl : properList args = true)
    (h : ∀ x ∈ elems args, print x = .ok (flatten (pr x).doc)) :
    Printer.printAnd print (.and args) = .ok (flatten (pr (.and args)).doc) := by
  rw [printAnd_tie print args (pr args).items (pr_items args hl).1.symm (printed_items print args hl h)]; rfl

theorem printOr_pr (print : E → Except PyErr String) (args : E) (hl : properList args = true)
    (h : ∀ x ∈ elems args, print x = .ok (flatten (pr x).doc)) :
    Printer.printOr print (.or args) = .ok (flatten (pr (.or args)).doc) := by
  rw [printOr_tie print args (pr args).items (pr_items args hl).1.symm (printed_items print args hl h)]; rfl

theorem printFunction_pr (print : E → Except PyErr String) (name : String) (args : E) (hl : properList args = true)
    (h : ∀ x ∈ elems args, print x = .ok (flatten (pr x).doc)) :
    Printer.printFunction print (.fn name args) =
      if (fnName name).isSome then .ok (flatten (pr (.fn name args)).doc) else .error ⟨"ValueError"⟩ := by
  rw [printFunction_tie print name args (pr args).items (pr_items args hl).1.symm (printed_items print args hl h)]
  cases hf : fnName name <;> simp [pr, hf, (pr_items args hl).2.2]

theorem printPow_pr (print : E → Except PyErr String) (b x : E)
    (hb : print b = .ok (flatten (pr b).doc)) (hx : print x = .ok (flatten (pr x).doc)) :
    Printer.printPow print (.pow b x) = .ok (flatten (pr (.pow b x)).doc) :=
  printPow_tie print b x _ _ hb hx

theorem printRelational_pr (print : E → Except PyErr String) (r : Rel) (a b : E)
    (ha : print a = .ok (flatten (pr a).doc)) (hb : print b = .ok (flatten (pr b).doc)) :
    Printer.printRelational print (.rel r a b) = .ok (flatten (pr (.rel r a b)).doc) :=
  printRelational_tie print r a b _ _ ha hb

theorem pwPrinted_items (print : E → Except PyErr String) (items : List Item)
    (h : ∀ i ∈ items, ∃ v c, i.e = .pair v c ∧ print v = .ok (flatten i.doc) ∧ print c = .ok (flatten i.base)) :
    PwPrinted print items := by
  induction items with
  | nil => trivial
  | cons i r ih =>
    obtain ⟨v, c, he, hv, hc⟩ := h i (by simp)
    refine ⟨v, c, he, hv, ?_⟩
    cases ht : isTrue c
    · exact Or.inr ⟨rfl, hc, ih (fun j hj => h j (by simp [hj]))⟩
    · exact Or.inl rfl

theorem printPiecewise_pr (print : E → Except PyErr String) (pairs : E) (hl : properList pairs = true)
    (h : ∀ x ∈ elems pairs, ∃ v c, x = .pair v c ∧ print v = .ok (flatten (pr v).doc) ∧
      print c = .ok (flatten (pr c).doc)) :
    Printer.printPiecewise print (.pw pairs) = .ok (flatten (pr (.pw pairs)).doc) := by
  obtain ⟨h1, h2, _⟩ := pr_items pairs hl
  rw [printPiecewise_tie print pairs (pr pairs).items h1.symm]
  · simp [pr]
  · apply pwPrinted_items
    intro i hi
    obtain ⟨v, c, he, hv, hc⟩ := h i.e (by rw [← h1]; exact List.mem_map_of_mem hi)
    refine ⟨v, c, he, ?_, ?_⟩
    · rw [(h2 i hi).1, he]; simpa [pr] using hv
    · rw [(h2 i hi).2, he]; simpa [pr] using hc

/-- `_print_Add`, with the sign condition as `MinusOK`; a sum with at least one term, as in `printAdd_tie` -/
theorem printAdd_pr' (print : E → Except PyErr String) (hd tl : E) (hl : properList tl = true)
    (h : ∀ x ∈ elems (.cons hd tl), print x = .ok (flatten (pr x).doc))
    (hm : ∀ x ∈ elems (.cons hd tl), MinusOK (pr x).doc) :
    PrinterAdd.printAdd print (.add (.cons hd tl)) = .ok (flatten (pr (.add (.cons hd tl))).doc) := by
  have hl' : properList (.cons hd tl) = true := by simpa [properList] using hl
  obtain ⟨h1, h2, _⟩ := pr_items (.cons hd tl) hl'
  rw [cons_items] at h1 h2
  rw [printAdd_tie print (.cons hd tl) _ (pr tl).items h1.symm]
  · simp [pr, mk]
  · intro j hj
    rw [(h2 j hj).1]
    exact h j.e (by rw [← h1]; exact List.mem_map_of_mem hj)
  · intro j hj
    rw [(h2 j hj).1]
    exact hm j.e (by rw [← h1]; exact List.mem_map_of_mem hj)

/-- `_print_Add`, given that the children's trees have no atom starting with `-` -/
theorem printAdd_pr (print : E → Except PyErr String) (hd tl : E) (hl : properList tl = true)
    (h : ∀ x ∈ elems (.cons hd tl), print x = .ok (flatten (pr x).doc))
    (hm : ∀ x ∈ elems (.cons hd tl), atomsOK (pr x).doc = true) :
    PrinterAdd.printAdd print (.add (.cons hd tl)) = .ok (flatten (pr (.add (.cons hd tl))).doc) :=
  printAdd_pr' print hd tl hl h (fun x hx => minusOK_of_atomsOK _ (hm x hx))

end Cellml.Tie.PPrinter
