import Cellml.Tie.RolesQueries
import Cellml.Tie.RolesValue
import Cellml.Tie.RolesClosed

/-! # Tie of package Roles (C10): model.py role queries and `get_value` (generated from the source) = `Model/Roles.lean`

    The role queries are tied in `RolesQueries.lean`, one level of `_get_value` / `expand_derivatives` and `get_value` in
    `RolesValue.lean`; `RolesClosed.lean` closes the two recursions over the generated bodies. -/
