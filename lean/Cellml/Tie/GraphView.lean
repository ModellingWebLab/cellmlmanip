import Cellml.Tie.Prelude
import Cellml.C09.Model

/-! # What the translated functions `Model.get_equations_for`, `Model.graph_with_sympy_numbers`, `Model.graph`
    (cellmlmanip/model.py) see of the model, in terms of the hand-written model `Cellml/C09/Model.lean`

    The pattern tables of `harness/code_specs/graph*.py` bind each python leaf (a networkx call, a sympy call, an
    attribute of a `Variable`) to one of the accessors below. Core Lean only. -/

namespace Cellml.Tie.PGraph
open C09

/-! ## Exception classes

    The hand model `C09.Err` is coarser than python's exception classes in two places: a request that is not a node
    is `NetworkXError` from `nx.ancestors` but `KeyError` from `graph.pred[…]` (one model error `notInGraph`); a reference that is neither a node nor a state / free variable is
    `AssertionError` (`assert False`), or `AttributeError` when it is a derivative (`Derivative` has no `.type`): one
    model error `badRef` (the C09 model numbers variables and derivatives alike). -/

/-- the python exception class of a `C09.Err` raised inside `get_equations_for`; `recurse` decides the class of
    `notInGraph` only, so the ties of `Model.graph` (`assertion` / `badRef` only) write `errName true` where any value
    would do. -/
def errName (recurse : Bool) : Err → String
  | .assertion => "AssertionError"
  | .badRef => "AssertionError"
  | .notInGraph => if recurse then "NetworkXError" else "KeyError"
  | .unfeasible => "NetworkXUnfeasible"

/-! ## networkx leaves -/

/-- `nx.ancestors(graph, v)`: `NetworkXError` when `v` is not a node -/
def nxAncestors (g : Graph) (v : Node) : Except PyErr (List Node) :=
  if v ∈ g.nodes then .ok (ancestors g v) else .error ⟨"NetworkXError"⟩

/-- `graph.pred[v]`: `KeyError` when `v` is not a node -/
def nxPred (g : Graph) (v : Node) : Except PyErr (List Node) :=
  if v ∈ g.nodes then .ok (preds g v) else .error ⟨"KeyError"⟩

/-- `nx.lexicographical_topological_sort(graph, key=…)`: a GENERATOR, so the value is the suspended computation; it is
    run where the `for` loop iterates over it (`NetworkXUnfeasible` is raised from inside the iteration) -/
def nxLexTopo (key : Node → String) (g : Graph) : Except PyErr (List Node) :=
  match lexTopo key g with
  | .ok l => .ok l
  | .error _ => .error ⟨"NetworkXUnfeasible"⟩

/-- `graph.in_edges(v)` (as a tuple: a snapshot) -/
def nxInEdges (g : Graph) (v : Node) : List Edge := g.edges.filter (·.2 == v)

/-- `graph.remove_edge(u, v)` -/
def nxRemoveEdge (g : Graph) (u v : Node) : Graph := ⟨g.nodes, g.edges.filter (fun e => !(e == (u, v)))⟩

/-! ## `Model.get_equations_for` -/

/-- `Model` as seen by `get_equations_for` -/
structure EqsView where
  /-- `self.graph` (a property: building may raise) -/
  graph : Except PyErr Graph
  /-- `self.graph_with_sympy_numbers` -/
  graphNum : Except PyErr Graph
  /-- `str` (the sort key handed to networkx) -/
  key : Node → String
  /-- `graph.nodes[v]['equation']` (`None` for a state / free variable without equation). In the graph with sympy
      numbers the attribute holds the rewritten equation: same left-hand side, which is all the model returns. -/
  equationOf : Node → Option Eqn

def eqsView (key : Node → String) (eqs : List Eqn) (recurse : Bool) : EqsView where
  graph := errClass (errName recurse) (buildGraph key eqs)
  graphNum := errClass (errName recurse) ((buildGraph key eqs).map (stripGraph eqs))
  key := key
  equationOf := eqnOf eqs

/-! ## `Model.graph_with_sympy_numbers` -/

/-- the value of an attribute / variable that python knows is not `None` at that point (`equation` after
    `if equation is None: continue`) -/
def theEqn (o : Option Eqn) : Eqn := o.getD ⟨0, [], [], none, false⟩

@[simp] theorem theEqn_some (e : Eqn) : theEqn (some e) = e := rfl

/-- the cached graph after `if self._graph_with_sympy_numbers is not None` -/
def theGraph (o : Option Graph) : Graph := o.getD ⟨[], []⟩

@[simp] theorem theGraph_some (g : Graph) : theGraph (some g) = g := rfl

/-- `Model` as seen by `graph_with_sympy_numbers`. The `Quantity` objects of a right-hand side are numbered (`Nat`). -/
structure NumView where
  /-- `self.graph.copy()` (building may raise) -/
  graph : Except PyErr Graph
  /-- `graph.nodes[v]['equation']` -/
  equationOf : Node → Option Eqn
  /-- `equation.rhs.atoms(Quantity)` (sympy) -/
  dummies : Eqn → List Nat
  /-- `equation.rhs.xreplace({d: d.evalf(FLOAT_PRECISION) …})` (sympy): the substituted right-hand side, identified by
      the equation it came from -/
  xreplace : Eqn → List Nat → Eqn
  /-- `self.find_variables_and_derivatives([rhs])` of a substituted right-hand side: the model's input `refsNum` -/
  refsOfRhs : Eqn → List Node

/-- the `Quantity` atoms of a right-hand side, as far as the code asks: only the truthiness of the dict built from them
    (`if subs_dict:`), which is the model's input `Eqn.hasQ` = `bool(equation.rhs.atoms(Quantity))` -/
def quantityAtoms (e : Eqn) : List Nat := if e.hasQ then [0] else []

@[simp] theorem quantityAtoms_isEmpty (e : Eqn) : (quantityAtoms e).isEmpty = !e.hasQ := by
  unfold quantityAtoms; cases e.hasQ <;> rfl

def numView (eqs : List Eqn) (gr : Except PyErr Graph) : NumView where
  graph := gr
  equationOf := eqnOf eqs
  dummies := quantityAtoms
  xreplace e _ := e
  refsOfRhs e := e.refsNum

/-! ## `Model.graph` -/

/-- `VariableType` (the members `Model.graph` writes) -/
inductive VT | state | free | parameter | computed
deriving DecidableEq, Repr

/-- the `type` attributes of the `Variable` objects: an association list, most recent write first; a variable that
    was never written has whatever an earlier build left (`none` on a fresh model) -/
abbrev TyMap := List (Node × Option VT)

/-- `v.type = t` -/
def tySet (ty : TyMap) (v : Node) (t : Option VT) : TyMap := (v, t) :: ty

/-- `v.type` -/
def tyGet (ty : TyMap) (v : Node) : Option VT := (ty.lookup v).join

/-- insertion into a python dict / set used as an ordered collection of keys: an existing key keeps its place. It
    is `C09.addNode` (`addNew_eq_addNode`). -/
def Py.addNew {α} [DecidableEq α] (l : List α) (x : α) : List α := if x ∈ l then l else l ++ [x]

/-- the python builtin `sorted(xs, key=str)` (`key` = `str` of an element): a STABLE sort, spelled as the insertion
    sort it is equivalent to — an element goes behind the elements that came before it unless its key is strictly
    smaller. Strings compare by code point in Python as in Lean. A python builtin, so it is spelled out here and read
    against python alone; that the model's `C09.sortStr` is the same function is `sortedByStr_eq`. -/
def Py.sortedByStr (key : Node → String) : List Node → List Node
  | [] => []
  | x :: xs => ins x (Py.sortedByStr key xs)
where
  ins (x : Node) : List Node → List Node
    | [] => [x]
    | y :: ys => if key y < key x then y :: ins x ys else x :: y :: ys

theorem Py.sortedByStr_eq (key : Node → String) (l : List Node) : Py.sortedByStr key l = sortStr key l := by
  induction l with
  | nil => rfl
  | cons x xs ih =>
    simp only [Py.sortedByStr, sortStr, ih]
    generalize sortStr key xs = ys
    induction ys with
    | nil => rfl
    | cons y ys ih2 => simp only [Py.sortedByStr.ins, insertStr, ih2]

/-- `len(set(xs))` -/
def Py.distinctCount {α} [DecidableEq α] (xs : List α) : Nat := (xs.foldl Py.addNew []).length

/-- `graph.add_node(v, …)`: the attributes (`equation`, `variable_type`) are not part of `C09.Graph` -/
def nxAddNode (g : Graph) (v : Node) : Graph := ⟨Py.addNew g.nodes v, g.edges⟩

/-- `graph.add_edge(u, v)` between existing nodes (the model keeps repeated insertions; its theorems are about the
    edge SET) -/
def nxAddEdge (g : Graph) (u v : Node) : Graph := ⟨g.nodes, g.edges ++ [(u, v)]⟩

/-- `Model` as seen by the `graph` property -/
structure BuildView where
  /-- `self.equations` -/
  equations : List Eqn
  /-- `self._name_to_variable.values()` -/
  variables : List Node
  /-- `equation.atoms(Variable)` (sympy) -/
  atoms : Eqn → List Node
  /-- `self.find_variables_and_derivatives([equation.rhs])`, in set-iteration order (the code sorts it: `Py.sortedByStr`) -/
  refsOf : Eqn → List Node
  /-- `lhs.is_Derivative` -/
  isDerivative : Node → Bool
  /-- `lhs.free_symbols.pop()` of a derivative left-hand side: the state variable -/
  stateOf : Node → Node
  /-- `lhs.variables[0]` of a derivative left-hand side: the free variable -/
  freeOf : Node → Node
  /-- `isinstance(equation.rhs, Quantity)` -/
  rhsIsQuantity : Eqn → Bool
  /-- `str` -/
  key : Node → String

/-- the ODE (state, free variable) of the equation whose left-hand side is `n`, if that is a derivative -/
def odeOfNode (eqs : List Eqn) (n : Node) : Option (Node × Node) := (eqnOf eqs n).bind (·.ode)

/-- `vars` (the model's variables) and `rq` (which right-hand sides are a bare `Quantity`) are free parameters: the
    graph does not depend on them. `atoms` must cover the references (sympy: the variables found by
    `find_variables_and_derivatives([rhs])` are atoms of the equation). In the C09 model a reference that is not a
    left-hand side is a variable (an undefined derivative on a right-hand side - python: `AttributeError` at `.type` -
    is not distinguished from an undefined variable). -/
def buildView (key : Node → String) (eqs : List Eqn) (vars : List Node) (rq : Eqn → Bool) : BuildView where
  equations := eqs
  variables := vars
  atoms e := (match e.ode with | some (s, f) => [s, f] | none => [e.lhs]) ++ e.refs
  refsOf e := e.refs
  isDerivative n := (odeOfNode eqs n).isSome
  stateOf n := ((odeOfNode eqs n).getD (0, 0)).1
  freeOf n := ((odeOfNode eqs n).getD (0, 0)).2
  rhsIsQuantity := rq
  key := key

end Cellml.Tie.PGraph
