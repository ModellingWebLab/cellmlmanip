import Cellml.Tie.Prelude
import Cellml.Units.Rules
import Cellml.Iso.Namespace
import Cellml.Tie.ExceptRun

/-! # What the translated methods of `cellmlmanip.units.UnitStore` see of the store, of pint and of sympy

    The generated code (`Cellml/Generated/Code/Units.lean`, `UnitsInit.lean`) refers to python attribute paths and to
    calls into pint (`self._registry.define(..)`, `quantity.to(unit)`, `self._registry.get_base_units(u)` …). The pattern
    tables of `harness/code_specs/units.py` / `unitsinit.py` bind each of those LEAVES to one of the accessors below,
    which are written in terms of the hand-written mini-pint (`Units.Core`, `Units.Define`, `Units.Rules`) and of
    `Iso.strip`. Everything the python methods themselves decide (guards, their order, comparisons, constants, which
    argument goes where, which branch defines what) is not here: it comes from the source text. Core Lean only. -/

namespace Cellml.Tie.PUnits
open Units

/-- python `str + str` is concatenation (the generic rule of the translator writes `+`); an instance is global
    whatever the namespace, and four other tie views declare the same one -/
instance : Add String := ⟨fun a b => a ++ b⟩
@[simp] theorem str_add (a b : String) : a + b = a ++ b := rfl

/-- python `str(x)` -/
class PyStr (α : Type) where
  str : α → String

instance : PyStr Nat := ⟨toString⟩
instance : PyStr String := ⟨id⟩

/-! ### pint objects -/

/-- a pint `Unit`: its `UnitsContainer`. pint keeps containers normalised, so `==` on units is semantic equality of
    the name ↦ exponent maps (`PMap.beq`), not equality of association lists. -/
structure UnitObj where
  c : Container
deriving Repr, DecidableEq

instance : BEq UnitObj := ⟨fun a b => PMap.beq a.c b.c⟩
theorem unitObj_beq (a b : UnitObj) : (a == b) = PMap.beq a.c b.c := rfl

/-- a magnitude: a positive number (prime-exponent map) times opaque symbols with exponents. A python float and a
    `sympy.Number` are both (scale, no symbols): the exact model does not distinguish them. -/
structure MagObj where
  scale : Scale
  syms  : Syms
deriving Repr, DecidableEq

def MagObj.one : MagObj := ⟨[], []⟩
/-- `m * n` on magnitudes -/
instance : Mul MagObj := ⟨fun a b => ⟨PMap.add a.scale b.scale, PMap.add a.syms b.syms⟩⟩
/-- `1 / m` -/
def magInv (m : MagObj) : MagObj := ⟨PMap.norm (PMap.neg m.scale), PMap.norm (PMap.neg m.syms)⟩

/-- a pint `Quantity` -/
structure QuantityObj where
  magnitude : MagObj
  units     : UnitObj
deriving Repr, DecidableEq

/-- `1 * unit` -/
def unitQuantity (u : UnitObj) : QuantityObj := ⟨MagObj.one, u⟩

/-- the pint `UnitRegistry` object of a store: the definitions, and the transformations of the enabled contexts -/
structure RegObj where
  defs  : Registry
  rules : List Rule
deriving Repr, DecidableEq

/-- `registry.dimensionless` -/
def RegObj.dimensionless (_ : RegObj) : UnitObj := ⟨[]⟩

/-- `registry.Unit(name)`: pint resolves an alias to its canonical name; `dimensionless` is the empty container.
    (pint raises for a name that is not in the registry; the callers only pass names of `_known_units`.) -/
def pintUnit (_ : RegObj) (q : String) : UnitObj := ⟨nameContainer q⟩

/-- `registry.get_base_units(unit)` : (factor, root units) -/
def pintBaseUnits (r : RegObj) (u : UnitObj) : Scale × UnitObj :=
  ((toRoot r.defs u.c).1, ⟨(toRoot r.defs u.c).2⟩)

/-- `unit.dimensionality` (canonical form: pint compares normalised containers) -/
def pintDims (r : RegObj) (u : UnitObj) : Dims := dimsOf r.defs u.c

/-- the class of a pint failure -/
def uErrClass : UErr → String
  | .dimensionality => "DimensionalityError"
  | .undefinedUnit => "UndefinedUnitError"
  | .valueError => "ValueError"
  | .other _ => "Exception"

/-- `quantity.to(unit)` with the contexts enabled in the registry -/
def pintTo (r : RegObj) (q : QuantityObj) (u : UnitObj) : Except PyErr QuantityObj :=
  match convertWithRules r.defs r.rules q.units.c u.c with
  | .ok (f, y) => .ok ⟨q.magnitude * ⟨f, y⟩, u⟩
  | .error e => .error ⟨uErrClass e⟩

/-- `math.isclose(x, y)` on two positive numbers (exact model: equal) -/
def scaleClose (a b : Scale) : Bool := PMap.beq a b

/-! ### `get_conversion_factor`: what python asks about the magnitude -/

/-- `isinstance(cf, sympy.Number)` / `isinstance(cf, numbers.Number)`: no symbols left -/
def isNumber (m : MagObj) : Bool := decide (m.syms = [])
/-- `float(cf)` of a number: the same number -/
def pyFloat (m : MagObj) : MagObj := m
/-- `math.isclose(cf, 1.0)` for a number (exact model: is one; a scale is a prime-exponent map, one is the empty map) -/
def isCloseOne (m : MagObj) : Bool := decide (m.scale = [])
/-- `isinstance(cf, sympy.Mul)`: a product with symbols -/
def isSympyMul (m : MagObj) : Bool := !decide (m.syms = [])
/-- `1.0 in cf.args`: the numeric coefficient of the product is the float one -/
def hasFloatOneArg (m : MagObj) : Bool := decide (m.scale = [])
/-- `sympy.Mul(*[a for a in cf.args if a != 1.0])`: the same value without the factor `1.0` -/
def dropFloatOneArgs (m : MagObj) : MagObj := m

/-- what `get_conversion_factor` returns: the int `1`, or a magnitude -/
inductive CFObj where
  | one
  | mag (m : MagObj)
deriving Repr, DecidableEq

instance : OfNat CFObj 1 := ⟨.one⟩
instance : Coe MagObj CFObj := ⟨.mag⟩

/-- the hand model's encoding (`none` = the int `1`) -/
def CFObj.toModel : CFObj → Option (Scale × Syms)
  | .one => none
  | .mag m => some (m.scale, m.syms)

/-! ### unit definitions -/

/-- The definition string that `Parser._make_pint_unit_definition` builds, seen as its abstract syntax (a product of
    `<unit>` elements; the hand model `Units.addUnit` takes the same), together with the substitution `_WORD.sub` has
    applied to the unit names in it. -/
structure PExpr where
  elems : List UnitElem
  sub   : String → String := id

/-- `_WORD.sub(f, expression)`: every word of the text is replaced by `f word` (`Units.wordSubst` is the scan) -/
def wordSub (f : String → String) (e : PExpr) : PExpr := { e with sub := fun n => wordSubst f (e.sub n) }

/-- `Units.elemMeaning` / `Units.defMeaning` with the name substitution as a parameter: the same text as in
    `Units/Define.lean`, to be edited in step with it (`elemMeaningG_mangle` is `rfl` between the two) -/
def elemMeaningG (g : String → String) (e : UnitElem) : Except DefErr (Scale × Container × Bool) := do
  let c0 := nameContainer (g e.units)
  let s0 : Scale ← match e.pfx with
    | none => pure []
    | some p => match prefixPower p with
        | some k => pure (pow10 k)
        | none => throw (.badNumber ("prefix " ++ p))
  let ex : Rat ← match e.exponent with
    | none => pure 1
    | some t => match Decimal.parse t with
        | some q => pure q
        | none => throw (.badNumber ("exponent " ++ t))
  let m : Scale ← match e.multiplier with
    | none => pure []
    | some t => match Decimal.parse t with
        | some q => match Factor.rat q with
            | some s => pure s
            | none => throw (.unsupported ("multiplier " ++ t))
        | none => throw (.badNumber ("multiplier " ++ t))
  match e.offset with
  | some o => if offsetRejected o then throw .offset
  | none => pure ()
  pure (PMap.add m (PMap.smul ex s0), PMap.smul ex c0, e.units == "dimensionless")

def defMeaningG (g : String → String) : List UnitElem → Except DefErr (Scale × Container × Bool)
  | [] => pure ([], [], false)
  | e :: es => do
      let (s, c, d) ← elemMeaningG g e
      let (s', c', d') ← defMeaningG g es
      pure (PMap.add s s', PMap.add c c', d || d')

/-- `registry.parse_expression(text)`: the quantity the text denotes (number, normalised units). pint evaluates EVERY
    name of the text, so it raises `UndefinedUnitError` for a name that is not in the registry even where the name
    ends up with exponent zero (`c` is the un-normalised product: every name mentioned, `dimensionless` excepted). -/
def pintParse (r : RegObj) (e : PExpr) : Except PyErr QuantityObj :=
  match defMeaningG e.sub e.elems with
  | .error _ => .error ⟨"DefinitionSyntaxError"⟩
  | .ok (k, c, _) =>
    if !allKnown r.defs c then .error ⟨"UndefinedUnitError"⟩
    else .ok ⟨⟨PMap.norm k, []⟩, ⟨PMap.norm c⟩⟩

/-- what `registry.define` accepts -/
inductive PDefinition where
  /-- `UnitDefinition(name, '', (), ScaleConverter(m))`: a scaled dimensionless unit -/
  | scaled (name : String) (m : MagObj)
  /-- the string `name + '=' + expression` -/
  | eqn (name : String) (e : PExpr)
  /-- the string `name + '=[' + dim + ']'`: a new base unit with its own dimension -/
  | base (name : String) (dim : String)

/-- `registry.define(definition)`: the new definition goes in front (newest first) -/
def pintDefine (r : RegObj) : PDefinition → Except PyErr RegObj
  | .scaled q m => .ok { r with defs := (q, .derived m.scale []) :: r.defs }
  | .eqn q e =>
    match defMeaningG e.sub e.elems with
    | .error _ => .error ⟨"DefinitionSyntaxError"⟩
    | .ok (k, c, _) => .ok { r with defs := (q, .derived (PMap.norm k) (PMap.norm c)) :: r.defs }
  | .base q d => .ok { r with defs := (q, .base (some ("[" ++ d ++ "]"))) :: r.defs }

/-- the exception class behind the hand model's `AddErr` (as `Units.Wire.addErrSexp` prints it) -/
def addErrClass : AddErr → String
  | .valueError _ => "ValueError"
  | .undefinedUnit => "UndefinedUnitError"
  | .badDefinition _ => "BadDefinition"
  | .unsupported _ => "unsupported"

/-- `set.add(x)` on a set kept as a list, newest first -/
def setAdd (s : List String) (x : String) : List String := x :: s

/-! ### text of units (`format`) -/

/-- `str(unit)`: the key of a single named unit, `dimensionless` for the empty container -/
instance : PyStr UnitObj := ⟨fun u =>
  match u.c with
  | [] => "dimensionless"
  | [(k, _)] => k
  | (k, _) :: rest => String.intercalate " * " (k :: rest.map (·.1))⟩
/-- `str(number)`; the digits python prints are outside the model -/
instance : PyStr Scale := ⟨fun s => reprStr s⟩

/-! ### the `UnitStore` object -/

/-- a `UnitStore` as its methods see it -/
structure StoreObj where
  /-- `self._id` -/
  _id : Nat
  /-- `self._prefix` -/
  _prefix : String
  /-- `self._known_units`: a set, kept as a list with the newest name first -/
  _known_units : List String
  /-- `self._registry` (the registry object it points to) -/
  _registry : RegObj

/-- the object of the hand model's store `st` whose registry currently holds `reg` with the transformations `rules` -/
def storeObj (st : Store) (reg : Registry) (rules : List Rule := []) : StoreObj where
  _id := st.id
  _prefix := "store" ++ toString st.id ++ "_"
  _known_units := st.known ++ Cellml.Gen.cellmlUnits
  _registry := ⟨reg, rules⟩

/-! ### the process as `UnitStore.__init__` sees it -/

/-- a `UnitStore` whose registry is a REFERENCE (index into the list of registries of the process):
    `__init__` either creates a registry or shares the one of another store -/
structure StoreRef where
  _id : Nat
  _prefix : String
  _known_units : List String
  /-- index of the registry object -/
  _registry : Nat
deriving Repr, DecidableEq

/-- the store `st` of the process pointing at registry number `ri` -/
def storeRef (p : Store × Nat) : StoreRef where
  _id := p.1.id
  _prefix := "store" ++ toString p.1.id ++ "_"
  _known_units := p.1.known ++ Cellml.Gen.cellmlUnits
  _registry := p.2

/-- `pint.UnitRegistry('…/data/cellml_units.txt')`: a new registry object holding the built-in definitions
    (`Units.builtinRegistry` is computed from the translated table of that file); returns the new heap and the reference -/
def newRegistry (regs : List Registry) : List Registry × Nat := (regs ++ [builtinRegistry], regs.length)

/-- attribute access on the argument `store` (python raises AttributeError on `None`) -/
def derefStore : Option StoreRef → Except PyErr StoreRef
  | some s => .ok s
  | none => .error ⟨"AttributeError"⟩

/-- `set(xs)` of a list of distinct names -/
def pySet (xs : List String) : List String := xs

end Cellml.Tie.PUnits
