import Cellml.Generated.Code.LoaderParse

/-! # Tie: `Parser.parse` (generated from the source: the order of the stages, the refusal of `<units>` inside a
    component) = `C17.loadFull` (hand model of the whole loader), the stages being those of the hand model -/

namespace Cellml.Tie
open Load Cellml.Gen

/-- the generated `parse` over the stages of the hand model with THREE of them replaced: `_add_units` by a stage that
    raises the class `cls` where the work list fails, `_add_maths` and `transform_constants` by two stages that together
    give the model's flat model (or its exception) on every state `_add_connections` can leave. The one walk through the
    stages of `C17.loadFull`. -/
theorem parse_stages (fd : C17.FaultDoc) (us : Option Unit) (cls : Units.AddErr → String)
    (U : C17.FaultDoc → ParseState → Except PyErr ParseState) (M T : ParseState → Except PyErr ParseState)
    (hU : ∀ st, U fd st = match Units.addUnits 0 fd.udefs with
      | .error e => .error ⟨cls e⟩
      | .ok u => .ok { st with units := some u })
    (hMT : ∀ (reg : Registry) (ust : Units.Store) (par : ParentMap) (dl : List (VRef × VRef)) (cst : CState)
      (acc : List VRef × List String), checkComps ust fd.doc.comps [] ([], fd.doc.cmeta.toList) = .ok acc →
      ∀ st : ParseState, st.loaded = some ⟨reg, ust, varTable ust fd.doc.comps, par, dl, cst⟩ → st.defined = none →
      (M st >>= T).map (·.flat) = ((parseView fd).addMaths st >>= (parseView fd).transformConstants).map (·.flat)) :
    (LoaderParse.parse { parseView fd with addUnits := U, addMaths := M, transformConstants := T } us {}).map (·.flat) =
      match C17.loadFull fd with
      | .error e => .error ⟨if C17.schemaVars fd.doc && fd.compUnits.isEmpty then
          match Units.addUnits 0 fd.udefs with
          | .error ue => cls ue
          | .ok _ => C17.className e
        else C17.className e⟩
      | .ok F => .ok (some F) := by
  unfold LoaderParse.parse C17.loadFull
  simp only [parseView, bind, Except.bind, throw, throwThe, MonadExceptOf.throw, stageErr, hU] at hMT ⊢
  by_cases hs : C17.schemaVars fd.doc = true
  · simp only [hs, Bool.not_true, Bool.false_eq_true, if_false, Bool.true_and]
    cases hcu : fd.compUnits with
    | cons a l => simp [Except.map, C17.className, Err.className]
    | nil =>
      simp only [List.length_nil, bne_self_eq_false, Bool.false_eq_true, if_false, List.isEmpty_nil, Bool.not_true,
        if_true]
      cases hadd : Units.addUnits 0 fd.udefs with
      | error e => simp [Except.map]
      | ok u =>
        obtain ⟨reg, ust⟩ := u
        simp only []
        cases hr : C17.reactionErr ust fd with
        | some e => simp [Except.map]
        | none =>
          simp only [C17.prepareFrom]
          cases hc : checkComps ust fd.doc.comps [] ([], fd.doc.cmeta.toList) with
          | error e => simp [Except.map]
          | ok acc =>
            simp only []
            cases hbp : buildParents (fd.doc.comps.map (·.name)) fd.doc.encaps [] [] with
            | error e => simp [Except.map]
            | ok par =>
              simp only []
              cases hd : directAll (fd.doc.comps.map (·.name)) par (varTable ust fd.doc.comps) fd.doc.conns with
              | error e => simp [Except.map]
              | ok dl =>
                simp only []
                cases hcn : connect reg (varTable ust fd.doc.comps) dl with
                | error e => simp [Except.map]
                | ok cst =>
                  simp only []
                  rw [hMT reg ust par dl cst acc hc _ rfl rfl]
                  simp only []
                  cases hbe : fd.badEqs.head? with
                  | some b => simp [Except.map]
                  | none =>
                    simp only [C17.finishFrom]
                    cases hm : checkMaths ust (varTable ust fd.doc.comps) cst fd.doc.comps
                        (cst.convs.map (·.target)) with
                    | error e => simp [Except.map]
                    | ok defined =>
                      simp only []
                      cases hk : checkConstants
                          (Loaded.states ⟨reg, ust, varTable ust fd.doc.comps, par, dl, cst⟩ fd.doc) defined
                          (varTable ust fd.doc.comps) with
                      | error e => simp [Except.map]
                      | ok u => simp [Except.map]
  · simp [hs, Except.map, C17.className, Err.className]
/-- **`Parser.parse`**: for every document, running the generated `parse` over the stages of the hand model
    (`parseView fd`: each stage is the model function the per-stage ties are about) gives the outcome of
    `C17.loadFull fd`: the same finished flat model, or the same exception class — i.e. the model runs its stages in
    the order of the source, and the first stage to raise is the same. -/
theorem parse_tie (fd : C17.FaultDoc) (us : Option Unit) :
    (LoaderParse.parse (parseView fd) us {}).map (·.flat) =
      match C17.loadFull fd with
      | .error e => .error ⟨C17.className e⟩
      | .ok F => .ok (some F) := by
  refine (parse_stages fd us (fun e => C17.className (C17.unitErr e)) _ _ _ (fun _ => rfl)
    (fun _ _ _ _ _ _ _ _ _ _ => rfl)).trans ?_
  -- where the unit stage raises, `loadFull`'s error is `unitErr` of it
  unfold C17.loadFull
  by_cases hs : C17.schemaVars fd.doc = true
  · cases hcu : fd.compUnits with
    | cons a l => simp [hs]
    | nil => cases hadd : Units.addUnits 0 fd.udefs <;> simp [hs]
  · simp [hs]

end Cellml.Tie
