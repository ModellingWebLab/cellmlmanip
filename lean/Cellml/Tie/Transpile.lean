import Cellml.Generated.Code.Transpile
import Cellml.C02.Lemmas
import Cellml.Basic.ListLemmas
import Cellml.Tie.ExceptRun
import Mathlib.Tactic.SplitIfs

/-! # Tie: the callbacks and handlers of `cellmlmanip.parser.Transpiler` (generated from the source) = the hand model
    `C02.callWrapped` / `C02.diffCb` / `C02.callRel` / `C02.assemble` / `C02.cnHandler` (the functions `C02.transpile`
    is made of, which the theorems of `Props/C02.lean` are about) and `C14.cnPlain` / `C14.cnENotation`. -/

namespace Cellml.Tie.PTranspile
open C02 Cellml.Gen

theorem isBool_tie (e : Sy) : Transpile.isBool e = .ok (isBoolConst e) := by
  unfold Transpile.isBool isBoolConst pyIsInstance pyClassOf
  cases e <;> simp [pure, Except.pure]
  all_goals split_ifs <;> simp_all

/-! ## the closures of the explicit handlers: python's binding of the operands to the parameters of the `def`
    (`…_params`: required, all, defaults — read from the source), then the generated body -/

theorem wrapped_params :
    Transpile.wrappedMinus_params = (1, 2, ["None"]) ∧ Transpile.wrappedDivide_params = (2, 2, []) ∧
    Transpile.wrappedPower_params = (2, 2, []) ∧ Transpile.wrappedRoot_params = (1, 2, ["None"]) ∧
    Transpile.wrappedLog_params = (1, 2, ["None"]) ∧ Transpile.wrappedDiff_params = (2, 3, ["False"]) :=
  ⟨rfl, rfl, rfl, rfl, rfl, rfl⟩

theorem wrappedMinus_tie (l : List Sy) :
    syE (callWrapped "_minus_handler" (Sy.ofList l)) =
      match l with
      | [a] => Transpile.wrappedMinus a none
      | [a, b] => Transpile.wrappedMinus a (some b)
      | _ => .error ⟨"TypeError"⟩ := by
  rw [callWrapped_minus]
  match l with
  | [] => rfl
  | [a] => rfl
  | [a, b] => rfl
  | _ :: _ :: _ :: _ => rfl

theorem wrappedDivide_tie (l : List Sy) :
    syE (callWrapped "_divide_handler" (Sy.ofList l)) =
      match l with
      | [a, b] => Transpile.wrappedDivide a b
      | _ => .error ⟨"TypeError"⟩ := by
  rw [callWrapped_divide]
  match l with
  | [] => rfl
  | [a] => rfl
  | [a, b] => rfl
  | _ :: _ :: _ :: _ => rfl

theorem wrappedPower_tie (l : List Sy) :
    syE (callWrapped "_power_handler" (Sy.ofList l)) =
      match l with
      | [a, b] => Transpile.wrappedPower a b
      | _ => .error ⟨"TypeError"⟩ := by
  rw [callWrapped_power]
  match l with
  | [] => rfl
  | [a] => rfl
  | [a, b] => rfl
  | _ :: _ :: _ :: _ => rfl

theorem wrappedRoot_tie (l : List Sy) :
    syE (callWrapped "_root_handler" (Sy.ofList l)) =
      match l with
      | [a] => Transpile.wrappedRoot a none
      | [a, b] => Transpile.wrappedRoot a (some b)
      | _ => .error ⟨"TypeError"⟩ := by
  rw [callWrapped_root]
  match l with
  | [] => rfl
  | [a] => rfl
  | [a, b] => rfl
  | _ :: _ :: _ :: _ => rfl

theorem wrappedLog_tie (l : List Sy) :
    syE (callWrapped "_log_handler" (Sy.ofList l)) =
      match l with
      | [a] => Transpile.wrappedLog a none
      | [a, b] => Transpile.wrappedLog a (some b)
      | _ => .error ⟨"TypeError"⟩ := by
  rw [callWrapped_log]
  match l with
  | [] => rfl
  | [a] => rfl
  | [a, b] => rfl
  | _ :: _ :: _ :: _ => rfl

theorem chain2 (xs : Sy) (h : (properChain xs && xs.len == 2) = true) : ∃ v d, xs = .cons v (.cons d .nil) := by
  cases xs <;> simp [properChain, Sy.len] at h
  rename_i a t
  cases t <;> simp [properChain, Sy.len] at h
  rename_i b t
  cases t <;> simp [properChain, Sy.len] at h
  · exact ⟨a, b, rfl⟩

theorem wrappedDiff_body_tie (x y : Sy) (ev : Option Sy) :
    Transpile.wrappedDiff x y ev = syE (diffCb x y ev) := by
  unfold Transpile.wrappedDiff diffCb
  by_cases hb : (isBoolConst x || isBoolConst y) = true
  · simp only [Bool.or_eq_true] at hb
    rcases hb with hb | hb <;> simp [hb, except_run, syErrName]
  · simp only [Bool.or_eq_true, not_or, Bool.not_eq_true] at hb
    simp only [hb.1, hb.2, Py.truthy_bool, Bool.or_self, Bool.false_eq_true, if_false]
    cases x with
    | pylist xs =>
      by_cases h2 : (properChain xs && xs.len == 2) = true
      · obtain ⟨v, d, rfl⟩ := chain2 xs h2
        simp [pyIsInstance, pyClassOf, properChain, Sy.length, Sy.len, PyItem.item, Sy.toList, bind, Except.bind]
        cases d <;> simp [pyIntOf, sympyDerivativeN, tryCatch, tryCatchThe, MonadExceptOf.tryCatch, Except.tryCatch, errClass, syErrName, throw, throwThe, MonadExceptOf.throw]
      · have hc : (pyIsInstance (Sy.pylist xs) ["list"] && ((Sy.pylist xs).length == 2)) = false := by
          simp only [pyIsInstance, pyClassOf, Sy.length]
          cases hp : properChain xs <;> simp_all
        simp only [hc, Bool.false_eq_true, if_false]
        split
        · rename_i heq
          cases heq
          simp [properChain, Sy.len] at h2
        · simp [sympyDerivative]
    | _ => simp [pyIsInstance, pyClassOf, sympyDerivative, Sy.length]

theorem wrappedDiff_tie (l : List Sy) :
    syE (callWrapped "_diff_handler" (Sy.ofList l)) =
      match l with
      | [x, y] => Transpile.wrappedDiff x y none
      | [x, y, f] => Transpile.wrappedDiff x y (some f)
      | _ => .error ⟨"TypeError"⟩ := by
  rw [callWrapped_diff]
  match l with
  | [] => rfl
  | [a] => rfl
  | [a, b] => exact (wrappedDiff_body_tie a b none).symm
  | [a, b, f] => exact (wrappedDiff_body_tie a b (some f)).symm
  | _ :: _ :: _ :: _ :: _ => rfl

/-! ## `_get_nary_relation_callback` : `_wrapper_relational(*expressions)` = `C02.callRel` -/

theorem ofList_any (p : Sy → Bool) (l : List Sy) : Sy.any p (Sy.ofList l) = l.any p := by
  induction l with
  | nil => rfl
  | cons a r ih => simp [Sy.ofList, Sy.any, ih]

theorem ofList_all (p : Sy → Bool) (l : List Sy) : Sy.all p (Sy.ofList l) = l.all p := by
  induction l with
  | nil => rfl
  | cons a r ih => simp [Sy.ofList, Sy.all, ih]

theorem toList_ofList (l : List Sy) : (Sy.ofList l).toList = l := by
  induction l with
  | nil => rfl
  | cons a r ih => simp [Sy.ofList, Sy.toList, ih]

theorem isDerivative_eq : (fun e => pyIsInstance e ["Derivative"]) = isDerivative := by
  funext e
  cases e <;> simp [pyIsInstance, pyClassOf, isDerivative]
  · split_ifs <;> simp
  · rename_i h _
    by_cases h1 : h = "Derivative" <;> by_cases h2 : h = "DerivativeEval" <;> simp [h1, h2]
  · split_ifs <;> simp

theorem isIneq_eq (c : String) : Py.isIn c ["Ge", "Le", "Gt", "Lt"] = isIneqClass c := by
  simp [Py.isIn, isIneqClass]

theorem isEq_eq (c : String) : Py.isIn c ["Eq", "Ne"] = isEqClass c := by
  simp [Py.isIn, isEqClass]

theorem ite_band {α} (p q : Bool) (x y : α) :
    (if (p && q) = true then x else y) = if p = true then (if q = true then x else y) else y := by
  cases p <;> cases q <;> rfl

theorem wrapperRelational_tie (c : String) (l : List Sy) :
    Transpile.wrapperRelational c l = syE (callRel c (Sy.ofList l)) := by
  unfold Transpile.wrapperRelational callRel
  simp only [bind, pure]
  -- the loop over the adjacent pairs is a `mapM`, and so is the model's `pairs`
  rw [List.forIn_append_eq_mapM (fun p : Sy × Sy => sympyClassCall c [p.1, p.2]) _ _ _ (by
    intro p _ s; cases sympyClassCall c [p.1, p.2] <;> rfl)]
  simp only [sympyClassCall, errClass_mapM, pairs_ofList]
  simp only [Except.bind, Except.pure, throw, throwThe, MonadExceptOf.throw, Py.truthy_bool,
    ofList_len, ofList_any, ofList_all, isIneq_eq, isEq_eq, isDerivative_eq]
  by_cases h2 : l.length > 2
  · simp only [h2, decide_true, if_true]
    generalize List.mapM (m := Except C02.Err) _ (l.dropLast.zip (List.drop 1 l)) = m
    cases m <;> simp [syE, errClass, sympyAndOf, Except.map]
  · simp only [h2, decide_false, Bool.false_eq_true, if_false]
    match l, h2 with
    | [], _ => simp [Sy.ofList, syE, errClass, syErrName]
    | [a], _ =>
      cases h1 : isIneqClass c <;> cases h3 : isBoolConst a <;>
        simp [PyItem.item, h3, Sy.ofList, syE, errClass, syErrName]
    | [a, b], _ =>
      -- both operands exist: the two sides are the same tree of tests
      simp only [PyItem.item, List.getElem?_cons_zero, List.getElem?_cons_succ, List.length_cons, List.length_nil,
        Nat.lt_irrefl, if_false, ite_band _ (List.any _ isDerivative), apply_ite syE]
      rfl
    | _ :: _ :: _ :: _, h => exact absurd (by simp) h
/-- what a container handler does in the model: transpile the children, then `assemble` -/
def modelContainer (m : String) (self : TView) (node : Mml) : Except PyErr Sy :=
  (self.transpile node).bind fun l => syE (assemble m (Sy.ofList l))

theorem applyHandler_tie (self : TView) (node : Mml) :
    Transpile.applyHandler self node = modelContainer "_apply_handler" self node := by
  unfold Transpile.applyHandler modelContainer
  cases self.transpile node with
  | error e => rfl
  | ok l =>
    simp only [Except.bind, assemble_apply]
    match l with
    | [] => rfl
    | [f] => rfl
    | f :: a :: r => rfl

theorem piecewiseHandler_tie (self : TView) (node : Mml) :
    Transpile.piecewiseHandler self node = modelContainer "_piecewise_handler" self node := by
  unfold Transpile.piecewiseHandler modelContainer
  cases self.transpile node <;> rfl

theorem pieceHandler_tie (self : TView) (node : Mml) :
    Transpile.pieceHandler self node = modelContainer "_piece_handler" self node := by
  unfold Transpile.pieceHandler modelContainer
  cases self.transpile node with
  | error e => rfl
  | ok l =>
    simp only [Except.bind, assemble_piece]
    match l with
    | [] => rfl
    | [f] => rfl
    | [f, a] => rfl
    | f :: a :: b :: r => rfl

theorem otherwiseHandler_tie (self : TView) (node : Mml) :
    Transpile.otherwiseHandler self node = modelContainer "_otherwise_handler" self node := by
  unfold Transpile.otherwiseHandler modelContainer
  cases self.transpile node with
  | error e => rfl
  | ok l =>
    simp only [Except.bind, assemble_otherwise]
    match l with
    | [] => rfl
    | [f] => rfl
    | f :: a :: r => rfl

theorem degreeHandler_tie (self : TView) (node : Mml) :
    Transpile.degreeHandler self node = modelContainer "_degree_handler" self node := by
  unfold Transpile.degreeHandler modelContainer
  cases self.transpile node with
  | error e => rfl
  | ok l =>
    simp only [Except.bind, assemble_degree]
    match l with
    | [] => rfl
    | [f] => rfl
    | f :: a :: r => rfl

theorem bvarHandler_tie (self : TView) (node : Mml) :
    Transpile.bvarHandler self node = modelContainer "_bvar_handler" self node := by
  unfold Transpile.bvarHandler modelContainer
  cases self.transpile node with
  | error e => rfl
  | ok l =>
    simp only [Except.bind, assemble_bvar]
    match l with
    | [] => rfl
    | [f] => rfl
    | [f, a] => rfl
    | f :: a :: b :: r => rfl

theorem logbaseHandler_tie (self : TView) (node : Mml) :
    Transpile.logbaseHandler self node = modelContainer "_logbase_handler" self node := by
  unfold Transpile.logbaseHandler modelContainer
  cases self.transpile node with
  | error e => rfl
  | ok l =>
    simp only [Except.bind, assemble_logbase]
    match l with
    | [] => rfl
    | f :: r => rfl


theorem transpile_ofList_proper : ∀ (ks : List Mml) (r : Sy), C02.transpile (Mml.ofList ks) = .ok r →
    Sy.ofList r.toList = r := by
  intro ks r h
  obtain ⟨rs, rfl, _⟩ := transpile_ofList_ok ks r h
  rw [toList_ofList]

theorem container_model (tag m : String) (ks : List Mml) (h : handlerOf tag = some m)
    (h1 : (m == "_simple_operator_handler") = false) (h2 : m ∉ wrappedHandlers) (h3 : (m == "transpile") = false) :
    syE (C02.transpile (.el tag (Mml.ofList ks))) = modelContainer m modelTView (.el tag (Mml.ofList ks)) := by
  simp only [transpile_container _ _ _ h h1 h2 h3, modelContainer, modelTView]
  cases hr : C02.transpile (Mml.ofList ks) with
  | error e => simp [syE, errClass, Except.map, Except.bind]
  | ok r => simp [syE, errClass, Except.map, Except.bind, transpile_ofList_proper ks r hr]

/-- **The container elements.** For every element whose handler (GENERATED table `handlerKeys`) is one of the seven
    container methods and every list of children: the model's `transpile` of the element is the definition generated
    from that method, run on the model's own view (children transpiled left to right by `C02.transpile`). -/
theorem transpile_container_tie (tag m : String) (ks : List Mml) (h : handlerOf tag = some m) :
    let node := Mml.el tag (Mml.ofList ks)
    (m = "_apply_handler" → syE (C02.transpile node) = Transpile.applyHandler modelTView node) ∧
    (m = "_piecewise_handler" → syE (C02.transpile node) = Transpile.piecewiseHandler modelTView node) ∧
    (m = "_piece_handler" → syE (C02.transpile node) = Transpile.pieceHandler modelTView node) ∧
    (m = "_otherwise_handler" → syE (C02.transpile node) = Transpile.otherwiseHandler modelTView node) ∧
    (m = "_degree_handler" → syE (C02.transpile node) = Transpile.degreeHandler modelTView node) ∧
    (m = "_bvar_handler" → syE (C02.transpile node) = Transpile.bvarHandler modelTView node) ∧
    (m = "_logbase_handler" → syE (C02.transpile node) = Transpile.logbaseHandler modelTView node) := by
  intro node
  -- each generated handler is `modelContainer` under its own name; the rest does not depend on the name
  simp only [applyHandler_tie, piecewiseHandler_tie, pieceHandler_tie, otherwiseHandler_tie, degreeHandler_tie,
    bvarHandler_tie, logbaseHandler_tie]
  have key : ∀ c, (c == "_simple_operator_handler") = false ∧ c ∉ wrappedHandlers ∧ (c == "transpile") = false →
      m = c → syE (C02.transpile node) = modelContainer c modelTView node :=
    fun c ⟨f1, f2, f3⟩ hm => container_model tag c ks (hm ▸ h) f1 f2 f3
  exact ⟨key _ (by simp [wrappedHandlers]), key _ (by simp [wrappedHandlers]), key _ (by simp [wrappedHandlers]),
    key _ (by simp [wrappedHandlers]), key _ (by simp [wrappedHandlers]), key _ (by simp [wrappedHandlers]),
    key _ (by simp [wrappedHandlers])⟩

end Cellml.Tie.PTranspile

/-! `genCall` lives in the namespace of `Tie/TranspileClosed.lean` (`genTranspile_apply` there uses it); it stands here
    because `call_tie` is stated with it. -/

namespace Cellml.Tie.PGenE
open C02 Cellml.Gen Cellml.Tie.PTranspile

/-- what the leaf `pyCall` of the generated `_apply_handler` is, written with the GENERATED closures: a SymPy class ↦
    the leaf `cls(*args)`; the relation wrapper ↦ generated `_wrapper_relational`; the closure of an explicit handler ↦
    the generated `_wrapped_*` body after python's binding of the operands to its parameters (`…_params`) -/
def genCall (f : Sy) (l : List Sy) : Except PyErr Sy :=
  match f with
  | .cls c => sympyClassCall c l
  | .rel c => Transpile.wrapperRelational c l
  | .wrapped m =>
    if m = "_minus_handler" then
      (match l with
        | [a] => Transpile.wrappedMinus a none
        | [a, b] => Transpile.wrappedMinus a (some b)
        | _ => .error ⟨"TypeError"⟩)
    else if m = "_divide_handler" then
      (match l with
        | [a, b] => Transpile.wrappedDivide a b
        | _ => .error ⟨"TypeError"⟩)
    else if m = "_power_handler" then
      (match l with
        | [a, b] => Transpile.wrappedPower a b
        | _ => .error ⟨"TypeError"⟩)
    else if m = "_root_handler" then
      (match l with
        | [a] => Transpile.wrappedRoot a none
        | [a, b] => Transpile.wrappedRoot a (some b)
        | _ => .error ⟨"TypeError"⟩)
    else if m = "_log_handler" then
      (match l with
        | [a] => Transpile.wrappedLog a none
        | [a, b] => Transpile.wrappedLog a (some b)
        | _ => .error ⟨"TypeError"⟩)
    else if m = "_diff_handler" then
      (match l with
        | [x, y] => Transpile.wrappedDiff x y none
        | [x, y, e] => Transpile.wrappedDiff x y (some e)
        | _ => .error ⟨"TypeError"⟩)
    else syE (callWrapped m (Sy.ofList l))
  | .nil | .cons _ _ => .error ⟨syErrName (.outside "list in operator position")⟩
  | _ => .error ⟨"TypeError"⟩

end Cellml.Tie.PGenE

namespace Cellml.Tie.PTranspile
open C02 Cellml.Gen

/-- **`call`.** What `_apply_handler` calls, for every callee and every operand list: a SymPy class (leaf: the model's
    table of SymPy's constructors), the relation wrapper (generated `_wrapper_relational`), one of the six closures
    (generated `_wrapped_*`, operands bound to its parameters as python does), anything else. -/
theorem call_tie (f : Sy) (l : List Sy) : pyCall f l = PGenE.genCall f l := by
  cases f with
  | rel c => exact (wrapperRelational_tie c l).symm
  | wrapped m =>
    dsimp only [pyCall, call, PGenE.genCall]
    by_cases h1 : m = "_minus_handler"
    · subst h1; rw [if_pos rfl]; exact wrappedMinus_tie l
    rw [if_neg h1]
    by_cases h2 : m = "_divide_handler"
    · subst h2; rw [if_pos rfl]; exact wrappedDivide_tie l
    rw [if_neg h2]
    by_cases h3 : m = "_power_handler"
    · subst h3; rw [if_pos rfl]; exact wrappedPower_tie l
    rw [if_neg h3]
    by_cases h4 : m = "_root_handler"
    · subst h4; rw [if_pos rfl]; exact wrappedRoot_tie l
    rw [if_neg h4]
    by_cases h5 : m = "_log_handler"
    · subst h5; rw [if_pos rfl]; exact wrappedLog_tie l
    rw [if_neg h5]
    by_cases h6 : m = "_diff_handler"
    · subst h6; rw [if_pos rfl]; exact wrappedDiff_tie l
    rw [if_neg h6]
  | _ => rfl


theorem strip_strip (cs : List Char) : C02.strip (C02.strip cs) = C02.strip cs :=
  List.dropWhile_ends_idem isWs cs

theorem pyFloat_strip (cs : List Char) : pyFloat (C02.strip cs) = pyFloat cs := by
  unfold pyFloat; rw [strip_strip]
theorem pyInt_strip (cs : List Char) : pyInt (C02.strip cs) = pyInt cs := by
  unfold pyInt; rw [strip_strip]
theorem pyFloatExp_strip (cs : List Char) (k : Int) : pyFloatExp (C02.strip cs) k = pyFloatExp cs k := by
  unfold pyFloatExp; rw [strip_strip]

theorem optToExcept_ok {α} (cls : String) (o : Option α) (a : α) : optToExcept cls o = .ok a ↔ o = some a := by
  cases o <;> simp [optToExcept]

section
-- python's `do` plumbing and the leaves of `_cn_handler`: every bare `simp` up to `end` unfolds them
attribute [local simp] bind Except.bind pure Except.pure throw throwThe MonadExceptOf.throw cnViewC02 pyAttrib
  CnNode.length pyChild childTag childTail mathmlSepTag syE errClass syErrName optToExcept String.toList_ofList

/-- **`_cn_handler` = `C02.cnHandler`** (with the default number generator), for every `<cn>`: attribute, text,
    children, units. `float(text.strip())` is the model's `pyFloat text`: `float` strips again (`strip_strip`).
    For `type="e-notation"` this translation binds `float('%se%d' % (m, k))` to the ONE leaf `floatE`, so the format
    string and the `int → '%d'` round trip are not seen here; the tie that sees them is `cnHandlerText_enotation_tie`
    (the second translation of `_cn_handler`, for C14). -/
theorem cnHandler_tie (ty text : Option String) (kids : List (Bool × Option String)) (u : Option String) :
    Transpile.cnHandler cnViewC02 ⟨ty, text, kids, u⟩ = syE (C02.cnHandler ty text kids) := by
  unfold Transpile.cnHandler C02.cnHandler
  cases ty with
  | none =>
    cases text with
    | none => simp
    | some s =>
      simp [pyFloat_strip]
      cases pyFloat s.toList <;> simp
  | some t =>
    by_cases ht : t = "e-notation"
    · subst ht
      match kids with
      | [] => simp
      | [(false, tail)] => simp
      | [(true, tail)] =>
        cases text with
        | none => simp
        | some m =>
          cases tail with
          | none => simp
          | some k =>
            simp [pyInt_strip, pyFloatExp_strip]
            cases pyInt k.toList with
            | none => simp
            | some e => cases hh : pyFloatExp m.toList e <;> simp [hh]
      | _ :: _ :: _ => simp
    · simp [ht]

/-! ## `_cn_handler` and C14: one parse of `mantissa + "e" + exponent` -/

theorem dropWs_eq : ∀ cs, C14.dropWs cs = cs.dropWhile C14.isWs
  | [] => rfl
  | c :: r => by
    rw [C14.dropWs, List.dropWhile_cons]
    split <;> simp_all [dropWs_eq r]

theorem strip14_strip (cs : List Char) : C14.strip (C14.strip cs) = C14.strip cs := by
  unfold C14.strip
  simp only [dropWs_eq]
  exact List.dropWhile_ends_idem C14.isWs cs

theorem parseDecL_strip (cs : List Char) : C14.parseDecL (C14.strip cs) = C14.parseDecL cs := by
  unfold C14.parseDecL; rw [strip14_strip]

theorem fmt_se_d (a b : String) : (Py.fmt "%se%d" [a, b]).toList = a.toList ++ 'e' :: b.toList := by
  have h : "%se%d".toList = ['%', 's', 'e', '%', 'd'] := by decide
  simp [Py.fmt, h, Py.fmtAux]

/-- **`_cn_handler`, plain `<cn>` = `C14.cnPlain`**: `float(node.text.strip())` -/
theorem cnHandlerText_plain_tie (t : String) (kids : List (Bool × Option String)) (u : Option String) :
    Transpile.cnHandlerText cnViewC14 ⟨none, some t, kids, u⟩ = optToExcept "ValueError" (C14.cnPlain t.toList) := by
  unfold Transpile.cnHandlerText C14.cnPlain
  simp [cnViewC14, C14.quantityValue]
  cases C14.decToBitsL (C14.strip t.toList) <;> simp

/-- **`_cn_handler`, `<cn type="e-notation">m<sep/>e</cn>` = `C14.cnENotation`**: the exponent is read by `int`, written
    back by `'%d'`, appended to the stripped mantissa after an `e` by the format string of the SOURCE, and the text is
    parsed by `float` exactly once -/
theorem cnHandlerText_enotation_tie (m e : String) (u : Option String) :
    Transpile.cnHandlerText cnViewC14 ⟨some "e-notation", some m, [(true, some e)], u⟩ =
      optToExcept "ValueError" (C14.cnENotation m.toList e.toList) := by
  unfold Transpile.cnHandlerText C14.cnENotation
  have hp : C14.parseIntL (C14.strip e.toList) = C14.parseIntL e.toList := by
    unfold C14.parseIntL; rw [strip14_strip]
  simp [cnViewC14, hp]
  cases hz : C14.parseIntL e.toList with
  | none => simp
  | some z =>
    simp [fmt_se_d, PyStr.str, C14.enotationText, C14.quantityValue]
    cases C14.decToBitsL (C14.strip m.toList ++ 'e' :: C14.renderInt z) <;> simp

end

/-- for EVERY reading of the leaves (`self`): whatever the generated `_cn_handler` returns is the number generator
    applied to a result of the leaf `float(…)` — every returning path of the source goes through one `float` call -/
theorem cnHandlerText_float {F R : Type} (self : CnView F R) (n : CnNode) (r : R)
    (h : Transpile.cnHandlerText self n = .ok r) :
    ∃ s f, self.float s = .ok f ∧ self.numberGenerator f n.units = .ok r := by
  unfold Transpile.cnHandlerText at h
  simp only [bind, pure, Except.pure, throw, throwThe, MonadExceptOf.throw] at h
  obtain ⟨f, hf, hg⟩ := Except.bind_eq_ok.mp h
  have : ∃ s, self.float s = .ok f := by
    -- `type` given: the three tests of the e-notation branch, then mantissa, child, tail, exponent, `float`
    split at hf
    · obtain ⟨a, _, hf⟩ := Except.bind_eq_ok.mp hf
      split at hf
      · obtain ⟨b, _, hf⟩ := Except.bind_eq_ok.mp hf
        split at hf
        · obtain ⟨m, _, hf⟩ := Except.bind_eq_ok.mp hf
          obtain ⟨c, _, hf⟩ := Except.bind_eq_ok.mp hf
          obtain ⟨t, _, hf⟩ := Except.bind_eq_ok.mp hf
          obtain ⟨e, _, hf⟩ := Except.bind_eq_ok.mp hf
          exact ⟨_, hf⟩
        · cases hf
      · cases hf
    -- no `type`: `float(node.text.strip())`
    · obtain ⟨s, _, hf⟩ := Except.bind_eq_ok.mp hf
      exact ⟨s, hf⟩
  obtain ⟨s, hs⟩ := this
  exact ⟨s, f, hs, hg⟩

/-- the lxml element of a literal written as a `<cn>` (C14's `Source`; `initial_value` attributes do not go through
    the transpiler) -/
def cnNodeOf : C14.Source → Option CnNode
  | .plain t => some ⟨none, some (String.ofList t), [], none⟩
  | .enotation m e => some ⟨some "e-notation", some (String.ofList m), [(true, some (String.ofList e))], none⟩
  | .initial _ => none

/-- **C14.** The bits `C14.sourceBits` (and with it `C14.pipeline`, `source_is_one_parse`, `enotation_single`) assigns
    to a `<cn>` literal are what the generated `_cn_handler` returns on its element -/
theorem cn_sourceBits_tie (s : C14.Source) (n : CnNode) (h : cnNodeOf s = some n) :
    Transpile.cnHandlerText cnViewC14 n = optToExcept "ValueError" (C14.sourceBits s) := by
  cases s with
  | plain t => cases h; simpa [String.toList_ofList, C14.sourceBits] using cnHandlerText_plain_tie (String.ofList t) [] none
  | enotation m e =>
    cases h; simpa [String.toList_ofList, C14.sourceBits] using cnHandlerText_enotation_tie (String.ofList m) (String.ofList e) none
  | initial t => cases h

/-- **`_simple_operator_handler` = `C02.simpleOperator`** (tables `mathmlOps`, `naryRelations` GENERATED) -/
theorem simpleOperatorHandler_tie (tag : String) (kids : Mml) :
    Transpile.simpleOperatorHandler (.el tag kids) = syE (simpleOperator tag) := by
  unfold Transpile.simpleOperatorHandler simpleOperator operatorTableGet
  simp only [mmlTag, except_run, Py.isIn]
  cases Cellml.Gen.mathmlOps.lookup tag with
  | none => simp [syE, errClass]
  | some c =>
    by_cases hn : tag ∈ Cellml.Gen.naryRelations <;> by_cases hc : c ∈ sympyConstants <;>
      simp [hn, hc, naryRelationCallback, syE, errClass]

theorem mml_toList_ofList (ks : List Mml) : (Mml.ofList ks).toList = ks := by
  induction ks with
  | nil => rfl
  | cons k r ih => simp [Mml.ofList, Mml.toList, ih]

theorem unknown_child (k : Mml) (hk : isElement k = true) (h : (handlerOf (mmlTag k)).isSome = false) :
    C02.transpile k = .error .value := by
  cases k <;> simp [isElement] at hk
  · simp [mmlTag, handlerOf_ci] at h
  · simp [mmlTag, handlerOf_cn] at h
  · rename_i tag kids
    simp only [mmlTag] at h
    cases hh : handlerOf tag with
    | none => simp [C02.transpile, hh]
    | some m => simp [hh] at h

/-- what the loop of `Transpiler.transpile` does with one child -/
def DView.step (d : DView) (k : Mml) : Except PyErr Sy :=
  if d.hasHandler (mmlTag k) = true then d.runHandler (mmlTag k) k else .error ⟨"ValueError"⟩

/-- the GENERATED loop of `Transpiler.transpile`, for any `self.handlers` and any element -/
theorem transpileChildren_mapM (d : DView) (element : Mml) :
    Transpile.transpileChildren d element = (mmlChildren element).mapM d.step := by
  unfold Transpile.transpileChildren
  simp only [bind, pure]
  rw [List.forIn_append_eq_mapM d.step]
  · cases (mmlChildren element).mapM d.step <;> rfl
  · intro k _ s
    unfold DView.step
    by_cases h : d.hasHandler (mmlTag k) = true
    · simp only [Py.truthy_bool, h, if_true]; cases d.runHandler (mmlTag k) k <;> rfl
    · simp only [Py.truthy_bool, h]; rfl

theorem modelDView_step (k : Mml) (hk : isElement k = true) : modelDView.step k = syE (C02.transpile k) := by
  unfold DView.step modelDView
  split
  · rfl
  · rename_i h; rw [unknown_child k hk (by simpa using h)]; rfl

/-- **`Transpiler.transpile` = the list level of `C02.transpile`.** For every element and every list of child elements
    (`ci`, `cn`, `el` — not the `nil`/`cons` cells of the encoding): the loop generated from the source — look the
    child's tag up in `self.handlers`, run the handler, append; ValueError for a tag without handler — returns the
    list `C02.transpile (Mml.ofList ks)` returns, with the same first error. -/
theorem transpileChildren_tie (tag : String) (ks : List Mml) (h : ∀ k ∈ ks, isElement k = true) :
    Transpile.transpileChildren modelDView (.el tag (Mml.ofList ks)) =
      (syE (C02.transpile (Mml.ofList ks))).map Sy.toList := by
  rw [transpileChildren_mapM, mmlChildren, mml_toList_ofList, List.mapM_congr_mem ks fun k hk => modelDView_step k (h k hk),
    errClass_mapM, transpile_ofList]
  cases ks.mapM C02.transpile <;> simp [syE, errClass, Except.map, toList_ofList]

/-- the `self.transpile(node)` the container handlers call (`modelTView`) is the generated loop -/
theorem modelTView_transpile_tie (tag : String) (ks : List Mml) (h : ∀ k ∈ ks, isElement k = true) :
    modelTView.transpile (.el tag (Mml.ofList ks)) = Transpile.transpileChildren modelDView (.el tag (Mml.ofList ks)) :=
  (transpileChildren_tie tag ks h).symm

end Cellml.Tie.PTranspile
