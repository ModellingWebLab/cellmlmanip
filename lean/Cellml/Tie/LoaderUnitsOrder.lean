import Cellml.C17.Model
import Cellml.Units.WorklistLemmas

/-! # The unit work list and the sorted unit list agree: `C17.loadFull` and `Load.load` run the same loader

    `C17.loadFull` feeds the `<units>` elements AS WRITTEN (`FaultDoc.udefs`) through the work list of `_add_units`
    (`Units.addUnits`, C03); `Load.load` (C01) takes unit definitions that are ALREADY in dependency order
    (`Doc.units`, folded by `Load.buildUnits`). A `FaultDoc` carries both lists as independent fields.

    Whenever the work list succeeds, the order in which IT added the definitions — base units in document order
    (first pass), then the queued definitions in the order the `while` loop got them through — is a dependency order
    of the SAME elements (a permutation of `udefs`, every reference defined earlier), and `Load.buildUnits` on that
    order returns the very registry and unit store the work list returns (`addUnits_buildUnits`). Hence
    `Load.load` on the document with its units in that order IS `C17.loadFrom` on the work list's result
    (`load_sortedBy`), and `prepare` IS `prepareFrom` (`prepare_sortedBy`). Core Lean only. -/

namespace Cellml.Tie.LoaderClose
open Load Units

/-- a `<units>` element as a declaration of `Load.Doc.units` -/
def declOf (d : UDef) : UnitDecl := if d.base then .base d.name else .derived d.name d.elems

theorem buildUnits_of_run {rs r : Registry × Store} {ds : List UDef} (h : Run LoadStep rs ds r) :
    buildUnits (ds.map declOf) rs = .ok r := by
  induction h with
  | nil => rfl
  | @cons rs _ _ d _ h1 _ ih =>
    obtain ⟨reg, st⟩ := rs
    rcases h1 with ⟨hb, ha⟩ | ⟨hb, _, hn⟩
    · have ha : addBaseUnit reg st d.name = .ok _ := ha
      simpa only [List.map_cons, declOf, hb, if_true, buildUnits, ha] using ih
    · have hn : addUnit reg st d.name d.elems = .ok _ := (addNow_ok hn).2.2.2.2
      simpa only [List.map_cons, declOf, hb, Bool.false_eq_true, if_false, buildUnits, hn] using ih

/-- `us` is an order in which the `<units>` elements `defs` can be handed to `Load.buildUnits`: the same elements
    (a permutation), base units first -/
def SortedFrom (defs : List UDef) (us : List UnitDecl) : Prop :=
  ∃ ord, ord.Perm (queue defs) ∧ us = (basesOf defs ++ ord).map declOf

theorem SortedFrom.perm {defs : List UDef} {us : List UnitDecl} (h : SortedFrom defs us) :
    us.Perm (defs.map declOf) := by
  obtain ⟨ord, hp, rfl⟩ := h
  exact ((List.Perm.append_left _ hp).trans (bases_queue_perm defs)).map declOf

/-- **the work list is `Load.buildUnits` on the order it emits.** If `Parser._add_units` (the work list, on the
    definitions as written) succeeds with registry and store `r`, there is an arrangement `us` of the same `<units>`
    elements — the base units in document order, then the others in the order the loop added them — on which the
    sorted fold of C01 returns the same `r`. No hypothesis on the document. -/
theorem addUnits_buildUnits {id : Nat} {defs : List UDef} {r : Registry × Store} (h : addUnits id defs = .ok r) :
    ∃ us, SortedFrom defs us ∧ buildUnits us (builtinRegistry, { id := id, known := [] }) = .ok r := by
  obtain ⟨ord, hp, _, hr⟩ := addUnits_run h
  exact ⟨_, ⟨ord, hp, rfl⟩, buildUnits_of_run hr⟩

/-- the document with its unit definitions replaced (nothing else of a `Doc` mentions them) -/
def withUnits (doc : Doc) (us : List UnitDecl) : Doc := { doc with units := us }

theorem prepareFrom_withUnits (reg : Registry) (ust : Store) (doc : Doc) (us : List UnitDecl) :
    C17.prepareFrom reg ust (withUnits doc us) = C17.prepareFrom reg ust doc := rfl

theorem finishFrom_withUnits (L : Loaded) (doc : Doc) (us : List UnitDecl) :
    C17.finishFrom L (withUnits doc us) = C17.finishFrom L doc := rfl

theorem prepare_sortedBy {doc : Doc} {us : List UnitDecl} {reg : Registry} {ust : Store}
    (h : buildUnits us (builtinRegistry, { id := 0, known := [] }) = .ok (reg, ust)) :
    prepare (withUnits doc us) = C17.prepareFrom reg ust doc := by
  rw [C17.prepare_eq]
  have e : (withUnits doc us).units = us := rfl
  rw [e, h]
  rfl

theorem load_sortedBy {doc : Doc} {us : List UnitDecl} {reg : Registry} {ust : Store}
    (h : buildUnits us (builtinRegistry, { id := 0, known := [] }) = .ok (reg, ust)) :
    load (withUnits doc us) = C17.loadFrom reg ust doc := by
  rw [C17.load_eq]
  have e : (withUnits doc us).units = us := rfl
  rw [e, h]
  rfl

/-- **`Load.load` on the units in dependency order agrees with the loader on the units as written**: when the work
    list succeeds on `udefs`, some arrangement `us` of the same elements makes `Load.load` / `Load.prepare` of C01
    coincide with `C17.loadFrom` / `C17.prepareFrom` on the work list's registry and store — which is what
    `C17.loadFull` runs. -/
theorem load_agrees {udefs : List UDef} {reg : Registry} {ust : Store} (doc : Doc)
    (h : addUnits 0 udefs = .ok (reg, ust)) :
    ∃ us, SortedFrom udefs us ∧ load (withUnits doc us) = C17.loadFrom reg ust doc ∧
      prepare (withUnits doc us) = C17.prepareFrom reg ust doc := by
  obtain ⟨us, hs, hb⟩ := addUnits_buildUnits h
  exact ⟨us, hs, load_sortedBy hb, prepare_sortedBy hb⟩

end Cellml.Tie.LoaderClose
