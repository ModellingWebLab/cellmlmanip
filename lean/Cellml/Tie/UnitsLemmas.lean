import Cellml.Tie.UnitsView
import Cellml.Units.RulesLemmas

/-! # Lemmas about the view `Cellml.Tie.UnitsView` used by the tie theorems of `Cellml.Tie.Units` -/

namespace Cellml.Tie.PUnits
open Units

seal Decimal.parse Factor.rat prefixPower offsetRejected in
/-- The view's copy of `elemMeaning`, with the name substitution as a parameter, is `Units.elemMeaning`: the two bodies
    are the same text, elaborated in two modules. The four functions the `match`es and the `if` test are sealed so
    that `rfl` compares the stuck tests as they stand; left open, `whnf` runs the parsers on variables. -/
theorem elemMeaningG_mangle (id : Nat) (e : UnitElem) : elemMeaningG (mangle id) e = elemMeaning id e := rfl

theorem defMeaningG_mangle (id : Nat) (es : List UnitElem) : defMeaningG (mangle id) es = defMeaning id es := by
  induction es with
  | nil => rfl
  | cons e es ih => simp only [defMeaningG, defMeaning, ih, elemMeaningG_mangle]

/-- membership in `known ++ built-ins` is the model's `isDefined` -/
theorem isIn_known (known : List String) (name : String) :
    Py.isIn name (known ++ Cellml.Gen.cellmlUnits) = (Cellml.Gen.cellmlUnits.contains name || known.contains name) := by
  simp only [Py.isIn, List.contains_eq_mem, List.mem_append, Bool.decide_or, Bool.or_comm]

/-- `name in self._known_units` on the python object of a store is the model's `isDefined` -/
theorem isIn_known_units (st : Store) (reg : Registry) (rules : List Rule) (name : String) :
    Py.isIn name (storeObj st reg rules)._known_units = st.isDefined name := isIn_known st.known name

end Cellml.Tie.PUnits
