import Cellml.Generated.Code.RdfQ
import Cellml.Tie.CmetaQ
import Mathlib.Tactic.SplitIfs
import Cellml.Tie.ExceptRun

/-! # Tie: the remaining annotation / RDF functions (generated from the source) = the model functions

    * `rdf.create_rdf_node` = `PCmeta.createRdfNode` (the callee that the `Tie/CmetaQ.lean` ties bind as a leaf);
    * `Model.get_ontology_terms_by_variable` = `Model.termsOf` (Cmeta.lean, the hand model of C13);
    * `Model.has_ontology_annotation`, `Model.get_rdf_annotations`, `Model.get_rdf_value`, `Variable._set_cmeta_id`,
      `Variable.rdf_identity`, `Model.add_rdf`, `Parser._add_rdf` = the functions of `Model/RdfQ.lean`
      (`add_rdf` through the hand model's `Model.addRdf`). -/

namespace Cellml.Tie.PRdfQ
open Model Model.RdfQ Cellml.Tie.PCmeta

theorem hash_toList : "#".toList = ['#'] := by decide
theorem slash_toList : "/".toList = ['/'] := by decide

theorem singleton_isPrefixOf (c : Char) (l : List Char) : [c].isPrefixOf l = (l.head? == some c) := by
  cases l with
  | nil => rfl
  | cons x r =>
    simp only [List.isPrefixOf, List.head?_cons, Bool.and_true]
    rw [Bool.eq_iff_iff]
    simp only [beq_iff_eq, Option.some.injEq]
    exact eq_comm

theorem pyEndsWith_hash (s : String) : pyEndsWith s "#" = endsWithChar s '#' := by
  unfold pyEndsWith endsWithChar
  rw [hash_toList]
  simp only [List.reverse_cons, List.reverse_nil, List.nil_append, singleton_isPrefixOf, List.head?_reverse]

theorem pyEndsWith_slash (s : String) : pyEndsWith s "/" = endsWithChar s '/' := by
  unfold pyEndsWith endsWithChar
  rw [slash_toList]
  simp only [List.reverse_cons, List.reverse_nil, List.nil_append, singleton_isPrefixOf, List.head?_reverse]

theorem pyStartsWith_hash (s : String) : pyStartsWith s "#" = (s.toList.head? == some '#') := by
  unfold pyStartsWith
  rw [hash_toList, singleton_isPrefixOf]

theorem pyStartsWith_eq (s pre : String) : pyStartsWith s pre = pre.isPrefixOf s := by
  unfold pyStartsWith String.isPrefixOf
  rw [Bool.eq_iff_iff, List.isPrefixOf_iff_prefix, String.startsWith_string_iff]

/-- `create_rdf_node(x)` for EVERY argument kind (None, a node, a `(namespace, local)` tuple, a string): never raises,
    and answers what the view function `PCmeta.createRdfNode` (used by the CmetaQ ties and C13Gen) answers -/
theorem createRdfNode_tie (x : RdfArg) : Gen.RdfQ.createRdfNode x = .ok (PCmeta.createRdfNode x) := by
  cases x with
  | none => rfl
  | node n => rfl
  | pair ns loc =>
    unfold Gen.RdfQ.createRdfNode PCmeta.createRdfNode
    simp only [RdfArg.isNone, isNode, isTuple, unpack2, Py.truthy_bool, pyEndsWith_hash, pyEndsWith_slash,
      Bool.false_or, Py.str_add, except_run]
    by_cases h : (!endsWithChar ns '#' && !endsWithChar ns '/') = true
    · simp [h, namespaceTerm, String.append_assoc, except_run]
    · simp [h, namespaceTerm, except_run]
  | str s =>
    unfold Gen.RdfQ.createRdfNode PCmeta.createRdfNode
    simp only [RdfArg.isNone, isNode, isTuple, isStr, strText, Py.truthy_bool, pyStartsWith_hash, Bool.false_or,
      Bool.true_and]
    by_cases h : s.toList.head? = some '#'
    · simp [h, mkURIRef, except_run]
    · simp [h, mkLiteral, strText, except_run]

/-- a `str` that starts with `#` becomes the URIRef with that text — never a Literal -/
theorem createRdfNode_fragment (c : String) : Gen.RdfQ.createRdfNode (.str ("#" ++ c)) = .ok (.node (.uri ("#" ++ c))) := by
  rw [createRdfNode_tie]
  simp [PCmeta.createRdfNode, String.toList_append, hash_toList]

theorem createRdfNode_cases (x : RdfArg) :
    PCmeta.createRdfNode x = .none ∨ ∃ n, PCmeta.createRdfNode x = .node n := by
  cases x with
  | none => exact .inl rfl
  | node n => exact .inr ⟨n, rfl⟩
  | pair ns loc => right; simp only [PCmeta.createRdfNode]; split_ifs <;> exact ⟨_, rfl⟩
  | str s => right; simp only [PCmeta.createRdfNode]; split_ifs <;> exact ⟨_, rfl⟩

/-- `with_ns(XmlNs.RDF, 'RDF')` is the qualified tag of an `<rdf:RDF>` element -/
theorem withNs_rdf : Gen.RdfQ.withNs xmlNsRDF "RDF" = .ok rdfTag :=
  congrArg Except.ok (by decide +kernel : Py.fmt "{%s}%s" [xmlNsRDF.value, "RDF"] = rdfTag)

theorem rdfIdentity_tie (v : VarObj) : Gen.RdfQ.rdfIdentity v = .ok v._rdf_identity := rfl

/-- `Variable._set_cmeta_id(c)` = the model's `setCmetaId`, for `None` and for every id; it never raises -/
theorem setCmetaId_tie (v : VarObj) (c : Option String) :
    Gen.RdfQ.setCmetaId v c = .ok (Model.RdfQ.setCmetaId v c) := by
  cases c with
  | none => rfl
  | some c =>
    unfold Gen.RdfQ.setCmetaId Model.RdfQ.setCmetaId
    simp only [Option.isNone_some, strOf, Py.str_add, createRdfNode_fragment, nodeOf, Option.map_some, except_run]
    rfl

/-- `variable.rdf_identity` as the view reads it off the hand model's state is what the generated `_set_cmeta_id`
    leaves in the object when it is given the variable's id -/
theorem rdfIdentityOf_gen (a : AState) (v : Nat) (o : VarObj) :
    (Gen.RdfQ.setCmetaId o (cmetaOf a.m v)).map (·._rdf_identity) = .ok (rdfIdentityOf a v) := by
  rw [setCmetaId_tie]; rfl

theorem rdfIdentityOf_eq (a : AState) (v : Nat) :
    rdfIdentityOf a v = (cmetaOf a.m v).map (fun c => RNode.uri ("#" ++ c)) := rfl

/-- an argument of the queries as a pattern position of the model: through `create_rdf_node`, `None` or a node -/
def patOf (x : RdfArg) : Option RNode := nodeOf (PCmeta.createRdfNode x)

theorem argMatches_create (x : RdfArg) (n : RNode) :
    argMatches (PCmeta.createRdfNode x) n = patMatches (patOf x) n := by
  unfold patOf
  rcases createRdfNode_cases x with h | ⟨m, h⟩ <;> rw [h] <;> rfl

/-- `get_rdf_annotations(s, p, o)` for ALL arguments = the model's `annotations`; it never raises -/
theorem getRdfAnnotations_tie (a : AState) (s p o : RdfArg) :
    Gen.RdfQ.getRdfAnnotations a s p o = .ok (annotations a (patOf s) (patOf p) (patOf o)) := by
  unfold Gen.RdfQ.getRdfAnnotations annotations rdfTriples
  simp only [createRdfNode_tie, bind, Except.bind, argMatches_create]
  rfl

/-- the default of `object_`, read off the parameter list -/
theorem getRdfAnnotations_default : Gen.RdfQ.getRdfAnnotations_default_object_ = RdfArg.none := rfl

/-- the python class of the one error `get_rdf_value` raises -/
def vErrCls : VErr → String
  | .assertionError => "AssertionError"

/-- `get_rdf_value(s, p)` for ALL arguments = the model's `rdfValue`, AssertionError included -/
theorem getRdfValue_tie (a : AState) (s p : RdfArg) :
    Gen.RdfQ.getRdfValue a s p = errClass vErrCls (rdfValue a (patOf s) (patOf p)) := by
  unfold Gen.RdfQ.getRdfValue rdfValue
  simp only [getRdfAnnotations_tie, getRdfAnnotations_default, except_run]
  have hn : patOf RdfArg.none = none := rfl
  rw [hn]
  match annotations a (patOf s) (patOf p) none with
  | [] => simp [vErrCls, except_run]
  | [t] =>
    cases ho : t.obj with
    | uri x => simp [vErrCls, listGet, tripleObj, isLiteral, ho, except_run]
    | lit x => simp [listGet, tripleObj, isLiteral, ho, pyStrip, nodeStr, RNode.text, except_run]
  | _ :: _ :: _ => simp [vErrCls, except_run]

theorem splitChars_last (l cur : List Char) :
    (splitChars '#' l cur).getLast? = some (afterHash l (cur.reverse ++ l)) := by
  induction l generalizing cur with
  | nil => simp [splitChars, afterHash]
  | cons c r ih =>
    by_cases h : c = '#'
    · simp only [splitChars, h, if_true, afterHash, List.getLast?_cons, ih, List.reverse_nil, List.nil_append,
        Option.getD_some]
    · simp only [splitChars, h, if_false, afterHash, ih, List.reverse_cons, List.append_assoc, List.singleton_append]

theorem listLast_split (s : String) : listLast (pySplit s "#") = .ok (localName s) := by
  unfold listLast pySplit localName
  rw [hash_toList]
  simp only [List.getLast?_map, splitChars_last, List.reverse_nil, List.nil_append, Option.map_some]

theorem nsOk_eq (ns : Option String) (o : RNode) :
    (ns.isNone || Py.truthy (pyStartsWith (nodeStr o) (ns.getD ""))) = nsOk ns o := by
  cases ns with
  | none => rfl
  | some n => simp [nsOk, pyStartsWith_eq, nodeStr]

theorem hash_beq (x y : String) : ("#" ++ x == "#" ++ y) = (x == y) := by
  rw [Bool.eq_iff_iff, beq_iff_eq, beq_iff_eq]
  constructor
  · intro h
    have := congrArg String.toList h
    simp only [String.toList_append, List.append_cancel_left_eq] at this
    exact String.toList_inj.mp this
  · intro h; rw [h]

theorem rdfObjects_eq (a : AState) (c : String) :
    rdfObjects a (some (.uri ("#" ++ c))) (.node (.uri bqbiolIs))
      = (a.rdf.filter (fun t => t.subj == c && t.pred == bqbiolIs)).map (fun t => t.obj) := by
  unfold rdfObjects
  congr 1
  apply List.filter_congr
  intro t _
  simp only [patMatches, subjNode, predNode, argMatches, nodeMatches, uri_beq, hash_beq]

/-- the loop over the objects collects the local names of those the namespace test admits, for ANY body that appends
    the local name of such an object and passes over the others -/
theorem terms_loop (ns : Option String) (body : RNode → List String → Except PyErr (ForInStep (List String)))
    (hb : ∀ o acc, body o acc = .ok (.yield (if nsOk ns o = true then acc ++ [localName o.text] else acc))) :
    ∀ (l : List RNode) (acc : List String),
    forIn l acc body = .ok (acc ++ (l.filter (nsOk ns)).map (fun o => localName o.text))
  | [], acc => by simp [except_run]
  | o :: r, acc => by
    rw [List.forIn_cons, hb]
    simp only [except_run]
    rw [terms_loop ns body hb r]
    by_cases h : nsOk ns o = true <;> simp [h]

/-- `get_ontology_terms_by_variable(v, ns)` for ALL arguments = the hand model's `termsOf` (Cmeta.lean); it never raises -/
theorem getOntologyTermsByVariable_tie (a : AState) (v : Nat) (ns : Option String) :
    Gen.RdfQ.getOntologyTermsByVariable a v ns = .ok (termsOf a v ns) := by
  unfold Gen.RdfQ.getOntologyTermsByVariable termsOf annotationsOf
  rw [rdfIdentityOf_eq]
  cases hc : cmetaOf a.m v with
  | none => simp [except_run]
  | some c =>
    -- the predicate becomes its node before the binds are reduced; in one pass the kernel runs `create_rdf_node` on
    -- the two strings again when it checks the reduction
    simp only [createRdfNode_tie, bqbiol_is]
    simp only [Option.map_some, Py.truthy_option, Option.isSome_some, if_true, rdfObjects_eq, except_run]
    -- the hole is the generated body of `for object in …`
    rw [terms_loop ns _ ?hb _ []]
    case hb =>
      intro o acc
      simp only [nsOk_eq, listLast_split, except_run]
      by_cases h : nsOk ns o = true <;> simp [h, nodeStr]
    simp [List.filter_map, List.map_map, Function.comp_def]

/-- `has_ontology_annotation(v, ns)` = the model's `hasAnnotation` -/
theorem hasOntologyAnnotation_tie (a : AState) (v : Nat) (ns : Option String) :
    Gen.RdfQ.hasOntologyAnnotation a v ns = .ok (hasAnnotation a v ns) := by
  unfold Gen.RdfQ.hasOntologyAnnotation hasAnnotation
  simp only [getOntologyTermsByVariable_tie, except_run]
  cases termsOf a v ns <;> simp

/-- `add_rdf(doc)` of a document that parses to `ts`: the hand model's `addRdf` (Cmeta.lean) for each triple in turn -/
theorem addRdf_tie (a : AState) (ts : List Triple) :
    Gen.RdfQ.addRdf ⟨some ts⟩ a = (.ok (), addRdfDoc a ts) := rfl

/-- `add_rdf(doc)` of a document the parser refuses: the exception, the graph untouched -/
theorem addRdf_bad (a : AState) : Gen.RdfQ.addRdf ⟨none⟩ a = (.error ⟨"SAXParseException"⟩, a) := rfl

/-- the model's fold over the blocks, started from any `(state, still going)` -/
def blocksFold (acc : AState × Bool) (l : List Elem) : AState × Bool :=
  l.foldl (fun (acc : AState × Bool) x =>
      if acc.2 then
        match x.parsed with
        | some ts => (addRdfDoc acc.1 ts, true)
        | none => (acc.1, false)
      else acc) acc

theorem blocksFold_stopped (a : AState) (l : List Elem) : blocksFold (a, false) l = (a, false) := by
  induction l with
  | nil => rfl
  | cons x r ih => simpa [blocksFold] using ih

theorem blocks_loop (l : List Elem) (a : AState) :
    (forIn l PUnit.unit (fun rdf _ => do
        Gen.RdfQ.addRdf (etreeToString rdf)
        pure (ForInStep.yield PUnit.unit)) : M PUnit) a
      = (if (blocksFold (a, true) l).2 then .ok PUnit.unit else .error ⟨"SAXParseException"⟩, (blocksFold (a, true) l).1) := by
  induction l generalizing a with
  | nil => rfl
  | cons x r ih =>
    rw [List.forIn_cons]
    cases hp : x.parsed with
    | none =>
      have h1 : Gen.RdfQ.addRdf (etreeToString x) a = (.error ⟨"SAXParseException"⟩, a) := by
        simp [Gen.RdfQ.addRdf, etreeToString, rdfParseXml, hp]
      have h2 : blocksFold (a, true) (x :: r) = (a, false) := by
        simp only [blocksFold, List.foldl_cons, if_true, hp]
        exact blocksFold_stopped a r
      rw [h2]
      simp only [bind, PyM.bind_apply, h1]
      rfl
    | some ts =>
      have h1 : Gen.RdfQ.addRdf (etreeToString x) a = (.ok (), addRdfDoc a ts) := by
        simp [Gen.RdfQ.addRdf, etreeToString, rdfParseXml, hp, addRdfDoc]
      have h2 : blocksFold (a, true) (x :: r) = blocksFold (addRdfDoc a ts, true) r := by
        simp only [blocksFold, List.foldl_cons, if_true, hp]
      rw [h2, ← ih]
      simp only [bind, PyM.bind_apply, h1]
      rfl

/-- `Parser._add_rdf(element)` = the model's `parserAddRdf`: the state left behind, and `SAXParseException` exactly when a
    block does not parse -/
theorem parserAddRdf_tie (a : AState) (e : Elem) :
    Gen.RdfQ.parserAddRdf e a
      = (if (Model.RdfQ.parserAddRdf a e).2 then .ok () else .error ⟨"SAXParseException"⟩, (Model.RdfQ.parserAddRdf a e).1) := by
  rw [show Model.RdfQ.parserAddRdf a e = blocksFold (a, true) (elemIter e rdfTag) from rfl]
  unfold Gen.RdfQ.parserAddRdf
  simp only [bind, PyM.bind_apply, PyM.rdE_run, withNs_rdf]
  have h := blocks_loop (elemIter e rdfTag) a
  simp only [bind] at h
  rw [h]
  cases (blocksFold (a, true) (elemIter e rdfTag)) with
  | mk s b => cases b <;> rfl

end Cellml.Tie.PRdfQ
