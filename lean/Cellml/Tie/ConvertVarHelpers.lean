import Cellml.Generated.Code.ConvertVar
import Cellml.Tie.ExceptRun
import Cellml.C06.Lemmas
import Cellml.C06.Kept

/-! # Tie: the helpers of `Model.convert_variable` (generated from model.py) against the hand model `Model.CV.*`

    The relation `TiedG` between python's outcome and the flag model's result, and the ties of `get_unique_name`,
    `_remove_ode_and_assign_rhs_to_new_variable`, `_convert_free_variable_deriv`, `_convert_state_variable_deriv`,
    `_replace_references_to_derivatives`, `_convert_variable_instance`. The driver is in `ConvertVarDriver.lean`. -/

namespace Cellml.Tie.CV
open Model Model.CV Cellml.Gen

/-- one unfolding: the generated body over the model with `fuel` tries is the model with `fuel + 1` tries -/
theorem getUniqueName_unfold (s : CState) (fuel : Nat) (b : String) :
    ConvertVar.getUniqueName (uniqueName (names s) fuel) s b = .ok (uniqueName (names s) (fuel + 1) b) := by
  unfold ConvertVar.getUniqueName
  simp only [uniqueName, Py.isIn, except_run]
  by_cases h : b ∈ names s <;> simp [h]

/-- `get_unique_name` (generated, open recursion) has the hand model `freshName` as a fixpoint -/
theorem getUniqueName_tie (s : CState) (b : String) :
    ConvertVar.getUniqueName (freshName s) s b = .ok (freshName s b) := by
  have h := getUniqueName_unfold s (names s).length b
  have hs : uniqueName (names s) ((names s).length + 1) b = uniqueName (names s) (names s).length b :=
    uniqueName_stable _ _ _ (freshName_fresh s b)
  rw [hs] at h
  exact h

/-- the exception classes the `convert_variable` family raises by itself: `ValueError` (`add_variable`,
    `add_equation`, `transfer_cmeta_id`), `KeyError` (`remove_equation`, `_ode_definition_map[v]`), `AssertionError`
    (the `assert` on the free variable) -/
def OkCls (e : PyErr) : Prop := e.cls = "ValueError" ∨ e.cls = "KeyError" ∨ e.cls = "AssertionError"

instance (e : PyErr) : Decidable (OkCls e) := by unfold OkCls; exact inferInstance

/-- The generated code `g` (python: returns or raises) agrees with the hand model's result `m`, which carries the flag
    `raised` (read by `rd`): if python returns, it returns exactly the model's result and the model's flag is down; if
    python raises, the model's flag is up (and the exception is of one of the classes `OkCls`). The hand model does not
    record WHICH call raised, so the class is not compared with the model. -/
def TiedG {β : Type} (rd : β → Bool) (g : Except PyErr β) (m : β) : Prop :=
  match g with
  | .ok r => r = m ∧ rd m = false
  | .error e => rd m = true ∧ OkCls e

/-- a function that answers a value (and has changed the model) -/
abbrev Tied {α : Type} (g : Except PyErr (CState × α)) (m : CState × α) : Prop := TiedG (fun r => r.1.raised) g m
/-- a function that answers nothing -/
abbrev TiedS (g : Except PyErr CState) (m : CState) : Prop := TiedG (fun r => r.raised) g m

@[simp] theorem tiedG_ok {β : Type} (rd : β → Bool) (r m : β) : TiedG rd (.ok r) m ↔ (r = m ∧ rd m = false) := Iff.rfl
@[simp] theorem tiedG_error {β : Type} (rd : β → Bool) (e : PyErr) (m : β) :
    TiedG rd (.error e) m ↔ (rd m = true ∧ OkCls e) := Iff.rfl
@[simp] theorem tiedG_pure {β : Type} (rd : β → Bool) (r m : β) :
    TiedG rd (pure r : Except PyErr β) m ↔ (r = m ∧ rd m = false) := Iff.rfl

/-- sequencing: python runs `g` and then `k` on what `g` returned; the model computes `m'` and goes on whatever the
    flag says, so the rest of the model must keep a flag that is up (`hr`) -/
theorem TiedG.bind {β γ : Type} {rb : β → Bool} {rc : γ → Bool} {g : Except PyErr β} {m' : β}
    {k : β → Except PyErr γ} {M : γ} (hg : TiedG rb g m') (hr : rb m' = true → rc M = true)
    (hk : rb m' = false → TiedG rc (k m') M) : TiedG rc (g >>= k) M := by
  cases g with
  | error e => exact ⟨hr hg.1, hg.2⟩
  | ok r =>
    obtain ⟨rfl, h⟩ := hg
    exact hk h

theorem tied_bind_eq {β γ : Type} {rc : γ → Bool} {g : Except PyErr β} {a : β} {k : β → Except PyErr γ} {M : γ}
    (hg : g = .ok a) (hk : TiedG rc (k a) M) : TiedG rc (g >>= k) M := by
  subst hg; exact hk

theorem TiedG.ok_of_flag_down {β : Type} {rd : β → Bool} {g : Except PyErr β} {m : β} (h : TiedG rd g m)
    (hm : rd m = false) : g = .ok m := by
  cases g with
  | ok r => rw [h.1]
  | error e => rw [h.1] at hm; cases hm

theorem tiedS_guard (c : String) (m : CState) (hc : OkCls ⟨c⟩) : TiedS (guardRaised c m) m := by
  unfold guardRaised; cases h : m.raised <;> simp [TiedS, h, hc]

theorem tied_addVariableM (s : CState) (n : String) (u : U) (i : Option Rat) :
    Tied (addVariableM s n u i) (CV.addVariable s n u i) := by
  unfold addVariableM; cases h : (CV.addVariable s n u i).1.raised <;> simp [Tied, h, OkCls]

theorem addVariable_sticky (s : CState) (n : String) (u : U) (i : Option Rat) (h : s.raised = true) :
    (addVariable s n u i).1.raised = true := by
  unfold CV.addVariable; split <;> simp [h]

theorem transferCmeta_sticky (s : CState) (a b : Nat) (h : s.raised = true) : (transferCmeta s a b).raised = true := by
  unfold CV.transferCmeta; split
  · simp
  · split <;> simp [h]

theorem addEq_sticky (s : CState) (e : CEqn) (c : Bool) (h : s.raised = true) : (addEq s e c).raised = true := by
  unfold addEq; split <;> split <;> simp [h]

theorem removeEq_sticky (s : CState) (e : CEqn) (h : s.raised = true) : (removeEq s e).raised = true := by
  unfold removeEq; split
  · split <;> split <;> simp [h]
  · simp

/-- the primitive calls keep the flag up, so every helper of `convert_variable`, and `convert_variable`, does
    (`KeptAll`, `C06/Kept.lean`: a property kept by the primitive calls is kept by everything built from them) -/
theorem kept_raised : KeptAll (fun s : CState => s.raised = true) where
  addEq e c h := addEq_sticky _ e c h
  removeEq e h := removeEq_sticky _ e h
  addFresh _ u i h := addVariable_sticky _ _ u i h
  raise _ := rfl
  transferCmeta a b h := transferCmeta_sticky _ a b h
  setVars _ h := h

theorem removeOdeAssign_tie (s : CState) (ode : CEqn) (x : Nat) :
    Tied (ConvertVar.removeOdeAndAssignRhsToNewVariable s ode x) (removeOdeAssign s ode x) := by
  unfold ConvertVar.removeOdeAndAssignRhsToNewVariable removeOdeAssign
  dsimp only [removeEqM, addEqM]
  refine TiedG.bind (tied_addVariableM _ _ _ _) (fun h => addEq_sticky _ _ _ (removeEq_sticky _ _ h)) fun _ => ?_
  refine TiedG.bind (tiedS_guard _ _ (by decide)) (fun h => addEq_sticky _ _ _ h) fun _ => ?_
  refine TiedG.bind (tiedS_guard _ _ (by decide)) (fun h => h) fun h => ?_
  exact ⟨rfl, h⟩

theorem convertFreeDeriv_sticky (s : CState) (ode : CEqn) (nt : Nat) (cfq : X) (h : s.raised = true) :
    (convertFreeDeriv s ode nt cfq).1.raised = true :=
  kept_raised.convertFreeDeriv h ode nt cfq

/-- Domain: the left-hand side of `original_ode` is a derivative (the caller takes it from `_ode_definition_map`).
    On a plain-variable left-hand side python raises `IndexError` (`Variable.args` is empty) while the hand model
    answers the unchanged state and no replacement. -/
theorem convertFreeDeriv_tie (s : CState) (ode : CEqn) (nt : Nat) (cfq : X) (x t : Nat) (hl : ode.lhs = .deriv x t) :
    Tied (ConvertVar.convertFreeVariableDeriv s ode nt cfq) (convertFreeDeriv s ode nt cfq) := by
  unfold ConvertVar.convertFreeVariableDeriv convertFreeDeriv
  simp only [hl, derivArg0, addEqM]
  refine tied_bind_eq (a := x) rfl ?_
  refine TiedG.bind (removeOdeAssign_tie _ _ _) (fun h => addEq_sticky _ _ _ h) fun _ => ?_
  refine TiedG.bind (tiedS_guard _ _ (by decide)) (fun h => h) fun h => ?_
  exact ⟨rfl, h⟩

theorem convertStateDeriv_sticky (s : CState) (v nv : Nat) (cfq : X) (h : s.raised = true) :
    (convertStateDeriv s v nv cfq).1.raised = true :=
  kept_raised.convertStateDeriv h v nv cfq

/-- Domain: the entries of `_ode_definition_map` have a derivative on the left (`hd`); a missing entry is python's
    `KeyError` and the model's flag. -/
theorem convertStateDeriv_tie (s : CState) (v nv : Nat) (cfq : X)
    (hd : ∀ e, s.odeDef.lookup v = some e → ∃ x t, e.lhs = .deriv x t) :
    Tied (ConvertVar.convertStateVariableDeriv s v nv cfq) (convertStateDeriv s v nv cfq) := by
  unfold ConvertVar.convertStateVariableDeriv convertStateDeriv
  cases ho : s.odeDef.lookup v with
  | none => simp [odeLookupM, ho, except_run, OkCls]
  | some ode =>
    obtain ⟨x, t, hl⟩ := hd ode ho
    simp only [odeLookupM, ho, hl, derivArg1, addEqM]
    refine tied_bind_eq (a := ode) rfl ?_
    simp only [hl]
    refine tied_bind_eq (a := t) rfl ?_
    refine TiedG.bind (removeOdeAssign_tie _ _ _) (fun h => addEq_sticky _ _ _ h) fun _ => ?_
    refine TiedG.bind (tiedS_guard _ _ (by decide)) (fun h => h) fun h => ?_
    exact ⟨rfl, h⟩

theorem foldl_sticky {σ α : Type} (rd : σ → Bool) (step : σ → α → σ) (hst : ∀ s a, rd s = true → rd (step s a) = true) :
    ∀ (l : List α) (s : σ), rd s = true → rd (l.foldl step s) = true :=
  fun l s h => List.foldl_inv step (fun s => rd s = true) l s h fun s a _ => hst s a

/-- a python `for` over `l` whose body, on the elements of `l`, is tied to one step of the model's `foldl` -/
theorem tiedG_forIn_mem {σ α : Type} (rd : σ → Bool) (step : σ → α → σ) (body : α → σ → Except PyErr (ForInStep σ))
    (hst : ∀ s a, rd s = true → rd (step s a) = true) :
    ∀ (l : List α) (s : σ), (∀ a ∈ l, ∀ s, rd s = false →
        TiedG (fun r : ForInStep σ => rd r.value) (body a s) (.yield (step s a))) →
      rd s = false → TiedG rd (forIn l s body) (l.foldl step s)
  | [], s, _, h => ⟨rfl, h⟩
  | a :: l, s, hbody, h => by
    rw [List.forIn_cons, List.foldl_cons]
    refine TiedG.bind (hbody a (List.mem_cons_self ..) s h) (fun h' => foldl_sticky rd step hst l _ h') fun h' => ?_
    exact tiedG_forIn_mem rd step body hst l _ (fun a ha => hbody a (List.mem_cons_of_mem _ ha)) h'

theorem contains_keys_eq_hasKey {α β : Type} [DecidableEq α] [BEq α] [LawfulBEq α] (d : α) (l : List (α × β)) :
    (l.map (·.1)).contains d = hasKey d l := by
  rw [Bool.eq_iff_iff, List.contains_iff_mem, hasKey_iff_mem_keys]

/-- python's test `not keys.isdisjoint(rhs.atoms(Derivative))` is the hand model's `mentions` -/
theorem not_isDisjoint_eq_mentions (rep : Rep) (e : CEqn) :
    (!Py.truthy (isDisjoint (dictKeys rep) e.rhs.derivs)) = mentions rep e := by
  simp only [isDisjoint, dictKeys, mentions, Py.truthy_bool, Bool.not_not]
  congr 1
  funext d
  exact contains_keys_eq_hasKey d rep

theorem replaceRefs_sticky (s : CState) (rep : Rep) (h : s.raised = true) : (replaceRefs s rep).raised = true :=
  kept_raised.replaceRefs h rep

/-- the loop runs over the equations the model had when the function was entered (python: `self.equations.copy()`) -/
theorem replaceRefs_tie (s : CState) (rep : Rep) (hs : s.raised = false) :
    TiedS (ConvertVar.replaceReferencesToDerivatives s rep) (replaceRefs s rep) := by
  unfold ConvertVar.replaceReferencesToDerivatives replaceRefs
  dsimp only [removeEqM, addEqM]
  refine TiedG.bind (rb := fun s : CState => s.raised) (m' := List.foldl _ s s.equations) ?_ (fun h => h)
    fun h => ⟨rfl, h⟩
  refine tiedG_forIn_mem (fun s : CState => s.raised) _ _ (fun s e h => ?_) _ _ (fun e _ st hst => ?_) hs
  · show (if _ then _ else _ : CState).raised = true
    split
    · exact addEq_sticky _ _ _ (removeEq_sticky _ _ h)
    · exact h
  · rw [not_isDisjoint_eq_mentions]
    by_cases hm : mentions rep e = true
    · simp only [hm, if_true]
      refine TiedG.bind (tiedS_guard _ _ (by decide)) (fun h => addEq_sticky _ _ _ h) fun _ => ?_
      refine TiedG.bind (tiedS_guard _ _ (by decide)) (fun h => h) fun h => ?_
      exact ⟨rfl, h⟩
    · simp only [hm]
      exact ⟨rfl, hst⟩

/-- `if c: g` followed by the rest `K`, against a model that computes `if c then m' else s1` and goes on with `F`;
    `P` is what is known of the value the rest starts from -/
theorem tied_optionalG {β γ : Type} {rb : β → Bool} {rc : γ → Bool} (P : β → Prop) (c : Bool) (g : Except PyErr β)
    (m' s1 : β) (K : β → Except PyErr γ) (F : β → γ) (hg : c = true → TiedG rb g m')
    (hF : ∀ b : β, rb b = true → rc (F b) = true) (hP1 : c = true → P m') (hP2 : P s1)
    (hK : ∀ b : β, P b → rb b = false → TiedG rc (K b) (F b)) (hs1 : rb s1 = false) :
    TiedG rc (if c = true then g >>= K else K s1) (F (if c = true then m' else s1)) := by
  cases c with
  | false => simpa using hK s1 hP2 hs1
  | true =>
    simp only [if_true]
    exact TiedG.bind (hg rfl) (hF _) (hK _ (hP1 rfl))

theorem instOutput_sticky (s : CState) (v nv : Nat) (cfq : X) (h : s.raised = true) :
    (instOutput s v nv cfq).raised = true := addEq_sticky _ _ _ h

theorem instInput_sticky (s : CState) (v nv : Nat) (cfq : X) (h : s.raised = true) :
    (instInput s v nv cfq).raised = true :=
  kept_raised.instInput h v nv cfq

theorem convertInstance_sticky (s : CState) (v : Nat) (cf : Rat) (u : U) (dir : Dir) (move : Bool)
    (h : s.raised = true) : (convertInstance s v cf u dir move).1.raised = true :=
  kept_raised.convertInstance h v cf u dir move

theorem not_isIn_odeKeys (v : Nat) (s : CState) : (!Py.isIn v (odeKeys s)) = !hasKey v s.odeDef := by
  unfold Py.isIn odeKeys
  rw [contains_keys_eq_hasKey]

/-- python's `new_initial_value` (set in an `if`) is the hand model's `newInit` -/
theorem newInitialValue_eq (s : CState) (v : Nat) (cf : Rat) (uu : U) (dir : Dir) :
    (if (dir == Dir.input && (initOfV s v).isSome) = true then initOfV s v * pyFloat (X.lit cf uu) else none) =
      newInit s v cf dir := by
  cases dir with
  | output => rfl
  | input =>
    cases hi : initOfV s v with
    | none => simp [newInit, hi]
    | some q => simp [newInit, hi, pyFloat]; rfl

theorem convertInstance_tie (s : CState) (v : Nat) (cf : Rat) (u : U) (dir : Dir) (move : Bool) :
    Tied (ConvertVar.convertVariableInstance s v (.lit cf (u.div (unitOfV s v))) u dir move)
      (convertInstance s v cf u dir move) := by
  unfold ConvertVar.convertVariableInstance
  -- python's `new_initial_value` is set in an `if` and the rest of the function follows as a join point `jp`.
  -- `extract_lets` names the `let`s of the goal by position (`_`: none): after a change of the python source run it
  -- without names and read the new list off the goal
  extract_lets _ _ niv jp niv'
  rw [← apply_ite (jp ())]
  rw [show (if (dir == Dir.input && (initOfV s v).isSome) = true then niv' else niv) = newInit s v cf dir from
    newInitialValue_eq s v cf _ dir]
  refine TiedG.bind (tied_addVariableM _ _ _ _) kept_raised.convertInstance_of_added fun h1 => ?_
  unfold convertInstance
  extract_lets cfq
  generalize CV.addVariable s _ u _ = p at h1 ⊢
  obtain ⟨s1, nv⟩ := p
  refine tied_optionalG (rb := fun r : CState => r.raised) (fun _ => True) _ _ _ _ _
    (fun s2 => match dir with
      | .input => (instInput s2 v nv cfq, nv)
      | .output => (instOutput s2 v nv cfq, nv))
    (fun _ => ?_) (fun s2 h => ?_) (fun _ => trivial) trivial (fun s2 _ h2 => ?_) h1
  · exact tiedS_guard _ _ (by decide)
  · cases dir with
    | input => exact instInput_sticky _ _ _ _ h
    | output => exact instOutput_sticky _ _ _ _ h
  · cases dir with
    | output =>
      simp only [show (Dir.output == Dir.input) = false from rfl, Bool.false_eq_true, if_false]
      refine TiedG.bind (tiedS_guard _ _ (by decide)) (fun h => h) fun h => ?_
      exact ⟨rfl, h⟩
    | input =>
      simp only [show (Dir.input == Dir.input) = true from rfl, if_true, not_isIn_odeKeys]
      unfold instInput
      cases ho : s2.varDef.lookup v with
      | none =>
        simp only [Option.isSome_none, Bool.false_eq_true, if_false]
        refine TiedG.bind (tiedS_guard _ _ (by decide)) (fun h => h) fun h => ?_
        exact ⟨rfl, h⟩
      | some oe =>
        simp only [Option.isSome_some, if_true]
        refine TiedG.bind (tiedS_guard _ _ (by decide)) (fun h => addEq_sticky _ _ _ (addEq_sticky _ _ _ h)) fun _ => ?_
        refine TiedG.bind (tiedS_guard _ _ (by decide)) (fun h => addEq_sticky _ _ _ h) fun _ => ?_
        refine TiedG.bind (tiedS_guard _ _ (by decide)) (fun h => h) fun h => ?_
        exact ⟨rfl, h⟩

end Cellml.Tie.CV
