import Cellml.Tie.Graph
import Cellml.C09.Eqsfor

/-! # The three generated graph functions composed (`Model.graph` → `Model.graph_with_sympy_numbers` →
    `Model.get_equations_for`), and the transfer lemmas from the hand model `C09.getEquationsFor`

    `genEquationsFor m vars recurse strip` is the definition GENERATED from `Model.get_equations_for`
    (`Gen.GraphEqs.getEquationsFor`) run on a view of the model in which `self.graph` is the definition GENERATED from
    the `Model.graph` property (`Gen.GraphBuild.graph`, empty cache, any earlier `Variable.type` values) and
    `self.graph_with_sympy_numbers` is the definition GENERATED from that property (`Gen.GraphNum.graphWithSympyNumbers`,
    empty cache) reading the generated `self.graph`. No hand-model function occurs in it; what remains of the model are
    the leaf bindings of `Tie/GraphView.lean` (networkx, sympy, attribute reads).

    `genEquationsFor_tie`: it equals the hand model `C09.getEquationsFor` (result lists related by `eqnOf`, exception
    classes by `errName`), for ALL arguments, with no domain hypothesis: the guard `if subs_dict:` of the code (only
    equations that hold a `Quantity` have their in-edges pruned) is the model's `C09.Eqn.hasQ`. -/

namespace Cellml.Tie.GenD
open C09 Cellml.Gen Cellml.Tie.PGraph

/-- what the three python functions read of a `Model` object (the arguments of the views of `Tie/GraphView.lean`);
    which right-hand sides contain `Quantity` objects (`equation.rhs.atoms(Quantity)`) is the field `hasQ` of each
    equation -/
structure PyModel where
  /-- `str` of a node (the sort key) -/
  key : Node → String
  /-- `self.equations` -/
  eqs : List Eqn
  /-- `self._name_to_variable.values()` (the graph does not depend on it: `graph_independent`) -/
  vars : List Node := []
  /-- `isinstance(equation.rhs, Quantity)` (the graph does not depend on it) -/
  rq : Eqn → Bool := fun _ => false
  /-- the `Variable.type` attributes left by earlier builds (the graph does not depend on them) -/
  ty0 : TyMap := []

/-- `self.graph`, as generated from the source of the property, called with an empty cache -/
def genGraph (m : PyModel) : Except PyErr Graph :=
  (GraphBuild.graph (buildView m.key m.eqs m.vars m.rq) none m.ty0).map (·.1)

/-- `self.graph_with_sympy_numbers`, as generated from the source of the property, called with an empty cache; its
    `self.graph.copy()` is the generated `self.graph` -/
def genGraphNum (m : PyModel) : Except PyErr Graph :=
  (GraphNum.graphWithSympyNumbers (numView m.eqs (genGraph m)) none).map (·.1)

/-- the `Model` as `get_equations_for` sees it, both graph properties being the generated ones -/
def genEqsView (m : PyModel) : EqsView where
  graph := genGraph m
  graphNum := genGraphNum m
  key := m.key
  equationOf := eqnOf m.eqs

/-- **`Model.get_equations_for` as generated, over the generated graph properties** -/
def genEquationsFor (m : PyModel) (vars : List Node) (recurse strip : Bool) : Except PyErr (List (Option Eqn)) :=
  GraphEqs.getEquationsFor (genEqsView m) vars recurse strip

/-- the left-hand sides of the equations python returned (`eq.lhs for eq in result`) -/
def lhsList (res : List (Option Eqn)) : List Node := res.map fun o => (theEqn o).lhs

theorem genGraph_eq (m : PyModel) (recurse : Bool) : genGraph m = (eqsView m.key m.eqs recurse).graph :=
  graph_feeds_eqsView m.key m.eqs m.vars m.rq m.ty0 recurse

theorem genGraphNum_eq (m : PyModel) (recurse : Bool) :
    genGraphNum m = (eqsView m.key m.eqs recurse).graphNum := by
  unfold genGraphNum
  rw [genGraph_eq m recurse]
  cases hb : buildGraph m.key m.eqs with
  | ok g =>
    have h1 : (eqsView m.key m.eqs recurse).graph = .ok g := by simp [eqsView, hb, errClass]
    rw [h1]
    exact graphNum_feeds_eqsView m.key m.eqs g recurse hb
  | error x =>
    have h1 : (eqsView m.key m.eqs recurse).graph = .error ⟨errName recurse x⟩ := by simp [eqsView, hb, errClass]
    rw [h1, graphNum_error]
    simp [eqsView, hb, errClass, Except.map]

/-- `get_equations_for` reads `self.graph_with_sympy_numbers` only when `strip_units` is set -/
theorem getEquationsFor_congr (V W : EqsView) (vars : List Node) (recurse strip : Bool)
    (hg : strip = false → V.graph = W.graph) (hn : strip = true → V.graphNum = W.graphNum) (hk : V.key = W.key)
    (he : V.equationOf = W.equationOf) :
    GraphEqs.getEquationsFor V vars recurse strip = GraphEqs.getEquationsFor W vars recurse strip := by
  unfold GraphEqs.getEquationsFor
  cases strip
  · simp only [Py.truthy_bool, Bool.false_eq_true, if_false, hg rfl, hk, he]
  · simp only [Py.truthy_bool, if_true, hn rfl, hk, he]

/-- **Closed tie**: the composition of the three generated definitions is the hand model `C09.getEquationsFor` -/
theorem genEquationsFor_tie (m : PyModel) (vars : List Node) (recurse strip : Bool) :
    genEquationsFor m vars recurse strip
      = errClass (errName recurse) ((getEquationsFor m.key m.eqs vars recurse strip).map (·.map (eqnOf m.eqs))) := by
  rw [← getEquationsFor_tie]
  apply getEquationsFor_congr
  · intro _; exact genGraph_eq m recurse
  · intro _; exact genGraphNum_eq m recurse
  · rfl
  · rfl

theorem lhsList_map_eqnOf (eqs : List Eqn) (r : List Node) (h : ∀ v ∈ r, hasEq eqs v = true) :
    lhsList (r.map (eqnOf eqs)) = r := by
  induction r with
  | nil => rfl
  | cons v r ih =>
    have hv := h v (List.mem_cons_self ..)
    rw [hasEq_eq_isSome] at hv
    obtain ⟨e, he⟩ := Option.isSome_iff_exists.mp hv
    have ih' := ih (fun w hw => h w (List.mem_cons_of_mem _ hw))
    simp only [lhsList, List.map_cons, List.map_map] at ih' ⊢
    rw [ih', he, theEqn_some, C09.eqnOf_lhs he]

/-- python returned `res` ⇒ the hand model returns the left-hand sides of `res`, and `res` is the list of the
    `equation` attributes of those nodes -/
theorem gen_ok {m : PyModel} {vars : List Node} {recurse strip : Bool}
    {res : List (Option Eqn)} (h : genEquationsFor m vars recurse strip = .ok res) :
    getEquationsFor m.key m.eqs vars recurse strip = .ok (lhsList res) ∧ res = (lhsList res).map (eqnOf m.eqs) := by
  rw [genEquationsFor_tie m vars recurse strip] at h
  cases hm : getEquationsFor m.key m.eqs vars recurse strip with
  | error x => rw [hm] at h; simp [errClass, Except.map] at h
  | ok r =>
    rw [hm] at h
    simp only [errClass, Except.map, Except.ok.injEq] at h
    subst h
    rw [lhsList_map_eqnOf m.eqs r (eqsfor_hasEq hm)]
    exact ⟨rfl, rfl⟩

/-- the hand model returns `r` ⇒ python returns the equations of `r` -/
theorem gen_of_ok {m : PyModel} {vars : List Node} {recurse strip : Bool}
    {r : List Node} (h : getEquationsFor m.key m.eqs vars recurse strip = .ok r) :
    genEquationsFor m vars recurse strip = .ok (r.map (eqnOf m.eqs)) := by
  rw [genEquationsFor_tie m vars recurse strip, h]
  rfl

/-- the hand model fails ⇒ python raises the class `errName` gives -/
theorem gen_of_error {m : PyModel} {vars : List Node} {recurse strip : Bool}
    {x : Err} (h : getEquationsFor m.key m.eqs vars recurse strip = .error x) :
    genEquationsFor m vars recurse strip = .error ⟨errName recurse x⟩ := by
  rw [genEquationsFor_tie m vars recurse strip, h]
  rfl

/-- every entry python returns is an equation of the model, filed under its own left-hand side -/
theorem gen_entries {m : PyModel} {vars : List Node} {recurse strip : Bool}
    {res : List (Option Eqn)} (h : genEquationsFor m vars recurse strip = .ok res) :
    ∀ o ∈ res, ∃ e ∈ m.eqs, o = some e ∧ eqnOf m.eqs e.lhs = some e := by
  obtain ⟨hm, hres⟩ := gen_ok h
  intro o ho
  rw [hres] at ho
  obtain ⟨v, hv, rfl⟩ := List.mem_map.mp ho
  have := eqsfor_hasEq hm v hv
  rw [hasEq_eq_isSome] at this
  obtain ⟨e, he⟩ := Option.isSome_iff_exists.mp this
  refine ⟨e, List.mem_of_find?_eq_some he, he, ?_⟩
  rw [C09.eqnOf_lhs he]; exact he

/-- the leaf binding of `nx.lexicographical_topological_sort` returns exactly when the model sort does -/
theorem nxLexTopo_ok_iff (key : Node → String) (g : Graph) (l : List Node) :
    nxLexTopo key g = .ok l ↔ lexTopo key g = .ok l := by
  unfold nxLexTopo
  cases h : lexTopo key g <;> simp

/-- and raises `NetworkXUnfeasible` exactly when the model sort fails -/
theorem nxLexTopo_error_iff (key : Node → String) (g : Graph) :
    nxLexTopo key g = .error ⟨"NetworkXUnfeasible"⟩ ↔ ∃ x, lexTopo key g = .error x := by
  unfold nxLexTopo
  cases h : lexTopo key g <;> simp

end Cellml.Tie.GenD
