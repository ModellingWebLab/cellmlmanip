import Lean.Meta.Tactic.Simp.RegisterCommand

/-- what `simp only [py_run]` runs a generated `do` block in the `PyM` of `Tie/ModelStateView.lean` with (not the `PyM` of
    `Tie/PyM.lean`; `Tie/ModelState.lean` fills the set): the
    equations that push `.run s` through the block, the equations of the accessors and of `_invalidate_cache`, and the
    normal forms of the Boolean conditions (`if true`, `isSome (some _)`, …) -/
register_simp_attr py_run
