import Cellml.Tie.AddVars
import Cellml.Tie.ModelState
import Cellml.Tie.Cmeta

/-! # Simulation: the leaf `modelAddVariable` of the generated `_add_variables` (on the loader's record `CompsState`)
      against the GENERATED `Model.add_variable` (`Gen.ModelState.addVariable`, on the model object `Model.MState`)

    `R flat D cs ms`: the loader's record `cs` and the model object `ms` describe the same variables. The two
    `add_variable`s take the same decision on related states (`modelAddVariable_sim`), and running the generated
    `_add_variables` keeps the relation (`genAddVariables_refines`). -/

namespace Cellml.Tie.PAddVarRef
open Load Cellml.Gen Cellml.Tie.PAddVars Cellml.Tie.PModelState

/-- `flat` names the loader's variables (on `D`) by distinct strings: the only property of python's flat names the
    simulation uses -/
def FlatInjOn (D : VRef → Prop) (flat : VRef → String) : Prop := ∀ a b : VRef, D a → D b → flat a = flat b → a = b

/-- what the model object keeps of the `Variable` with identity number `i`: name, cmeta id, initial value -/
def varFacts (ms : Model.MState) (i : Nat) : Option (String × Option String × Option Rat) :=
  (ms.heap[i]?).map (fun v => (v.name, v.cmeta, v.init))

/-- **the loader's record and the model object describe the same variables**: the model object satisfies the
    invariant of `Props/C08.lean`; a flat name is in the loader's name list exactly when it is a key of
    `_name_to_variable`; a cmeta id is in the loader's id list exactly when `has_cmeta_id` says so (the model's own id
    included); the variables of `_name_to_variable`, in insertion order, are the rows of the loader's table in order
    (name, cmeta id, initial value). -/
structure R (flat : VRef → String) (D : VRef → Prop) (cs : CompsState) (ms : Model.MState) : Prop where
  inv : Model.Inv ms
  names : ∀ r, D r → cs.acc.1.contains r = nameHas ms (flat r)
  cmeta : ∀ id, cs.acc.2.contains id = Model.hasCmetaId ms id
  vars : ms.live.map (varFacts ms) = cs.vt.map (fun p => some (flat p.1, p.2.cmeta, p.2.init))

/-- **the start of the loader** (`Model(name, cmeta_id)`, no variable yet; `Load.checkComps` starts from
    `([], doc.cmeta.toList)`) -/
theorem R_init (flat : VRef → String) (D : VRef → Prop) (comps : List String) (mc : Option String) :
    R flat D ⟨comps, ([], mc.toList), []⟩ (Model.init mc) := by
  refine ⟨Model.inv_init mc, fun r _ => rfl, fun id => ?_, rfl⟩
  cases mc with
  | none => rfl
  | some c =>
    simp only [Model.hasCmetaId, Model.init, Model.hasKey, List.any_nil, Bool.or_false, Option.toList,
      List.contains_cons, List.contains_nil]
    by_cases h : id = c
    · subst h; simp
    · have : ¬ c = id := fun e => h e.symm
      have e1 : (id == c) = false := beq_eq_false_iff_ne.mpr h
      have e2 : (some c == some id) = false := beq_eq_false_iff_ne.mpr (fun q => this (Option.some.inj q))
      rw [e1, e2]

theorem any_congr_mem {α} (f g : α → Bool) : ∀ l : List α, (∀ i ∈ l, f i = g i) → l.any f = l.any g
  | [], _ => rfl
  | a :: l, h => by
    simp only [List.any_cons]
    rw [h a List.mem_cons_self, any_congr_mem f g l (fun i hi => h i (List.mem_cons_of_mem _ hi))]

/-- the model object after a successful `add_variable` -/
def succState (ms : Model.MState) (name : String) (cm : Option String) (init : Option Rat) : Model.MState :=
  Model.invalidate { ms with heap := ms.heap ++ [⟨name, ms.nextOrder, cm, init, none⟩],
                             live := ms.live ++ [ms.heap.length],
                             nextOrder := ms.nextOrder + 1,
                             cmetaMap := Model.registerCmeta cm ms.heap.length ms.cmetaMap }

theorem nameOfVar_succ_old (ms : Model.MState) (name cm init) (i : Nat) (hi : i < ms.heap.length) :
    Model.nameOfVar (succState ms name cm init) i = Model.nameOfVar ms i :=
  (Model.nameOfVar_snoc (s := ms) rfl i).trans (if_neg (Nat.ne_of_lt hi))

theorem nameOfVar_succ_new (ms : Model.MState) (name cm init) :
    Model.nameOfVar (succState ms name cm init) ms.heap.length = name :=
  (Model.nameOfVar_snoc (s := ms) rfl _).trans (if_pos rfl)

theorem nameHas_succ (ms : Model.MState) (name cm init) (hb : ∀ i ∈ ms.live, i < ms.heap.length) (s : String) :
    nameHas (succState ms name cm init) s = (nameHas ms s || (name == s)) := by
  unfold nameHas
  have hl : (succState ms name cm init).live = ms.live ++ [ms.heap.length] := rfl
  rw [hl, List.any_append]
  congr 1
  · exact any_congr_mem _ _ _ (fun i hi => by rw [nameOfVar_succ_old ms name cm init i (hb i hi)])
  · simp only [List.any_cons, List.any_nil, Bool.or_false, nameOfVar_succ_new]

theorem varFacts_succ_old (ms : Model.MState) (name cm init) (i : Nat) (hi : i < ms.heap.length) :
    varFacts (succState ms name cm init) i = varFacts ms i := by
  simp only [varFacts, succState, Model.invalidate, List.getElem?_append_left hi]

theorem varFacts_succ_new (ms : Model.MState) (name cm init) :
    varFacts (succState ms name cm init) ms.heap.length = some (name, cm, init) := by
  simp [varFacts, succState, Model.invalidate]

theorem hasCmetaId_succ (ms : Model.MState) (name cm init) (id : String) :
    Model.hasCmetaId (succState ms name cm init) id =
      ((match cm with | some c => id == c | none => false) || Model.hasCmetaId ms id) := by
  cases cm with
  | none => simp [Model.hasCmetaId, succState, Model.invalidate, Model.registerCmeta]
  | some c =>
    simp only [Model.hasCmetaId, succState, Model.invalidate, Model.registerCmeta, Model.hasKey_insertKey]
    cases (ms.modelCmeta == some id) <;> cases (id == c) <;> simp

theorem modelAdd_decision {flat : VRef → String} {D : VRef → Prop} {cs : CompsState} {ms : Model.MState} (h : R flat D cs ms)
    (r : VRef) (hr : D r) (cm : Option String) (init : Option Rat) :
    Model.addVariable ms (flat r) cm init =
      if cs.acc.1.contains r then (ms, .raised .valueError)
      else if (match cm with | some id => cs.acc.2.contains id | none => false) then (ms, .raised .valueError)
      else (succState ms (flat r) cm init, .ok) := by
  have hn : ms.live.any (fun i => Model.nameOfVar ms i == flat r) = cs.acc.1.contains r := (h.names r hr).symm
  have hc : Model.cmetaTaken ms cm = (match cm with | some id => cs.acc.2.contains id | none => false) := by
    cases cm with
    | none => rfl
    | some id => exact (h.cmeta id).symm
  unfold Model.addVariable
  rw [hn, hc]
  rfl

theorem genAddVariable_run {flat : VRef → String} {D : VRef → Prop} {cs : CompsState} {ms : Model.MState} (h : R flat D cs ms)
    (r : VRef) (hr : D r) (cm : Option String) (init : Option Rat) (pub priv : Option String) :
    (ModelState.addVariable (flat r) .unit init pub priv cm).run ms =
      if cs.acc.1.contains r then (.error ⟨"ValueError"⟩, ms)
      else if (match cm with | some id => cs.acc.2.contains id | none => false) then (.error ⟨"ValueError"⟩, ms)
      else (.ok ms.heap.length, succState ms (flat r) cm init) := by
  rw [addVariable_tie_of_inv ms h.inv (flat r) .unit init pub priv cm (by intro e; cases e)]
  show outcome _ (Model.addVariable ms (flat r) cm init) = _
  rw [modelAdd_decision h r hr]
  split_ifs <;> rfl

theorem R_step {flat : VRef → String} {D : VRef → Prop} (hinj : FlatInjOn D flat) {cs : CompsState}
    {ms : Model.MState} (h : R flat D cs ms)
    (r : VRef) (hr : D r) (info : VarInfo) (h1 : cs.acc.1.contains r = false)
    (h2 : (match info.cmeta with | some id => cs.acc.2.contains id | none => false) = false) :
    R flat D
      { cs with
        acc := (r :: cs.acc.1, match info.cmeta with | some id => id :: cs.acc.2 | none => cs.acc.2)
        vt := cs.vt ++ [(r, info)] }
      (succState ms (flat r) info.cmeta info.init) := by
  have hb := h.inv.reg.liveBound
  refine ⟨?_, ?_, ?_, ?_⟩
  · have hi := Model.inv_addVariable h.inv (flat r) info.cmeta info.init
    rw [modelAdd_decision h r hr, h1, h2] at hi
    exact hi
  · intro r' hr'
    simp only [List.contains_cons]
    rw [nameHas_succ ms _ _ _ hb, ← h.names r' hr', Bool.or_comm]
    congr 1
    by_cases e : r' = r
    · subst e; simp
    · have e' : ¬ flat r = flat r' := fun q => e (hinj _ _ hr hr' q).symm
      rw [beq_eq_false_iff_ne.mpr e, beq_eq_false_iff_ne.mpr e']
  · intro id
    rw [hasCmetaId_succ, ← h.cmeta id]
    cases info.cmeta with
    | none => rfl
    | some c =>
      show (c :: cs.acc.2).contains id = ((id == c) || cs.acc.2.contains id)
      rw [List.contains_cons]
  · have hl : (succState ms (flat r) info.cmeta info.init).live = ms.live ++ [ms.heap.length] := rfl
    rw [hl, List.map_append, List.map_append, ← h.vars]
    congr 1
    · exact List.map_congr_left (fun i hi => varFacts_succ_old ms _ _ _ i (hb i hi))
    · simp only [List.map_cons, List.map_nil, varFacts_succ_new]

/-- **the domain**: the keyword dicts `_add_variables` can pass to `add_variable` whose `initial_value` (when present)
    is a float literal: only parameters of `add_variable` as keys; `name` the flat name of the pair `r`
    (`component$name`); `units` a `Unit` object of the store (name `n`, container `c`). An `initial_value` that is not
    a float literal is outside: `float()` raises inside `Variable.__init__`, which `Model.MState` does not model. -/
structure Dom (attrs : Attrs) (r : VRef) (n : String) (c : Container) : Prop where
  kwargs : attrs.any (fun p => !kwargNames.contains p.1) = false
  name : attrs.lookup "name" = some (.ref r)
  units : attrs.lookup "units" = some (.unit n c)
  init : attrs.lookup "initial_value" ≠ some (.floatText none)

theorem modelAddVariable_dom (self : CompsView) (cs : CompsState) {attrs : Attrs} {r : VRef} {n : String}
    {c : Container} (hd : Dom attrs r n c) :
    modelAddVariable self cs attrs =
      if cs.acc.1.contains r then .error ⟨"ValueError"⟩
      else if (match cmetaArg attrs with | some id => cs.acc.2.contains id | none => false) then
        .error ⟨"ValueError"⟩
      else .ok (r, { cs with
        acc := (r :: cs.acc.1, match cmetaArg attrs with | some id => id :: cs.acc.2 | none => cs.acc.2),
        vt := cs.vt ++ [(r, ⟨c, ifaceArg attrs "public_interface", ifaceArg attrs "private_interface",
                             initArg attrs, cmetaArg attrs, n⟩)] }) := by
  rw [modelAddVariable_of self cs hd.kwargs hd.name hd.units, if_neg hd.init]
  rfl

/-- how the two runs compare: same exception and the model object untouched, or related successor states and the
    returned `Variable`s are the same one (the returned number is the identity of the variable called `flat r`, the
    newest entry of `_name_to_variable`) -/
def Agree (flat : VRef → String) (D : VRef → Prop) (ms : Model.MState) :
    Except PyErr (VRef × CompsState) → Except PyErr Nat × Model.MState → Prop
  | .error e1, (.error e2, ms') => e1 = e2 ∧ e1 = ⟨"ValueError"⟩ ∧ ms' = ms
  | .ok (r, cs'), (.ok id, ms') => R flat D cs' ms' ∧ Model.nameOfVar ms' id = flat r ∧ ms'.live = ms.live ++ [id]
  | _, _ => False

/-- **SIMULATION, one call**: on related states and for every keyword dict of the domain, the leaf `modelAddVariable`
    (what the generated `_add_variables` calls) and the GENERATED `Model.add_variable` (called with the same keywords:
    the flat name as a string, a `Unit` object, the initial value, the cmeta id; any interfaces) agree: both raise
    ValueError when the name exists, both raise ValueError when the cmeta id is in use (the model's own included) — and
    then the model object is untouched —, otherwise both return and the successor states are related. -/
theorem modelAddVariable_sim {flat : VRef → String} {D : VRef → Prop} (hinj : FlatInjOn D flat) (self : CompsView) {cs : CompsState}
    {ms : Model.MState} (h : R flat D cs ms) {attrs : Attrs} {r : VRef} {n : String} {c : Container}
    (hd : Dom attrs r n c) (hr : D r) (pub priv : Option String) :
    Agree flat D ms (modelAddVariable self cs attrs)
      ((ModelState.addVariable (flat r) .unit (initArg attrs) pub priv (cmetaArg attrs)).run ms) := by
  rw [modelAddVariable_dom self cs hd, genAddVariable_run h r hr]
  by_cases h1 : cs.acc.1.contains r = true
  · simp only [h1, if_true]; exact ⟨rfl, rfl, rfl⟩
  · by_cases h2 : (match cmetaArg attrs with | some id => cs.acc.2.contains id | none => false) = true
    · simp only [h1, h2, if_true, if_false, Bool.false_eq_true]; exact ⟨rfl, rfl, rfl⟩
    · simp only [h1, h2, if_false, Bool.false_eq_true]
      refine ⟨?_, nameOfVar_succ_new ms _ _ _, rfl⟩
      exact R_step hinj h r hr ⟨c, ifaceArg attrs "public_interface", ifaceArg attrs "private_interface",
        initArg attrs, cmetaArg attrs, n⟩ (by simpa using h1) (by simpa using h2)

theorem sim_name_exists {flat : VRef → String} {D : VRef → Prop} (self : CompsView) {cs : CompsState} {ms : Model.MState}
    (h : R flat D cs ms) {attrs : Attrs} {r : VRef} {n : String} {c : Container} (hd : Dom attrs r n c)
    (hr : D r) (pub priv : Option String) (hn : cs.acc.1.contains r = true) :
    modelAddVariable self cs attrs = .error ⟨"ValueError"⟩ ∧
    (ModelState.addVariable (flat r) .unit (initArg attrs) pub priv (cmetaArg attrs)).run ms
      = (.error ⟨"ValueError"⟩, ms) := by
  rw [modelAddVariable_dom self cs hd, genAddVariable_run h r hr]
  simp only [hn, if_true, and_self]

theorem sim_cmeta_in_use {flat : VRef → String} {D : VRef → Prop} (self : CompsView) {cs : CompsState} {ms : Model.MState}
    (h : R flat D cs ms) {attrs : Attrs} {r : VRef} {n : String} {c : Container} (hd : Dom attrs r n c)
    (hr : D r) (pub priv : Option String) (id : String) (hc : cmetaArg attrs = some id)
    (hu : ms.modelCmeta = some id ∨ cs.acc.2.contains id = true) :
    modelAddVariable self cs attrs = .error ⟨"ValueError"⟩ ∧
    (ModelState.addVariable (flat r) .unit (initArg attrs) pub priv (cmetaArg attrs)).run ms
      = (.error ⟨"ValueError"⟩, ms) := by
  have hu' : cs.acc.2.contains id = true := by
    rcases hu with hm | hu
    · rw [h.cmeta id]; simp [Model.hasCmetaId, hm]
    · exact hu
  rw [modelAddVariable_dom self cs hd, genAddVariable_run h r hr, hc]
  simp only [hu', if_true, ite_self, and_self]

/-- `_add_variables` with the model OBJECT behind `self.model`: per `<variable>` child the unit lookup, then the
    GENERATED `Model.add_variable` with the keywords `_add_variables` builds (flat name, the `Unit` object, the value of
    `initial_value`, the two interface strings, the cmeta id). The loop and the keyword arguments are WRITTEN HERE BY
    HAND: the generated `_add_variables` runs over the loader's record `CompsState` only. -/
def msLoop (flat : VRef → String) (ust : Units.Store) (cname : String) :
    List VarElem → Model.MState → Except PyErr Unit × Model.MState
  | [], ms => (.ok (), ms)
  | v :: rest, ms =>
    match Units.getUnit ust v.decl.units with
    | .error _ => (.error ⟨"KeyError"⟩, ms)
    | .ok _ =>
      match (ModelState.addVariable (flat (cname, v.decl.name)) .unit v.decl.init (some (ifaceStr v.decl.pub))
              (some (ifaceStr v.decl.priv)) v.decl.cmeta).run ms with
      | (.ok _, ms') => msLoop flat ust cname rest ms'
      | (.error e, ms') => (.error e, ms')

theorem loop_refines {flat : VRef → String} {D : VRef → Prop} (hinj : FlatInjOn D flat) (ust : Units.Store) (cname : String)
    (hD : ∀ x, D (cname, x)) :
    ∀ (vs : List VarElem) (cs : CompsState) (ms : Model.MState), R flat D cs ms → (∀ v ∈ vs, v.badInit = false) →
      match varsSpec ust cname vs cs.acc with
      | .ok acc' => ∃ ms', msLoop flat ust cname vs ms = (.ok (), ms') ∧
          R flat D { cs with acc := acc', vt := cs.vt ++ vs.map (fun v => entry ust cname v.decl) } ms'
      | .error err => ∃ ms', msLoop flat ust cname vs ms = (.error err, ms')
  | [], cs, ms, h, _ => ⟨ms, rfl, by simpa using h⟩
  | v :: rest, cs, ms, h, hb => by
    have hv : v.badInit = false := hb v List.mem_cons_self
    simp only [varsSpec, msLoop, hv, Bool.false_eq_true, if_false]
    cases hu : Units.getUnit ust v.decl.units with
    | error a => exact ⟨ms, rfl⟩
    | ok c =>
      simp only []
      rw [genAddVariable_run h _ (hD v.decl.name)]
      by_cases h1 : cs.acc.1.contains (cname, v.decl.name) = true
      · simp only [h1, if_true]
        exact ⟨ms, rfl⟩
      · have next := fun hc => loop_refines hinj ust cname hD rest _ _
          (R_step hinj h (cname, v.decl.name) (hD _) (entry ust cname v.decl).2 (by simpa using h1) hc)
          (fun v' m => hb v' (List.mem_cons_of_mem _ m))
        simp only [h1, Bool.false_eq_true, if_false]
        rcases hcm : v.decl.cmeta with _ | id
        · have ih := next (by simp [entry, hcm])
          simp only [entry, hcm, hu] at ih
          simp only [Bool.false_eq_true, if_false]
          cases hvs : varsSpec ust cname rest ((cname, v.decl.name) :: cs.acc.1, cs.acc.2) <;> rw [hvs] at ih
          · exact ih
          · simpa [entry, hu, hcm, List.append_assoc] using ih
        · by_cases h2 : cs.acc.2.contains id = true
          · simp only [h2, if_true]
            exact ⟨ms, rfl⟩
          · have ih := next (by simpa [entry, hcm] using h2)
            simp only [entry, hcm, hu] at ih
            simp only [h2, Bool.false_eq_true, if_false]
            cases hvs : varsSpec ust cname rest ((cname, v.decl.name) :: cs.acc.1, id :: cs.acc.2) <;> rw [hvs] at ih
            · exact ih
            · simpa [entry, hu, hcm, List.append_assoc] using ih

/-- **the generated `_add_variables` keeps the relation**: from related states, on a `<component>` element whose
    `initial_value`s are float literals, the GENERATED `_add_variables` (over the loader's record, leaf
    `modelAddVariable`) and the same loop over the model object (GENERATED `Model.add_variable`) either both return —
    and then the record and the object are related again: the variables the loader has recorded are exactly the
    variables the model object holds — or both raise the same exception. -/
theorem genAddVariables_refines {flat : VRef → String} {D : VRef → Prop} (hinj : FlatInjOn D flat) (ust : Units.Store) (e : CompElemV)
    (hD : ∀ x, D (e.name, x))
    {cs : CompsState} {ms : Model.MState} (h : R flat D cs ms) (hb : ∀ v ∈ e.vars, v.badInit = false) :
    (∀ out cs', AddVars.addVariables ⟨ust⟩ e cs = .ok (out, cs') →
      ∃ ms', msLoop flat ust e.name e.vars ms = (.ok (), ms') ∧ R flat D cs' ms') ∧
    (∀ err, AddVars.addVariables ⟨ust⟩ e cs = .error err →
      ∃ ms', msLoop flat ust e.name e.vars ms = (.error err, ms')) := by
  have hl := loop_refines hinj ust e.name hD e.vars cs ms h hb
  rw [addVariables_spec]
  cases hs : varsSpec ust e.name e.vars cs.acc with
  | error x =>
    rw [hs] at hl
    refine ⟨fun out cs' he => (by cases he), fun err he => ?_⟩
    cases he
    exact hl
  | ok acc' =>
    rw [hs] at hl
    refine ⟨fun out cs' he => ?_, fun err he => by cases he⟩
    simp only [Except.ok.injEq, Prod.mk.injEq] at he
    obtain ⟨ms', e1, e2⟩ := hl
    exact ⟨ms', e1, he.2 ▸ e2⟩

/-- the same for the leaf of the generated `_add_components` (`genAddVariables`, on a `<component>` element of the
    models: every `initial_value` readable) -/
theorem genAddVariables_leaf_refines {flat : VRef → String} {D : VRef → Prop} (hinj : FlatInjOn D flat) (ust : Units.Store) (e : CompElem)
    (hD : ∀ x, D (e.comp.name, x)) {cs : CompsState} {ms : Model.MState} (h : R flat D cs ms) :
    (∀ out cs', genAddVariables ⟨ust⟩ cs e = .ok (out, cs') →
      ∃ ms', msLoop flat ust e.comp.name (ofCompElem e).vars ms = (.ok (), ms') ∧ R flat D cs' ms') ∧
    (∀ err, genAddVariables ⟨ust⟩ cs e = .error err →
      ∃ ms', msLoop flat ust e.comp.name (ofCompElem e).vars ms = (.error err, ms')) := by
  have hb : ∀ v ∈ (ofCompElem e).vars, v.badInit = false := by
    intro v hv; simp only [ofCompElem, List.mem_map] at hv; obtain ⟨d, _, rfl⟩ := hv; rfl
  have hg := genAddVariables_refines hinj ust (ofCompElem e) hD h hb
  unfold genAddVariables
  cases hr : AddVars.addVariables ⟨ust⟩ (ofCompElem e) cs with
  | error x =>
    refine ⟨fun out cs' he => (by cases he), fun err he => ?_⟩
    have : x = err := by simpa [Except.map] using he
    subst this
    exact hg.2 _ hr
  | ok p =>
    obtain ⟨l, cs1⟩ := p
    refine ⟨fun out cs' he => ?_, fun err he => by cases he⟩
    have : cs1 = cs' := by
      simp only [Except.map, Except.ok.injEq, Prod.mk.injEq] at he
      exact he.2
    subst this
    exact hg.1 _ _ hr

/-- **what the loader records = what the model object holds**, in the words of python: three fields of `R` read out
    (that `R` holds after any run of the generated `_add_variables` from related states is `genAddVariables_refines`).
    In insertion order, the `Variable`s of `_name_to_variable` carry the flat name, the cmeta id and the
    initial value of the rows of the loader's table; and a name / a cmeta id is refused by the one exactly when it is
    refused by the other. -/
theorem recorded_eq_held {flat : VRef → String} {D : VRef → Prop} {cs : CompsState} {ms : Model.MState} (h : R flat D cs ms) :
    ms.live.map (varFacts ms) = cs.vt.map (fun p => some (flat p.1, p.2.cmeta, p.2.init)) ∧
    (∀ r, D r → cs.acc.1.contains r = nameHas ms (flat r)) ∧ (∀ id, cs.acc.2.contains id = Model.hasCmetaId ms id) :=
  ⟨h.vars, h.names, h.cmeta⟩

/-- `self.components[name] = _Component(name)` (between two runs of `_add_variables`) does not touch the relation -/
theorem R_newComponent {flat : VRef → String} {D : VRef → Prop} {cs : CompsState} {ms : Model.MState}
    (h : R flat D cs ms) (name : String) : R flat D (newComponent cs name) ms :=
  ⟨h.inv, h.names, h.cmeta, h.vars⟩

/-- `component_name + SYMPY_SYMBOL_DELIMITER + variable_name`: the string python uses as the key of
    `_name_to_variable` -/
def flatName (r : VRef) : String := r.1 ++ "$" ++ r.2

/-- the flat names of python are injective on the pairs whose COMPONENT name has no `$` (the RELAX NG schema of
    `Parser.parse` admits no `$` in any name) -/
theorem flatName_inj (a b : VRef) (ha : '$' ∉ a.1.toList) (hb : '$' ∉ b.1.toList) (h : flatName a = flatName b) :
    a = b := by
  obtain ⟨a1, a2⟩ := a
  obtain ⟨b1, b2⟩ := b
  have h' : (a1 ++ "$" ++ a2).toList = (b1 ++ "$" ++ b2).toList := congrArg String.toList h
  simp only [String.toList_append, List.append_assoc] at h'
  have hd : "$".toList = ['$'] := rfl
  rw [hd] at h'
  obtain ⟨e1, e2⟩ := List.append_sep_inj '$' _ _ _ _ ha hb h'
  have e1' : a1.toList = b1.toList := e1
  have e2' : a2.toList = b2.toList := e2
  rw [String.toList_inj.mp e1', String.toList_inj.mp e2']

/-- the pairs whose component name has no `$` (all names a validated document can have: the RELAX NG schema of
    `Parser.parse` rejects `$`) -/
def NoDollar (r : VRef) : Prop := '$' ∉ r.1.toList

/-- `genAddVariables_refines` for the strings python really uses (`component$name`), on a component whose name has
    no `$` -/
theorem genAddVariables_refines_flatName (ust : Units.Store) (e : CompElemV) (hn : '$' ∉ e.name.toList)
    {cs : CompsState} {ms : Model.MState} (h : R flatName NoDollar cs ms) (hb : ∀ v ∈ e.vars, v.badInit = false) :
    (∀ out cs', AddVars.addVariables ⟨ust⟩ e cs = .ok (out, cs') →
      ∃ ms', msLoop flatName ust e.name e.vars ms = (.ok (), ms') ∧ R flatName NoDollar cs' ms') ∧
    (∀ err, AddVars.addVariables ⟨ust⟩ e cs = .error err →
      ∃ ms', msLoop flatName ust e.name e.vars ms = (.error err, ms')) :=
  genAddVariables_refines flatName_inj ust e (fun _ => hn) h hb

/-- **the domain is what `_add_variables` produces**: for every `<variable>` element with a readable (or no)
    `initial_value`, the dict it passes is in `Dom`, its `cmeta_id` is the element's `cmeta:id`, its `initial_value`
    the element's -/
theorem kwargsOf_dom (cname : String) (v : VarElem) (c : Container) (hb : v.badInit = false) :
    Dom (kwargsOf cname v c) (cname, v.decl.name) v.decl.units c ∧
    cmetaArg (kwargsOf cname v c) = v.decl.cmeta ∧ initArg (kwargsOf cname v c) = v.decl.init := by
  obtain ⟨hn, hu, hcm, _, _, hiv⟩ := kwargsOf_reads cname v c
  rw [hb] at hiv
  refine ⟨⟨kwargsOf_keys _ _ _, hn, hu, ?_⟩, hcm, ?_⟩
  · rw [hiv]
    cases v.decl.init <;> simp
  · rw [initArg, hiv]
    cases v.decl.init <;> rfl

/-- `Agree` for the annotated model: the RDF store is never touched -/
def AgreeA (flat : VRef → String) (D : VRef → Prop) (a : Model.AState) :
    Except PyErr (VRef × CompsState) → Except PyErr Nat × Model.AState → Prop
  | .error e1, (.error e2, a') => e1 = e2 ∧ e1 = ⟨"ValueError"⟩ ∧ a' = a
  | .ok (r, cs'), (.ok id, a') =>
      R flat D cs' a'.m ∧ Model.nameOfVar a'.m id = flat r ∧ a'.m.live = a.m.live ++ [id] ∧ a'.rdf = a.rdf
  | _, _ => False

theorem cmetaAddVariable_eq {flat : VRef → String} {D : VRef → Prop} {cs : CompsState} {a : Model.AState}
    (h : R flat D cs a.m) (r : VRef) (hr : D r) (units : PCmeta.UnitArg) (cm : Option String) (init : Option Rat)
    (pub priv : Option String) :
    Cmeta.addVariable (flat r) units init pub priv cm a =
      (((ModelState.addVariable (flat r) .unit init pub priv cm).run a.m).1,
        { a with m := ((ModelState.addVariable (flat r) .unit init pub priv cm).run a.m).2 }) := by
  rw [PCmeta.addVariable_tie a (flat r) units init pub priv cm h.inv.reg.liveBound, genAddVariable_run h r hr,
    modelAdd_decision h r hr]
  split_ifs <;> rfl

theorem AgreeA.of_agree {flat : VRef → String} {D : VRef → Prop} {a : Model.AState}
    {x : Except PyErr (VRef × CompsState)} {p : Except PyErr Nat × Model.MState} (h : Agree flat D a.m x p) :
    AgreeA flat D a x (p.1, { a with m := p.2 }) := by
  match x, p, h with
  | .error _, (.error _, _), ⟨h1, h2, h3⟩ => exact ⟨h1, h2, by rw [h3]⟩
  | .ok _, (.ok _, _), ⟨h1, h2, h3⟩ => exact ⟨h1, h2, h3, rfl⟩

/-- **SIMULATION, one call, group Cmeta**: the leaf `modelAddVariable` and the generated `add_variable` over the
    annotated model agree on related states, for every keyword dict of the domain -/
theorem modelAddVariable_sim_cmeta {flat : VRef → String} {D : VRef → Prop} (hinj : FlatInjOn D flat)
    (self : CompsView) {cs : CompsState} {a : Model.AState} (h : R flat D cs a.m) {attrs : Attrs} {r : VRef}
    {n : String} {c : Container} (hd : Dom attrs r n c) (hr : D r) (units : PCmeta.UnitArg)
    (pub priv : Option String) :
    AgreeA flat D a (modelAddVariable self cs attrs)
      (Cmeta.addVariable (flat r) units (initArg attrs) pub priv (cmetaArg attrs) a) := by
  rw [cmetaAddVariable_eq h r hr]
  exact .of_agree (modelAddVariable_sim hinj self h hd hr pub priv)

end Cellml.Tie.PAddVarRef
