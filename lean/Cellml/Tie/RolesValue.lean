import Cellml.Generated.Code.RolesValue
import Cellml.Tie.RolesQueries
import Cellml.Model.RolesExpr
import Cellml.Model.Assoc
import Mathlib.Tactic.SplitIfs

/-! # Tie: `Model._get_value`, its nested `expand_derivatives` and `Model.get_value` (generated from the source)
      = `expand`, `getValueAux`, `getValue` of the hand model `Model/Roles.lean` -/

namespace Cellml.Tie.PRoles
open Model Cellml.Gen

/-- what one pass of the loop of `expand_derivatives` computes for a derivative -/
def replFor (M : RModel) (rec : Expr → Except PyErr Expr) (d : Node) : Except PyErr Expr :=
  if ((odeGet M (nodeArg0 d)).isNone || eqLhsNode (odeGet M (nodeArg0 d)) != some d) = true then
    .error ⟨"ValueError"⟩
  else match optEqRhs M (odeGet M (nodeArg0 d)) with
    | .error err => .error err
    | .ok v => rec v

/-- the loop of `expand_derivatives`: a fold that stops at the first exception -/
def buildRepl (g : Node → Except PyErr Expr) (ds : List Node) (r : List (Node × Expr)) :
    Except PyErr (List (Node × Expr)) :=
  ds.foldlM (fun r d => (g d).map fun v => Py.setAssoc d v r) r

theorem forIn_eq_buildRepl (body : Node → List (Node × Expr) → Except PyErr (ForInStep (List (Node × Expr))))
    (g : Node → Except PyErr Expr)
    (hb : ∀ d s, body d s = match g d with
      | .error x => .error x
      | .ok v => .ok (.yield (Py.setAssoc d v s))) (ds : List Node) (r : List (Node × Expr)) :
    forIn ds r body = buildRepl g ds r :=
  List.forIn_eq_foldlM_of_yield _ body ds r fun d _ s => by rw [hb]; cases g d <;> rfl

theorem expand_shape (M : RModel) (rec : Expr → Except PyErr Expr) (e : Expr) :
    RolesValue.expandDerivatives M rec e =
      if (derivAtoms e).isEmpty then .ok e
      else match buildRepl (replFor M rec) (derivAtoms e) [] with
        | .error err => .error err
        | .ok r => .ok (xreplaceDerivs e r) := by
  unfold RolesValue.expandDerivatives
  simp only [except_run, Py.truthy_list]
  rw [forIn_eq_buildRepl (g := replFor M rec)]
  · simp only [Py.emptyDict, Bool.not_not]
    split_ifs
    · rfl
    · cases buildRepl (replFor M rec) (derivAtoms e) [] <;> rfl
  · intro d s
    unfold replFor
    split_ifs
    · rfl
    · cases optEqRhs M (odeGet M (nodeArg0 d)) with
      | error err => rfl
      | ok v => simp only []; cases rec v <;> rfl

/-- the exception of the first derivative (in iteration order) for which the loop raises -/
def firstErr (g : Node → Except PyErr Expr) : List Node → Option PyErr
  | [] => none
  | d :: ds => match g d with
    | .error x => some x
    | .ok _ => firstErr g ds

/-- the dictionary holds, for each of the derivatives, what the loop computes for it -/
def Agrees (g : Node → Except PyErr Expr) (r : List (Node × Expr)) (ds : List Node) : Prop :=
  ∀ d ∈ ds, ∃ x, g d = .ok x ∧ r.lookup d = some x

theorem firstErr_append (g : Node → Except PyErr Expr) (a b : List Node) :
    firstErr g (a ++ b) = match firstErr g a with | some x => some x | none => firstErr g b := by
  induction a with
  | nil => rfl
  | cons d ds ih =>
    simp only [List.cons_append, firstErr]
    cases g d <;> simp [ih]

theorem agrees_setAssoc {g : Node → Except PyErr Expr} {r : List (Node × Expr)} {ds : List Node} {d : Node} {v : Expr}
    (hd : g d = .ok v) (h : Agrees g r ds) : Agrees g (Py.setAssoc d v r) ds := by
  intro d' hd'
  obtain ⟨x, hx, hl⟩ := h d' hd'
  refine ⟨x, hx, ?_⟩
  rw [Py.lookup_setAssoc]
  by_cases he : d' = d
  · subst he; rw [hd] at hx; cases hx; simp
  · simp [he, hl]

theorem buildRepl_spec (g : Node → Except PyErr Expr) : ∀ (ds : List Node) (r : List (Node × Expr)),
    (∀ x, firstErr g ds = some x → buildRepl g ds r = .error x) ∧
    (firstErr g ds = none → ∃ r', buildRepl g ds r = .ok r' ∧ Agrees g r' ds ∧
        ∀ ds0, Agrees g r ds0 → Agrees g r' ds0) := by
  intro ds
  induction ds with
  | nil => intro r; exact ⟨fun x h => (by cases h), fun _ => ⟨r, rfl, fun d hd => (by cases hd), fun _ h => h⟩⟩
  | cons d ds ih =>
    intro r
    simp only [firstErr, buildRepl, List.foldlM_cons]
    cases hd : g d with
    | error x => exact ⟨fun y hy => (by cases hy; rfl), fun h => (by cases h)⟩
    | ok v =>
      obtain ⟨ih1, ih2⟩ := ih (Py.setAssoc d v r)
      refine ⟨ih1, fun hn => ?_⟩
      obtain ⟨r', hr', ha, hp⟩ := ih2 hn
      refine ⟨r', hr', ?_, fun ds0 h0 => hp ds0 (agrees_setAssoc hd h0)⟩
      intro d' hd'
      rcases List.mem_cons.mp hd' with rfl | hmem
      · have : Agrees g (Py.setAssoc d' v r) [d'] := by
          intro d'' h''
          rw [List.mem_singleton.mp h'']
          exact ⟨v, hd, by rw [Py.lookup_setAssoc]; simp⟩
        exact hp [d'] this d' (List.mem_singleton.mpr rfl)
      · exact ha d' hmem

theorem derivAtoms_bin (op : BinOp) (a b : Expr) : derivAtoms (.bin op a b) = derivAtoms a ++ derivAtoms b := by
  rw [derivAtoms, nodes_bin, List.filter_append]; rfl

theorem derivAtoms_opq (id : String) (args : List Expr) :
    derivAtoms (.opq id args) = args.flatMap derivAtoms := by
  rw [derivAtoms, nodes_opq, List.filter_flatMap]; rfl

theorem xreplaceDerivsL_eq (es : List Expr) (r : List (Node × Expr)) :
    xreplaceDerivsL es r = es.map (fun a => xreplaceDerivs a r) := by
  induction es with
  | nil => rfl
  | cons a as ih => simp [xreplaceDerivsL, ih]

theorem agrees_append {g : Node → Except PyErr Expr} {r : List (Node × Expr)} {a b : List Node}
    (h : Agrees g r (a ++ b)) : Agrees g r a ∧ Agrees g r b :=
  ⟨fun d hd => h d (List.mem_append_left _ hd), fun d hd => h d (List.mem_append_right _ hd)⟩

/-- `c` does what the loop of `expand_derivatives` followed by `xreplace` does on the derivatives `ds`: it fails with
    the first error of `g` on `ds`; if there is none it returns `R r`, for every dictionary `r` the loop may have built -/
def Spec {α : Type} (cls : VErr → String) (g : Node → Except PyErr Expr) (c : Except VErr α) (ds : List Node)
    (R : List (Node × Expr) → α) : Prop :=
  (∀ x, firstErr g ds = some x → errClass cls c = .error x) ∧
  (firstErr g ds = none → (∃ a, c = .ok a) ∧ ∀ r, Agrees g r ds → errClass cls c = .ok (R r))

/-- `Spec` of `e.bindD f`: the derivatives are those of `e`, the result is `e` with them replaced -/
def BindSpec (cls : VErr → String) (f : Nat → Nat → Except VErr Expr) (g : Node → Except PyErr Expr) (e : Expr) : Prop :=
  Spec cls g (e.bindD f) (derivAtoms e) (xreplaceDerivs e)

section
variable {α β : Type} {cls : VErr → String} {g : Node → Except PyErr Expr}

theorem spec_pure (a : α) : Spec cls g (pure a) [] (fun _ => a) :=
  ⟨fun _ h => (nomatch h), fun _ => ⟨⟨a, rfl⟩, fun _ _ => rfl⟩⟩

theorem spec_bind {c : Except VErr α} {k : α → Except VErr β} {ds ds' : List Node} {R : List (Node × Expr) → α}
    {R' : α → List (Node × Expr) → β} (h : Spec cls g c ds R) (h' : ∀ a, Spec cls g (k a) ds' (R' a)) :
    Spec cls g (c >>= k) (ds ++ ds') (fun r => R' (R r) r) := by
  unfold Spec
  rw [firstErr_append]
  cases hf : firstErr g ds with
  | some x =>
    have := h.1 x hf
    cases c with
    | error y =>
      have hx : (⟨cls y⟩ : PyErr) = x := Except.error.inj this
      exact ⟨fun x' hx' => Option.some.inj hx' ▸ congrArg Except.error hx, fun hn => (nomatch hn)⟩
    | ok a => cases this
  | none =>
    obtain ⟨⟨a, ha⟩, hr⟩ := h.2 hf
    subst ha
    rw [Except.ok_bind]
    refine ⟨(h' a).1, fun hn => ⟨((h' a).2 hn).1, fun r hag => ?_⟩⟩
    obtain ⟨hga, hgb⟩ := agrees_append hag
    show errClass cls (k a) = .ok (R' (R r) r)
    rw [← Except.ok.inj (hr r hga)]
    exact ((h' a).2 hn).2 r hgb

theorem spec_map {c : Except VErr α} {ds : List Node} {R : List (Node × Expr) → α} (h : Spec cls g c ds R) (k : α → β) :
    Spec cls g (c >>= fun a => pure (k a)) ds (fun r => k (R r)) := by
  simpa using spec_bind h (fun a => spec_pure (k a))

theorem bindDL_spec (f : Nat → Nat → Except VErr Expr) : ∀ (es : List Expr), (∀ a ∈ es, BindSpec cls f g a) →
    Spec cls g (Expr.bindDL f es) (es.flatMap derivAtoms) (xreplaceDerivsL es)
  | [], _ => spec_pure []
  | a :: as, h => by
    rw [bindDL_cons]
    exact spec_bind (h a List.mem_cons_self) fun a' =>
      spec_map (bindDL_spec f as fun x hx => h x (List.mem_cons_of_mem _ hx)) (a' :: ·)

end

/-- `Expr.bindD f` is what the loop + `xreplace` of `expand_derivatives` compute, when `g` is what the loop computes
    for one derivative (opaque terms included: both reach into the argument places) -/
theorem bindD_spec (cls : VErr → String) (f : Nat → Nat → Except VErr Expr) (g : Node → Except PyErr Expr)
    (hfg : ∀ s t, g (.deriv s t) = errClass cls (f s t)) : ∀ (e : Expr), BindSpec cls f g e := by
  intro e
  induction e with
  | num q => exact spec_pure _
  | var v => exact spec_pure _
  | opq id args ih =>
    rw [BindSpec, bindD_opq, derivAtoms_opq]
    exact spec_map (bindDL_spec f args ih) (Expr.opq id)
  | deriv s t =>
    have hda : derivAtoms (.deriv s t) = [.deriv s t] := rfl
    simp only [BindSpec, Spec, hda, firstErr, Expr.bindD, hfg]
    cases hf : f s t with
    | error x => exact ⟨fun y hy => (by cases hy; rfl), fun h => (by cases h)⟩
    | ok v =>
      refine ⟨fun y hy => (by cases hy), fun _ => ⟨⟨v, rfl⟩, fun r hr => ?_⟩⟩
      obtain ⟨x, hx, hl⟩ := hr (.deriv s t) (List.mem_singleton.mpr rfl)
      rw [hfg, hf] at hx
      cases hx
      simp [xreplaceDerivs, hl, errClass]
  | pow a n ih =>
    have hda : derivAtoms (.pow a n) = derivAtoms a := by rw [derivAtoms, nodes_pow]; rfl
    rw [BindSpec, bindD_pow, hda]
    exact spec_map ih (Expr.pow · n)
  | bin op a b iha ihb =>
    rw [BindSpec, bindD_bin, derivAtoms_bin]
    exact spec_bind (R' := fun a' r => Expr.bin op a' (xreplaceDerivs b r)) iha fun a' => spec_map ihb (Expr.bin op a')

theorem map_eq_self {α} (f : α → α) (l : List α) (h : ∀ a ∈ l, f a = a) : l.map f = l :=
  (List.map_congr_left h).trans (List.map_id l)

theorem xreplaceDerivs_nil (e : Expr) : xreplaceDerivs e [] = e := by
  induction e with
  | num _ => simp [xreplaceDerivs]
  | var _ => simp [xreplaceDerivs]
  | deriv _ _ => simp [xreplaceDerivs]
  | opq id args ih => simp only [xreplaceDerivs, xreplaceDerivsL_eq, map_eq_self _ args ih]
  | pow a n ih => simp [xreplaceDerivs, ih]
  | bin op a b iha ihb => simp [xreplaceDerivs, iha, ihb]

/-- what the loop of `expand_derivatives` computes for `Derivative(s, t)` when the recursive call agrees with `X` on
    the right-hand sides of the model -/
theorem replFor_fix (M : RModel) (rec : Expr → Except PyErr Expr) (X : Expr → Except VErr Expr)
    (hX : ∀ tok, rec (M.rhs tok) = errClass verrClass (X (M.rhs tok))) (s t : Nat) :
    replFor M rec (.deriv s t) =
      errClass verrClass (match odeRhs M s t with
        | none => .error .noDefinition
        | some r => X r) := by
  unfold replFor odeRhs odeGet eqLhsNode optEqRhs nodeArg0
  cases hl : M.st.odeDef.lookup s with
  | none => simp [errClass, verrClass]
  | some e =>
    by_cases hd : lhsNode e.lhs = some (.deriv s t)
    · simp [hd, hX]
    · simp [hd, errClass, verrClass]

/-- the generated `expand_derivatives` with ANY recursive call that agrees with `X` on the right-hand sides of the model
    computes one `bindD` level over `X` -/
theorem expandDerivatives_fix (M : RModel) (rec : Expr → Except PyErr Expr) (X : Expr → Except VErr Expr)
    (hX : ∀ tok, rec (M.rhs tok) = errClass verrClass (X (M.rhs tok))) (e : Expr) :
    RolesValue.expandDerivatives M rec e
      = errClass verrClass (e.bindD (fun s t => match odeRhs M s t with
          | none => .error .noDefinition
          | some r => X r)) := by
  rw [expand_shape]
  obtain ⟨s1, s2⟩ := bindD_spec verrClass _ _ (replFor_fix M rec X hX) e
  obtain ⟨l1, l2⟩ := buildRepl_spec (replFor M rec) (derivAtoms e) []
  cases hfe : firstErr (replFor M rec) (derivAtoms e) with
  | some x =>
    rw [s1 x hfe, l1 x hfe]
    have : (derivAtoms e).isEmpty = false := by
      cases hda : derivAtoms e with
      | nil => rw [hda] at hfe; cases hfe
      | cons _ _ => rfl
    simp [this]
  | none =>
    obtain ⟨r', hr', hag, _⟩ := l2 hfe
    obtain ⟨_, s3⟩ := s2 hfe
    rw [hr', s3 r' hag]
    split_ifs with hemp
    · have hnil : derivAtoms e = [] := List.isEmpty_iff.mp hemp
      have := s3 [] (by rw [hnil]; intro d hd; cases hd)
      rw [s3 r' hag, xreplaceDerivs_nil] at this
      exact this.symm ▸ rfl
    · rfl

/-- **`expand_derivatives` = `expand`**: for every model, every fuel and every expression, the function generated
    from the nested `expand_derivatives` of `_get_value`, with its recursive call bound to `expand M F`, computes
    `expand M (F+1)` — the hand model is the fixpoint of the generated functional (value and exception class).
    No hypothesis on `e`: uninterpreted applications are expanded in their argument places by both. -/
theorem expandDerivatives_tie (M : RModel) (F : Nat) (e : Expr) :
    RolesValue.expandDerivatives M (fun e' => errClass verrClass (expand M F e')) e
      = errClass verrClass (expand M (F + 1) e) := by
  exact expandDerivatives_fix M _ (expand M F) (fun _ => rfl) e

def encL (m : Memo) : List (Nat × PyVal) := m.map (fun p => (p.1, some p.2))
/-- the model's memo as the python dictionary `evaluated` -/
def enc (m : Memo) : PyMemo := some (encL m)

/-- the numeric entries of a python dictionary as a memo of the model. An entry `None` (a state without initial value)
    is DROPPED, so `dec` is faithful only on `enc m` (`dec_enc`): every statement below is made there. -/
def dec : PyMemo → Memo
  | some l => l.filterMap (fun p => p.2.map (fun q => (p.1, q)))
  | none => []

/-- a function of the model (`getValueAux M F f`) as the recursive call `self._get_value(dep, evaluated)` sees it:
    value and the dictionary as the call leaves it; exception class -/
def recOf (g : Nat → Memo → Except VErr (Rat × Memo)) : Nat → PyMemo → Except PyErr (Rat × PyMemo) :=
  fun d pm => match g d (dec pm) with
    | .ok (q, m') => .ok (q, enc m')
    | .error e => .error ⟨verrClass e⟩

theorem dec_enc (m : Memo) : dec (enc m) = m := by
  simp only [dec, enc, encL]
  induction m with
  | nil => rfl
  | cons p rest ih => simp [ih]

theorem keys_enc (m : Memo) (d : Nat) : Py.isIn d (Py.keys (enc m)) = hasKey d m := by
  rw [Bool.eq_iff_iff, hasKey_iff_mem_keys]
  simp [Py.isIn, Py.keys, enc, encL]

theorem setItem_enc (m : Memo) (d : Nat) (q : Rat) : Py.setItem (enc m) d (pyFloatVal q) = enc (insertKey d q m) := by
  simp only [Py.setItem, enc, encL, pyFloatVal, Option.map_some]
  congr 1
  induction m with
  | nil => rfl
  | cons p rest ih =>
    obtain ⟨a, b⟩ := p
    by_cases h : a = d <;> simp [Py.setAssoc, insertKey, h, ih]

theorem isIn_odeKeys (M : RModel) (v : Nat) : Py.isIn v (odeKeys M) = isState M v := by
  rw [Bool.eq_iff_iff, isState, hasKey_iff_mem_keys]
  simp [Py.isIn, odeKeys, stateKeys]

/-- the loop `for dep in deps: if dep not in evaluated: evaluated[dep] = self._get_value(dep, evaluated)` = `evalDeps` -/
theorem forIn_eq_evalDeps (body : Nat → PyMemo → Except PyErr (ForInStep PyMemo))
    (g : Nat → Memo → Except VErr (Rat × Memo))
    (hb : ∀ d m, body d (enc m) = if hasKey d m then .ok (.yield (enc m)) else match g d m with
      | .error e => .error ⟨verrClass e⟩
      | .ok (q, m') => .ok (.yield (enc (insertKey d q m')))) :
    ∀ (deps : List Nat) (m : Memo), forIn deps (enc m) body = match evalDeps g deps m with
      | .ok m' => .ok (enc m')
      | .error e => .error ⟨verrClass e⟩ := by
  intro deps
  induction deps with
  | nil => intro m; rfl
  | cons d ds ih =>
    intro m
    rw [List.forIn_cons, hb]
    simp only [evalDeps]
    by_cases hk : hasKey d m = true
    · simp only [hk, if_true, bind, Except.bind]; exact ih m
    · simp only [hk, Bool.false_eq_true, if_false]
      cases hg : g d m with
      | error e => rfl
      | ok p => obtain ⟨q, m'⟩ := p; simp only [bind, Except.bind]; exact ih _

mutual
  /-- the numbers of the memo substituted for the variables -/
  def substNum (m : Memo) : Expr → Expr
    | .var v => match m.lookup v with
      | some q => .num q
      | none => .var v
    | .bin op a b => .bin op (substNum m a) (substNum m b)
    | .pow a n => .pow (substNum m a) n
    | .opq id args => .opq id (substNumL m args)
    | .num q => .num q
    | .deriv s t => .deriv s t
  def substNumL (m : Memo) : List Expr → List Expr
    | [] => []
    | a :: as => substNum m a :: substNumL m as
end

theorem lookup_encL (m : Memo) (v : Nat) : (encL m).lookup v = (m.lookup v).map some :=
  List.lookup_map_snd (fun _ => some) m v

theorem substValsL_enc (m : Memo) : ∀ (es : List Expr), (∀ a ∈ es, substVals (encL m) a = some (substNum m a)) →
    substValsL (encL m) es = some (substNumL m es)
  | [], _ => rfl
  | a :: as, h => by
    simp only [substValsL, substNumL, h a (List.mem_cons_self ..),
      substValsL_enc m as (fun x hx => h x (List.mem_cons_of_mem _ hx))]

theorem substVals_enc (m : Memo) (e : Expr) : substVals (encL m) e = some (substNum m e) := by
  induction e with
  | num _ => simp [substVals, substNum]
  | deriv _ _ => simp [substVals, substNum]
  | opq id args ih => simp [substVals, substNum, substValsL_enc m args ih]
  | var v =>
    simp only [substVals, substNum, lookup_encL]
    cases m.lookup v <;> rfl
  | pow a n ih => simp [substVals, substNum, ih]
  | bin op a b iha ihb => simp [substVals, substNum, iha, ihb]

theorem evalEL_substNum (fn : Interp) (m : Memo) : ∀ (es : List Expr),
    (∀ a ∈ es, evalE fn [] (substNum m a) = evalE fn m a) → evalEL fn [] (substNumL m es) = evalEL fn m es
  | [], _ => rfl
  | a :: as, h => by
    simp only [substNumL, evalEL, h a (List.mem_cons_self ..),
      evalEL_substNum fn m as (fun x hx => h x (List.mem_cons_of_mem _ hx))]

theorem evalE_substNum (fn : Interp) (m : Memo) (e : Expr) : evalE fn [] (substNum m e) = evalE fn m e := by
  induction e with
  | num _ => simp [substNum, evalE]
  | deriv _ _ => simp [substNum, evalE]
  | opq id args ih => simp only [substNum, evalE, evalEL_substNum fn m args ih]
  | var v =>
    simp only [substNum, evalE]
    cases m.lookup v <;> rfl
  | pow a n ih => simp only [substNum, evalE, ih]
  | bin op a b iha ihb => simp only [substNum, evalE, iha, ihb]

theorem vars_opq_nil {id : String} {args : List Expr} (h : (Expr.opq id args).vars = []) : ∀ a ∈ args, a.vars = [] := by
  rw [vars_opq, List.flatMap_eq_nil_iff] at h
  exact h

theorem substNumL_eq (m : Memo) (es : List Expr) : substNumL m es = es.map (substNum m) := by
  induction es with
  | nil => rfl
  | cons a as ih => simp [substNumL, ih]

theorem substNum_of_no_vars (m : Memo) (e : Expr) : e.vars = [] → substNum m e = e := by
  induction e with
  | num _ => intro _; simp [substNum]
  | deriv _ _ => intro _; simp [substNum]
  | opq id args ih =>
    intro h
    simp only [substNum, substNumL_eq, map_eq_self _ args (fun a ha => ih a ha (vars_opq_nil h a ha))]
  | var v => intro h; rw [vars_var] at h; cases h
  | pow a n ih =>
    intro h
    simp [substNum, ih (vars_pow a n ▸ h)]
  | bin op a b iha ihb =>
    intro h
    rw [vars_bin, List.append_eq_nil_iff] at h
    simp [substNum, iha h.1, ihb h.2]

/-- `float(expr.xreplace(evaluated))` = `evalE` -/
theorem xreplace_float (fn : Interp) (m : Memo) (e : Expr) :
    (match xreplaceMemo e (enc m) with
      | .error err => .error err
      | .ok e' => floatExpr fn e') = errClass verrClass (evalE fn m e) := by
  simp only [xreplaceMemo, enc, substVals_enc, floatExpr, evalE_substNum]

/-- `float(expr)` of a tree without variables = `evalE` with any memo -/
theorem float_no_vars (fn : Interp) (m : Memo) (e : Expr) (h : e.vars = []) :
    floatExpr fn e = errClass verrClass (evalE fn m e) := by
  rw [← evalE_substNum fn m e, substNum_of_no_vars m e h]; rfl

theorem freeVar_of_empty (M : RModel) (h : (odeKeys M).isEmpty = true) : freeVar M = none := by
  unfold odeKeys stateKeys at h
  unfold freeVar Model.getFreeVariable
  cases hd : M.st.odeDef with
  | nil => rfl
  | cons p rest => rw [hd] at h; simp at h

theorem xreplaceMemo_enc (m : Memo) (e : Expr) : xreplaceMemo e (enc m) = .ok (substNum m e) := by
  simp [xreplaceMemo, enc, substVals_enc]

theorem floatExpr_substNum (fn : Interp) (m : Memo) (e : Expr) :
    floatExpr fn (substNum m e) = errClass verrClass (evalE fn m e) := by
  simp [floatExpr, evalE_substNum]

theorem initDict_eq (init : Nat → Option Rat) (L : List (Nat × Eqn)) (h : ∀ s ∈ L.map (·.1), (init s).isSome = true) :
    (L.map (·.1)).map (fun x => (x, init x)) = encL (L.filterMap (fun p => (init p.1).map (fun q => (p.1, q)))) := by
  induction L with
  | nil => rfl
  | cons p rest ih =>
    have h1 := h p.1 (by simp)
    have h2 := ih (fun s hs => h s (by simp only [List.map_cons, List.mem_cons]; exact Or.inr hs))
    cases hi : init p.1 with
    | none => rw [hi] at h1; cases h1
    | some q =>
      simp only [List.map_cons, List.filterMap_cons, hi, Option.map_some, encL] at h2 ⊢
      rw [h2]

/-- the dictionary `_get_value` creates when it is called without one = `memo0` -/
theorem memo_init (M : RModel) (hinit : ∀ s ∈ stateKeys M.st, (initOf M.st s).isSome = true)
    (hnd : (stateKeys M.st).Nodup) :
    (some (Py.dictOf ((odeKeys M).map (fun x => (x, initialValue M x)))) : PyMemo) =
      enc (M.st.odeDef.filterMap (fun p => (initOf M.st p.1).map (fun q => (p.1, q)))) := by
  unfold odeKeys stateKeys initialValue enc at *
  rw [Py.dictOf_nodup _ (by simpa [List.map_map, Function.comp_def] using hnd)]
  rw [initDict_eq (initOf M.st) M.st.odeDef hinit]

theorem freeVar_some_of_nonempty (M : RModel) (hl : odeLhsOk M = true) (he : ¬ (odeKeys M).isEmpty = true) :
    ∃ t, freeVar M = some t := by
  unfold odeKeys stateKeys at he
  unfold odeLhsOk at hl
  unfold freeVar Model.getFreeVariable
  cases hd : M.st.odeDef with
  | nil => rw [hd] at he; simp at he
  | cons p rest =>
    obtain ⟨k, e⟩ := p
    rw [hd] at hl
    cases hlhs : e.lhs with
    | deriv s t o => exact ⟨t, by simp only [hlhs]⟩
    | var x => simp [hlhs] at hl
    | other => simp [hlhs] at hl

/-- the dictionary `_get_value` works on: the one it was given, or a new one with the states at their initial values
    and the free variable at 0 -/
def startMemo (M : RModel) : PyMemo → Except PyErr PyMemo
  | some l => pure (some l)
  | none =>
    if !(odeKeys M).isEmpty then do
      let t ← Roles.getFreeVariable M
      pure (Py.setItem (some (Py.dictOf ((odeKeys M).map (fun x => (x, initialValue M x))))) t 0)
    else pure (some (Py.dictOf ((odeKeys M).map (fun x => (x, initialValue M x)))))

/-- the loop `for dep in deps` of `_get_value` -/
def depsLoop (rec : Nat → PyMemo → Except PyErr (Rat × PyMemo)) (deps : List Nat) (ev : PyMemo) : Except PyErr PyMemo :=
  forIn deps ev fun dep s =>
    if !Py.isIn dep (Py.keys s) then do
      let p ← rec dep s
      pure (ForInStep.yield (Py.setItem p.2 dep (pyFloatVal p.1)))
    else pure (ForInStep.yield s)

/-- `_get_value` from the expanded right-hand side on -/
def evalRhs (M : RModel) (fn : Interp) (rec : Nat → PyMemo → Except PyErr (Rat × PyMemo)) (r : Expr) (pm : PyMemo) :
    Except PyErr (Rat × PyMemo) :=
  if !(varAtoms r).isEmpty then do
    let ev ← depsLoop rec (varAtoms r) (← startMemo M pm)
    pure (← floatExpr fn (← xreplaceMemo r ev), ev)
  else do pure (← floatExpr fn r, pm)

/-- `_get_value` of a variable that `_var_definition_map` does not have -/
def undefinedValue (M : RModel) (v : Nat) (pm : PyMemo) : Except PyErr (Rat × PyMemo) :=
  if !(odeKeys M).isEmpty then do
    if Py.is_ v (← Roles.getFreeVariable M) then pure (0, pm) else throw ⟨"ValueError"⟩
  else throw ⟨"ValueError"⟩

theorem getValueRec_shape (fn : Interp) (M : RModel) (ex : Expr → Except PyErr Expr)
    (rec : Nat → PyMemo → Except PyErr (Rat × PyMemo)) (v : Nat) (pm : PyMemo) :
    RolesValue.getValueRec M fn ex rec v pm =
      (if Py.isIn v (odeKeys M) then do pure (← floatVal (initialValue M v), pm)
      else match M.st.varDef.lookup v with
        | none => undefinedValue M v pm
        | some eq => do evalRhs M fn rec (← ex (eqRhs M eq)) pm) := by
  unfold RolesValue.getValueRec undefinedValue evalRhs startMemo depsLoop varDefItem
  simp only [except_run, Py.truthy_list, tryCatch,
    tryCatchThe, MonadExceptOf.tryCatch, Except.tryCatch, EarlyReturnT.return, EarlyReturn.runK, ExceptT.pure,
    ExceptT.run, ExceptT.mk]
  by_cases hs : Py.isIn v (odeKeys M) = true
  · simp only [hs, if_true]
  simp only [hs, Bool.false_eq_true, if_false]
  cases M.st.varDef.lookup v with
  | none =>
    simp only [beq_self_eq_true, if_true]
    by_cases he : (odeKeys M).isEmpty = true
    · simp only [he, Bool.not_true, Bool.false_eq_true, if_false]
    · simp only [he, Bool.not_false, if_true]
      cases Roles.getFreeVariable M with
      | error err => rfl
      | ok t => simp only []; cases Py.is_ v t <;> rfl
  | some eq =>
    simp only []
    cases ex (eqRhs M eq) with
    | error err => rfl
    | ok r =>
      simp only []
      by_cases hd : (varAtoms r).isEmpty = true
      · simp only [hd, Bool.not_true, Bool.false_eq_true, if_false]
      simp only [hd, Bool.not_false, if_true]
      cases pm with
      | some l => rfl
      | none =>
        simp only [Option.isNone_none, if_true]
        by_cases he : (odeKeys M).isEmpty = true
        · simp only [he, Bool.not_true, Bool.false_eq_true, if_false]
        · simp only [he, Bool.not_false, if_true]
          cases Roles.getFreeVariable M <;> rfl

theorem startMemo_enc (M : RModel) (m : Memo) : startMemo M (enc m) = .ok (enc m) := rfl

theorem startMemo_none (M : RModel) (hl : odeLhsOk M = true)
    (hinit : ∀ s ∈ stateKeys M.st, (initOf M.st s).isSome = true) (hnd : (stateKeys M.st).Nodup) :
    startMemo M none = .ok (enc (memo0 M)) := by
  unfold startMemo memo0
  simp only [memo_init M hinit hnd, getFreeVariable_tie M hl]
  by_cases he : (odeKeys M).isEmpty = true
  · simp only [he, Bool.not_true, Bool.false_eq_true, if_false, freeVar_of_empty M he]; rfl
  · obtain ⟨t, ht⟩ := freeVar_some_of_nonempty M hl he
    have hz : ((0 : PyVal)) = pyFloatVal 0 := rfl
    simp only [he, Bool.not_false, if_true, ht, optErr, bind, Except.bind, pure, Except.pure, hz, setItem_enc]

theorem undefinedValue_tie (M : RModel) (hl : odeLhsOk M = true) (v : Nat) (pm : PyMemo) :
    undefinedValue M v pm = if freeVar M = some v then .ok (0, pm) else .error ⟨"ValueError"⟩ := by
  unfold undefinedValue
  rw [getFreeVariable_tie M hl]
  by_cases he : (odeKeys M).isEmpty = true
  · simp [he, freeVar_of_empty M he]; rfl
  · simp only [he, Bool.not_false, if_true]
    cases hf : freeVar M with
    | none => simp [optErr, bind, Except.bind]
    | some t =>
      simp only [optErr, except_run, Py.is_, beq_iff_eq, Option.some.injEq]
      by_cases ht : v = t
      · simp [ht]
      · simp [ht, Ne.symm ht]

theorem depsLoop_tie (rec : Nat → PyMemo → Except PyErr (Rat × PyMemo)) (g : Nat → Memo → Except VErr (Rat × Memo))
    (hrec : ∀ d m, rec d (enc m) = recOf g d (enc m)) (deps : List Nat) (m : Memo) :
    depsLoop rec deps (enc m) = match evalDeps g deps m with
      | .ok m' => .ok (enc m')
      | .error e => .error ⟨verrClass e⟩ := by
  unfold depsLoop
  apply forIn_eq_evalDeps
  intro d m0
  rw [keys_enc, hrec]
  simp only [recOf, dec_enc, bind, Except.bind, pure, Except.pure]
  cases hasKey d m0
  · simp only [Bool.not_false, if_true, Bool.false_eq_true, if_false]
    cases g d m0 with
    | error e => rfl
    | ok p => simp only [setItem_enc]
  · rfl

theorem evalRhs_tie (fn : Interp) (M : RModel) (rec : Nat → PyMemo → Except PyErr (Rat × PyMemo))
    (g : Nat → Memo → Except VErr (Rat × Memo)) (hrec : ∀ d m, rec d (enc m) = recOf g d (enc m)) (r : Expr) (m : Memo) :
    evalRhs M fn rec r (enc m) = match evalDeps g r.vars m with
      | .error e => .error ⟨verrClass e⟩
      | .ok m' => match evalE fn m' r with
        | .ok q => .ok (q, enc m')
        | .error e => .error ⟨verrClass e⟩ := by
  unfold evalRhs varAtoms
  by_cases hd : r.vars.isEmpty = true
  · have hnil := List.isEmpty_iff.mp hd
    simp only [hnil, List.isEmpty_nil, Bool.not_true, Bool.false_eq_true, if_false, evalDeps, float_no_vars fn m r hnil]
    cases evalE fn m r <;> rfl
  · simp only [hd, Bool.not_false, if_true, startMemo_enc, bind, Except.bind, depsLoop_tie rec g hrec]
    cases evalDeps g r.vars m with
    | error e => rfl
    | ok m' =>
      simp only [xreplaceMemo_enc, floatExpr_substNum]
      cases evalE fn m' r <;> rfl

/-- one level of `_get_value`, with ANY recursive call that agrees with the model one level down on the dictionaries
    `enc m0`: the form the closed recursion (`Tie/RolesClosed.lean`) is built from. -/
theorem getValueRec_tie_rec (fn : Interp) (M : RModel) (F f v : Nat) (m : Memo) (hl : odeLhsOk M = true)
    (rec : Nat → PyMemo → Except PyErr (Rat × PyMemo))
    (hrec : ∀ d m0, rec d (enc m0) = recOf (getValueAux fn M F f) d (enc m0)) :
    RolesValue.getValueRec M fn (fun e => errClass verrClass (expand M F e)) rec v (enc m)
      = recOf (getValueAux fn M F (f + 1)) v (enc m) := by
  rw [getValueRec_shape, isIn_odeKeys]
  simp only [recOf, dec_enc, getValueAux]
  by_cases hs : isState M v = true
  · simp only [hs, if_true, initialValue]
    cases initOf M.st v <;> rfl
  · simp only [hs, Bool.false_eq_true, if_false]
    unfold varRhs
    cases M.st.varDef.lookup v with
    | none =>
      simp only [Option.map_none, undefinedValue_tie M hl]
      by_cases hf : freeVar M = some v <;> simp only [hf, if_true, if_false] <;> rfl
    | some eq =>
      simp only [Option.map_some, eqRhs, bind, Except.bind]
      cases expand M F (M.rhs eq.tok) with
      | error e => rfl
      | ok r =>
        simp only [errClass, evalRhs_tie fn M rec _ hrec]
        cases evalDeps (getValueAux fn M F f) r.vars m with
        | error e => rfl
        | ok m' => simp only []; cases evalE fn m' r <;> rfl

/-- **`_get_value` = `getValueAux`** (one level of the recursion): for every model, fuels, variable and dictionary,
    the function generated from `Model._get_value` — its nested `expand_derivatives` bound to `expand M F`
    (`expandDerivatives_tie`), its recursive call bound to the model one level down — returns what
    `getValueAux M F (f+1)` returns: the value, the dictionary as the call leaves it, the exception class.
    `odeLhsOk`: see `getFreeVariable_tie`. -/
theorem getValueRec_tie (fn : Interp) (M : RModel) (F f v : Nat) (m : Memo) (hl : odeLhsOk M = true) :
    RolesValue.getValueRec M fn (fun e => errClass verrClass (expand M F e)) (recOf (getValueAux fn M F f)) v (enc m)
      = recOf (getValueAux fn M F (f + 1)) v (enc m) := by
  exact getValueRec_tie_rec fn M F f v m hl _ (fun _ _ => rfl)

/-- called without a dictionary, `_get_value` answers as on `enc (memo0 M)`: that is the dictionary it creates -/
theorem getValueRec_none (fn : Interp) (M : RModel) (ex : Expr → Except PyErr Expr) (rec : Nat → PyMemo → Except PyErr (Rat × PyMemo))
    (v : Nat) (hl : odeLhsOk M = true)
    (hinit : ∀ s ∈ stateKeys M.st, (initOf M.st s).isSome = true) (hnd : (stateKeys M.st).Nodup) :
    (RolesValue.getValueRec M fn ex rec v none).map (·.1) =
      (RolesValue.getValueRec M fn ex rec v (enc (memo0 M))).map (·.1) := by
  rw [getValueRec_shape, getValueRec_shape]
  by_cases hs : Py.isIn v (odeKeys M) = true
  · simp only [hs, if_true, bind, Except.bind]
    cases floatVal (initialValue M v) <;> rfl
  · simp only [hs, Bool.false_eq_true, if_false]
    cases M.st.varDef.lookup v with
    | none =>
      simp only [undefinedValue_tie M hl]
      by_cases hf : freeVar M = some v <;> simp only [hf, if_true, if_false] <;> rfl
    | some eq =>
      simp only [bind, Except.bind]
      cases ex (eqRhs M eq) with
      | error e => rfl
      | ok r =>
        simp only [evalRhs]
        by_cases hd : (varAtoms r).isEmpty = true
        · simp only [hd, Bool.not_true, Bool.false_eq_true, if_false, bind, Except.bind]
          cases floatExpr fn r <;> rfl
        · simp only [hd, Bool.not_false, if_true, startMemo_none M hl hinit hnd, startMemo_enc]

/-- `_get_value v` calls its `expand_derivatives` on the right-hand side of `v` and nowhere else -/
theorem getValueRec_congr_ex (fn : Interp) (M : RModel) (ex1 ex2 : Expr → Except PyErr Expr)
    (rec : Nat → PyMemo → Except PyErr (Rat × PyMemo)) (v : Nat) (pm : PyMemo)
    (h : ∀ eq, varDefItem M v = .ok eq → ex1 (eqRhs M eq) = ex2 (eqRhs M eq)) :
    RolesValue.getValueRec M fn ex1 rec v pm = RolesValue.getValueRec M fn ex2 rec v pm := by
  rw [getValueRec_shape, getValueRec_shape]
  cases hv : M.st.varDef.lookup v with
  | none => rfl
  | some eq => simp only [h eq (by unfold varDefItem; rw [hv])]

/-- `_get_value` with BOTH of its inner functions generated from the source: the nested `expand_derivatives` is the
    generated `expandDerivatives` (recursive call: `expand M F`), the recursive `_get_value` call is the model one level
    down. For every interpretation `fn` of the opaque terms and every right-hand side. -/
theorem getValueRec_full_tie (fn : Interp) (M : RModel) (F f v : Nat) (m : Memo) (hl : odeLhsOk M = true) :
    RolesValue.getValueRec M fn (RolesValue.expandDerivatives M (fun e' => errClass verrClass (expand M F e')))
        (recOf (getValueAux fn M (F + 1) f)) v (enc m)
      = recOf (getValueAux fn M (F + 1) (f + 1)) v (enc m) := by
  rw [← getValueRec_tie fn M (F + 1) f v m hl]
  apply getValueRec_congr_ex
  intro eq _
  apply expandDerivatives_tie

/-- `get_value` returns the value of the first `_get_value` call: it agrees with the model as soon as that call does
    so up to the dictionary it leaves behind -/
theorem getValue_of_rec (M : RModel) (rec : Nat → PyMemo → Except PyErr (Rat × PyMemo))
    (g : Nat → Memo → Except VErr (Rat × Memo)) (v : Nat) (m : Memo)
    (h : (rec v none).map (·.1) = (recOf g v (enc m)).map (·.1)) :
    RolesValue.getValue M rec v = errClass verrClass (match g v m with | .ok (q, _) => .ok q | .error e => .error e) := by
  unfold RolesValue.getValue
  simp only [recOf, dec_enc] at h
  simp only [bind, Except.bind, pure, Except.pure]
  cases hr : rec v none with
  | error e =>
    cases hg : g v m with
    | error e' => rw [hr, hg] at h; cases h; rfl
    | ok p => rw [hr, hg] at h; cases h
  | ok p =>
    cases hg : g v m with
    | error e' => rw [hr, hg] at h; cases h
    | ok p' =>
      rw [hr, hg] at h
      obtain ⟨q, m'⟩ := p'
      exact congrArg _ (Except.ok.inj h)

/-- **`get_value` = `getValue`**: the generated `get_value`, calling the generated `_get_value` (whose inner calls are
    the model with `|variables| + 1` / `|variables|` levels of fuel), returns what `getValue M v` returns, exception
    class included. Domain: `odeLhsOk` (see `getFreeVariable_tie`); every state has an initial value (the model leaves
    a state without one out of `memo0` where python stores `None`); the keys of the ODE map are distinct
    (a python dict). -/
theorem getValue_tie (fn : Interp) (M : RModel) (v : Nat) (hl : odeLhsOk M = true)
    (hinit : ∀ s ∈ stateKeys M.st, (initOf M.st s).isSome = true) (hnd : (stateKeys M.st).Nodup) :
    RolesValue.getValue M
        (RolesValue.getValueRec M fn (fun e => errClass verrClass (expand M (M.st.live.length + 1) e))
          (recOf (getValueAux fn M (M.st.live.length + 1) M.st.live.length))) v
      = errClass verrClass (Model.getValue fn M v) := by
  have h := getValueRec_none fn M (fun e => errClass verrClass (expand M (M.st.live.length + 1) e))
    (recOf (getValueAux fn M (M.st.live.length + 1) M.st.live.length)) v hl hinit hnd
  rw [getValueRec_tie fn M _ _ v (memo0 M) hl] at h
  exact getValue_of_rec M _ _ v (memo0 M) h

end Cellml.Tie.PRoles
