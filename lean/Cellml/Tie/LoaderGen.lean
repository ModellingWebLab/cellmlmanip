import Cellml.Tie.Loader
import Cellml.Tie.ConnLoopClosed
import Cellml.C17.Lift
import Cellml.Tie.LoaderStagesA
import Cellml.Tie.LoaderStagesB
import Cellml.Tie.LoaderStagesC
import Cellml.Tie.LoaderStagesD
import Cellml.Tie.MathsWalk

/-! # The generated `Parser.parse` over GENERATED stages (`genStages`, `genParse`) is `C17.loadFull` (`genParse_tie`)

    The generated `Parser.parse` is run over stages that are themselves generated code down to the leaves (`genStages`;
    each is proved equal to the stage of the hand model it replaces in `Tie/LoaderStagesA…D.lean` and
    `Tie/MathsWalk.lean`), `_add_connections` being the generated set-up part (`Gen.ConnSetup.addConnectionsSetup`, spec
    key `before_while`) that hands deque, counter and state to the closed generated loop (`genAddConnections`).
    `genParse_tie`: that run IS `C17.loadFull` on documents whose first bad equation is what `C17.BadLhs` documents
    (`PMathsWalk.BadWF`). `C17.loadFull` takes the unit definitions
    as written (`fd.udefs`, through the work list); `Load.load` / `Load.prepare` of C01 (units sorted) are reached from
    here only through `Tie/LoaderUnitsOrder.lean` (`load_agrees`), in `Props/C01Gen.lean`. -/

namespace Cellml.Tie.GenA
open Load Cellml.Gen Cellml.Tie.LoaderClose Cellml.Tie.PMathsWalk

/-- the generated `symbol_generator` with its `while` cut off after `n` iterations, for every `n` -/
theorem symbolGenerator_fuel (vt : VarTable) (m : List (VRef × VRef)) (n : Nat) (cname x : String) :
    LoaderSym.symbolGenerator ⟨cname⟩ (varToSymbol vt) ⟨m⟩ n x =
      match checkIdent vt cname x with
      | .error e => .error ⟨e.className⟩
      | .ok () => .ok (some (resolve m n (cname, x))) :=
  symbolGenerator_resolve vt m n cname x

/-- `Parser._add_connections`: the GENERATED set-up part (`connected_variable_mapping = {}`, the loops over
    `<connection>` / `<map_variables>` with the generated `_determine_connection_direction`, `unchanged_loop_count = 0`)
    hands its results — deque, counter, state — to the closed loop over the GENERATED test and body. The state it
    starts from is the one `Model.add_variable` leaves (`Load.initState`: a variable without an `in` interface is its
    own `assigned_to`). Returns the deque (as `Load.Loaded` keeps it) and the final work-list state. -/
def genAddConnections (comps : List String) (par : ParentMap) (reg : Registry) (vt : VarTable) (conns : List Conn) :
    Except PyErr (List (VRef × VRef) × CState) :=
  match ConnSetup.addConnectionsSetup ⟨comps, loaderView par vt⟩ ⟨connElems conns⟩ (initState vt) with
  | .error e => .error e
  | .ok (dq, unch, st0) => (genConnectLoop reg vt dq unch st0).map (fun st => (dq, st))

theorem genAddConnections_eq (comps : List String) (par : ParentMap) (reg : Registry) (vt : VarTable)
    (conns : List Conn) :
    genAddConnections comps par reg vt conns =
      match directAll comps par vt conns with
      | .error e => .error ⟨e.className⟩
      | .ok dl => (genConnect reg vt dl).map (fun st => (dl, st)) := by
  unfold genAddConnections
  rw [connSetup_tie]
  cases directAll comps par vt conns <;> rfl

/-- the stage `connected_variable_mapping = self._add_connections(model_xml)` -/
def genConnStage (d : C17.FaultDoc) (st : ParseState) : Except PyErr ParseState :=
  match st.units, st.par with
  | some (reg, ust), some par =>
    let vt := varTable ust d.doc.comps
    match genAddConnections (d.doc.comps.map (·.name)) par reg vt d.doc.conns with
    | .error e => .error e
    | .ok (dl, cst) => .ok { st with loaded := some ⟨reg, ust, vt, par, dl, cst⟩ }
  | _, _ => notReady

theorem genConnStage_eq (fd : C17.FaultDoc) : genConnStage = (parseView fd).addConnections := by
  funext d st
  simp only [genConnStage, parseView]
  cases st.units with
  | none => rfl
  | some u =>
    obtain ⟨reg, ust⟩ := u
    cases st.par with
    | none => rfl
    | some par =>
      simp only
      rw [genAddConnections_eq]
      cases hd : directAll (d.doc.comps.map (·.name)) par (varTable ust d.doc.comps) d.doc.conns with
      | error e => simp [stageErr, C17.directAll_err_class hd]
      | ok dl =>
        simp only
        rw [genConnect_eq]
        cases hc : connect reg (varTable ust d.doc.comps) dl with
        | error e => simp [errClass, Except.map, stageErr, C17.connect_err_class hc]
        | ok cst => rfl

/-- the stages the generated `parse` is run over. GENERATED (each proved equal to the stage of the hand model it
    replaces): `_add_units` (`genUnitsStage`: set-up pass + closed `while`), `_add_components` (`genCompsStage`),
    `_add_relationships` with `_handle_component_ref` (`genRelStage`, recursion closed), `_add_connections`
    (`genConnStage`: set-up part with `_determine_connection_direction`, closed `while`), `_add_maths`
    (`genMathsWalkStage`: the GENERATED function on the `<component>` elements of the document — every identifier through
    the GENERATED closure `symbol_generator`, every number through the translated lambda `number_generator`, every
    equation through the GENERATED `Model.add_equation`, which refuses a bad left-hand side and a second definition; the
    walk of the MathML transpiler between them, `PMathsWalk.walkExpr`, is written by hand: the Transpiler's source is tied
    for C02), `transform_constants` (`genConstsStage'`, on the equations `_add_maths` added). Still the hand model's: the
    XML leaves `etree.parse`, `_validate` (RELAX NG), the `findall` of `component/units`, `Model(...)`, `_add_rdf`. -/
def genStages (fd : C17.FaultDoc) : ParseView :=
  { parseView fd with
    addUnits := genUnitsStage
    addComponents := genCompsStage
    addRelationships := genRelStage
    addConnections := genConnStage
    addMaths := genMathsWalkStage fd
    transformConstants := genConstsStage' }

/-- **the subject of the `…_gen` theorems about loading**: the generated `Parser.parse` on a fresh parser state -/
def genParse (fd : C17.FaultDoc) (us : Option Unit) : Except PyErr ParseState :=
  LoaderParse.parse (genStages fd) us {}

/-- the exception class `genParse` raises when `C17.loadFull` refuses with `e`: the class `load_model` shows
    (`C17.className`), except that an error of the unit work list is passed on AS RAISED by the generated
    `_add_units` — `UndefinedUnitError` / `BadDefinition` where `loadFull` says `Unsupported` -/
def genClass (fd : C17.FaultDoc) (e : Err) : String :=
  if C17.schemaVars fd.doc && fd.compUnits.isEmpty then
    match Units.addUnits 0 fd.udefs with
    | .error ue => unitsClass ue
    | .ok _ => C17.className e
  else C17.className e

theorem genClass_of_units_ok {fd : C17.FaultDoc} {r : Registry × Units.Store} (h : Units.addUnits 0 fd.udefs = .ok r)
    (e : Err) : genClass fd e = C17.className e := by
  unfold genClass; rw [h]; simp

/-- **`Parser.parse`, generated down to the leaves, IS `C17.loadFull`**: the same finished flat model, or an
    exception exactly when `loadFull` refuses (class `genClass`). Outside `BadWF` (a `nonvar` left-hand side that is a
    variable or a derivative) python accepts the equation and `C17.badEqErr` refuses it: `Props.C17Gen.badWF_needed`. -/
theorem genParse_tie (fd : C17.FaultDoc) (hb : BadWF fd = true) (us : Option Unit) :
    (genParse fd us).map (·.flat) =
      match C17.loadFull fd with
      | .error e => .error ⟨genClass fd e⟩
      | .ok F => .ok (some F) := by
  unfold genParse genClass genStages
  -- the other three stages are pointwise those of the model
  rw [genCompsStage_eq fd, genRelStage_eq fd, genConnStage_eq fd]
  refine parse_stages fd us unitsClass _ _ _ (genUnitsStage_eq fd) ?_
  intro reg ust par dl cst acc hc st hL hD
  obtain ⟨u, p, _, _, m, f⟩ := st
  cases hL
  cases hD
  rw [genMathsWalkStage_eq fd hb]
  cases h : (parseView fd).addMaths ⟨u, p, some ⟨reg, ust, varTable ust fd.doc.comps, par, dl, cst⟩, none, m, f⟩ with
  | error e => rfl
  | ok st' =>
    -- a maths stage that returns has set `defined` and nothing else
    simp only [parseView] at h
    split at h
    · cases h
    · split at h
      · cases h
      · cases h
        simp only [bind, Except.bind, Option.map_some]
        rw [genConstsStage'_eq fd _ ⟨reg, ust, varTable ust fd.doc.comps, par, dl, cst⟩ _ rfl rfl rfl,
          genConstsStage_eq fd _ ⟨reg, ust, varTable ust fd.doc.comps, par, dl, cst⟩ _ rfl rfl (checkComps_nodup hc)]
        -- `transform_constants` of the model does not read the field `maths`
        simp only [parseView]
        cases checkConstants (Loaded.states ⟨reg, ust, varTable ust fd.doc.comps, par, dl, cst⟩ fd.doc) _
          (varTable ust fd.doc.comps) <;> rfl

theorem loadFull_ok_parts {fd : C17.FaultDoc} {F : Flat} (h : C17.loadFull fd = .ok F) :
    C17.schemaVars fd.doc = true ∧ fd.compUnits = [] ∧ fd.badEqs = [] ∧
    ∃ reg ust L, Units.addUnits 0 fd.udefs = .ok (reg, ust) ∧ C17.reactionErr ust fd = none ∧
      C17.prepareFrom reg ust fd.doc = .ok L ∧ C17.finishFrom L fd.doc = .ok F :=
  C17.loadFull_ok_parts h

theorem parse_ok_iff (fd : C17.FaultDoc) (hb : BadWF fd = true) (us : Option Unit) (F : Flat) :
    (genParse fd us).map (·.flat) = .ok (some F) ↔ C17.loadFull fd = .ok F := by
  rw [genParse_tie fd hb]
  cases C17.loadFull fd with
  | error e => simp
  | ok F' => simp

/-- a document `loadFull` accepts has no bad equation, so it needs no hypothesis: the generated `parse` returns the
    same model -/
theorem parse_ok_of_loadFull {fd : C17.FaultDoc} (us : Option Unit) {F : Flat} (h : C17.loadFull fd = .ok F) :
    (genParse fd us).map (·.flat) = .ok (some F) :=
  (parse_ok_iff fd (BadWF_of_nil (loadFull_ok_parts h).2.2.1) us F).mpr h

theorem parse_error_of_loadFull {fd : C17.FaultDoc} (hb : BadWF fd = true) (us : Option Unit) {e : Err}
    (h : C17.loadFull fd = .error e) : genParse fd us = .error ⟨genClass fd e⟩ := by
  have := genParse_tie fd hb us
  rw [h] at this
  cases hp : genParse fd us with
  | error e' => rw [hp] at this; simpa [Except.map] using this
  | ok s => rw [hp] at this; simp [Except.map] at this

theorem parse_isErr_iff (fd : C17.FaultDoc) (hb : BadWF fd = true) (us : Option Unit) :
    (∃ e, genParse fd us = .error e) ↔ ∃ e, C17.loadFull fd = .error e := by
  constructor
  · rintro ⟨e, he⟩
    have := genParse_tie fd hb us
    rw [he] at this
    cases hl : C17.loadFull fd with
    | error e' => exact ⟨e', rfl⟩
    | ok F => rw [hl] at this; simp [Except.map] at this
  · rintro ⟨e, he⟩
    exact ⟨_, parse_error_of_loadFull hb us he⟩

/-- the generated `parse` never returns a state without a finished model -/
theorem parse_ok_flat {fd : C17.FaultDoc} (hb : BadWF fd = true) {us : Option Unit} {ps : ParseState}
    (h : genParse fd us = .ok ps) : ∃ F, ps.flat = some F ∧ C17.loadFull fd = .ok F := by
  have := genParse_tie fd hb us
  rw [h] at this
  cases hl : C17.loadFull fd with
  | error e => rw [hl] at this; simp [Except.map] at this
  | ok F =>
    rw [hl] at this
    simp only [Except.map, Except.ok.injEq] at this
    exact ⟨F, this, rfl⟩

theorem loadFull_ok_loadFrom {fd : C17.FaultDoc} {F : Flat} (h : C17.loadFull fd = .ok F) :
    ∃ reg ust, Units.addUnits 0 fd.udefs = .ok (reg, ust) ∧ C17.loadFrom reg ust fd.doc = .ok F := by
  obtain ⟨_, _, _, _, reg, ust, _, _, hu, hF, _⟩ := C17.loadFull_accepted h
  exact ⟨reg, ust, hu, hF⟩

end Cellml.Tie.GenA
