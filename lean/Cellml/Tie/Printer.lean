import Cellml.Generated.Code.Printer
import Mathlib.Tactic.SplitIfs
import Cellml.C11.DocLemmas
import Cellml.C11.Wf
import Cellml.Tie.ExceptRun

/-! # Tie: the methods of `cellmlmanip/printer.py` (generated from the source) = the hand model `C11.pr` and its parts

    The python methods build strings; the model builds layout trees `Doc` whose emitted text is `flatten`. Each theorem
    says: if the recursive call `print` returns, for every child, the flattening of the child's model tree, then the
    generated method returns the flattening of the tree the model builds for the parent (and raises what the model
    rejects). The induction over the expression that puts them together is `gprint_pr` in Tie/PrinterClosed.lean.

    The methods of this file that call `print` on operands have a normal form `…_nf`, for EVERY `print`: the method calls
    `print` on a list of operands, in order, and then only computes, `((ops e).mapM print).bind (k e)`. Their code is
    unfolded there only; the tie is `nf_ok` (where `print` returns the model's text for the operands) followed by an
    equation between strings, a rejection is `nf_rj` (one operand raises). `_bracket`, the leaf methods and `doprint`
    are unfolded in their ties. -/


namespace Cellml.Tie.PPrinter2
open C11 Cellml.Gen

abbrev VE : PyErr := ⟨"ValueError"⟩

def OkOrVE (r : Except PyErr String) : Prop := (∃ s, r = .ok s) ∨ r = .error VE

/-- the body of the loop of the generated `printPiecewise` (state: `other`, `parts`, `brackets`), copied from
    `#print Printer.printPiecewise` because `pw_loop_nf` inducts with the body fixed; the `show` in `printPiecewise_nf`
    checks it against the generated definition and fails when the translator's output changes -/
def pwBody (print : E → Except PyErr String) (x : E × E) (__s : String × String × Nat) :
    Except PyErr (ForInStep (String × String × Nat)) :=
  if Py.truthy (Cellml.Tie.PPrinter.isTrue (Prod.snd x)) = true then
    Except.bind (print (Prod.fst x)) fun v =>
      pure (ForInStep.done (v, Prod.fst (Prod.snd __s), Prod.snd (Prod.snd __s)))
  else
    Except.bind (Printer.printTernary print (Prod.snd x) (Prod.fst x)) fun v =>
      pure (ForInStep.yield (Prod.fst __s, Prod.fst (Prod.snd __s) + v, Prod.snd (Prod.snd __s) + 1))

end Cellml.Tie.PPrinter2

namespace Cellml.Tie.PPrinter
open C11 Cellml.Gen
open Cellml.Tie.PPrinter2 (VE OkOrVE pwBody)

theorem isRecip_eq (e : E) :
    (isPow e && comm e && (negIsHalf (expOf e) || negIsOne (expOf e))) = isRecip e := by
  cases e <;> simp [isPow, isRecip, comm, negIsHalf, negIsOne, expOf, Bool.or_comm]

theorem bracket_eq (print : E → Except PyErr String) (e : E) (p : Nat) :
    Printer.bracket print e p =
      (print e).map (fun s => if (if isRecip e then prec e - 1 else prec e) < p then "(" ++ s ++ ")" else s) := by
  unfold Printer.bracket
  simp only [Py.truthy_bool, isRecip_eq, except_run, str_add]
  cases hr : isRecip e <;> cases hp : print e <;> simp <;> split_ifs <;> simp_all

/-- `_bracket` on the text that `print` returned -/
def brk (p : Nat) (e : E) (s : String) : String := if precA e < p then "(" ++ s ++ ")" else s

theorem flatten_bracket (e : E) (d : Doc) (p : Nat) : brk p e (flatten d) = flatten (C11.bracket e d p) := by
  rw [C11.bracket_eq, brk]; split <;> rfl

/-- **`Printer._bracket` = `C11.bracket`** -/
theorem bracket_tie (print : E → Except PyErr String) (e : E) (d : Doc) (p : Nat)
    (h : print e = .ok (flatten d)) : Printer.bracket print e p = .ok (flatten (C11.bracket e d p)) := by
  rw [bracket_eq, h]; exact congrArg Except.ok (flatten_bracket e d p)

theorem bracket_err (print : E → Except PyErr String) (e : E) (p : Nat) (x : PyErr)
    (h : print e = .error x) : Printer.bracket print e p = .error x := by
  rw [bracket_eq, h]; rfl

/-! ## python evaluates in order: `print` on the operands, then a computation on their texts -/

theorem nf_ok {ι : Type} (print : E → Except PyErr String) (is : List ι) (e : ι → E) (f : ι → String)
    (k : List String → Except PyErr String) (h : ∀ i ∈ is, print (e i) = .ok (f i)) :
    ((is.map e).mapM print).bind k = k (is.map f) := by
  have : (is.map e).mapM print = .ok (is.map f) := by
    induction is with
    | nil => rfl
    | cons x r ih =>
      rw [List.map_cons, List.mapM_cons, h x (by simp), ih (fun y hy => h y (by simp [hy]))]; rfl
  rw [this]; rfl

theorem mapM_cons_rj (f : E → Except PyErr String) (x : E) (r : List E) (hx : OkOrVE (f x))
    (h : f x = .error VE ∨ r.mapM f = .error VE) : (x :: r).mapM f = .error VE := by
  rw [List.mapM_cons]
  rcases hx with ⟨s, hs⟩ | he
  · rcases h with h | h
    · rw [hs] at h; cases h
    · rw [hs, h]; rfl
  · rw [he]; rfl

theorem mapM_rj (f : E → Except PyErr String) (xs : List E) (h : ∀ x ∈ xs, OkOrVE (f x))
    (hex : ∃ x ∈ xs, f x = .error VE) : xs.mapM f = .error VE := by
  induction xs with
  | nil => obtain ⟨x, hx, _⟩ := hex; simp at hx
  | cons x r ih =>
    refine mapM_cons_rj f x r (h x (by simp)) ?_
    obtain ⟨y, hy, hye⟩ := hex
    rcases List.mem_cons.mp hy with rfl | hy
    · exact Or.inl hye
    · exact Or.inr (ih (fun z hz => h z (by simp [hz])) ⟨y, hy, hye⟩)

theorem nf_rj (print : E → Except PyErr String) (ops : List E) (k : List String → Except PyErr String)
    (h : ∀ x ∈ ops, OkOrVE (print x)) (hex : ∃ x ∈ ops, print x = .error VE) : (ops.mapM print).bind k = .error VE := by
  rw [mapM_rj print ops h hex]; rfl

theorem mapM_all_ok (f : E → Except PyErr String) (xs : List E) (h : ∀ x ∈ xs, ∃ s, f x = .ok s) :
    ∃ ys, xs.mapM f = .ok ys := by
  induction xs with
  | nil => exact ⟨[], rfl⟩
  | cons x r ih =>
    obtain ⟨s, hs⟩ := h x (by simp)
    obtain ⟨ys, hys⟩ := ih (fun y hy => h y (by simp [hy]))
    exact ⟨s :: ys, by rw [List.mapM_cons, hs, hys]; rfl⟩

theorem forIn_rj {σ : Type} (xs : List E) (f : E → σ → Except PyErr (ForInStep σ))
    (hok : ∀ x ∈ xs, ∀ s, (∃ s', f x s = .ok (.yield s')) ∨ f x s = .error VE)
    (hex : ∃ x ∈ xs, ∀ s, f x s = .error VE) (s0 : σ) : forIn xs s0 f = .error VE := by
  induction xs generalizing s0 with
  | nil => obtain ⟨x, hx, _⟩ := hex; simp at hx
  | cons x r ih =>
    rw [List.forIn_cons]
    rcases hok x (by simp) s0 with ⟨s', hs⟩ | he
    · have : ∃ y ∈ r, ∀ s, f y s = .error VE := by
        obtain ⟨y, hy, hye⟩ := hex
        rcases List.mem_cons.mp hy with rfl | hy
        · rw [hye s0] at hs; cases hs
        · exact ⟨y, hy, hye⟩
      rw [hs]
      exact ih (fun y hy => hok y (by simp [hy])) this s'
    · rw [he]; rfl

theorem mapM2_rj {α : Type} (f : E → Except PyErr String) (xs ys : List E)
    (k : List String → List String → Except PyErr α) (h : ∀ x ∈ xs ++ ys, OkOrVE (f x))
    (hex : ∃ x ∈ xs ++ ys, f x = .error VE) : (xs.mapM f).bind (fun a => (ys.mapM f).bind (k a)) = .error VE := by
  by_cases hx : ∃ x ∈ xs, f x = .error VE
  · rw [mapM_rj f xs (fun x hx' => h x (List.mem_append_left _ hx')) hx]; rfl
  · obtain ⟨as, has⟩ := mapM_all_ok f xs (fun x hx' => (h x (List.mem_append_left _ hx')).resolve_right
      (fun he => hx ⟨x, hx', he⟩))
    obtain ⟨y, hy, hye⟩ := hex
    have hy' : y ∈ ys := (List.mem_append.mp hy).resolve_left (fun hy' => hx ⟨y, hy', hye⟩)
    rw [has, Except.bind_ok, mapM_rj f ys (fun x hx' => h x (List.mem_append_right _ hx')) ⟨y, hy', hye⟩]; rfl

/-- a list of operands bracketed at one precedence (`_bracket_args`, and the comprehensions of `_print_And`, `_print_Or`) -/
theorem mapM_bracket_nf (print : E → Except PyErr String) (p : Nat) (xs : List E) :
    xs.mapM (fun x => do return (← Printer.bracket print x p)) =
      (xs.mapM print).bind fun ss => .ok (List.zipWith (brk p) xs ss) := by
  induction xs with
  | nil => rfl
  | cons x r ih =>
    rw [List.mapM_cons, List.mapM_cons, ih, bracket_eq]
    cases print x with
    | error e => rfl
    | ok s => cases r.mapM print <;> rfl

theorem zipWith_brk {ι : Type} (p : Nat) (items : List ι) (e : ι → E) (d : ι → Doc) :
    List.zipWith (brk p) (items.map e) (items.map fun i => flatten (d i)) =
      items.map fun i => flatten (C11.bracket (e i) (d i) p) := by
  simp [List.zipWith_map_left, List.zipWith_map_right, List.zipWith_self, flatten_bracket]

theorem intercalate_foldl (sep : String) (f : Doc → Doc → Doc)
    (hf : ∀ a d, flatten (f a d) = flatten a ++ sep ++ flatten d) (ds : List Doc) (d0 : Doc) :
    flatten (ds.foldl f d0) = String.intercalate sep (flatten d0 :: ds.map flatten) :=
  flatten_foldl sep f hf ds d0

theorem mapM_bracket {ι : Type} (print : E → Except PyErr String) (p : Nat) (items : List ι) (e : ι → E) (d : ι → Doc)
    (h : ∀ i ∈ items, print (e i) = .ok (flatten (d i))) :
    (items.map e).mapM (fun x => Printer.bracket print x p)
      = .ok (items.map (fun i => flatten (C11.bracket (e i) (d i) p))) := by
  induction items with
  | nil => rfl
  | cons i r ih =>
    have hi := bracket_tie print (e i) (d i) p (h i (by simp))
    have hr := ih (fun j hj => h j (by simp [hj]))
    simp only [List.map_cons, List.mapM_cons, hi] at hr ⊢
    simp only [hr, except_run]

theorem printAnd_nf (print : E → Except PyErr String) (a : E) :
    Printer.printAnd print (.and a) =
      ((elems a).mapM print).bind fun ss => .ok (String.intercalate " and " (List.zipWith (brk 30) (elems a) ss)) := by
  unfold Printer.printAnd
  simp only [argsOf, prec, mapM_bracket_nf, bind]
  cases (elems a).mapM print <;> rfl

theorem printOr_nf (print : E → Except PyErr String) (a : E) :
    Printer.printOr print (.or a) =
      ((elems a).mapM print).bind fun ss => .ok (String.intercalate " or " (List.zipWith (brk 20) (elems a) ss)) := by
  unfold Printer.printOr
  simp only [argsOf, prec, mapM_bracket_nf, bind]
  cases (elems a).mapM print <;> rfl

/-- **`Printer._print_And` = `C11.boolChain spliceAnd 30`** (the `and` case of `C11.pr`) -/
theorem printAnd_tie (print : E → Except PyErr String) (args : E) (items : List Item)
    (ha : elems args = items.map (·.e)) (h : ∀ i ∈ items, print i.e = .ok (flatten i.doc)) :
    Printer.printAnd print (.and args) = .ok (flatten (boolChain spliceAnd 30 items)) := by
  rw [printAnd_nf, ha, nf_ok print items (·.e) (fun i => flatten i.doc) _ h, zipWith_brk,
    flatten_boolChain " and " _ flatten_spliceAnd]

/-- **`Printer._print_Or` = `C11.boolChain spliceOr 20`** -/
theorem printOr_tie (print : E → Except PyErr String) (args : E) (items : List Item)
    (ha : elems args = items.map (·.e)) (h : ∀ i ∈ items, print i.e = .ok (flatten i.doc)) :
    Printer.printOr print (.or args) = .ok (flatten (boolChain spliceOr 20 items)) := by
  rw [printOr_nf, ha, nf_ok print items (·.e) (fun i => flatten i.doc) _ h, zipWith_brk,
    flatten_boolChain " or " _ flatten_spliceOr]

/-- the `cons`-list of the printed arguments (what `C11.pr` builds for an argument list) -/
def docOfItems : List Item → Doc
  | [] => .nil
  | i :: r => .cons i.doc (docOfItems r)

theorem flatten_docOfItems (items : List Item) :
    flatten (docOfItems items) = String.intercalate ", " (items.map (fun i => flatten i.doc)) := by
  induction items with
  | nil => simp [docOfItems, flatten]
  | cons i r ih =>
    cases r with
    | nil => simp [docOfItems, flatten]
    | cons j r =>
      rw [docOfItems, docOfItems, flatten, ← docOfItems, ih]
      · simp
      · intro h; simp at h

theorem fn_aux (o : Option String) (s : String) :
    (if o.isSome = true then pure (o.getD "" + "(" + s + ")") else throw ⟨"ValueError"⟩ : Except PyErr String) =
      match o with
      | some f => .ok (flatten (.call f (.atom s)))
      | none => .error ⟨"ValueError"⟩ := by
  cases o <;> simp [flatten, except_run]

theorem printFunction_nf (print : E → Except PyErr String) (name : String) (a : E) :
    Printer.printFunction print (.fn name a) =
      ((elems a).mapM print).bind fun ss =>
        match fnName name with
        | some f => .ok (flatten (.call f (.atom (String.intercalate ", " (List.zipWith (brk 0) (elems a) ss)))))
        | none => .error VE := by
  unfold Printer.printFunction Printer.bracketArgs
  simp only [argsOf, funcName, fnNamesGet, mapM_bracket_nf, bind]
  cases (elems a).mapM print with
  | error e => rfl
  | ok ss => exact fn_aux _ _

/-- **`Printer._print_Function`** = the `fn` case of `C11.pr`: table lookup, `ValueError` for an unknown name -/
theorem printFunction_tie (print : E → Except PyErr String) (name : String) (args : E) (items : List Item)
    (ha : elems args = items.map (·.e)) (h : ∀ i ∈ items, print i.e = .ok (flatten i.doc)) :
    Printer.printFunction print (.fn name args) =
      match fnName name with
      | some f => .ok (flatten (.call f (docOfItems items)))
      | none => .error ⟨"ValueError"⟩ := by
  rw [printFunction_nf, ha, nf_ok print items (·.e) (fun i => flatten i.doc) _ h, zipWith_brk]
  simp only [bracket_zero, flatten, flatten_docOfItems]

theorem sqrt_in_table : fnName "sqrt" = some sqrtName := by decide +kernel

/-- the operands `_print_Pow` prints: the base, and the exponent unless it is `1/2` or (commutative) `-1/2`, `-1` -/
def powOps (b x : E) : List E :=
  if x == .rat 1 2 || (comm b && comm x && (x == .rat (-1) 2 || x == .int (-1))) then [b] else [b, x]

/-- `C11.powDoc` on texts -/
def powText (b x : E) (ss : List String) : String :=
  if x == .rat 1 2 then sqrtName ++ "(" ++ ss.getD 0 "" ++ ")"
  else if comm b && comm x && x == .rat (-1) 2 then "1 / " ++ sqrtName ++ "(" ++ ss.getD 0 "" ++ ")"
  else if comm b && comm x && x == .int (-1) then "1 / " ++ brk 60 b (ss.getD 0 "")
  else brk 61 b (ss.getD 0 "") ++ "**" ++ brk 60 x (ss.getD 1 "")

/-- `_print_Pow` with `_print_ordinary_pow` -/
theorem printPow_nf (print : E → Except PyErr String) (b x : E) :
    Printer.printPow print (.pow b x) = ((powOps b x).mapM print).bind fun ss => .ok (powText b x ss) := by
  have hp : prec (.pow b x) = 60 := rfl
  unfold Printer.printPow Printer.printOrdinaryPow powOps powText
  simp only [baseOf, expOf, hp, comm, isHalf, negIsHalf, negIsOne, Py.truthy_bool, fnNamesIdx, sqrt_in_table,
    bracket_eq, except_run]
  by_cases h1 : x = .rat 1 2
  · subst h1; cases hb : print b <;> simp [hb, except_run, List.mapM_cons]
  · by_cases hc : (comm b && comm x) = true
    · by_cases h2 : x = .rat (-1) 2
      · subst h2; cases hb : print b <;> simp [hb, hc, except_run, List.mapM_cons]
      · by_cases h3 : x = .int (-1)
        · subst h3
          cases hb : print b <;> simp [hb, hc, except_run, List.mapM_cons, brk, precA]
        · cases hb : print b <;> cases hx : print x <;>
            simp [hb, hx, h1, h2, h3, hc, except_run, List.mapM_cons, brk, precA]
    · cases hb : print b <;> cases hx : print x <;>
        simp [hb, hx, h1, hc, except_run, List.mapM_cons, brk, precA]

/-- **`Printer._print_Pow` = `C11.powDoc`** -/
theorem printPow_tie (print : E → Except PyErr String) (b x : E) (bd xd : Doc)
    (hb : print b = .ok (flatten bd)) (hx : print x = .ok (flatten xd)) :
    Printer.printPow print (.pow b x) = .ok (flatten (powDoc b x bd xd)) := by
  rw [printPow_nf]
  unfold powOps powText powDoc
  by_cases h1 : x = .rat 1 2
  · simp [h1, hb, List.mapM_cons, except_run, flatten]
  · by_cases hc : (comm b && comm x) = true
    · by_cases h2 : x = .rat (-1) 2
      · subst h2
        simp [hc, hb, List.mapM_cons, except_run, flatten, Bop.text, String.append_assoc]
      · by_cases h3 : x = .int (-1)
        · subst h3
          simp [hc, hb, List.mapM_cons, except_run, flatten, Bop.text, flatten_bracket]
        · simp [h1, h2, h3, hc, hb, hx, List.mapM_cons, except_run, flatten, Bop.text,
            flatten_bracket]
    · simp [h1, hc, hb, hx, List.mapM_cons, except_run, flatten, Bop.text, flatten_bracket]

theorem printRelational_nf (print : E → Except PyErr String) (r : Rel) (a b : E) :
    Printer.printRelational print (.rel r a b) =
      ([a, b].mapM print).bind fun ss =>
        .ok (brk (prec (.rel r a b) + 1) a (ss.getD 0 "") ++ " " ++ r.text ++ " " ++
          brk (prec (.rel r a b) + 1) b (ss.getD 1 "")) := by
  have hop : Py.isIn r.text ["==", "!=", "<", "<=", ">", ">="] = true := by
    cases r <;> simp [Rel.text, Py.isIn]
  unfold Printer.printRelational
  simp only [lhsOf, rhsOf, relOp, hop, bracket_eq, bind, Bool.not_true, Bool.false_eq_true, if_false,
    List.mapM_cons, List.mapM_nil]
  cases ha : print a <;> cases hb : print b <;>
    simp [except_run, brk, precA, String.append_assoc]

/-- **`Printer._print_Relational`** = the `rel` case of `C11.pr` -/
theorem printRelational_tie (print : E → Except PyErr String) (r : Rel) (a b : E) (ad bd : Doc)
    (ha : print a = .ok (flatten ad)) (hb : print b = .ok (flatten bd)) :
    Printer.printRelational print (.rel r a b) =
      .ok (flatten (.cmp r (C11.bracket a ad (prec (.rel r a b) + 1)) (C11.bracket b bd (prec (.rel r a b) + 1)))) := by
  rw [printRelational_nf, List.mapM_cons, List.mapM_cons, ha, hb]
  simp only [List.mapM_nil, except_run, List.getD_cons_zero, List.getD_cons_succ,
    flatten_bracket, flatten]

theorem int_repr (n : Int) : n.repr = flatten (intDoc n) := by
  cases n with
  | ofNat m =>
    have : ¬ ((m : Int) < 0) := by omega
    simp [intDoc, natDoc, flatten, this, Int.repr]
  | negSucc m => simp [intDoc, natDoc, flatten, Int.repr, Int.negSucc_lt_zero]

theorem minus_tail (t : String) (h : headMinus t = true) : "-" ++ tailStr t = t := by
  obtain ⟨cs, ht⟩ := headMinus_toList t h
  apply String.toList_injective
  simp [tailStr, ht]

/-- **`Printer._print_Integer`** = `C11.intDoc` (the `int` case of `C11.pr`) -/
theorem printInteger_tie (print : E → Except PyErr String) (n : Int) :
    Printer.printInteger print (.int n) = .ok (flatten (pr (.int n)).doc) := by
  simp [Printer.printInteger, pOf, PyStr.str, int_repr, pr, okDoc, except_run]

/-- **`Printer._print_Rational`** = `C11.numDoc` (the `rat` case of `C11.pr`) -/
theorem printRational_tie (print : E → Except PyErr String) (p : Int) (q : Nat) :
    Printer.printRational print (.rat p q) = .ok (flatten (pr (.rat p q)).doc) := by
  simp [Printer.printRational, pOf, qOf, PyStr.str, int_repr, pr, numDoc, natDoc, flatten, Bop.text, except_run]

/-- **`Printer._print_Float` / `_print_float`** = `C11.fltDoc` (the `flt` case of `C11.pr`), for a float whose sign flag
    agrees with its repr (`fltOK`; otherwise the model answers `unsup`) -/
theorem printFloat_tie (print : E → Except PyErr String) (t : String) (neg : Bool) (h : fltOK t neg = true) :
    Printer.printFloatS print (.flt t neg) = .ok (flatten (pr (.flt t neg)).doc) := by
  simp only [Printer.printFloatS, Printer.printFloat, floatOf, PyStr.str, pr, fltDoc, except_run, id]
  cases neg
  · simp [flatten]
  · simp only [fltOK, Bool.and_eq_true, beq_iff_eq] at h
    simp [flatten, minus_tail t h.1]

theorem lit_in_table_pi : lookup Cellml.Gen.printerLiteralNames "pi" = some (litName "pi") := by decide +kernel
theorem lit_in_table_e : lookup Cellml.Gen.printerLiteralNames "e" = some (litName "e") := by decide +kernel
theorem lit_in_table_nan : lookup Cellml.Gen.printerLiteralNames "nan" = some (litName "nan") := by decide +kernel

/-- **`Printer._print_Pi`**, **`_print_Exp1`** = the `pi`, `e1` cases of `C11.pr` -/
theorem printPi_tie (print : E → Except PyErr String) (e : E) :
    Printer.printPi print e = .ok (flatten (pr .pi).doc) := by
  simp [Printer.printPi, litNamesIdx, lit_in_table_pi, pr, okDoc, flatten]

theorem printExp1_tie (print : E → Except PyErr String) (e : E) :
    Printer.printExp1 print e = .ok (flatten (pr .e1).doc) := by
  simp [Printer.printExp1, litNamesIdx, lit_in_table_e, pr, okDoc, flatten]

/-- **`Printer._print_BooleanTrue`**, **`_print_BooleanFalse`** = the `tt`, `ff` cases of `C11.pr` -/
theorem printBooleanTrue_tie (print : E → Except PyErr String) (e : E) :
    Printer.printBooleanTrue print e = .ok (flatten (pr .tt).doc) := rfl

theorem printBooleanFalse_tie (print : E → Except PyErr String) (e : E) :
    Printer.printBooleanFalse print e = .ok (flatten (pr .ff).doc) := rfl

/-- **`Printer._print_Symbol`** (default `symbol_function = str`) = the `sym` case of `C11.pr` -/
theorem printSymbol_tie (print : E → Except PyErr String) (n : String) (c : Bool) :
    Printer.printSymbol print (.sym n c) = .ok (flatten (pr (.sym n c)).doc) := rfl

/-- **`Printer.emptyPrinter`** = the `other` case of `C11.pr`: ValueError -/
theorem emptyPrinter_tie (print : E → Except PyErr String) (e : E) :
    Printer.emptyPrinter print e = .error ⟨"ValueError"⟩ := rfl

theorem other_rejected (w : String) : (pr (.other w)).st = .verr := rfl

theorem flatten_nanDoc : flatten nanDoc = litName "nan" := by decide +kernel

theorem str_mul_succ (s : String) (k : Nat) : s * (k + 1) = s ++ s * k := by
  simp [str_mul, List.replicate_succ]

/-- the operands `_print_Piecewise` prints: value and condition of every pair before the first `True` condition, and the
    value of that one (the loop leaves there) -/
def pwOps : List (E × E) → List E
  | [] => []
  | (v, c) :: r => if isTrue c then [v] else v :: c :: pwOps r

/-- `C11.pwInner` on texts -/
def pwText (nan : String) : List (E × E) → List String → String
  | [], _ => nan
  | (_, c) :: r, ss =>
    if isTrue c then ss.getD 0 ""
    else "(" ++ ss.getD 0 "" ++ ") if (" ++ ss.getD 1 "" ++ ") else (" ++ pwText nan r (ss.drop 2) ++ ")"

/-- the loop of `_print_Piecewise` with `_print_ternary`, from any state -/
theorem pw_loop_nf (print : E → Except PyErr String) (nan : String) (pairs : List (E × E)) (parts : String) (k : Nat) :
    Except.bind (forIn pairs (nan, parts, k) (pwBody print))
      (fun v => (pure (Prod.fst (Prod.snd v) + Prod.fst v + ")" * Prod.snd (Prod.snd v)) : Except PyErr String)) =
    ((pwOps pairs).mapM print).bind fun ss => .ok (parts ++ pwText nan pairs ss ++ ")" * k) := by
  induction pairs generalizing parts k with
  | nil => rfl
  | cons p r ih =>
    obtain ⟨v, c⟩ := p
    rw [List.forIn_cons]
    by_cases hc : isTrue c = true
    · simp only [pwBody, pwOps, pwText, hc, Py.truthy_bool, if_true, List.mapM_cons, List.mapM_nil]
      cases print v <;> rfl
    · have hc' : isTrue c = false := by simpa using hc
      simp only [pwBody, pwOps, pwText, hc', Py.truthy_bool, Bool.false_eq_true, if_false, List.mapM_cons,
        Printer.printTernary, except_run]
      cases hv : print v with
      | error e => rfl
      | ok sv =>
        cases hcc : print c with
        | error e => rfl
        | ok sc =>
          simp only [str_add]
          have := ih (parts ++ ("" ++ "(" ++ sv ++ ") if (" ++ sc ++ ") else (")) (k + 1)
          simp only [except_run, str_add] at this
          rw [this]
          cases (pwOps r).mapM print with
          | error e => rfl
          | ok ss =>
            simp only [List.getD_cons_zero, List.getD_cons_succ, List.drop_succ_cons, List.drop_zero, str_mul_succ,
              String.append_assoc, String.empty_append]

theorem printPiecewise_nf (print : E → Except PyErr String) (ps : E) :
    Printer.printPiecewise print (.pw ps) =
      ((pwOps ((elems ps).map pairOf)).mapM print).bind fun ss =>
        .ok ("(" ++ pwText (litName "nan") ((elems ps).map pairOf) ss ++ ")") := by
  unfold Printer.printPiecewise
  simp only [litNamesIdx, lit_in_table_nan, pairsOf, bind]
  show Except.bind (Except.ok (litName "nan")) (fun other => Except.bind (forIn _ _ (pwBody print)) _) = _
  simp only [Except.bind]
  have := pw_loop_nf print (litName "nan") ((elems ps).map pairOf) "(" 1
  simp only [Except.bind] at this
  rw [this]
  cases (pwOps ((elems ps).map pairOf)).mapM print <;> simp [str_mul]

/-- what `print` must return on the pairs of a Piecewise that the loop reaches (up to the first `True` condition) -/
def PwPrinted (print : E → Except PyErr String) : List Item → Prop
  | [] => True
  | i :: r => ∃ v c, i.e = .pair v c ∧ print v = .ok (flatten i.doc) ∧
      (isTrue c = true ∨ (isTrue c = false ∧ print c = .ok (flatten i.base) ∧ PwPrinted print r))

theorem isTruePair_pair (v c : E) : isTruePair (.pair v c) = isTrue c := by
  cases c <;> rfl

theorem pwOps_printed (print : E → Except PyErr String) (items : List Item) (h : PwPrinted print items) :
    ∃ ss, (pwOps (items.map fun i => pairOf i.e)).mapM print = .ok ss ∧
      pwText (litName "nan") (items.map fun i => pairOf i.e) ss = flatten (pwInner items).2 := by
  induction items with
  | nil => exact ⟨[], rfl, flatten_nanDoc.symm⟩
  | cons i r ih =>
    obtain ⟨v, c, he, hv, hc⟩ := h
    have hp : pairOf i.e = (v, c) := by rw [he]; rfl
    have htp : isTruePair i.e = isTrue c := by rw [he, isTruePair_pair]
    rcases hc with hc | ⟨hc, hcp, hr⟩
    · refine ⟨[flatten i.doc], ?_, ?_⟩
      · simp [hp, hc, hv, pwOps, List.mapM_cons, except_run]
      · simp [hp, htp, hc, pwText, pwInner]
    · obtain ⟨ss, h1, h2⟩ := ih hr
      refine ⟨flatten i.doc :: flatten i.base :: ss, ?_, ?_⟩
      · simp [hp, hc, hv, hcp, h1, pwOps, List.mapM_cons, except_run]
      · have e1 : ") if (" = ")" ++ " if " ++ "(" := by decide
        have e2 : ") else (" = ")" ++ " else " ++ "(" := by decide
        simp only [List.map_cons, hp, pwText, pwInner, htp, hc, Bool.false_eq_true, if_false, List.getD_cons_zero,
          List.getD_cons_succ, List.drop_succ_cons, List.drop_zero, h2, flatten, e1, e2, String.append_assoc]

/-- **`Printer._print_Piecewise` = `C11.pwInner`** (the `pw` case of `C11.pr`): the chain of conditional expressions up
    to the first `True` condition, `float('nan')` when there is none -/
theorem printPiecewise_tie (print : E → Except PyErr String) (pairs : E) (items : List Item)
    (ha : elems pairs = items.map (·.e)) (h : PwPrinted print items) :
    Printer.printPiecewise print (.pw pairs) = .ok (flatten (.paren (pwInner items).2)) := by
  obtain ⟨ss, h1, h2⟩ := pwOps_printed print items h
  rw [printPiecewise_nf, ha, List.map_map]
  show Except.bind ((pwOps (items.map fun i => pairOf i.e)).mapM print)
    (fun ss => .ok ("(" ++ pwText (litName "nan") (items.map fun i => pairOf i.e) ss ++ ")")) = _
  rw [h1]
  simp only [Except.bind, h2, flatten]

/-- **`Printer.doprint`** on a `sympy.Expr`: `optimize`, then `print`. `_hr` is not used here: that `optimize` is the
    rewriting of the secondary trigonometric functions `C11.rewriteTrig` is what `doprint_closed` puts in -/
theorem doprint_tie (optimize : E → Except PyErr E) (print : E → Except PyErr String) (e e' : E)
    (hE : isExpr e = true) (_hr : rewriteTrig e = some e') (ho : optimize e = .ok e') :
    Printer.doprint optimize print e = print e' := by
  unfold Printer.doprint
  simp only [hE, ho, Py.truthy_bool, except_run, if_true]

/-- a relation / boolean at the top is printed as it is (`doprint` only rewrites `sympy.Expr`) -/
theorem doprint_tie_bool (optimize : E → Except PyErr E) (print : E → Except PyErr String) (e : E)
    (hE : isExpr e = false) : Printer.doprint optimize print e = print e := by
  unfold Printer.doprint
  simp only [hE, Py.truthy_bool, except_run]
  cases print e <;> rfl

end Cellml.Tie.PPrinter
