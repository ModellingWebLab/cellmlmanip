import Cellml.Generated.Code.CmetaQ
import Cellml.Model.Assoc
import Mathlib.Tactic.SplitIfs
import Cellml.Tie.ExceptRun

/-! # Tie: the reading cmeta / RDF functions of model.py (generated from the source) = the hand model's lookups
    (`Model.hasCmetaId`, `Model.getVariableByCmetaId` of State.lean; `Model.byRdf`, `Model.byTerm` of Cmeta.lean) -/

namespace Cellml.Tie.PCmeta
open Model Cellml.Gen

/-- a lookup of the hand model (`none` = KeyError) as a python result -/
def ofLookup : Option Nat → Except PyErr Nat
  | some v => .ok v
  | none => .error ⟨"KeyError"⟩

theorem isIn_cmetaKeys (a : AState) (c : String) : Py.isIn (some c) (cmetaKeys a) = hasKey c a.m.cmetaMap := by
  rw [Bool.eq_iff_iff, hasKey_iff_mem_keys]
  simp [Py.isIn, cmetaKeys]

theorem isIn_cmetaKeys_none (a : AState) : Py.isIn (none : Option String) (cmetaKeys a) = false := by
  simp [Py.isIn, cmetaKeys]

/-- `has_cmeta_id(c)` for a string `c` -/
theorem hasCmetaId_tie (a : AState) (c : String) :
    CmetaQ.hasCmetaId a (some c) = .ok (Model.hasCmetaId a.m c) := by
  unfold CmetaQ.hasCmetaId Model.hasCmetaId
  rw [isIn_cmetaKeys]
  by_cases h : a.m.modelCmeta = some c
  · simp [h, except_run]
  · have h' : ¬ some c = a.m.modelCmeta := fun e => h e.symm
    simp [h, h', except_run]

/-- `has_cmeta_id(None)` (which `add_variable` guards against): never an id of the model. With the two theorems about
    non-local and non-resource arguments below: every kind of argument is covered. -/
theorem hasCmetaId_none (a : AState) : CmetaQ.hasCmetaId a none = .ok false := by
  unfold CmetaQ.hasCmetaId
  rw [isIn_cmetaKeys_none]
  simp [except_run]

/-- a plain string: the registry lookup of the hand model, KeyError when absent -/
theorem getVariableByCmetaId_str (a : AState) (c : String) :
    CmetaQ.getVariableByCmetaId a (.str c) = ofLookup (Model.getVariableByCmetaId a.m c) := by
  unfold CmetaQ.getVariableByCmetaId Model.getVariableByCmetaId cmetaMapGet
  -- `try: return d[c] / except KeyError: raise KeyError(…)`: the handler raises the class it caught, so the `try` is
  -- the lookup itself
  cases h : List.lookup c a.m.cmetaMap with
  | none =>
    simp [h, IdArg.isNode, ofLookup, tryCatch, tryCatchThe, MonadExceptOf.tryCatch, Except.tryCatch, except_run]
  | some v =>
    simp [h, IdArg.isNode, ofLookup, tryCatch, tryCatchThe, MonadExceptOf.tryCatch, Except.tryCatch,
      EarlyReturnT.return, EarlyReturn.runK, except_run]
    rfl

theorem dropFront_hash (c : String) : (IdArg.uriRef ("#" ++ c)).toStr.dropFront 1 = .str c := by
  simp [IdArg.toStr, IdArg.dropFront, IdArg.text, String.toList_append]

theorem charAt_hash (c : String) : (IdArg.uriRef ("#" ++ c)).toStr.charAt 0 = .ok "#" := by
  simp [IdArg.toStr, IdArg.charAt, IdArg.text, String.toList_append]

/-- the `URIRef('#' + c)` of a local resource (what `Variable.rdf_identity` is and what `rdf.subjects` yields for
    the triples of the hand model): the same lookup of `c` -/
theorem getVariableByCmetaId_uri (a : AState) (c : String) :
    CmetaQ.getVariableByCmetaId a (.uriRef ("#" ++ c)) = ofLookup (Model.getVariableByCmetaId a.m c) := by
  rw [← getVariableByCmetaId_str]
  unfold CmetaQ.getVariableByCmetaId
  simp only [IdArg.isNode, IdArg.isURIRef, Py.truthy_bool, charAt_hash, dropFront_hash, except_run]
  simp [except_run]

/-- a URI that is not local: IndexError for the empty one, NotImplementedError otherwise — before any lookup -/
theorem getVariableByCmetaId_nonlocal (a : AState) (s : String) (h : s.toList.head? ≠ some '#') :
    CmetaQ.getVariableByCmetaId a (.uriRef s)
      = .error ⟨if s.toList = [] then "IndexError" else "NotImplementedError"⟩ := by
  unfold CmetaQ.getVariableByCmetaId
  simp only [IdArg.isNode, IdArg.isURIRef, Py.truthy_bool, IdArg.toStr, IdArg.charAt, IdArg.text]
  cases hl : s.toList with
  | nil => simp [except_run]
  | cons ch r =>
    have hc : ch ≠ '#' := by simpa [hl] using h
    have : (String.singleton ch != "#") = true := by
      simp only [bne_iff_ne, ne_eq]
      intro e
      apply hc
      have := congrArg String.toList e
      simpa using this
    simp [this, except_run]

/-- a node that is not a URI (a literal, a blank node): AssertionError -/
theorem getVariableByCmetaId_nonresource (a : AState) (s : String) :
    CmetaQ.getVariableByCmetaId a (.otherNode s) = .error ⟨"AssertionError"⟩ := by
  unfold CmetaQ.getVariableByCmetaId
  simp [IdArg.isNode, IdArg.isURIRef, except_run]

/-- an optional object of the hand model's query as the python argument: `None` is the wildcard -/
def ofObj : Option RNode → RdfArg
  | none => .none
  | some x => .node x

theorem createRdfNode_ofObj (o : Option RNode) : createRdfNode (ofObj o) = ofObj o := by cases o <;> rfl

theorem createRdfNode_node (n : RNode) : createRdfNode (.node n) = .node n := rfl

theorem uri_beq (x y : String) : (RNode.uri x == RNode.uri y) = (x == y) := by
  rw [Bool.eq_iff_iff, beq_iff_eq, beq_iff_eq]
  constructor
  · intro h; injection h
  · intro h; rw [h]

theorem rdfSubjects_eq (a : AState) (p : String) (o : Option RNode) :
    rdfSubjects a (.node (.uri p)) (ofObj o)
      = (a.rdf.filter (tripleMatches p o)).map (fun t => IdArg.uriRef ("#" ++ t.subj)) := by
  unfold rdfSubjects
  congr 1
  apply List.filter_congr
  intro t _
  cases o <;> simp [nodeMatches, tripleMatches, ofObj, uri_beq]

theorem mapM_carriers (a : AState) (l : List Triple) :
    (l.map (fun t => IdArg.uriRef ("#" ++ t.subj))).mapM (fun result => CmetaQ.getVariableByCmetaId a result)
      = match carriers (Model.getVariableByCmetaId a.m) l with
        | some vs => .ok vs
        | none => .error ⟨"KeyError"⟩ := by
  induction l with
  | nil => rfl
  | cons t r ih =>
    simp only [List.map_cons, List.mapM_cons, ih, getVariableByCmetaId_uri, carriers]
    cases h1 : Model.getVariableByCmetaId a.m t.subj <;>
      cases h2 : carriers (Model.getVariableByCmetaId a.m) r <;>
      simp [ofLookup, except_run]

/-- `get_variables_by_rdf(predicate, object_, sort)` for a predicate node `URIRef(p)` and an object that is `None` or a
    node, `sort=True`: the hand model's `byRdf` -/
theorem getVariablesByRdf_tie (a : AState) (p : String) (o : Option RNode) :
    CmetaQ.getVariablesByRdf a (.node (.uri p)) (ofObj o) true = errClass lErrCls (byRdf a p o) := by
  unfold CmetaQ.getVariablesByRdf byRdf
  simp only [createRdfNode_node, createRdfNode_ofObj, rdfSubjects_eq, mapM_carriers, Py.truthy_bool]
  cases carriers (Model.getVariableByCmetaId a.m) (a.rdf.filter (tripleMatches p o)) <;>
    simp [lErrCls, except_run]

/-- `get_variables_by_rdf(predicate, object_, sort=False)`: the carriers in the order of the triples -/
theorem getVariablesByRdf_unsorted (a : AState) (p : String) (o : Option RNode) :
    CmetaQ.getVariablesByRdf a (.node (.uri p)) (ofObj o) false
      = match carriers (Model.getVariableByCmetaId a.m) (a.rdf.filter (tripleMatches p o)) with
        | some vs => .ok vs
        | none => .error ⟨"KeyError"⟩ := by
  unfold CmetaQ.getVariablesByRdf
  simp only [createRdfNode_node, createRdfNode_ofObj, rdfSubjects_eq, mapM_carriers, Py.truthy_bool]
  cases carriers (Model.getVariableByCmetaId a.m) (a.rdf.filter (tripleMatches p o)) <;>
    simp [except_run]

/-- the default of `sort`, read off the parameter list -/
theorem getVariablesByRdf_default : CmetaQ.getVariablesByRdf_default_sort = true := rfl

/-- the predicate written in `get_variable_by_ontology_term`, through `create_rdf_node`, is the hand model's `bqbiolIs` -/
theorem bqbiol_is : createRdfNode (.pair "http://biomodels.net/biology-qualifiers/" "is") = .node (.uri bqbiolIs) := by
  decide +kernel

theorem createRdfNode_idem (x : RdfArg) : createRdfNode (createRdfNode x) = createRdfNode x := by
  cases x with
  | none => rfl
  | node n => rfl
  | pair ns loc => simp only [createRdfNode]; split_ifs <;> rfl
  | str s => simp only [createRdfNode]; split_ifs <;> rfl

/-- `get_variables_by_rdf` sees its predicate and its object only through `create_rdf_node` (for ANY argument: `None`,
    a node, a `(namespace, local_name)` pair, a string) -/
theorem getVariablesByRdf_args (a : AState) (p o : RdfArg) (s : Bool) :
    CmetaQ.getVariablesByRdf a p o s = CmetaQ.getVariablesByRdf a (createRdfNode p) (createRdfNode o) s := by
  unfold CmetaQ.getVariablesByRdf
  simp only [createRdfNode_idem]

theorem getVariablesByRdf_pred (a : AState) (p : RdfArg) (t : RNode) (s : Bool) :
    CmetaQ.getVariablesByRdf a p (.node t) s = CmetaQ.getVariablesByRdf a (createRdfNode p) (.node t) s := by
  rw [getVariablesByRdf_args]; rfl

/-- `get_variable_by_ontology_term(term)` for a node `term` = the hand model's `byTerm` -/
theorem getVariableByOntologyTerm_tie (a : AState) (term : RNode) :
    CmetaQ.getVariableByOntologyTerm a (.node term) = errClass lErrCls (byTerm a term) := by
  unfold CmetaQ.getVariableByOntologyTerm byTerm
  have h := getVariablesByRdf_tie a bqbiolIs (some term)
  simp only [ofObj] at h
  have hp : ((("http://biomodels.net/biology-qualifiers/", "is") : String × String) : RdfArg)
      = .pair "http://biomodels.net/biology-qualifiers/" "is" := rfl
  rw [hp, getVariablesByRdf_pred, bqbiol_is, getVariablesByRdf_default, h]
  cases byRdf a bqbiolIs (some term) with
  | error e => cases e <;> simp [lErrCls, except_run]
  | ok vs =>
    match vs with
    | [] => simp [lErrCls, except_run]
    | [v] => simp [listGet, except_run]
    | _ :: _ :: _ => simp [lErrCls, except_run]

end Cellml.Tie.PCmeta
