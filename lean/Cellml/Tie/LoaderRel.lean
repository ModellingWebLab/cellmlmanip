import Cellml.Generated.Code.LoaderRel
import Mathlib.Tactic.SplitIfs
import Cellml.Tie.ExceptRun

/-! # Tie: `Parser._handle_component_ref` / `Parser._add_relationships` (generated from the source) =
    `Load.buildParents` on the `<component_ref>` edges in document pre-order (`Doc.encaps`) -/

namespace Cellml.Tie
open Load Cellml.Gen

/-! ## the edges of `Doc.encaps` from the element tree (what harness/props/c01.py `walk` writes) -/

mutual
/-- a `<component_ref>` under the enclosing ref `parent`: its own edge, then its children's, pre-order -/
def Elem.flat (parent : Option String) : Elem → List (Option String × String)
  | .mk c _ rs => (parent, c) :: flatRefs (some c) rs
/-- the `<component_ref>` children of an element whose component is `parent` (`none`: a `<group>`) -/
def flatRefs (parent : Option String) : List Elem → List (Option String × String)
  | [] => []
  | t :: ts => t.flat parent ++ flatRefs parent ts
end

theorem Elem.flat_eq (parent : Option String) (t : Elem) :
    t.flat parent = (parent, t.component) :: flatRefs (some t.component) t.refs := by
  cases t; simp [Elem.flat, Elem.component, Elem.refs]

/-- the `encapsulated` pairs `buildParents` has recorded after the edges `l` (newest first) -/
def encOf (l : List (Option String × String)) : List (String × String) :=
  (l.filterMap (fun e => e.1.map (fun p => (p, e.2)))).reverse

theorem encOf_append (a b : List (Option String × String)) : encOf (a ++ b) = encOf b ++ encOf a := by
  simp [encOf, List.filterMap_append, List.reverse_append]

theorem buildParents_append (comps : List String) : ∀ (l1 l2 : List (Option String × String)) (par : ParentMap)
    (enc : List (String × String)),
    buildParents comps (l1 ++ l2) par enc =
      match buildParents comps l1 par enc with
      | .error e => .error e
      | .ok par1 => buildParents comps l2 par1 (encOf l1 ++ enc)
  | [], l2, par, enc => by simp [buildParents, encOf]
  | (none, c) :: l1, l2, par, enc => by
      simp only [List.cons_append, buildParents]
      rw [buildParents_append comps l1 l2 par enc]
      simp [encOf]
  | (some p, c) :: l1, l2, par, enc => by
      simp only [List.cons_append, buildParents]
      split_ifs
      -- the four refusals of the edge (unknown parent, edge seen before, unknown child, second parent) end both sides
      · rfl
      · rfl
      · rfl
      · rfl
      · rw [buildParents_append comps l1 l2]
        simp [encOf]

/-- the hand model of one call `_handle_component_ref(tag, parent)`: `Load.buildParents` on the edges below `tag` -/
def relModel (comps : List String) (tag : Elem) (parent : Option String) (st : RelState) : Except PyErr RelState :=
  match buildParents comps (flatRefs parent tag.refs) st.par st.enc with
  | .error e => .error ⟨e.className⟩
  | .ok par => .ok ⟨par, encOf (flatRefs parent tag.refs) ++ st.enc⟩

theorem hcr_loop (comps : List String) (parent : Option String)
    (body : Elem → RelState × List String → Except PyErr (ForInStep (RelState × List String)))
    (hb : ∀ t st sibs, body t (st, sibs) =
      match buildParents comps (t.flat parent) st.par st.enc with
      | .error e => .error ⟨e.className⟩
      | .ok par => .ok (.yield (⟨par, encOf (t.flat parent) ++ st.enc⟩, sibs ++ [t.component]))) :
    ∀ (refs : List Elem) (st : RelState) (sibs : List String),
    forIn refs (st, sibs) body =
      match buildParents comps (flatRefs parent refs) st.par st.enc with
      | .error e => .error ⟨e.className⟩
      | .ok par => .ok (⟨par, encOf (flatRefs parent refs) ++ st.enc⟩, sibs ++ refs.map (·.component)) := by
  intro refs
  induction refs with
  | nil => intro st sibs; simp [flatRefs, buildParents, encOf]; rfl
  | cons t ts ih =>
    intro st sibs
    rw [List.forIn_cons, hb, flatRefs, buildParents_append]
    cases buildParents comps (t.flat parent) st.par st.enc with
    | error e => rfl
    | ok par1 =>
      simp only [except_run]
      rw [ih]
      simp [encOf_append]

/-- **`Parser._handle_component_ref`**: for every set of component names, every element, enclosing component and
    parser state, the hand model `relModel` (= `Load.buildParents` on the edges below the element, in document
    pre-order, error classes included) satisfies the recursion equation read off the source: it is a fixpoint of the
    generated functional. (Elements are finite trees, so the equation has exactly one solution: `genHandleRef_eq`,
    Tie/LoaderStagesB.lean.) -/
theorem handleComponentRef_fix (comps : List String) (tag : Elem) (parent : Option String) (st : RelState) :
    LoaderRel.handleComponentRef (relModel comps) ⟨comps⟩ tag parent st = relModel comps tag parent st := by
  unfold LoaderRel.handleComponentRef
  simp only []
  -- the hole is the generated body of `for component_ref_element in …`; `hb` says what one iteration of it does
  rw [hcr_loop comps parent _ ?hb tag.refs st []]
  case hb =>
    intro t st sibs
    rw [Elem.flat_eq]
    cases parent with
    | none =>
      simp only [Py.truthy_option, Option.isSome_none, Bool.false_eq_true, if_false, relModel, buildParents, except_run]
      cases buildParents comps (flatRefs (some t.component) t.refs) st.par st.enc <;> simp [encOf]
    | some p =>
      simp only [Py.truthy_option, Option.isSome_some, if_true, relModel, buildParents, addEncapsulated, setParent]
      by_cases h1 : p ∈ comps
      · by_cases h2 : (p, t.component) ∈ st.enc
        · simp [h1, h2, Err.className, except_run]
        · by_cases h3 : t.component ∈ comps
          · by_cases h4 : (st.par.lookup t.component).isSome = true
            · simp [h1, h2, h3, h4, Err.className, except_run]
            · have e1 : comps.contains p = true := by simpa using h1
              have e2 : st.enc.contains (p, t.component) = false := by simpa using h2
              have e3 : comps.contains t.component = true := by simpa using h3
              simp only [e1, e2, e3, h4, Bool.not_true, Bool.false_eq_true, if_false, except_run]
              cases buildParents comps (flatRefs (some t.component) t.refs) ((t.component, p) :: st.par)
                  ((p, t.component) :: st.enc) <;> simp [encOf]
          · simp [h1, h2, h3, Err.className, except_run]
      · simp [h1, Err.className, except_run]
  unfold relModel
  cases h : buildParents comps (flatRefs parent tag.refs) st.par st.enc with
  | error e => simp [except_run]
  | ok par =>
    simp only [except_run]
    split_ifs
    · rw [List.forIn_noop _ _ _ fun x _ => by simp only [noteSibling, ite_self]]
    · rfl

/-- `Doc.encaps`: the edges of the groups whose (single) `<relationship_ref>` says `encapsulation`, document order -/
def encapsOf (gs : List Elem) : List (Option String × String) :=
  (gs.filter (fun g => g.relationships.headD none == some "encapsulation")).flatMap (fun g => flatRefs none g.refs)

theorem encapsOf_cons (g : Elem) (gs : List Elem) : encapsOf (g :: gs) = encapsOf [g] ++ encapsOf gs := by
  unfold encapsOf
  rw [← List.flatMap_append, ← List.filter_append]
  rfl

theorem ar_loop (comps : List String) (body : Elem → RelState → Except PyErr (ForInStep RelState))
    (hb : ∀ g st, g.relationships.length = 1 → body g st =
      match buildParents comps (encapsOf [g]) st.par st.enc with
      | .error e => .error ⟨e.className⟩
      | .ok par => .ok (.yield ⟨par, encOf (encapsOf [g]) ++ st.enc⟩)) :
    ∀ (gs : List Elem) (st : RelState), (∀ g ∈ gs, g.relationships.length = 1) →
    forIn gs st body =
      match buildParents comps (encapsOf gs) st.par st.enc with
      | .error e => .error ⟨e.className⟩
      | .ok par => .ok ⟨par, encOf (encapsOf gs) ++ st.enc⟩ := by
  intro gs
  induction gs with
  | nil => intro st _; simp [encapsOf, buildParents, encOf]; rfl
  | cons g gs ih =>
    intro st hrel
    rw [List.forIn_cons, encapsOf_cons g gs, buildParents_append, hb g st (hrel g List.mem_cons_self)]
    cases buildParents comps (encapsOf [g]) st.par st.enc with
    | error e => rfl
    | ok par1 =>
      simp only [except_run]
      rw [ih _ fun g' h => hrel g' (List.mem_cons_of_mem _ h)]
      simp [encOf_append]

/-- **`Parser._add_relationships`** (its callee `_handle_component_ref` being the fixpoint `relModel` of
    `handleComponentRef_fix`): for every set of component names, every list of `<group>` elements with exactly one
    `<relationship_ref>` each (the RELAX NG schema allows more: then the code raises ValueError, and `Load.Doc` has no
    room for such a document) and every parser state, the generated function = `Load.buildParents` on the
    encapsulation edges in document order — the same parent map, the same exception class. With the initial state
    `⟨[], []⟩` this is the `buildParents names doc.encaps [] []` of `Load.prepare` / `C17.prepareFrom`. -/
theorem addRelationships_tie (comps : List String) (gs : List Elem) (st : RelState)
    (hrel : ∀ g ∈ gs, g.relationships.length = 1) :
    LoaderRel.addRelationships (relModel comps) ⟨comps⟩ ⟨gs⟩ st =
      match buildParents comps (encapsOf gs) st.par st.enc with
      | .error e => .error ⟨e.className⟩
      | .ok par => .ok ⟨par, encOf (encapsOf gs) ++ st.enc⟩ := by
  unfold LoaderRel.addRelationships
  simp only []
  -- the hole is the generated body of `for group_element in group_elements`
  rw [ar_loop comps _ ?hb gs st hrel]
  case hb =>
    intro g st hg
    simp only [hg, bne_self_eq_false, Bool.false_eq_true, if_false, encapsOf, List.filter_cons, List.filter_nil]
    by_cases he : (g.relationships.headD none == some "encapsulation") = true
    · simp only [he, if_true, List.flatMap_cons, List.flatMap_nil, List.append_nil, relModel, except_run]
      cases buildParents comps (flatRefs none g.refs) st.par st.enc <;> rfl
    · simp only [he, Bool.false_eq_true, if_false, List.flatMap_nil, buildParents, encOf, except_run]
      rfl
  cases buildParents comps (encapsOf gs) st.par st.enc <;> rfl

/-- a group with no or several `<relationship_ref>` is refused with ValueError when the loop reaches it -/
theorem addRelationships_badGroup (rec : Elem → Option String → RelState → Except PyErr RelState) (self : RelView)
    (g : Elem) (gs : List Elem) (st : RelState) (h : g.relationships.length ≠ 1) :
    LoaderRel.addRelationships rec self ⟨g :: gs⟩ st = .error ⟨"ValueError"⟩ := by
  unfold LoaderRel.addRelationships
  simp only []
  rw [List.forIn_cons]
  have : (g.relationships.length != 1) = true := by simpa using h
  simp [this, except_run]

end Cellml.Tie
