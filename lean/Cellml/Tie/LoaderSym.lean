import Cellml.Generated.Code.LoaderSym
import Cellml.Tie.ExceptRun

/-! # Tie: the closure `symbol_generator` of `Parser._add_maths` (generated from the source) =
    `Load.checkIdent` (the `assert`) and `Load.rootOf` / `Load.resolve` (the `while` loop) -/

namespace Cellml.Tie
open Load Cellml.Gen

theorem isIn_vmap (m : List (VRef × VRef)) (v : VRef) :
    Py.isIn (pyStr (some v)) ((VMap.mk m : VMap) : List PyName) = (m.lookup v).isSome := by
  rw [Bool.eq_iff_iff, List.lookup_isSome_iff_mem_keys]
  simp [Py.isIn, pyStr]

theorem isIn_vmap_none (m : List (VRef × VRef)) :
    Py.isIn (pyStr none) ((VMap.mk m : VMap) : List PyName) = false := by
  simp [Py.isIn, pyStr]

/-- the generated loop (`while str(out) in connected_variable_mapping: out = connected_variable_mapping[str(out)]`,
    at most `n` iterations) started on a Variable IS `Load.resolve` with fuel `n` -/
theorem whileUpTo_resolve (m : List (VRef × VRef)) : ∀ (n : Nat) (v : VRef),
    Py.whileUpTo n (fun out => Py.isIn (pyStr out) ((VMap.mk m : VMap) : List PyName))
      (fun out => do
        let mut out := out
        out ← dictGet ⟨m⟩ (pyStr out)
        return out) (some v) = .ok (some (resolve m n v))
  | 0, v => rfl
  | n + 1, v => by
    unfold Py.whileUpTo resolve
    rw [isIn_vmap]
    cases h : m.lookup v with
    | none => simp
    | some s =>
      simp only [Option.isSome_some, if_true, dictGet, pyStr, h, except_run]
      exact whileUpTo_resolve m n s

/-- started on `None` the loop of `symbol_generator` does nothing -/
theorem whileUpTo_none (m : List (VRef × VRef)) (n : Nat) :
    Py.whileUpTo n (fun out => Py.isIn (pyStr out) ((VMap.mk m : VMap) : List PyName))
      (fun out => do
        let mut out := out
        out ← dictGet ⟨m⟩ (pyStr out)
        return out) none = .ok none := by
  cases n with
  | zero => rfl
  | succ n => unfold Py.whileUpTo; rw [isIn_vmap_none]; rfl

theorem symbolGenerator_resolve (vt : VarTable) (m : List (VRef × VRef)) (n : Nat) (cname x : String) :
    LoaderSym.symbolGenerator ⟨cname⟩ (varToSymbol vt) ⟨m⟩ n x =
      match checkIdent vt cname x with
      | .error e => .error ⟨e.className⟩
      | .ok () => .ok (some (resolve m n (cname, x))) := by
  unfold LoaderSym.symbolGenerator checkIdent varToSymbol
  show (do
    let out ← Py.whileUpTo n _ _ ((vt.lookup (cname, x)).map (fun _ => (cname, x)))
    _) = _
  cases h : vt.lookup (cname, x) with
  -- not in `variable_to_symbol`: the loop does nothing on `None`, the `assert` fires
  | none =>
    simp only [Option.map_none, whileUpTo_none]
    simp [Err.className, except_run]
  | some i =>
    simp only [Option.map_some, whileUpTo_resolve]
    simp [except_run]

/-- **`symbol_generator`**, for every variable table, work-list state, component and identifier: with the loop cut off
    after `|connected_variable_mapping|` iterations, the generated closure raises AssertionError exactly when
    `Load.checkIdent` does, and otherwise returns `Load.rootOf st (component, identifier)` — the two model functions
    `Load.checkExpr` / `Load.transcribe` are made of. -/
theorem symbolGenerator_tie (vt : VarTable) (st : CState) (cname x : String) :
    LoaderSym.symbolGenerator ⟨cname⟩ (varToSymbol vt) ⟨st.mapping⟩ st.mapping.length x =
      match checkIdent vt cname x with
      | .error e => .error ⟨e.className⟩
      | .ok () => .ok (some (rootOf st (cname, x))) :=
  symbolGenerator_resolve vt st.mapping st.mapping.length cname x

/-- the cut-off is harmless whenever the chain has ended (which `Props.C01.connect_forest` proves for the mapping of a
    successful `connect`): if the test is false on the value returned after `n` iterations, every larger bound
    returns the same value — the python loop has terminated with it. -/
theorem resolve_stable (m : List (VRef × VRef)) : ∀ (n : Nat) (v : VRef), (m.lookup (resolve m n v)).isNone →
    ∀ k, resolve m (n + k) v = resolve m n v
  | 0, v, h, k => by
    simp only [resolve] at h
    cases k with
    | zero => rfl
    | succ k =>
      simp only [resolve]
      cases h' : m.lookup v with
      | none => rfl
      | some s => rw [h'] at h; cases h
  | n + 1, v, h, k => by
    have : n + 1 + k = (n + k) + 1 := by omega
    rw [this]
    simp only [resolve] at h ⊢
    cases h' : m.lookup v with
    | none => rfl
    | some s =>
      rw [h'] at h
      exact resolve_stable m n s h k

end Cellml.Tie
