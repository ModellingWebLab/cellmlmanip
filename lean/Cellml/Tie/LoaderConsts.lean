import Cellml.Generated.Code.LoaderConsts
import Cellml.Tie.ExceptRun

/-! # Tie: `Parser.transform_constants` (generated from the source) = `Load.checkConstants` (what it raises),
    `Load.constsOf` (the equations it appends), and the initial values `Load.flatVars` keeps -/

namespace Cellml.Tie
open Load Cellml.Gen

/-- the variables `transform_constants` turns into constants: not a state, has an initial value (table order) -/
def tcKeys (states : List VRef) (l : VarTable) : List VRef :=
  (l.filter (fun p => !states.contains p.1 && p.2.init.isSome)).map (·.1)

def tcModel (states defined : List VRef) (st : TCState) (l : VarTable) : Except PyErr TCState :=
  match checkConstants states defined l with
  | .error e => .error ⟨e.className⟩
  | .ok () => .ok ⟨(tcKeys states l).reverse ++ st.defined, st.added ++ constsOf states l, st.cleared ++ tcKeys states l⟩

theorem isIn_stateVars (states : List VRef) (vt : VarTable) (p : VarObj) (h : p ∈ vt) :
    Py.isIn p (vt.filter (fun p => states.contains p.1)) = states.contains p.1 := by
  unfold Py.isIn
  rw [Bool.eq_iff_iff]
  simp only [List.contains_eq_mem, List.mem_filter, decide_eq_true_eq]
  exact ⟨fun h => h.2, fun h2 => ⟨h, h2⟩⟩

/-- one iteration of `for var in list(self.model.variables()):` — the text of the generated loop body as Lean
    elaborates it, to be pasted again from `#print LoaderConsts.transformConstants` when that changes -/
def tcStep (sv : List VarObj) (var : VarObj) (s : TCState) : Except PyErr (ForInStep TCState) :=
  if Py.isIn var sv = true then
    if (!var.snd.init.isSome) = true then do
      throw { cls := "AssertionError" }
      pure (ForInStep.yield s)
    else pure (ForInStep.yield s)
  else
    if var.snd.init.isSome = true then do
      let value ← mkQuantity var.snd.init var.snd.units
      let st ← addEquationVar s var value
      pure (ForInStep.yield (clearInit st var))
    else pure (ForInStep.yield s)

theorem transformConstants_forIn (self : ConstsView) (st : TCState) :
    LoaderConsts.transformConstants self st = forIn self.variables st (tcStep self.stateVars) := by
  unfold LoaderConsts.transformConstants
  simp only [bind_pure]
  rfl

theorem transformConstants_loop (states defined : List VRef) (vt : VarTable) :
    ∀ (l : VarTable) (st : TCState), (∀ p ∈ l, p ∈ vt) → (l.map (·.1)).Nodup →
      (∀ p ∈ l, st.defined.contains p.1 = defined.contains p.1) →
      forIn l st (tcStep (constsView states vt).stateVars) = tcModel states defined st l := by
  intro l
  induction l with
  | nil => intro st _ _ _; simp [tcModel, checkConstants, tcKeys, constsOf]; rfl
  | cons p l ih =>
    intro st hsub hnd hdef
    obtain ⟨v, i⟩ := p
    have hmem : (v, i) ∈ vt := hsub _ List.mem_cons_self
    have hsub' : ∀ p ∈ l, p ∈ vt := fun p hp => hsub p (List.mem_cons_of_mem _ hp)
    have hnd' : (l.map (·.1)).Nodup := (List.nodup_cons.mp hnd).2
    have hv : ∀ p ∈ l, p.1 ≠ v := by
      intro p hp he
      exact (List.nodup_cons.mp hnd).1 (he ▸ List.mem_map_of_mem (f := (·.1)) hp)
    have hdef' : ∀ p ∈ l, st.defined.contains p.1 = defined.contains p.1 :=
      fun p hp => hdef p (List.mem_cons_of_mem _ hp)
    have hdv : st.defined.contains v = defined.contains v := hdef (v, i) List.mem_cons_self
    have hin : Py.isIn (v, i) (constsView states vt).stateVars = states.contains v :=
      isIn_stateVars states vt (v, i) hmem
    rw [List.forIn_cons, tcStep, hin]
    cases hs : states.contains v with
    | true =>
      have hs' : v ∈ states := by simpa using hs
      cases hi : i.init with
      | none => simp [tcModel, checkConstants, hs', hi, Err.className, except_run]
      | some q =>
        simp only [Option.isSome_some, Bool.not_true, Bool.false_eq_true, if_true, if_false, except_run]
        rw [ih st hsub' hnd' hdef']
        simp [tcModel, checkConstants, hs', hi, tcKeys, constsOf]
    | false =>
      have hs' : v ∉ states := by simpa using hs
      cases hi : i.init with
      | none =>
        simp only [Option.isSome_none, Bool.false_eq_true, if_false, except_run]
        rw [ih st hsub' hnd' hdef']
        simp [tcModel, checkConstants, hs', hi, tcKeys, constsOf]
      | some q =>
        cases hd : defined.contains v with
        | true =>
          have hdm : v ∈ defined := by simpa using hd
          have hdm' : v ∈ st.defined := by rw [← hdv] at hd; simpa using hd
          simp [tcModel, checkConstants, hs', hi, hdm, hdm', mkQuantity, addEquationVar, Err.className, except_run]
        | false =>
          have hdm : v ∉ defined := by simpa using hd
          have hd' : v ∉ st.defined := by rw [← hdv] at hd; simpa using hd
          simp only [hd', Option.isSome_some, Bool.false_eq_true, if_true, if_false, mkQuantity, addEquationVar,
            clearInit, List.contains_eq_mem, decide_false, except_run]
          rw [ih _ hsub' hnd' (by
            intro p hp
            rw [← hdef' p hp]
            have := hv p hp
            simp [this])]
          simp [tcModel, checkConstants, hs', hi, hdm, tcKeys, constsOf]

/-- **`Parser.transform_constants`**, for every table of variables with distinct identities (what `Model.add_variable`
    guarantees: `checkVars` refuses a second variable of the same name), every set of state variables and every set of
    already defined variables: the generated function raises exactly when `Load.checkConstants` does, with the same
    class; otherwise it appends exactly `Load.constsOf states vt` (the very list `Load.Loaded.flat` appends) and clears
    the initial value of exactly the variables of those equations. Outside the hypothesis (two table entries with the
    same identity, both with an initial value) `add_equation` would raise ValueError at the second one and
    `checkConstants` does not look. -/
theorem transformConstants_tie (states defined : List VRef) (vt : VarTable) (hnd : (vt.map (·.1)).Nodup)
    (added : List FlatEq) (cleared : List VRef) :
    LoaderConsts.transformConstants (constsView states vt) ⟨defined, added, cleared⟩ =
      match checkConstants states defined vt with
      | .error e => .error ⟨e.className⟩
      | .ok () => .ok ⟨(tcKeys states vt).reverse ++ defined, added ++ constsOf states vt, cleared ++ tcKeys states vt⟩ := by
  rw [transformConstants_forIn]
  exact transformConstants_loop states defined vt vt ⟨defined, added, cleared⟩ (fun _ h => h) hnd (fun _ _ => rfl)

/-- the initial values after `transform_constants` (cleared for `tcKeys`) are those `Load.flatVars` writes: kept for the
    state variables, `None` for everything else. -/
theorem transformConstants_inits (states : List VRef) (vt : VarTable) (v : VRef) (i : VarInfo) (h : (v, i) ∈ vt) :
    (if (tcKeys states vt).contains v then none else i.init) = (if states.contains v then i.init else none) := by
  by_cases hs : v ∈ states
  · have : v ∉ tcKeys states vt := by
      simp only [tcKeys, List.mem_map, List.mem_filter, not_exists, not_and]
      rintro ⟨v', i'⟩ ⟨_, h2⟩ rfl
      simp [hs] at h2
    simp [hs, this]
  · cases hi : i.init with
    | none => simp [hs]
    | some q =>
      have : v ∈ tcKeys states vt := by
        simp only [tcKeys, List.mem_map, List.mem_filter]
        exact ⟨(v, i), ⟨h, by simp [hs, hi]⟩, rfl⟩
      simp [hs, this]

end Cellml.Tie
