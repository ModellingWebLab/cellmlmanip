import Lean.Meta.Tactic.Simp.RegisterCommand

/-- the operations of the `Except` monad a generated method is written with (`bind`, `pure`, `throw`, `tryCatch`, `Except.map`) and
    `errClass`: `simp [except_run]` on an unfolded method computes through them -/
register_simp_attr except_run
