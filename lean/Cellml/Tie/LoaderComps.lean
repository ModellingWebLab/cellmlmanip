import Cellml.Generated.Code.LoaderComps
import Cellml.Tie.AddVars
import Mathlib.Tactic.SplitIfs
import Cellml.Tie.ExceptRun

/-! # Tie: `Parser._add_components` (generated from the source) = `Load.checkComps` (what it raises), `Load.varTable`
    (what it records) and the reaction stage of `C17.loadFull` (`C17.reactionErr`) -/

namespace Cellml.Tie
open Load Cellml.Gen

/-- `variable_to_symbol` of a component -/
def symsOf (e : CompElem) : List (VRef × VRef) :=
  e.comp.vars.map (fun d => ((e.comp.name, d.name), (e.comp.name, d.name)))

/-- `Load.checkComps` with the refusal of `<reaction>` at the place where the code has it: after the variables of the
    component (the `if reactions:` of `_add_components`) -/
def compsSpec (ust : Units.Store) : List CompElem → List String → List VRef × List String →
    Except Err (List VRef × List String)
  | [], _, acc => .ok acc
  | e :: r, seen, acc =>
      if seen.contains e.comp.name then .error (.valueError ("Duplicate component name " ++ e.comp.name))
      else match checkVars ust e.comp.name e.comp.vars acc with
        | .error err => .error err
        | .ok acc' =>
          if !e.reactions.isEmpty then .error (.valueError "Reactions are not supported")
          else compsSpec ust r (e.comp.name :: seen) acc'

/-- the text of the generated body of `for element in component_elements` as Lean elaborates it: pasted from `#print
    LoaderComps.addComponents`, to be pasted again when that changes -/
@[reducible] def acStep (self : CompsView) (element : CompElem)
    (__s : CompsState × List (CompElem × List (VRef × VRef))) :
    Except PyErr (ForInStep (CompsState × List (CompElem × List (VRef × VRef)))) :=
  have st := __s.fst;
  have component_variables := __s.snd;
  have name := element.comp.name;
  have __do_jp := fun (__r : Unit) =>
    have st := newComponent st name;
    do
    let __x ← Cellml.Tie.PAddVars.genAddVariables self st element
    match __x with
      | (variable_to_symbol, st__) =>
        have st := st__;
        have component_variables := component_variables ++ [(element, variable_to_symbol)];
        have reactions := element.reactions;
        if Py.truthy reactions = true then do
          throw { cls := "ValueError" }
          pure (ForInStep.yield (st, component_variables))
        else pure (ForInStep.yield (st, component_variables));
  if Py.isIn name st.components = true then do
    let __r ← throw { cls := "ValueError" }
    __do_jp __r
  else __do_jp ()

theorem ac_loop (ust : Units.Store) : ∀ (elems : List CompElem) (st : CompsState)
    (cv : List (CompElem × List (VRef × VRef))),
    forIn elems (st, cv) (acStep ⟨ust⟩) =
      match compsSpec ust elems st.components st.acc with
      | .error e => .error ⟨e.className⟩
      | .ok acc' => .ok (⟨(elems.map (·.comp.name)).reverse ++ st.components, acc',
                          st.vt ++ varTable ust (elems.map (·.comp))⟩, cv ++ elems.map (fun e => (e, symsOf e))) := by
  intro elems
  induction elems with
  | nil => intro st cv; simp [compsSpec, varTable]; rfl
  | cons e r ih =>
    intro st cv
    rw [List.forIn_cons]
    simp only [acStep, compsSpec, Py.isIn, Py.truthy_list, newComponent, PAddVars.genAddVariables_leaf, addVariables]
    by_cases h1m : e.comp.name ∈ st.components
    -- second component of the name: ValueError
    · simp [h1m, Err.className, except_run]
    · have h1 : st.components.contains e.comp.name = false := by simpa using h1m
      simp only [h1, Bool.false_eq_true, if_false]
      cases h2 : checkVars ust e.comp.name e.comp.vars st.acc with
      -- `_add_variables` raises
      | error err => simp [except_run]
      | ok acc' =>
        simp only [except_run]
        by_cases h3 : e.reactions.isEmpty = true
        · simp only [h3, Bool.not_true, Bool.false_eq_true, if_false, except_run]
          rw [ih]
          simp [varTable, symsOf]
        -- a `<reaction>` child: ValueError, after the variables have been added
        · simp [h3, Err.className, except_run]

theorem addComponents_spec (ust : Units.Store) (elems : List CompElem) (st : CompsState) :
    LoaderComps.addComponents ⟨ust⟩ ⟨elems⟩ st =
      match compsSpec ust elems st.components st.acc with
      | .error e => .error ⟨e.className⟩
      | .ok acc' => .ok (elems.map (fun e => (e, symsOf e)),
          ⟨(elems.map (·.comp.name)).reverse ++ st.components, acc', st.vt ++ varTable ust (elems.map (·.comp))⟩) := by
  unfold LoaderComps.addComponents
  simp only []
  rw [ac_loop ust elems st []]
  cases compsSpec ust elems st.components st.acc <;> simp [except_run]

theorem compsSpec_noReaction (ust : Units.Store) : ∀ (elems : List CompElem) (seen : List String)
    (acc : List VRef × List String), (∀ e ∈ elems, e.reactions = []) →
    compsSpec ust elems seen acc = checkComps ust (elems.map (·.comp)) seen acc
  | [], _, _, _ => rfl
  | e :: r, seen, acc, h => by
    have he : e.reactions = [] := h e List.mem_cons_self
    simp only [compsSpec, List.map_cons, checkComps, he, List.isEmpty_nil, Bool.not_true, Bool.false_eq_true, if_false]
    split_ifs
    · rfl
    · cases checkVars ust e.comp.name e.comp.vars acc with
      | error err => rfl
      | ok acc' => exact compsSpec_noReaction ust r _ acc' (fun e' h' => h e' (List.mem_cons_of_mem _ h'))

/-- **`Parser._add_components`** on a document without `<reaction>`: for every unit store, list of components and
    initial parser state, the generated function raises exactly when `Load.checkComps` does (same class: duplicate
    component name, unknown unit, duplicate variable, duplicate cmeta id — in that order per component), and otherwise
    has registered the components and appended `Load.varTable` (the table `Load.prepare` / `C17.prepareFrom` go on
    with). `self._add_variables` is the generated `_add_variables`, read as `Load.checkVars` / `Load.entry` through
    `PAddVars.genAddVariables_leaf`. -/
theorem addComponents_tie (ust : Units.Store) (elems : List CompElem) (st : CompsState)
    (hno : ∀ e ∈ elems, e.reactions = []) :
    LoaderComps.addComponents ⟨ust⟩ ⟨elems⟩ st =
      match checkComps ust (elems.map (·.comp)) st.components st.acc with
      | .error e => .error ⟨e.className⟩
      | .ok acc' => .ok (elems.map (fun e => (e, symsOf e)),
          ⟨(elems.map (·.comp.name)).reverse ++ st.components, acc', st.vt ++ varTable ust (elems.map (·.comp))⟩) := by
  rw [addComponents_spec, compsSpec_noReaction ust elems _ _ hno]

theorem compsSpec_reaction (ust : Units.Store) : ∀ (pre : List CompElem) (e : CompElem) (post : List CompElem)
    (seen : List String) (acc : List VRef × List String), (∀ x ∈ pre, x.reactions = []) → e.reactions ≠ [] →
    ∃ c, compsSpec ust (pre ++ e :: post) seen acc = .error c ∧
      c.className = (match checkComps ust ((pre ++ [e]).map (·.comp)) seen acc with
        | .error x => x.className
        | .ok _ => "ValueError")
  | [], e, post, seen, acc, _, he => by
    have : e.reactions.isEmpty = false := by cases h : e.reactions with
      | nil => exact absurd h he
      | cons _ _ => rfl
    simp only [List.nil_append, compsSpec, List.map_cons, List.map_nil, checkComps, this, Bool.not_false, if_true]
    split_ifs
    · exact ⟨_, rfl, rfl⟩
    · cases checkVars ust e.comp.name e.comp.vars acc with
      | error err => exact ⟨_, rfl, rfl⟩
      | ok acc' => exact ⟨_, rfl, rfl⟩
  | p :: pre, e, post, seen, acc, h, he => by
    have hp : p.reactions = [] := h p List.mem_cons_self
    simp only [List.cons_append, compsSpec, List.map_cons, checkComps, hp, List.isEmpty_nil, Bool.not_true,
      Bool.false_eq_true, if_false]
    split_ifs
    · exact ⟨_, rfl, rfl⟩
    · cases checkVars ust p.comp.name p.comp.vars acc with
      | error err => exact ⟨_, rfl, rfl⟩
      | ok acc' =>
        exact compsSpec_reaction ust pre e post _ acc' (fun x h' => h x (List.mem_cons_of_mem _ h')) he

/-- **`Parser._add_components`** on a document whose first component with a `<reaction>` is `e` (the components `pre`
    before it have none): the generated function raises what `Load.checkComps` raises on the components up to and
    including `e`, and ValueError if that passes — the body of `C17.reactionErr` with `i = pre.length`
    (`(pre ++ e :: post).take (i + 1) = pre ++ [e]`). -/
theorem addComponents_reaction (ust : Units.Store) (pre : List CompElem) (e : CompElem) (post : List CompElem)
    (st : CompsState) (hpre : ∀ x ∈ pre, x.reactions = []) (he : e.reactions ≠ []) :
    LoaderComps.addComponents ⟨ust⟩ ⟨pre ++ e :: post⟩ st =
      match checkComps ust ((pre ++ [e]).map (·.comp)) st.components st.acc with
      | .error x => .error ⟨x.className⟩
      | .ok _ => .error ⟨"ValueError"⟩ := by
  obtain ⟨c, hc, hcls⟩ := compsSpec_reaction ust pre e post st.components st.acc hpre he
  rw [addComponents_spec, hc]
  simp only [hcls]
  cases checkComps ust ((pre ++ [e]).map (·.comp)) st.components st.acc <;> rfl

end Cellml.Tie
