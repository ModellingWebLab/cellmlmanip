import Cellml.Generated.Code.Iso2
import Cellml.Tie.ExceptRun


/-! # Ties of package Iso2: the process model `Iso.Process` (Iso/Process.lean; theorems in Props/C16Process.lean) and
    the SOURCE of cellmlmanip

    * the memo keys: the def lines of `_get_singularity` / `_generate_piecewise` (decorator `lru_cache(maxsize=128)`,
      positional parameters) ARE the records `SingKey` / `PwKey` of the model, and along every call site from
      `Model.remove_fixable_singularities` down to the two memoised functions the caller's `V` (and offset and `exp`
      function) is what arrives in the key — `model_to_singKey`, `fixEq_sing_tie`: the key `Process.fixEq` looks up is
      the key the source builds;
    * `Model.__init__` = `Process.newModel` (one new store, everything else created per instance, nothing taken from
      the class), `Model.create_quantity` = `Process.createQuantity`, `Quantity.__new__` / `__init__` and
      `Variable.__new__` = the objects of the heap, `_float_dummies` = `Process.placeholders`. -/

namespace Cellml.Tie.PIso2
open Units.Wire Iso Iso.Process Cellml.Gen

/-- the `lru_cache` key of `_get_singularity` (its positional parameters, in order) is the model's `SingKey` -/
theorem getSingularity_key_tie (e : Ex) (V : Nat) (u : Rat) (f : String) :
    Iso2.getSingularity e V u f = (⟨e, V, u, f⟩ : SingKey) := rfl

theorem generatePiecewise_key_tie (e : Ex) (V : Nat) (sp vmin vmax : Rat) :
    Iso2.generatePiecewise e V sp vmin vmax = (⟨e, V, sp, vmin, vmax⟩ : PwKey) := rfl

/-- both are memoised with `maxsize=128` (the model's `Process.maxsize`); nothing else on the path is memoised -/
theorem decorators_tie :
    Iso2.getSingularity_cache = some (some Process.maxsize) ∧
    Iso2.generatePiecewise_cache = some (some Process.maxsize) ∧
    Iso2.fixExprParts_cache = none ∧ Iso2.removeSingularities_cache = none ∧ Iso2.rfs_cache = none ∧
    Iso2.modelRfs_cache = none := ⟨rfl, rfl, rfl, rfl, rfl, rfl⟩

/-- default-argument objects on the path: the only mutable one is `exclude=set()` of
    `Model.remove_fixable_singularities` (read-only in both functions: `Tie/SingTrav.lean` translates the callee, which
    only tests membership); the others are a float literal and the function `sympy.exp` -/
theorem defaults_tie :
    Iso2.modelRfs_defaults = [("exclude", "set()")] ∧
    Iso2.rfs_defaults = [("U_offset", "1e-07"), ("exp_function", "exp")] ∧
    Iso2.removeSingularities_defaults = [("U_offset", "1e-07"), ("exp_function", "exp")] ∧
    Iso2.fixExprParts_defaults = [] ∧ Iso2.getSingularity_defaults = [] ∧ Iso2.generatePiecewise_defaults = [] :=
  ⟨rfl, rfl, rfl, rfl, rfl, rfl⟩

/-- the call sites that exist (a new call site of a memoised function changes a count) -/
theorem call_site_counts :
    Iso2.model_rfs_count = 1 ∧ Iso2.rfs_rs_count = 1 ∧ Iso2.rs_fix_count = 1 ∧ Iso2.rs_pw_count = 1 ∧
    Iso2.fix_rec_count = 3 ∧ Iso2.fix_sing_count = 1 ∧ Iso2.fix_pw_count = 4 := ⟨rfl, rfl, rfl, rfl, rfl, rfl, rfl⟩

/-- `Model.remove_fixable_singularities` hands its own `V` and `exclude` on, takes the callee's default offset 1e-7
    and reads `exp` from the GLOBAL handler table at call time -/
theorem model_rfs_tie (p : Proc) (self V : Nat) (exclude : List Nat) :
    Iso2.model_rfs_0 p self V exclude = ⟨self, V, exclude, 1 / 10000000, handlerOf p "exp"⟩ := rfl

/-- the three recursive calls of `_fix_expr_parts` pass `V`, the offset and the `exp` function on unchanged -/
theorem fix_rec_tie (expr chk ex a sub arg0 : Ex) (V : Nat) (u : Rat) (f : String) (sp vmin vmax : Rat) :
    Iso2.fix_rec_0 expr chk ex a sub arg0 V u f sp vmin vmax = ⟨a, V, u, f⟩ ∧
    Iso2.fix_rec_1 expr chk ex a sub arg0 V u f sp vmin vmax = ⟨arg0, V, u, f⟩ ∧
    Iso2.fix_rec_2 expr chk ex a sub arg0 V u f sp vmin vmax = ⟨sub, V, u, f⟩ := ⟨rfl, rfl, rfl⟩

/-- every call of `_generate_piecewise` (one in `_remove_singularities`, four in `_fix_expr_parts`) keys on the
    caller's `V` and on the three quantities of one analysis result -/
theorem pw_sites_tie (expr chk ex a sub arg0 : Ex) (V : Nat) (u : Rat) (f : String) (sp vmin vmax : Rat) :
    Iso2.rs_pw_0 expr chk ex a sub arg0 V u f sp vmin vmax = ⟨ex, V, sp, vmin, vmax⟩ ∧
    Iso2.fix_pw_0 expr chk ex a sub arg0 V u f sp vmin vmax = ⟨ex, V, sp, vmin, vmax⟩ ∧
    Iso2.fix_pw_1 expr chk ex a sub arg0 V u f sp vmin vmax = ⟨ex, V, sp, vmin, vmax⟩ ∧
    Iso2.fix_pw_2 expr chk ex a sub arg0 V u f sp vmin vmax = ⟨expr, V, sp, vmin, vmax⟩ ∧
    Iso2.fix_pw_3 expr chk ex a sub arg0 V u f sp vmin vmax = ⟨ex, V, sp, vmin, vmax⟩ := ⟨rfl, rfl, rfl, rfl, rfl⟩

/-- the key that reaches `_get_singularity` when model `self` calls `remove_fixable_singularities(V, exclude)`, through
    the four call sites of the source, for the (partially evaluated) right-hand side `rhs` whose `check_U_expr` is `chk` -/
def sourceKey (p : Proc) (self V : Nat) (exclude : List Nat) (rhs chk : Ex) : SingKey :=
  let a := Iso2.model_rfs_0 p self V exclude
  let b := Iso2.rfs_rs_0 rhs a.V a.uOffset a.expFn
  let c := Iso2.rs_fix_0 b.expr chk b.expr b.expr b.expr b.expr b.V b.uOffset b.expFn 0 0 0
  Iso2.fix_sing_0 c.expr chk c.expr c.expr c.expr c.expr c.V c.uOffset c.expFn 0 0 0

/-- **the model's `V` is in the key**: whatever the expression, the key carries the `V` of the call, the default
    offset and the handler of `exp` current at the time of the call -/
theorem model_to_singKey (p : Proc) (self V : Nat) (exclude : List Nat) (rhs chk : Ex) :
    sourceKey p self V exclude rhs chk = ⟨chk, V, 1 / 10000000, handlerOf p "exp"⟩ := rfl

/-- **the key the process model looks up is the key the source builds**: one iteration of the loop of
    `Process.removeSing` on an equation that is analysed leaves the table that the memoised call with `sourceKey`
    leaves (hit: unchanged; miss: the value at that key added) -/
theorem fixEq_sing_tie (sym : Sym) (p : Proc) (self s V : Nat) (vu : QUnit) (one : Rat) (excl exclude : List Nat)
    (st : FixSt) (e : Eqn) (h : (isPiecewise e.rhs || excl.contains e.lhs) = false) :
    (fixEq sym s V vu one (1 / 10000000) (handlerOf p "exp") excl st e).sing =
      (lruCall sym.analyse st.sing (sourceKey p self V exclude e.rhs (evalf st.heap e.rhs))).2 := by
  rw [model_to_singKey]
  unfold fixEq
  simp only [h, Bool.false_eq_true, if_false]
  split <;> rfl

/-- … and an equation that is skipped (a `Piecewise`, or the definition of an excluded variable) consults nothing -/
theorem fixEq_skip_tie (sym : Sym) (s V : Nat) (vu : QUnit) (one u : Rat) (f : String) (excl : List Nat)
    (st : FixSt) (e : Eqn) (h : (isPiecewise e.rhs || excl.contains e.lhs) = true) :
    fixEq sym s V vu one u f excl st e = { st with eqs := st.eqs ++ [e] } := by
  unfold fixEq
  simp only [h, if_true]

/-- For every process state, every `unit_store` argument (`share`) and every uninitialised `self0`: the constructor
    succeeds; the world afterwards is that of `Process.newModel` (exactly one new store, own or shared registry:
    `Tie/UnitsInit.lean`); the record the process appends for the new model is the object built; every container
    attribute is a NEW empty object of this instance (nothing is read from `self0`, i.e. from the class). -/
theorem modelInit_tie (p : Proc) (share : Option Nat) (self0 : ModelRef) (name : String) (cmeta : OptStr) :
    ∃ r : ModelRef, Iso2.modelInit self0 name cmeta share p.world = .ok (r, (newModel p share).world) ∧
      (newModel p share).models = p.models ++ [r.toMModel] ∧
      r = { name := name, _cmeta_id := cmeta, rdf_identity := if Py.truthy cmeta = true then rdfNode cmeta else none,
            equations := [], units := p.world.stores.length, _name_to_variable := [], _cmeta_id_to_variable := [],
            _variables_added := 0, _graph := none, _graph_with_sympy_numbers := none, rdf := [],
            _var_definition_map := [], _ode_definition_map := [] } := by
  cases share with
  | none => exact ⟨_, rfl, rfl, rfl⟩
  | some s => exact ⟨_, rfl, rfl, rfl⟩

/-- `create_quantity(value, name)` of model `m` (whose `units` attribute is its store): with a name the store knows,
    the new object and the heap are those of `Process.createQuantity`, and the process records the new identity for the
    model; with any other name python raises `KeyError` and the process model changes nothing -/
theorem createQuantity_tie (p : Proc) (m : Nat) (mm : MModel) (r : ModelRef) (hr : r.units = mm.store)
    (hm : p.models[m]? = some mm) (value : Rat) (unit : String) :
    (unitOk p.world mm.store unit = true →
      Iso2.createQuantity r value (.name unit) p.world p.heap
        = .ok (p.heap.length, (Process.createQuantity p m value unit).heap) ∧
      (Process.createQuantity p m value unit).heap = p.heap ++ [.qty value (.ofStore mm.store [(unit, 1)])] ∧
      (Process.createQuantity p m value unit).models
        = p.models.set m { mm with qtys := mm.qtys ++ [p.heap.length] }) ∧
    (unitOk p.world mm.store unit = false →
      Iso2.createQuantity r value (.name unit) p.world p.heap = .error ⟨"KeyError"⟩ ∧
      Process.createQuantity p m value unit = p) := by
  constructor
  · intro hok
    simp [except_run, Iso2.createQuantity, Process.createQuantity, hm, hok, hr, isUnitOf, getUnitArg,
        newQuantity, UArg.toQUnit]
  · intro hno
    simp [except_run, Iso2.createQuantity, Process.createQuantity, hm, hno, hr, isUnitOf, getUnitArg]

/-- a `Unit` of the model's registry is kept as it is; a `Unit` of another registry is refused (`KeyError`) -/
theorem createQuantity_unit (r : ModelRef) (value : Rat) (u : QUnit) (w : World) (heap : List Obj) :
    Iso2.createQuantity r value (.unit u) w heap =
      if isUnitOf w r.units (.unit u) = true then .ok (heap.length, heap ++ [.qty value u]) else .error ⟨"KeyError"⟩ := by
  unfold Iso2.createQuantity
  by_cases h : isUnitOf w r.units (.unit u) = true <;>
    simp [except_run, h, getUnitArg, newQuantity, UArg.toQUnit]

/-- `Quantity.__new__` names the symbol `'_' + '{:g}'.format(value)` and makes it real: the header of `Obj.qty` -/
theorem quantityNew_tie (x : Rat) (u : QUnit) : Iso2.quantityNew "Quantity" (.num x) = .ok (objHeader (.qty x u)) := rfl

theorem quantityNew_str (cls s : String) : Iso2.quantityNew cls (.str s) = .ok ⟨cls, some ("_" ++ s), true⟩ := rfl

/-- `Quantity.__init__` stores exactly `_value` and `units`, whatever the object held before -/
theorem quantityInit_tie (self0 : QtyRef) (v : Rat) (u : QUnit) :
    (Iso2.quantityInit self0 v u).map QtyRef.toObj = .ok (Obj.qty v u) := rfl

/-- `Variable.__new__` makes an anonymous real Dummy: the header of `Obj.var` -/
theorem variableNew_tie (n : String) (u : QUnit) (m : Nat) (c : Option String) :
    Iso2.variableNew "Variable" = .ok (objHeader (.var n u m c)) := rfl

/-- on a number, `_float_dummies` allocates ONE new quantity with the placeholder string unit `'dimensionless'` -/
theorem floatDummies_num (x : Rat) (heap : List Obj) :
    Iso2.floatDummies [.num x] heap = .ok ([.q heap.length], heap ++ [Obj.qty x (.bare "dimensionless")]) := by
  have h1 : List.eraseDupsBy (fun x1 x2 => x1 == x2) [x] = [x] := by
    simp [List.eraseDupsBy, List.eraseDupsBy.loop]
  simp [except_run, Iso2.floatDummies, PIso2.floatDummies, floats, List.eraseDups, h1]

/-- the three calls `(_float_dummies(Vmin), _float_dummies(Vmax), _float_dummies(sp))` for one singularity allocate
    exactly the `Process.placeholders` of that result -/
theorem placeholders_tie (a b c : Rat) (heap : List Obj) :
    (do let r₁ ← Iso2.floatDummies [.num a] heap
        let r₂ ← Iso2.floatDummies [.num b] r₁.2
        let r₃ ← Iso2.floatDummies [.num c] r₂.2
        pure r₃.2 : Except PyErr (List Obj)) = .ok (heap ++ placeholders [(a, b, c)]) := by
  simp [except_run, floatDummies_num, placeholders]

/-- whatever the expression, every object `_float_dummies` allocates carries the placeholder string, never a unit of
    a store -/
theorem floatDummies_bare (e : Ex) (heap : List Obj) :
    ∃ e' new, Iso2.floatDummies e heap = .ok (e', heap ++ new) ∧
      ∀ o ∈ new, ∃ x, o = Obj.qty x (.bare "dimensionless") := by
  refine ⟨_, (floats e).map (fun f => Obj.qty f (.bare "dimensionless")), rfl, ?_⟩
  intro o ho
  obtain ⟨x, _, rfl⟩ := List.mem_map.mp ho
  exact ⟨x, rfl⟩

end Cellml.Tie.PIso2
