import Cellml.Generated.Code.ConvertVarE
import Cellml.Tie.ConvertVarDriver

/-! # Tie: `Model.convert_variable` and its helpers (generated from model.py, exceptions with class and state) = the
      stopping hand model `Model.CVE.*` — EQUALITY of results, of exception classes and of the states left behind -/

namespace Cellml.Tie.CVE
open Model Model.CV Cellml.Gen Cellml.Tie.CV
open Model.CVE (Raised)

theorem removeOdeAssign_tieE (s : CState) (ode : CEqn) (x : Nat) :
    ConvertVarE.removeOdeAndAssignRhsToNewVariable s ode x = Model.CVE.removeOdeAssign s ode x := by
  rfl

theorem convertFreeDeriv_tieE (s : CState) (ode : CEqn) (nt : Nat) (cfq : X) :
    ConvertVarE.convertFreeVariableDeriv s ode nt cfq = Model.CVE.convertFreeDeriv s ode nt cfq := by
  obtain ⟨lhs, rhs⟩ := ode
  cases lhs <;> rfl

theorem convertStateDeriv_tieE (s : CState) (v nv : Nat) (cfq : X) :
    ConvertVarE.convertStateVariableDeriv s v nv cfq = Model.CVE.convertStateDeriv s v nv cfq := by
  unfold ConvertVarE.convertStateVariableDeriv Model.CVE.convertStateDeriv odeLookupE
  cases h : s.odeDef.lookup v with
  | none => simp only [h]; rfl
  | some ode =>
    obtain ⟨lhs, rhs⟩ := ode
    simp only [h]
    cases lhs <;> rfl

theorem replaceRefs_tieE (s : CState) (rep : Rep) :
    ConvertVarE.replaceReferencesToDerivatives s rep = Model.CVE.replaceRefs s rep := by
  unfold ConvertVarE.replaceReferencesToDerivatives Model.CVE.replaceRefs
  dsimp only
  rw [List.forIn_eq_foldlM_of_yield (Model.CVE.replaceStep rep)]
  · cases List.foldlM (Model.CVE.replaceStep rep) s s.equations <;> rfl
  · intro e _ st
    unfold Model.CVE.replaceStep
    rw [not_isDisjoint_eq_mentions]
    by_cases hm : mentions rep e = true
    · simp only [hm, if_true]
      have e1 : removeEqE st e = Model.CVE.removeEq st e := rfl
      rw [e1]
      cases Model.CVE.removeEq st e with
      | error x => rfl
      | ok r1 => cases h2 : Model.CVE.addEq r1 (substEq rep e) true <;> simp [except_run, h2]
    · simp only [hm]; rfl

theorem convertInstance_tieE (s : CState) (v : Nat) (cf : Rat) (u : U) (dir : Dir) (move : Bool) :
    ConvertVarE.convertVariableInstance s v (.lit cf (u.div (unitOfV s v))) u dir move
      = Model.CVE.convertInstance s v cf u dir move := by
  unfold ConvertVarE.convertVariableInstance
  -- as in `convertInstance_tie`: python's join points stay functions (`jp`, `K`); the model's rest is `F`
  extract_lets _ _ niv jp niv'
  rw [← apply_ite (jp ())]
  rw [show (if (dir == Dir.input && (initOfV s v).isSome) = true then niv' else niv) = newInit s v cf dir from
    newInitialValue_eq s v cf _ dir]
  unfold Model.CVE.convertInstance
  extract_lets cfq
  show (Model.CVE.addVariable s _ u _ >>= _) = (Model.CVE.addVariable s _ u _ >>= _)
  congr 1
  funext p
  obtain ⟨s1, nv⟩ := p
  dsimp -zeta only
  extract_lets _ k2 _ k3 _ K F
  have key : ∀ s2, K () s2 = F s2 := by
    intro s2
    cases dir with
    | output => rfl
    | input =>
      simp only [K, F, k3, k2, show (Dir.input == Dir.input) = true from rfl, if_true, not_isIn_odeKeys]
      unfold Model.CVE.instInput
      cases ho : s2.varDef.lookup v with
      | none => rfl
      | some oe =>
        simp only [Option.isSome_some, if_true]
        simp only [bind_assoc]
        rfl
  rw [show K () = F from funext key]
  rfl

/-- python's `sorted(….items(), key=order_added)` is the view's `pySorted`; the stopping model sorts with `insertItem` -/
theorem pyInsert_eq_insertItem (st : CState) (x : Nat × CEqn) (l : List (Nat × CEqn)) :
    pyInsert (fun v_eq : Nat × CEqn => orderAdded st v_eq.1) x l = Model.CVE.insertItem x l := by
  induction l with
  | nil => rfl
  | cons y ys ih =>
    simp only [orderAdded] at ih
    simp only [pyInsert, Model.CVE.insertItem, orderAdded, ih]

theorem pySorted_eq_foldr (st : CState) (l : List (Nat × CEqn)) :
    pySorted (fun v_eq : Nat × CEqn => orderAdded st v_eq.1) l = l.foldr Model.CVE.insertItem [] := by
  induction l with
  | nil => rfl
  | cons x xs ih => simp only [pySorted, List.foldr_cons, pyInsert_eq_insertItem, ih]

theorem ok_bindE {ε β γ : Type} (a : β) (k : β → Except ε γ) : (Except.ok a >>= k) = k a := Except.ok_bind a k

theorem getFree_catch (s : CState) :
    (tryCatch (getFreeVariableE s) (fun e__ => if (e__.cls == "ValueError") then pure none else throw e__))
      = (.ok (getFree s) : Except Raised (Option Nat)) := by
  cases hf : getFree s <;>
    simp [getFreeVariableE, hf, tryCatch, tryCatchThe, MonadExceptOf.tryCatch, Except.tryCatch, pure] <;> rfl

/-- `{}.update(d)` for the dict `_convert_state_variable_deriv` answers is that dict -/
theorem dictUpdate_nil_convertStateDerivE (s : CState) (v nv : Nat) (cfq : X) (a : CState × Rep)
    (h : Model.CVE.convertStateDeriv s v nv cfq = .ok a) : dictUpdate [] a.2 = a.2 := by
  unfold Model.CVE.convertStateDeriv at h
  split at h
  · cases h
  · split at h
    · rename_i _ ode _ _ x t _
      cases h1 : Model.CVE.removeOdeAssign s ode v with
      | error e => simp [h1, except_run] at h
      | ok r =>
        obtain ⟨s1, w⟩ := r
        cases h2 : Model.CVE.addEq s1 ⟨.deriv nv t, .mul (.var w) cfq⟩ true with
        | error e => simp [h1, h2, except_run] at h
        | ok s2 =>
          simp [h1, h2, except_run] at h
          subst h
          rfl
    · cases h

/-- **`convert_variable` as generated with exceptions that carry class and state IS the stopping model**: same result,
    same exception class, same state left behind, for every input (no domain hypothesis). -/
theorem convertVariable_tieE (view : CVViewE) (s : CState) (v : Nat) (u : U) (dir : Dir) (move : Bool) :
    ConvertVarE.convertVariable view s v u dir move
      = Model.CVE.convertVariable s v u (view.getConversionFactor (unitOfV s v) u) dir move := by
  unfold ConvertVarE.convertVariable Model.CVE.convertVariable
  -- python's join points (`K0` … `K3`, `R3`) and the model's (`A`, `B`, `R2`) stay functions, so the rest of the
  -- function after the state phase is compared once (`key`), and after the loop once (`key2`)
  extract_lets st syms dr0 K1 K0 isState free
  have hst : st = s := rfl
  clear_value st
  subst hst
  by_cases hv : nameOfV st v ∈ CV.names st
  · have hin : Py.isIn (nameOfV st v) (CV.names st) = true := by simpa [Py.isIn] using hv
    simp -zeta only [hin, hv, Bool.not_true, Bool.false_eq_true, if_false, if_true, K0, CVViewE.getCfE]
    cases hcf : view.getConversionFactor (unitOfV st v) u with
    | error c => rfl
    | ok cf =>
      simp -zeta only [Except.ok_bind, num_beq_one]
      by_cases h1 : cf = 1
      · subst h1; rfl
      · simp -zeta only [h1, decide_false, Bool.false_eq_true, if_false]
        rw [if_pos (show Py.truthy (CfVal.num cf).isNumber = true from rfl)]
        extract_lets cq cfq
        have hq : cq.toX = X.lit cf (u.div (unitOfV st v)) := rfl
        simp -zeta only [K1, hq, getFree_catch, Except.ok_bind, convertInstance_tieE]
        cases hci : Model.CVE.convertInstance st v cf u dir move with
        | error e => rfl
        | ok r =>
          obtain ⟨s1, nv⟩ := r
          simp -zeta only [Except.ok_bind]
          cases dir with
          | output => rfl
          | input =>
            simp -zeta only [show (Dir.input == Dir.output) = false from rfl, Bool.false_eq_true, if_false]
            extract_lets s1' R3 K3 K2 R2 B A
            have key2 : ∀ b1 b2, K3 () b1 b2 = B (b1, b2) := by
              intro b1 b2
              cases b2 with
              | nil => rfl
              | cons p r =>
                simp only [K3, B, R3, R2, Py.truthy_list, List.isEmpty_cons, Bool.not_false, if_true, Bool.false_eq_true,
                  if_false, replaceRefs_tieE]
            have key : ∀ a1 a2, K2 () a1 a2 = A (a1, a2) := by
              intro a1 a2
              have hc2 : (some v == getFree st) = (getFree st == some v) := BEq.comm
              simp -zeta only [K2, A, free, hc2]
              by_cases hF : (getFree st == some v) = true
              · simp -zeta only [hF, if_true]
                -- the loop over the ODEs in model order is the hand model's `foldlM` of `freeStep`
                unfold Model.CVE.sortedItems
                rw [List.foldlM_map, pySorted_eq_foldr,
                  List.forIn_eq_foldlM_of_yield (fun a (p : Nat × CEqn) => Model.CVE.freeStep v nv cfq a p.2) _ _ _
                    (fun p _ st => ?_)]
                · simp only [key2]
                  rfl
                · obtain ⟨k, ⟨lhs, rhs⟩⟩ := p
                  unfold Model.CVE.freeStep
                  cases lhs with
                  | var w => rfl
                  | deriv x t =>
                    simp only [odeBoundVarE, derivArg1E, convertFreeDeriv_tieE, ok_bindE]
                    by_cases htv : t = v
                    · subst htv
                      simp only [beq_self_eq_true, Bool.not_true, Bool.false_eq_true, if_false, if_true]
                      cases Model.CVE.convertFreeDeriv st.fst { lhs := CLhs.deriv x t, rhs := rhs } nv cfq <;> rfl
                    · have : (t == v) = false := beq_eq_false_iff_ne.mpr htv
                      simp only [this, Bool.not_false, if_true, if_neg htv]
                      rfl
              · simp only [hF, Bool.false_eq_true, if_false, pure_bind, key2]
            have hc : Py.isIn v syms = hasKey v st.odeDef := contains_keys_eq_hasKey v st.odeDef
            rw [hc]
            by_cases hS : hasKey v st.odeDef = true
            · simp -zeta only [hS, isState, if_true, convertStateDeriv_tieE]
              cases ha : Model.CVE.convertStateDeriv s1 v nv cfq with
              | error e => rfl
              | ok a =>
                simp only [Except.ok_bind, key]
                rw [dictUpdate_nil_convertStateDerivE _ _ _ _ a ha]
            · simp only [hS, isState, Bool.false_eq_true, if_false, pure_bind, key, s1', dr0]
  · have hin : Py.isIn (nameOfV st v) (CV.names st) = false := by simpa [Py.isIn] using hv
    simp -zeta only [hin, hv, Bool.not_false, if_true, if_false]
    rfl

end Cellml.Tie.CVE
