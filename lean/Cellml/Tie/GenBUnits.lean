import Cellml.Tie.Units
import Cellml.Units.LocalRules

/-! # GenB: the generated `UnitStore.convert` / `get_conversion_factor` in the form the transferred property theorems
    (`Props/C07Gen.lean`, `C16Gen.lean`, `C19Gen.lean`) use: as a `match` on the model's `convertWithRules` / `factor`.

    Everything here is a corollary of `convert_tie` and `getConversionFactor_eq` (`Tie/Units.lean`), which carry no
    hypothesis, so the statements below hold for every store, registry, rule list, magnitude and unit. -/


namespace Cellml.Tie.PGenB
open Units Cellml.Tie.PUnits

/-- `m * 1·(f, y)`: multiplying the unit magnitude changes nothing (`PMap.add [] x` is `x`) -/
theorem one_mul_mag (f : Scale) (y : Syms) : (MagObj.one * ⟨f, y⟩ : MagObj) = ⟨f, y⟩ := rfl

/-- the generated `UnitStore.convert` IS pint's conversion with the enabled rules (C19's `convertWithRules`), for every
    quantity: `convert_tie` + `convertQ_eq` -/
theorem genConvert_rules (st : Store) (reg : Registry) (rules : List Rule) (m : MagObj) (a b : Container) :
    Gen.Units.convert (storeObj st reg rules) ⟨m, ⟨a⟩⟩ ⟨b⟩ =
      match convertWithRules reg rules a b with
      | .ok (f, y) => .ok ⟨m * ⟨f, y⟩, ⟨b⟩⟩
      | .error e => .error ⟨uErrClass e⟩ := by
  rw [convert_tie, convertQ_eq]
  cases convertWithRules reg rules a b with
  | error e => rfl
  | ok p => rfl

/-- … and with no rule enabled it is the ordinary factor (C07's `factor`) -/
theorem genConvert_plain (st : Store) (reg : Registry) (m : MagObj) (a b : Container) :
    Gen.Units.convert (storeObj st reg []) ⟨m, ⟨a⟩⟩ ⟨b⟩ =
      match factor reg a b with
      | .ok f => .ok ⟨m * ⟨f, []⟩, ⟨b⟩⟩
      | .error e => .error ⟨uErrClass e⟩ := by
  rw [genConvert_rules, convertWithRules_no_rules]
  cases factor reg a b with
  | error e => rfl
  | ok f => rfl

/-- success of the generated `convert` on the unit quantity `1 * a`, read back as a statement about `factor` -/
theorem genConvert_plain_ok_iff (st : Store) (reg : Registry) (a b : Container) (q : QuantityObj) :
    Gen.Units.convert (storeObj st reg []) (unitQuantity ⟨a⟩) ⟨b⟩ = .ok q ↔
      ∃ f, factor reg a b = .ok f ∧ q = ⟨⟨f, []⟩, ⟨b⟩⟩ := by
  rw [show unitQuantity ⟨a⟩ = ⟨MagObj.one, ⟨a⟩⟩ from rfl, genConvert_plain]
  cases factor reg a b with
  | error e => simp
  | ok f =>
    simp only [one_mul_mag, Except.ok.injEq]
    constructor
    · intro h; exact ⟨f, rfl, h.symm⟩
    · rintro ⟨f', hf, rfl⟩; rw [hf]

theorem genConvert_rules_ok (st : Store) (reg : Registry) (rules : List Rule) (a b : Container) (f : Scale) (y : Syms) :
    Gen.Units.convert (storeObj st reg rules) (unitQuantity ⟨a⟩) ⟨b⟩ = .ok ⟨⟨f, y⟩, ⟨b⟩⟩ ↔
      convertWithRules reg rules a b = .ok (f, y) := by
  rw [show unitQuantity ⟨a⟩ = ⟨MagObj.one, ⟨a⟩⟩ from rfl, genConvert_rules]
  cases convertWithRules reg rules a b with
  | error e => simp
  | ok p =>
    obtain ⟨f', y'⟩ := p
    simp only [one_mul_mag, Except.ok.injEq, QuantityObj.mk.injEq, MagObj.mk.injEq, and_true, Prod.mk.injEq]

theorem genConvert_plain_ok (st : Store) (reg : Registry) (a b : Container) (f : Scale) :
    Gen.Units.convert (storeObj st reg []) (unitQuantity ⟨a⟩) ⟨b⟩ = .ok ⟨⟨f, []⟩, ⟨b⟩⟩ ↔ factor reg a b = .ok f := by
  rw [genConvert_rules_ok, convertWithRules_no_rules]; cases factor reg a b <;> simp

theorem genConvert_rules_error (st : Store) (reg : Registry) (rules : List Rule) (m : MagObj) (a b : Container)
    (e : UErr) (h : convertWithRules reg rules a b = .error e) :
    Gen.Units.convert (storeObj st reg rules) ⟨m, ⟨a⟩⟩ ⟨b⟩ = .error ⟨uErrClass e⟩ := by
  rw [genConvert_rules, h]

/-- the generated `convert` and `get_conversion_factor` see the registry through `convertWithRules` only, so they can be
    run on the object whose registry is cut down to a closed name set holding the units involved (`Units/LocalRules.lean`) -/
theorem genConvert_restrict {S : List String} {reg : Registry} (hS : Closed S reg) (st : Store) {rules : List Rule}
    (m : MagObj) {a b : Container} (hr : rules.all (fun r => withinB S r.kunit) = true) (ha : withinB S a = true)
    (hb : withinB S b = true) :
    Gen.Units.convert (storeObj st reg rules) ⟨m, ⟨a⟩⟩ ⟨b⟩ =
      Gen.Units.convert (storeObj st (restrict S reg) rules) ⟨m, ⟨a⟩⟩ ⟨b⟩ := by
  rw [genConvert_rules, genConvert_rules, convertWithRules_restrict hS hr ha hb]

theorem genFactor_restrict {S : List String} {reg : Registry} (hS : Closed S reg) (st : Store) {rules : List Rule}
    {a b : Container} (hr : rules.all (fun r => withinB S r.kunit) = true) (ha : withinB S a = true)
    (hb : withinB S b = true) :
    Gen.Units.getConversionFactor (storeObj st reg rules) ⟨a⟩ ⟨b⟩ =
      Gen.Units.getConversionFactor (storeObj st (restrict S reg) rules) ⟨a⟩ ⟨b⟩ := by
  rw [getConversionFactor_eq, getConversionFactor_eq, convertQ_eq, convertQ_eq, convertWithRules_restrict hS hr ha hb]

/-- the scale a result of `get_conversion_factor` stands for (the int `1` is the empty prime-exponent map) -/
def cfScale : CFObj → Scale
  | .one => []
  | .mag m => m.scale

/-- the generated `get_conversion_factor` with no rule enabled: the int `1` when the factor is one, else the factor -/
theorem genFactor_plain (st : Store) (reg : Registry) (a b : Container) :
    Gen.Units.getConversionFactor (storeObj st reg []) ⟨a⟩ ⟨b⟩ =
      match factor reg a b with
      | .ok f => .ok (if f = [] then CFObj.one else CFObj.mag ⟨f, []⟩)
      | .error e => .error ⟨uErrClass e⟩ := by
  rw [getConversionFactor_eq, convertQ_eq, convertWithRules_no_rules]
  cases factor reg a b with
  | error e => rfl
  | ok f => simp

theorem genFactor_plain_scale (st : Store) (reg : Registry) (a b : Container) (f : Scale) :
    (Gen.Units.getConversionFactor (storeObj st reg []) ⟨a⟩ ⟨b⟩).map cfScale = .ok f ↔ factor reg a b = .ok f := by
  rw [genFactor_plain]
  cases hf : factor reg a b with
  | error e => simp [Except.map]
  | ok f' =>
    by_cases h0 : f' = []
    · subst h0; simp [Except.map, cfScale]
    · simp [Except.map, cfScale, h0]

end Cellml.Tie.PGenB
