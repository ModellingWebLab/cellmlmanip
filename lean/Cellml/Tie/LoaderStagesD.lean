import Cellml.Tie.LoaderSym
import Cellml.Tie.LoaderStagesA

/-! # Closed GENERATED stages of `Parser.parse`, part D: the symbol resolution of `_add_maths`

    `_add_maths` hands the MathML of every component to the `Transpiler` (package C02) with the closure
    `symbol_generator` for the identifiers and `create_quantity(x, get_unit(y))` for the numbers, and passes every
    equation that comes back to `Model.add_equation`. The closure is GENERATED (`Gen.LoaderSym.symbolGenerator`, `while`
    included). Here the stage is rebuilt AROUND the generated closure. `trExpr` / `trLhs` are written by hand (the
    transpiler's own source is tied in `Tie/Transpile*.lean` for C02), in the order `Load.checkExpr` fixes (`<bvar>` before
    the differentiated variable). `Parser.parse` in `Tie/LoaderGen.lean` runs over `PMathsWalk.genMathsWalkStage`, not over
    `genMathsStage`; `genSym` … `genAddMaths` are what `Tie/MathsWalk.lean` simulates the generated walk against. -/

namespace Cellml.Tie.LoaderClose
open Load Cellml.Gen

/-- `symbol_generator(x)` inside component `cname`: the GENERATED closure, the Variable it returns -/
def genSym (vt : VarTable) (st : CState) (cname x : String) : Except PyErr VRef :=
  match LoaderSym.symbolGenerator ⟨cname⟩ (varToSymbol vt) ⟨st.mapping⟩ st.mapping.length x with
  | .error e => .error e
  | .ok (some v) => .ok v
  | .ok none => .error ⟨"AssertionError"⟩

theorem genSym_eq (vt : VarTable) (st : CState) (cname x : String) :
    genSym vt st cname x = match checkIdent vt cname x with
      | .error e => .error ⟨e.className⟩
      | .ok () => .ok (rootOf st (cname, x)) := by
  unfold genSym
  rw [symbolGenerator_tie]
  cases checkIdent vt cname x <;> rfl

/-- the transpiler on an expression: identifiers through `sym`, units through `get_unit` -/
def trExpr (ust : Units.Store) (sym : String → Except PyErr VRef) : Expr String String → Except PyErr (Expr VRef FUnit)
  | .num q u => match Units.getUnit ust u with
      | .ok _ => .ok (.num q (unitF ust u))
      | .error _ => .error ⟨"KeyError"⟩
  | .var a => match sym a with
      | .ok v => .ok (.var v)
      | .error e => .error e
  | .diff x t => match sym t with
      | .error e => .error e
      | .ok t' => match sym x with
        | .error e => .error e
        | .ok x' => .ok (.diff x' t')
  | .add a b => match trExpr ust sym a with
      | .error e => .error e
      | .ok a' => match trExpr ust sym b with
        | .error e => .error e
        | .ok b' => .ok (.add a' b')
  | .sub a b => match trExpr ust sym a with
      | .error e => .error e
      | .ok a' => match trExpr ust sym b with
        | .error e => .error e
        | .ok b' => .ok (.sub a' b')
  | .mul a b => match trExpr ust sym a with
      | .error e => .error e
      | .ok a' => match trExpr ust sym b with
        | .error e => .error e
        | .ok b' => .ok (.mul a' b')
  | .div a b => match trExpr ust sym a with
      | .error e => .error e
      | .ok a' => match trExpr ust sym b with
        | .error e => .error e
        | .ok b' => .ok (.div a' b')
  | .neg a => match trExpr ust sym a with
      | .error e => .error e
      | .ok a' => .ok (.neg a')
  | .powi a n => match trExpr ust sym a with
      | .error e => .error e
      | .ok a' => .ok (.powi a' n)

def trLhs (sym : String → Except PyErr VRef) : Lhs String → Except PyErr (Lhs VRef)
  | .var a => match sym a with
      | .ok v => .ok (.var v)
      | .error e => .error e
  | .diff x t => match sym t with
      | .error e => .error e
      | .ok t' => match sym x with
        | .error e => .error e
        | .ok x' => .ok (.diff x' t')

theorem trExpr_eq (ust : Units.Store) (vt : VarTable) (st : CState) (cname : String) : ∀ (e : Expr String String),
    trExpr ust (genSym vt st cname) e = match checkExpr ust vt cname e with
      | .error err => .error ⟨err.className⟩
      | .ok () => .ok (e.map (fun x => rootOf st (cname, x)) (unitF ust))
  | .num q u => by
    simp only [trExpr, checkExpr]
    cases Units.getUnit ust u <;> rfl
  | .var a => by
    simp only [trExpr, checkExpr, genSym_eq]
    cases checkIdent vt cname a <;> rfl
  | .diff x t => by
    simp only [trExpr, checkExpr, genSym_eq]
    cases checkIdent vt cname t with
    | error e => rfl
    | ok u => cases checkIdent vt cname x <;> rfl
  | .add a b | .sub a b | .mul a b | .div a b => by
    simp only [trExpr, checkExpr, trExpr_eq ust vt st cname a, trExpr_eq ust vt st cname b]
    cases checkExpr ust vt cname a with
    | error e => rfl
    | ok u => cases checkExpr ust vt cname b <;> rfl
  | .neg a | .powi a n => by
    simp only [trExpr, checkExpr, trExpr_eq ust vt st cname a]
    cases checkExpr ust vt cname a <;> rfl

theorem trLhs_eq (vt : VarTable) (st : CState) (cname : String) : ∀ (l : Lhs String),
    trLhs (genSym vt st cname) l = match checkLhs vt cname l with
      | .error err => .error ⟨err.className⟩
      | .ok () => .ok (l.map (fun x => rootOf st (cname, x)))
  | .var a => by
    simp only [trLhs, checkLhs, genSym_eq]
    cases checkIdent vt cname a <;> rfl
  | .diff x t => by
    simp only [trLhs, checkLhs, genSym_eq]
    cases checkIdent vt cname t with
    | error e => rfl
    | ok u => cases checkIdent vt cname x <;> rfl

/-- the equations of one component: transpile (symbols by the generated closure), then `Model.add_equation`
    (`_check_duplicate_definitions`: ValueError), recording what is defined and the equations added -/
def genAddEqs (ust : Units.Store) (vt : VarTable) (st : CState) (cname : String) :
    List (Eqn String String) → List VRef × List FlatEq → Except PyErr (List VRef × List FlatEq)
  | [], acc => .ok acc
  | e :: r, (defined, eqs) =>
    match trLhs (genSym vt st cname) e.lhs with
    | .error err => .error err
    | .ok l =>
      match trExpr ust (genSym vt st cname) e.rhs with
      | .error err => .error err
      | .ok rhs =>
        if defined.contains l.defines then .error ⟨"ValueError"⟩
        else genAddEqs ust vt st cname r (l.defines :: defined, eqs ++ [⟨l, rhs⟩])

theorem genAddEqs_eq (ust : Units.Store) (vt : VarTable) (st : CState) (cname : String) :
    ∀ (es : List (Eqn String String)) (defined : List VRef) (eqs : List FlatEq),
    genAddEqs ust vt st cname es (defined, eqs) = match checkEqs ust vt st cname es defined with
      | .error err => .error ⟨err.className⟩
      | .ok d => .ok (d, eqs ++ es.map (transcribe ust st cname))
  | [], defined, eqs => by simp [genAddEqs, checkEqs]
  | e :: r, defined, eqs => by
    simp only [genAddEqs, checkEqs, trLhs_eq, trExpr_eq]
    cases checkLhs vt cname e.lhs with
    | error err => rfl
    | ok u =>
      cases checkExpr ust vt cname e.rhs with
      | error err => rfl
      | ok u' =>
        simp only
        by_cases hc : defined.contains (transcribe ust st cname e).lhs.defines = true
        · rw [if_pos hc,
            if_pos (show defined.contains (Lhs.map (fun x => rootOf st (cname, x)) e.lhs).defines = true from hc)]
          rfl
        · rw [if_neg hc,
            if_neg (show ¬ defined.contains (Lhs.map (fun x => rootOf st (cname, x)) e.lhs).defines = true from hc),
            genAddEqs_eq ust vt st cname r]
          simp only [transcribe, Eqn.map]
          cases checkEqs ust vt st cname r
              ((Lhs.map (fun x => rootOf st (cname, x)) e.lhs).defines :: defined) with
          | error err => rfl
          | ok d => simp [transcribe, Eqn.map]

/-- the loop of `_add_maths` over the components -/
def genAddMaths (ust : Units.Store) (vt : VarTable) (st : CState) :
    List Comp → List VRef × List FlatEq → Except PyErr (List VRef × List FlatEq)
  | [], acc => .ok acc
  | c :: r, acc =>
    match genAddEqs ust vt st c.name c.eqs acc with
    | .error e => .error e
    | .ok acc' => genAddMaths ust vt st r acc'

/-- **`_add_maths` around the generated `symbol_generator`** raises exactly when `Load.checkMaths` does (same class),
    defines the same variables, and has added exactly the equations `Load.mathsOf` (every identifier replaced by the
    root of its connection chain) -/
theorem genAddMaths_eq (ust : Units.Store) (vt : VarTable) (st : CState) :
    ∀ (comps : List Comp) (defined : List VRef) (eqs : List FlatEq),
    genAddMaths ust vt st comps (defined, eqs) = match checkMaths ust vt st comps defined with
      | .error err => .error ⟨err.className⟩
      | .ok d => .ok (d, eqs ++ mathsOf ust st comps)
  | [], defined, eqs => by simp [genAddMaths, checkMaths, mathsOf]
  | c :: r, defined, eqs => by
    simp only [genAddMaths, checkMaths, genAddEqs_eq]
    cases checkEqs ust vt st c.name c.eqs defined with
    | error err => rfl
    | ok d =>
      simp only
      rw [genAddMaths_eq ust vt st r]
      cases checkMaths ust vt st r d with
      | error err => rfl
      | ok d' => simp [mathsOf]

theorem checkIdent_err_class {vt : VarTable} {cname x : String} {e : Err} (h : checkIdent vt cname x = .error e) :
    C17.className e = e.className :=
  C17.checkIdent_err_class h

theorem checkExpr_err_class (ust : Units.Store) (vt : VarTable) (cname : String) : ∀ (x : Expr String String) (e : Err),
    checkExpr ust vt cname x = .error e → C17.className e = e.className :=
  fun _ _ h => C17.checkExpr_err_class h

theorem checkMaths_err_class (ust : Units.Store) (vt : VarTable) (st : CState) :
    ∀ (comps : List Comp) (defined : List VRef) (e : Err),
    checkMaths ust vt st comps defined = .error e → C17.className e = e.className :=
  fun _ _ _ h => C17.checkMaths_err_class h

/-- the stage `self._add_maths(component_variables, connected_variable_mapping)`: the loop around the generated
    closure; `model.equations` already holds the conversion equations of `_add_connections`, whose targets are defined.
    A left-hand side outside the fragment (`FaultDoc.badEqs`) is refused as the hand model says. -/
def genMathsStage (fd : C17.FaultDoc) (st : ParseState) : Except PyErr ParseState :=
  match st.loaded with
  | none => notReady
  | some L => match fd.badEqs.head? with
    | some b => stageErr (C17.badEqErr L fd.doc b)
    | none => match genAddMaths L.ust L.vt L.st fd.doc.comps (L.st.convs.map (·.target), []) with
      | .error e => .error e
      | .ok (defined, eqs) => .ok { st with defined := some defined, maths := some eqs }

theorem genMathsStage_eq (fd : C17.FaultDoc) (st : ParseState) :
    genMathsStage fd st = match (parseView fd).addMaths st with
      | .error e => .error e
      | .ok st' => .ok { st' with maths := st.loaded.map (fun L => L.maths fd.doc) } := by
  simp only [genMathsStage, parseView]
  cases st.loaded with
  | none => rfl
  | some L =>
    simp only
    cases fd.badEqs.head? with
    | some b => rfl
    | none =>
      simp only
      rw [genAddMaths_eq]
      cases hm : checkMaths L.ust L.vt L.st fd.doc.comps (L.st.convs.map (·.target)) with
      | error e => simp [stageErr, checkMaths_err_class _ _ _ _ _ _ hm]
      | ok d => simp [Loaded.maths]

def genConstsStage' (st : ParseState) : Except PyErr ParseState :=
  match st.loaded, st.defined, st.maths with
  | some L, some defined, some maths =>
    match LoaderConsts.transformConstants (constsView (statesOf maths) L.vt) ⟨defined, [], []⟩ with
    | .error e => .error e
    | .ok tc => .ok { st with flat := some (flatOf' L maths tc) }
  | _, _, _ => notReady

theorem genConstsStage'_eq (fd : C17.FaultDoc) (st : ParseState) (L : Loaded) (defined : List VRef)
    (hL : st.loaded = some L) (hd : st.defined = some defined) (hm : st.maths = some (L.maths fd.doc)) :
    genConstsStage' st = genConstsStage fd st := by
  simp only [genConstsStage', genConstsStage, hL, hd, hm]
  rfl

end Cellml.Tie.LoaderClose
