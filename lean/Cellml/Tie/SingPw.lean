import Cellml.Generated.Code.SingPw
import Cellml.C12.Lemmas
import Cellml.Tie.ExceptRun

/-! # Tie: `_generate_piecewise` (generated from the source, read on values) = `C12.generate` (hand model) -/

namespace Cellml.Tie.Sing
open C12 Cellml.Gen

section
variable {K : Type} [Add K] [Sub K] [Mul K] [Div K] [LT K] [DecidableLT K] [LE K] [DecidableLE K]

/-- For every function `f` of the voltage (the wrapped expression), every voltage and every pair of numeric bounds, in
    every number type: the definition generated from `_generate_piecewise` computes the hand model `C12.generate`
    (the swap `lo`/`hi`, the condition `lo ≤ V ∧ V ≤ hi`, the interpolation `f lo + (V − lo)/(hi − lo)·(f hi − f lo)`),
    and never raises. `sp` is not read by either. -/
theorem generatePiecewise_tie (f : K → K) (V sp vmin vmax : K) :
    SingPw.generatePiecewise f V sp vmin vmax = .ok (generate f V vmin vmax) := by
  unfold SingPw.generatePiecewise generate interp coeff lo hi pyFloat
  by_cases h : vmax < vmin <;>
    simp [h, except_run, tryCatch, tryCatchThe, MonadExceptOf.tryCatch, Except.tryCatch, StateT.pure]

end

/-- The same for the TREE the model builds: evaluating `wrapWin w e` (the `pw` node `_fix_expr_parts` /
    `_remove_singularities` put around a subterm, `Cellml/C12/Fix.lean`) at a voltage `v`, under any interpretation of
    `exp`, the other functions and the other variables, IS the generated `_generate_piecewise` applied to the value of
    `e` as a function of the voltage and the bounds of the range. -/
theorem generatePiecewise_eval (I : Interp Rat) (v : Rat) (w : Win Rat) (e : Expr) :
    SingPw.generatePiecewise (fun x => eval I x e) v w.sp w.vmin w.vmax = .ok (eval I v (wrapWin w e)) := by
  rw [generatePiecewise_tie]
  simp [wrapWin, eval, generate, Win.lo, Win.hi]

end Cellml.Tie.Sing
