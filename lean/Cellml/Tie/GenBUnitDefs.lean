import Cellml.Tie.UnitDefs
import Cellml.Tie.GenBWhile

/-! # GenB: `Parser._add_units` as a CLOSED function over the generated code

    `Tie/UnitDefs.lean` ties the set-up pass (`addUnitsSetup_tie`) and ONE iteration of the `while definitions_to_add:`
    loop (`addUnitsBody_tie`) of `_add_units` to the hand model `Units.addUnits`. Here the loop is put back: the
    generated set-up on a fresh `UnitStore`, then the `while` statement over the generated test and body as a total
    function (`whileMeasure`, on the termination measure of the hand model's `Units.loop`) and with the hand model's
    step budget (`whileFuel`). `genLoop_eq` carries the model loop through it iteration by iteration; the statements
    `Props/C03Gen.lean` rests on follow. (`loop_cons` / `addUnits_tie` of `Tie/UnitDefs.lean` state the same closure
    through a dependent `if`; nothing goes through them.)

    No hypothesis: the one domain condition of the ties used (`addUnitsSetup_tie`: the store is fresh; `addUnitsBody_tie`
    has none) is met by construction: `_add_units` runs on the store `Model.__init__` has just created. -/

namespace Cellml.Tie.PGenB
open Units Cellml.Gen Cellml.Tie.PUnitDefs

/-- the state of the `while` loop of `_add_units`: `definitions_to_add`, `iteration`, `units_found`, `self.model.units` -/
abbrev LoopSt := List (String × List UnitElem) × Nat × List String × UStore

/-- the test of the `while` statement (generated) -/
def loopTest (s : LoopSt) : Bool := UnitDefs.addUnitsBody_test s.1
/-- one iteration (generated) -/
def loopBody (s : LoopSt) : Except PyErr LoopSt := UnitDefs.addUnitsBody s.1 s.2.1 s.2.2.1 s.2.2.2
/-- the termination measure of the hand model's `Units.loop` -/
def loopMeasure (s : LoopSt) : Nat × Nat := (s.1.length, s.1.length + 1 - s.2.1)

/-- what `_add_units` leaves behind: `self.model.units` -/
def loopResult (s : LoopSt) : UStore := s.2.2.2

/-- `Parser._add_units` on a fresh model whose unit store has id `id`: generated set-up pass, then the `while` loop
    over the generated body -/
def genAddUnits (id : Nat) (defs : List UDef) : Except PyErr UStore :=
  match UnitDefs.addUnitsSetup defs (builtinRegistry, { id := id, known := [] }) with
  | .error e => .error e
  | .ok s => (whileMeasure loopMeasure loopTest loopBody s).map loopResult

/-- the same with the step budget of the hand model (`none`: budget exhausted) -/
def genAddUnitsFuel (id : Nat) (defs : List UDef) : Option (Except PyErr UStore) :=
  match UnitDefs.addUnitsSetup defs (builtinRegistry, { id := id, known := [] }) with
  | .error e => some (.error e)
  | .ok s => (whileFuel loopTest loopBody (stepBound s.1.length s.2.1) s).map (fun r => r.map loopResult)

/-- the loop state of the model state `(reg, st, dq, it)` -/
def loopStOf (reg : Registry) (st : Store) (dq : List UDef) (it : Nat) : LoopSt :=
  (pyDeque dq, it, foundOf st, (reg, st))

theorem pyDeque_length (dq : List UDef) : (pyDeque dq).length = dq.length := by simp [pyDeque]

/-- THE LOOP: from every model state, the `while` loop over the generated body (i) ends within the model's step
    budget, (ii) with the value of the measure-recursive loop, (iii) which is the hand model's `Units.loop` -/
theorem genLoop_eq : ∀ (fuel : Nat) (reg : Registry) (st : Store) (dq : List UDef) (it : Nat) (hit : it ≤ dq.length),
    stepBound dq.length it ≤ fuel →
    whileFuel loopTest loopBody fuel (loopStOf reg st dq it) =
      some (whileMeasure loopMeasure loopTest loopBody (loopStOf reg st dq it)) ∧
    (whileMeasure loopMeasure loopTest loopBody (loopStOf reg st dq it)).map loopResult =
      errClass addErrClass (loop reg st dq it hit) := by
  intro fuel
  induction fuel with
  | zero => intro reg st dq it hit hf; simp [stepBound] at hf
  | succ fuel ih =>
    intro reg st dq it hit hf
    cases dq with
    | nil =>
      have ht : loopTest (loopStOf reg st [] it) = false := by
        simp [loopTest, loopStOf, addUnitsBody_test_tie]
      rw [whileMeasure_stop _ _ _ _ ht, loop_nil]
      refine ⟨?_, rfl⟩
      simp [whileFuel, ht]
    | cons d rest =>
      have ht : loopTest (loopStOf reg st (d :: rest) it) = true := by
        simp [loopTest, loopStOf, addUnitsBody_test_tie]
      have hbody : loopBody (loopStOf reg st (d :: rest) it) =
          (modelIter reg st (d :: rest) it).map (fun r => loopStOf r.2.2.1 r.2.2.2 r.1 r.2.1) := by
        simp only [loopBody, loopStOf]
        rw [addUnitsBody_tie]
      rw [loop]
      unfold modelIter at hbody
      by_cases hr : ready st d = true
      · simp only [hr, if_true] at hbody ⊢
        cases ha : addNow reg st d with
        | error e =>
          rw [ha] at hbody
          simp only [Except.map] at hbody
          rw [whileMeasure_raise _ _ _ _ _ ht hbody]
          refine ⟨?_, rfl⟩
          simp [whileFuel, ht, hbody]
        | ok r =>
          obtain ⟨reg', st'⟩ := r
          rw [ha] at hbody
          simp only [Except.map] at hbody
          have hlt : lexLt (loopMeasure (loopStOf reg' st' rest 0)) (loopMeasure (loopStOf reg st (d :: rest) it)) := by
            simp only [loopMeasure, loopStOf, pyDeque_length]
            exact Prod.Lex.left _ _ (by simp)
          rw [whileMeasure_step _ _ _ _ _ ht hbody hlt]
          have hf' : stepBound rest.length 0 ≤ fuel := by
            simp only [stepBound, List.length_cons, tri] at hf hit ⊢
            omega
          obtain ⟨h1, h2⟩ := ih reg' st' rest 0 (Nat.zero_le _) hf'
          refine ⟨?_, h2⟩
          simp only [whileFuel, ht, if_true, hbody]
          exact h1
      · simp only [hr, Bool.false_eq_true, if_false] at hbody ⊢
        by_cases hgt : it + 1 > (rest ++ [d]).length
        · rw [dif_pos hgt]
          rw [if_pos hgt] at hbody
          simp only [Except.map] at hbody
          rw [whileMeasure_raise _ _ _ _ _ ht hbody]
          refine ⟨?_, rfl⟩
          simp [whileFuel, ht, hbody]
        · rw [dif_neg hgt]
          rw [if_neg hgt] at hbody
          simp only [Except.map] at hbody
          have hlt : lexLt (loopMeasure (loopStOf reg st (rest ++ [d]) (it + 1)))
              (loopMeasure (loopStOf reg st (d :: rest) it)) := by
            simp only [loopMeasure, loopStOf, pyDeque_length]
            have hl : (rest ++ [d]).length = (d :: rest).length := by simp
            rw [hl]
            apply Prod.Lex.right
            simp only [List.length_append, List.length_cons, List.length_nil] at hgt hit ⊢
            omega
          rw [whileMeasure_step _ _ _ _ _ ht hbody hlt]
          have hf' : stepBound (rest ++ [d]).length (it + 1) ≤ fuel := by
            simp only [stepBound, List.length_cons, List.length_append, List.length_nil, tri] at hf hgt hit ⊢
            omega
          obtain ⟨h1, h2⟩ := ih reg st (rest ++ [d]) (it + 1) (by omega) hf'
          refine ⟨?_, h2⟩
          simp only [whileFuel, ht, if_true, hbody]
          exact h1

theorem genSetup_eq (id : Nat) (defs : List UDef) :
    UnitDefs.addUnitsSetup defs (builtinRegistry, { id := id, known := [] }) =
      match addBases builtinRegistry { id := id, known := [] } defs with
      | .ok (reg, st) => .ok (loopStOf reg st (queue defs) 0)
      | .error e => .error ⟨addErrClass e⟩ := by
  rw [addUnitsSetup_tie defs _ _ rfl]
  cases addBases builtinRegistry { id := id, known := [] } defs <;> rfl

/-- **the closed generated `_add_units` IS the hand model `Units.addUnits`** (which all work-list theorems of
    `Props/C03.lean` are about): same final unit store, same exception class, every document -/
theorem genAddUnits_eq (id : Nat) (defs : List UDef) :
    genAddUnits id defs = errClass addErrClass (addUnits id defs) := by
  unfold genAddUnits addUnits
  rw [genSetup_eq]
  cases addBases builtinRegistry { id := id, known := [] } defs with
  | error e => rfl
  | ok r =>
    obtain ⟨reg, st⟩ := r
    exact (genLoop_eq _ reg st (queue defs) 0 (Nat.zero_le _) (Nat.le_refl _)).2

/-- the `while` loop over the generated body ends within the hand model's budget `stepBound n 0`
    (`n` = number of queued definitions), with the value of `genAddUnits` -/
theorem genAddUnitsFuel_eq (id : Nat) (defs : List UDef) :
    genAddUnitsFuel id defs = some (genAddUnits id defs) := by
  unfold genAddUnitsFuel genAddUnits
  rw [genSetup_eq]
  cases addBases builtinRegistry { id := id, known := [] } defs with
  | error e => rfl
  | ok r =>
    obtain ⟨reg, st⟩ := r
    simp only
    have h := (genLoop_eq (stepBound (queue defs).length 0) reg st (queue defs) 0 (Nat.zero_le _) (Nat.le_refl _)).1
    simp only [loopStOf, pyDeque_length] at h ⊢
    rw [h]; rfl

theorem addErrClass_ne_violation (e : AddErr) : addErrClass e ≠ "MeasureViolation" := by
  cases e <;> simp [addErrClass]

/-- the value of `genAddUnits` is the result of the PYTHON loop (big-step semantics) started in the state the
    generated set-up pass returns: the measure guard of `whileMeasure` never fires -/
theorem genAddUnits_runs (id : Nat) (defs : List UDef) (s : LoopSt)
    (hs : UnitDefs.addUnitsSetup defs (builtinRegistry, { id := id, known := [] }) = .ok s) :
    ∃ r, WhileRuns loopTest loopBody s r ∧ genAddUnits id defs = r.map loopResult := by
  refine ⟨whileMeasure loopMeasure loopTest loopBody s, ?_, by unfold genAddUnits; rw [hs]⟩
  apply whileMeasure_runs
  intro hv
  have h := genAddUnits_eq id defs
  unfold genAddUnits at h
  rw [hs] at h
  simp only [hv, Except.map] at h
  cases hm : addUnits id defs with
  | ok r => rw [hm] at h; cases h
  | error e =>
    rw [hm] at h
    simp only [errClass, Except.error.injEq, PyErr.mk.injEq] at h
    exact addErrClass_ne_violation e h.symm

/-- reading a result of the generated function back as a result of the hand model -/
theorem genAddUnits_ok_iff (id : Nat) (defs : List UDef) (r : Registry × Store) :
    genAddUnits id defs = .ok r ↔ addUnits id defs = .ok r := by
  rw [genAddUnits_eq]
  cases addUnits id defs <;> simp [errClass]

theorem genAddUnits_error_iff (id : Nat) (defs : List UDef) :
    (∃ e, genAddUnits id defs = .error e) ↔ (∃ e, addUnits id defs = .error e) := by
  rw [genAddUnits_eq]
  cases addUnits id defs <;> simp [errClass]

end Cellml.Tie.PGenB
