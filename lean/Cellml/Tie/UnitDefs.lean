import Cellml.Tie.UnitDefsDen
import Cellml.Units.WorklistLemmas

/-! # Tie: `Parser._add_units` (generated from the source of parser.py: the set-up pass `addUnitsSetup` and the body
    `addUnitsBody` of the `while definitions_to_add:` loop) = the hand model `Units.addBases` / `Units.queue` /
    `Units.loop` / `Units.ready` / `Units.addNow` (Units/Worklist.lean), which `Cellml.Props.C03` is about.

    Representation: the python deque is a list whose LAST element is the right end (`append` = `++ [x]`, `pop()` takes
    the last, `appendleft` = `x :: ·`); the model's deque has its HEAD at the right end: `pyDeque` reverses. The python
    set `units_found` is the list `st.known ++ cellmlUnits` (newest first, built-ins last): the tie proves that the
    code keeps it equal to the names the unit store knows, which is what the model assumes (`Store.isDefined`). -/

namespace Cellml.Tie.PUnitDefs
open Units Cellml.Gen

/-- the python deque of a model deque: (name, attribute dicts) pairs, right end last -/
def pyDeque (dq : List UDef) : List (String × List UnitElem) := (dq.map (fun d => (d.name, d.elems))).reverse

/-- the model deque of a python deque (queued definitions are never base units) -/
def ofPyDeque (dq : List (String × List UnitElem)) : List UDef := (dq.map (fun p => (⟨p.1, false, p.2⟩ : UDef))).reverse

/-- `units_found` as a function of the unit store -/
def foundOf (st : Store) : List String := st.known ++ cellmlUnits

theorem isIn_found (st : Store) (n : String) : Py.isIn n (foundOf st) = st.isDefined n := by
  simp [Py.isIn, foundOf, Store.isDefined, Bool.or_comm]

theorem ofPy_py (dq : List UDef) (h : ∀ d ∈ dq, d.base = false) : ofPyDeque (pyDeque dq) = dq := by
  induction dq with
  | nil => rfl
  | cons d rest ih =>
    have hd := h d List.mem_cons_self
    have := ih (fun x hx => h x (List.mem_cons_of_mem _ hx))
    simp only [ofPyDeque, pyDeque, List.map_cons, List.reverse_cons, List.map_append, List.map_reverse,
      List.reverse_append, List.reverse_reverse, List.map_map, List.map_nil, List.reverse_nil, List.nil_append,
      List.cons_append] at this ⊢
    rw [this]
    cases d; simp_all

theorem forIn_break {α σ ε : Type} (l : List α) (init : σ) (f : α → σ → Except ε (ForInStep σ))
    (p : α → Bool) (g : σ → σ)
    (h : ∀ a s, f a s = if p a then .ok (.done (g s)) else .ok (.yield s)) :
    forIn l init f = .ok (if l.any p then g init else init) := by
  induction l with
  | nil => simp [pure, Except.pure]
  | cons a l ih =>
    rw [List.forIn_cons, h]
    by_cases hb : p a = true
    · simp [hb, except_run]
    · simp [hb, except_run, ih]

theorem setup_loop
    (f : UDef → UStore × List String × List (String × List UnitElem) →
      Except PyErr (ForInStep (UStore × List String × List (String × List UnitElem))))
    (h : ∀ d u found dq, f d (u, found, dq) =
      if d.base then
        match addBaseUnit u.1 u.2 d.name with
        | .ok r => .ok (.yield (r, d.name :: found, dq))
        | .error e => .error ⟨addErrClass e⟩
      else .ok (.yield (u, found, dq ++ [(d.name, d.elems)]))) :
    ∀ (l : List UDef) (reg : Registry) (st : Store) (dq : List (String × List UnitElem)),
      forIn l ((reg, st), foundOf st, dq) f =
        match addBases reg st l with
        | .ok (reg', st') =>
            .ok ((reg', st'), foundOf st', dq ++ (l.filter (fun d => !d.base)).map (fun d => (d.name, d.elems)))
        | .error e => .error ⟨addErrClass e⟩ := by
  intro l
  induction l with
  | nil => intro reg st dq; simp [addBases, pure, Except.pure]
  | cons d l ih =>
    intro reg st dq
    rw [List.forIn_cons, h]
    by_cases hb : d.base = true
    · simp only [hb, if_true, addBases]
      cases ha : addBaseUnit reg st d.name with
      | error e => simp [except_run]
      | ok r =>
        obtain ⟨_, hr⟩ := addBaseUnit_ok ha
        subst hr
        simp only [bind, Except.bind]
        have := ih ((prefixName st.id d.name, UnitDef.base (some ("[" ++ prefixName st.id d.name ++ "]"))) :: reg)
          { st with known := d.name :: st.known } dq
        simp only [foundOf, List.cons_append] at this ⊢
        rw [this]
        simp [hb]
    · simp only [hb, addBases, Bool.false_eq_true, if_false, bind, Except.bind]
      rw [ih]
      cases addBases reg st l with
      | error e => rfl
      | ok r => simp [hb]

/-- THE SET-UP PASS of `_add_units` on a fresh unit store (`_known_units` empty, as `Model.__init__` creates it) is
    `Units.addBases` followed by `Units.queue`; `iteration` starts at 0 and `units_found` holds the built-in names and
    the base units just added -/
theorem addUnitsSetup_tie (defs : List UDef) (reg : Registry) (st : Store) (hfresh : st.known = []) :
    UnitDefs.addUnitsSetup defs (reg, st) =
      match addBases reg st defs with
      | .ok (reg', st') => .ok (pyDeque (queue defs), 0, foundOf st', (reg', st'))
      | .error e => .error ⟨addErrClass e⟩ := by
  unfold UnitDefs.addUnitsSetup
  simp only []
  have hf : cellmlUnits = foundOf st := by simp [foundOf, hfresh]
  rw [hf, setup_loop _ _ defs reg st []]
  · cases addBases reg st defs with
    | error e => rfl
    | ok r => simp [except_run, pyDeque, queue]
  · intro d u found dq
    by_cases hb : d.base = true
    · simp only [baseUnitsAttr, hb, if_true, addBaseUnitLeaf, errClass]
      cases addBaseUnit u.1 u.2 d.name <;> simp [except_run]
    · simp [baseUnitsAttr, hb, UnitElem.attrib, pure, Except.pure]

/-- what one iteration of the model loop `Units.loop` does to (deque, iteration, unit store) -/
def modelIter (reg : Registry) (st : Store) (dq : List UDef) (it : Nat) :
    Except PyErr (List UDef × Nat × Registry × Store) :=
  match dq with
  | [] => .error ⟨"IndexError"⟩
  | d :: rest =>
    if ready st d then
      match addNow reg st d with
      | .ok r => .ok (rest, 0, r)
      | .error e => .error ⟨addErrClass e⟩
    else if it + 1 > (rest ++ [d]).length then .error ⟨addErrClass stuck⟩
    else .ok (rest ++ [d], it + 1, reg, st)

theorem popRight_snoc {α} (l : List α) (a : α) : popRight (l ++ [a]) = .ok (a, l) := by
  simp [popRight]

theorem elemExpr_names (e : UnitElem) : (elemExpr e).names = [e.units] := by
  obtain ⟨u, pf, ex, mu, off⟩ := e
  cases pf <;> cases ex <;> cases mu <;> rfl

/-- the hand model `Units.addUnit` IS the offset test of the parser followed by `Units.addUnitWith`, the function the
    leaf `add_unit` of this package is bound to -/
theorem addUnit_eq_with (reg : Registry) (st : Store) (name : String) (elems : List UnitElem)
    (h : elems.any elemOffsetBad = false) :
    addUnit reg st name elems = addUnitWith (refsKnown reg st.id elems) (defMeaning st.id elems) reg st name :=
  addUnit_noOffset h

/-- the `add_now` branch: `_make_pint_unit_definition`, `is_defined`, the `ValueError`, `add_unit` = `Units.addNow` -/
theorem addNow_tie (reg : Registry) (st : Store) (d : UDef) :
    (do let definition ← UnitDefs.makePintUnitDefinition d.name d.elems
        if isDefined (reg, st) d.name = true then throw (PyErr.mk "ValueError")
        addUnitLeaf (reg, st) d.name definition) = errClass addErrClass (addNow reg st d) := by
  rw [makeDef_tie]
  unfold addNow
  have h5 : ((d.elems.map elemExpr).all fun e => e.names.all fun n => allKnown reg (nameContainer (mangle st.id n))) =
      refsKnown reg st.id d.elems := by
    simp [refsKnown, List.all_map, Function.comp_def, elemExpr_names]
  by_cases h1 : d.elems.any elemOffsetBad = true
  · simp [h1, except_run, addErrClass]
  have h1' : d.elems.any elemOffsetBad = false := by simpa using h1
  simp only [h1, Bool.false_eq_true, if_false, bind, Except.bind, isDefined, addUnitLeaf, h5]
  by_cases h2 : st.isDefined d.name = true
  · simp [h2, throw, throwThe, MonadExceptOf.throw, errClass, addErrClass]
  · rw [denAll_map _ _ h1', addUnit_noOffset h1']
    simp [h2]

/-- `is_defined(name)` is `name in _known_units`, built-ins included (the model's `Store.isDefined`, tied by
    `PUnits.isDefined_tie`). Were it read as "a name THIS store added", nothing
    observable would change for `_add_units`: a definition named like a built-in would fall through to `add_unit`,
    whose first test raises the same class (`ValueError('Cannot redefine CellML unit')` instead of
    `ValueError('Duplicate unit definition')`). The two formulations are equal on all inputs, up to the message: -/
theorem addNow_known_only (reg : Registry) (st : Store) (d : UDef) :
    errClass addErrClass (addNow reg st d) =
      errClass addErrClass (if d.elems.any elemOffsetBad then .error (.valueError "offset")
        else if st.known.contains d.name then .error (.valueError "duplicate")
        else addUnit reg st d.name d.elems) := by
  unfold addNow Store.isDefined
  by_cases h1 : d.elems.any elemOffsetBad = true
  · simp [h1]
  have h1' : d.elems.any elemOffsetBad = false := by simpa using h1
  by_cases h2 : d.name ∈ st.known
  · simp [h1, h2, errClass, addErrClass]
  by_cases h3 : d.name ∈ cellmlUnits
  · rw [addUnit_noOffset h1']
    unfold addUnitWith
    simp [h1, h2, h3, errClass, addErrClass]
  · simp [h1, h2, h3]

/-- THE BODY of the `while definitions_to_add:` loop of `_add_units`, for every deque, counter and unit store, with
    `units_found` in step with the store: one iteration of the model loop (`Units.ready`, `Units.addNow`, the re-queue
    at the left end, the counter and the `ValueError` for cycles); `units_found` stays in step -/
theorem addUnitsBody_tie (reg : Registry) (st : Store) (dq : List UDef) (it : Nat) :
    UnitDefs.addUnitsBody (pyDeque dq) it (foundOf st) (reg, st) =
      (modelIter reg st dq it).map (fun r => (pyDeque r.1, r.2.1, foundOf r.2.2.2, r.2.2)) := by
  unfold UnitDefs.addUnitsBody modelIter
  cases dq with
  | nil => simp [pyDeque, popRight, except_run]
  | cons d rest =>
    have hpy : pyDeque (d :: rest) = pyDeque rest ++ [(d.name, d.elems)] := by simp [pyDeque]
    simp only [hpy, popRight_snoc, bind, Except.bind]
    rw [forIn_break (p := fun u => !Py.isIn (u.get! "units") (foundOf st))
      (g := fun s => ((d.name, d.elems) :: s.1, false))]
    · have hany : (d.elems.any fun u => !Py.isIn (u.get! "units") (foundOf st)) = !ready st d := by
        simp only [ready, get_units, isIn_found]
        induction d.elems with
        | nil => rfl
        | cons e es ih => simp only [List.any_cons, List.all_cons, ih, Bool.not_and]
      simp only [hany]
      by_cases hr : ready st d = true
      · simp only [hr, Bool.not_true, Bool.false_eq_true, if_false, Py.truthy_bool, if_true]
        have hn := addNow_tie reg st d
        simp only [bind, Except.bind] at hn
        -- the body is the `add_now` block of `addNow_tie` followed by the bookkeeping
        refine Eq.trans (b := errClass addErrClass (addNow reg st d) >>= fun v =>
          pure (pyDeque rest, 0, d.name :: foundOf st, v)) ?_ ?_
        · rw [← hn]
          cases UnitDefs.makePintUnitDefinition d.name d.elems with
          | error _ => rfl
          | ok v => dsimp only; split <;> rfl
        · cases ha : addNow reg st d with
          | error e => rfl
          | ok r =>
            obtain ⟨reg', st'⟩ := r
            rw [(addNow_state ha).1]
            rfl
      · simp only [hr, Bool.not_false, if_true, Py.truthy_bool, Bool.false_eq_true, if_false]
        have hlen : (pyDeque rest).length = rest.length := by simp [pyDeque]
        have hpy2 : pyDeque (rest ++ [d]) = (d.name, d.elems) :: pyDeque rest := by simp [pyDeque]
        by_cases hgt : it + 1 > (rest ++ [d]).length
        · have : it + 1 > rest.length + 1 := by simpa using hgt
          simp [this, hlen, throw, throwThe, MonadExceptOf.throw, Except.map, stuck, addErrClass]
        · have : ¬ it + 1 > rest.length + 1 := by simpa using hgt
          simp [this, hlen, hpy2, pure, Except.pure, Except.map]
    · intro u s
      by_cases hp : (!Py.isIn (u.get! "units") (foundOf st)) = true <;> simp [pure, Except.pure]

theorem addUnitsBody_test_tie (dq : List UDef) : UnitDefs.addUnitsBody_test (pyDeque dq) = !dq.isEmpty := by
  cases dq <;> simp [UnitDefs.addUnitsBody_test, pyDeque]

theorem loop_nil (reg : Registry) (st : Store) (it : Nat) (h : it ≤ ([] : List UDef).length) :
    loop reg st [] it h = .ok (reg, st) := by
  unfold loop; rfl

/-- `Units.loop` stops on the empty deque (`loop_nil`, `addUnitsBody_test_tie`) and otherwise runs the generated body
    once and continues from the deque, counter and unit store the body returns (`else .error ⟨"AssertionError"⟩` fills
    the branch of the dependent `if` that is never taken) -/
theorem loop_cons (reg : Registry) (st : Store) (d : UDef) (rest : List UDef) (it : Nat)
    (h : it ≤ (d :: rest).length) (hb : ∀ x ∈ d :: rest, x.base = false) :
    errClass addErrClass (loop reg st (d :: rest) it h) =
      match UnitDefs.addUnitsBody (pyDeque (d :: rest)) it (foundOf st) (reg, st) with
      | .error e => .error e
      | .ok (dq', it', _, (reg', st')) =>
        if h' : it' ≤ (ofPyDeque dq').length then errClass addErrClass (loop reg' st' (ofPyDeque dq') it' h')
        else .error ⟨"AssertionError"⟩ := by
  rw [addUnitsBody_tie]
  unfold modelIter
  rw [loop]
  have hrest : ∀ x ∈ rest, x.base = false := fun x hx => hb x (List.mem_cons_of_mem _ hx)
  by_cases hr : ready st d = true
  · simp only [hr, if_true]
    cases ha : addNow reg st d with
    | error e => simp [errClass, Except.map]
    | ok r =>
      obtain ⟨reg', st'⟩ := r
      simp only [Except.map, ofPy_py rest hrest, Nat.zero_le, dite_true]
  · simp only [hr, Bool.false_eq_true, if_false]
    have hb' : ∀ x ∈ rest ++ [d], x.base = false := by
      intro x hx
      rcases List.mem_append.mp hx with hx | hx
      · exact hrest x hx
      · simp only [List.mem_singleton] at hx; subst hx; exact hb _ List.mem_cons_self
    by_cases hgt : it + 1 > (rest ++ [d]).length
    · rw [dif_pos hgt, if_pos hgt]; simp [errClass, Except.map]
    · rw [dif_neg hgt, if_neg hgt]
      simp only [Except.map, ofPy_py _ hb']
      rw [dif_pos (by omega)]

/-- `Units.addUnits` (the function of the C03 theorems) = the generated set-up pass on a fresh unit store, then the
    model loop — which by `loop_nil` / `loop_cons` is the `while` loop over the generated body — from the deque and
    the counter the set-up returns -/
theorem addUnits_tie (id : Nat) (defs : List UDef) :
    errClass addErrClass (addUnits id defs) =
      match UnitDefs.addUnitsSetup defs (builtinRegistry, { id := id, known := [] }) with
      | .error e => .error e
      | .ok (dq, it, _, (reg, st)) =>
        if h : it ≤ (ofPyDeque dq).length then errClass addErrClass (loop reg st (ofPyDeque dq) it h)
        else .error ⟨"AssertionError"⟩ := by
  rw [addUnitsSetup_tie defs _ _ rfl]
  unfold addUnits
  cases addBases builtinRegistry { id := id, known := [] } defs with
  | error e => simp [errClass]
  | ok r =>
    obtain ⟨reg, st⟩ := r
    simp only [ofPy_py _ fun _ hx => (mem_queue.mp hx).2, Nat.zero_le, dite_true]

end Cellml.Tie.PUnitDefs
