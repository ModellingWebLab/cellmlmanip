import Cellml.Tie.SingPw
import Cellml.Tie.SingFix
import Cellml.Tie.SingTrav

/-! # Ties of `cellmlmanip/_singularity_fixes.py` to the hand models of C12 / C18, composed

    The traversal generated from the source (`removeFixable_tie`, SingTrav), run with the `_remove_singularities`
    generated from the source (`removeSingularities_tie`, SingFix), is the model's `traverse (removeSing det)` — the
    function the theorems of `Cellml/Props/C12.lean` are about. The ties of `_fix_expr_parts` (SingFix, SingFixAdd) and of
    `_get_singularity` (SingDet, SingDet3) are in their own files. -/

namespace Cellml.Tie.Sing
open C12 Cellml.Gen

theorem removeFixable_removeSing_tie (det : List Expr → List (Win Rat)) (sid : Nat) (vUnits : C18.UnitArg)
    (hV : vUnits = .ownUnit ∨ vUnits = .sharedUnit) (order : List (Option Eqn)) (excl : List String)
    (eqs : List Eqn) (hn : (lhss (order.filterMap id)).Nodup) :
    ∃ created, (∀ r ∈ created, r = C18.creatorRef .fixed sid .singQuantity) ∧
      SingTrav.removeFixableSingularities sid vUnits order
          (SingFix.removeSingularities (fun x => .ok (enc (fixParts det (x.size + 1) x)))) excl eqs
        = .ok ((traverse (removeSing det) excl (order.filterMap id) eqs).eqs,
               (traverse (removeSing det) excl (order.filterMap id) eqs).env, created) := by
  have h1 : SingFix.removeSingularities (fun x => .ok (enc (fixParts det (x.size + 1) x)))
      = fun e => .ok (pyRemoveSing det e) := funext (removeSingularities_tie det)
  rw [h1, ← fixOf_pyRemoveSing]
  exact removeFixable_tie sid vUnits hV order (pyRemoveSing det) excl eqs hn

/-- every unit hung on a quantity by the re-unit step is a unit of the model's store (C18 `AllUnits` needs exactly this
    of the `singQuantity` creation site) -/
theorem singQuantity_ofStore (sid : Nat) : C18.creatorRef .fixed sid .singQuantity = .ofStore sid := rfl

end Cellml.Tie.Sing
