import Cellml.Generated.Code.SingTrav
import Cellml.C12.Lemmas
import Mathlib.Tactic.SplitIfs
import Cellml.Tie.ExceptRun

/-! # Tie: `remove_fixable_singularities` (generated from the source) = `C12.traverse` (hand model), and the units the
    re-unit step hangs on the quantities it creates = `C18.creatorRef .fixed _ .singQuantity` -/

namespace Cellml.Tie.Sing
open C12 C12.Expr Cellml.Gen

theorem filter_ne_of_fresh (env : Env) (k : String) (h : k ∉ Py.keys env) : env.filter (fun p => p.1 != k) = env := by
  rw [List.filter_eq_self]
  intro a ha
  have : a.1 ≠ k := fun e => h (e ▸ List.mem_map_of_mem (f := (·.1)) ha)
  simpa using this

theorem envSet_fresh (env : Env) (k : String) (v : Expr) (h : k ∉ Py.keys env) : envSet env k v = (k, v) :: env := by
  rw [envSet, filter_ne_of_fresh env k h]

theorem envPop_cons (env : Env) (k : String) (v : Expr) (h : k ∉ Py.keys env) : envPop ((k, v) :: env) k = env := by
  rw [envPop, List.filter_cons]
  simp only [bne_self_eq_false, Bool.false_eq_true, if_false]
  exact filter_ne_of_fresh env k h

theorem envGet_cons (env : Env) (k : String) (v : Expr) : envGet ((k, v) :: env) k = v := by
  simp [envGet, lookup]

/-- the unit argument the source computes for a quantity, when `V` is a variable of the model (its `units` is a `Unit`
    of the model's store or of a store sharing its registry): `create_quantity` accepts it and hangs a unit of the store -/
theorem reunit_ok (sid : Nat) (vUnits : C18.UnitArg) (hV : vUnits = .ownUnit ∨ vUnits = .sharedUnit) (e : Expr)
    (cr : List C18.UnitRef) :
    reunit sid (fun q => if q.isONE = true then storeUnit "dimensionless" else vUnits) e cr
      = .ok (e, cr ++ [C18.creatorRef .fixed sid .singQuantity, C18.creatorRef .fixed sid .singQuantity]) := by
  rcases hV with rfl | rfl <;> simp [reunit, storeUnit, C18.createQuantity, C18.creatorRef]

theorem step_keys (fix : Expr → Option Expr) (excl : List String) (st : TState) (e : Eqn) :
    ∀ k ∈ Py.keys (step fix excl st e).env, k ∈ Py.keys st.env ∨ k = e.lhs := by
  rcases step_cases fix excl st e with ⟨_, h⟩ | ⟨_, new, _, h⟩ | ⟨_, _, h⟩ <;> rw [h]
  · exact fun k hk => .inl hk
  · exact fun k hk => .inl hk
  · intro k hk
    simpa [Py.keys, Py.DictLike.keys, or_comm] using hk

/-- the loop of `remove_fixable_singularities` from an arbitrary state `(eqs, created, unprocessed_eqs)`, for ANY body
    that passes over a node without equation and on a node with an equation (not yet a key of `unprocessed_eqs`) does
    one `C12.step`, hanging `singQuantity` units only -/
theorem trav_loop (sid : Nat) (p : Expr → Bool × Expr) (excl : List String)
    (body : Option Eqn → List Eqn × List C18.UnitRef × Env → Except PyErr (ForInStep (List Eqn × List C18.UnitRef × Env)))
    (hnone : ∀ s, body none s = .ok (.yield s))
    (hsome : ∀ e eqs cr env, e.lhs ∉ Py.keys env →
      ∃ cr', (∀ r ∈ cr', r = C18.creatorRef .fixed sid .singQuantity) ∧
        body (some e) (eqs, cr, env)
          = .ok (.yield ((step (fixOf p) excl ⟨eqs, env⟩ e).eqs, cr ++ cr', (step (fixOf p) excl ⟨eqs, env⟩ e).env))) :
    ∀ (order : List (Option Eqn)) (s : List Eqn × List C18.UnitRef × Env),
      (lhss (order.filterMap id)).Nodup → (∀ k ∈ Py.keys s.2.2, k ∉ lhss (order.filterMap id)) →
      (∀ r ∈ s.2.1, r = C18.creatorRef .fixed sid .singQuantity) →
      ∃ created, (∀ r ∈ created, r = C18.creatorRef .fixed sid .singQuantity) ∧
      forIn order s body
      = (Except.ok (((order.filterMap id).foldl (step (fixOf p) excl) ⟨s.1, s.2.2⟩).eqs, created,
          ((order.filterMap id).foldl (step (fixOf p) excl) ⟨s.1, s.2.2⟩).env) : Except PyErr _) := by
  intro order
  induction order with
  | nil => intro s _ _ hc; exact ⟨s.2.1, hc, rfl⟩
  | cons o os ih =>
    intro s hn hk hc
    obtain ⟨eqs, cr, env⟩ := s
    cases o with
    | none =>
      simp only [List.filterMap_cons, id] at hn hk ⊢
      rw [List.forIn_cons, hnone]
      exact ih (eqs, cr, env) hn hk hc
    | some e =>
      simp only [List.filterMap_cons, id, lhss, List.map_cons, List.nodup_cons] at hn hk
      have hfresh : e.lhs ∉ Py.keys env := fun hmem => (hk _ hmem) (by simp)
      have hk' : ∀ k ∈ Py.keys env, k ∉ lhss (os.filterMap id) := fun k hm hin => hk k hm (List.mem_cons_of_mem _ hin)
      obtain ⟨cr', hcr', hb⟩ := hsome e eqs cr env hfresh
      rw [List.forIn_cons, hb]
      simp only [List.filterMap_cons, id, List.foldl_cons]
      refine ih (_, cr ++ cr', _) hn.2 ?_ ?_
      · intro k hm
        rcases step_keys _ excl ⟨eqs, env⟩ e k hm with h | rfl
        · exact hk' k h
        · exact hn.1
      · intro r hr
        rcases List.mem_append.mp hr with h | h
        · exact hc r h
        · exact hcr' r h

/-- **Tie of the traversal.** `order`: the nodes of the sorted graph, each with its equation or `None`; every variable
    has at most one equation (`Nodup`, as in a `Model`); `V` a variable of the model. For every `_remove_singularities`
    (`p`), every exclusion list and every list of equations, the function generated from `remove_fixable_singularities`
    never raises, leaves `Model.equations` and `unprocessed_eqs` exactly as the hand model `C12.traverse` says, and every
    quantity it re-creates carries the unit `C18.creatorRef .fixed sid .singQuantity` (= a unit of the model's store). -/
theorem removeFixable_tie (sid : Nat) (vUnits : C18.UnitArg) (hV : vUnits = .ownUnit ∨ vUnits = .sharedUnit)
    (order : List (Option Eqn)) (p : Expr → Bool × Expr) (excl : List String) (eqs : List Eqn)
    (hn : (lhss (order.filterMap id)).Nodup) :
    ∃ created, (∀ r ∈ created, r = C18.creatorRef .fixed sid .singQuantity) ∧
      SingTrav.removeFixableSingularities sid vUnits order (fun e => .ok (p e)) excl eqs
        = .ok ((traverse (fixOf p) excl (order.filterMap id) eqs).eqs,
               (traverse (fixOf p) excl (order.filterMap id) eqs).env, created) := by
  unfold SingTrav.removeFixableSingularities traverse
  simp only [except_run, Py.truthy_bool]
  -- the hole is the generated loop body: the `rw [h.2]` inside the `.imp` fills it in, then the two one-step facts are about it
  refine (trav_loop sid p excl _ ?none ?some order (eqs, [], []) hn
    (by intro k hk; simp [Py.keys, Py.DictLike.keys] at hk) (by intro r hr; cases hr)).imp fun created h => ⟨h.1, by rw [h.2]⟩
  case none => intro s; rfl
  case some =>
    intro e eqs cr env hfresh
    simp only [eqLhs, eqRhs, Option.map_some, Option.getD_some, Option.isSome_some, Bool.true_and,
      envSet_fresh env e.lhs _ hfresh, envGet_cons, envPop_cons env e.lhs _ hfresh, reunit_ok sid vUnits hV, Py.isIn]
    unfold step fixOf
    cases h1 : e.rhs.isPiecewise <;> cases h2 : excl.contains e.lhs <;>
      simp only [Bool.not_false, Bool.not_true, Bool.and_self, Bool.and_false, Bool.false_and, Bool.or_self,
        Bool.or_true, Bool.true_or, Bool.false_eq_true, if_false, if_true]
    -- neither a `Piecewise` nor excluded: the equation is analysed
    · by_cases hch : (p (subst env e.rhs)).1 = true
      · refine ⟨[C18.creatorRef .fixed sid .singQuantity, C18.creatorRef .fixed sid .singQuantity], ?_, ?_⟩
        · intro r hr; simpa using hr
        · simp [hch]
      · refine ⟨[], ?_, ?_⟩
        · intro r hr; cases hr
        · simp [hch]
    -- excluded, or a `Piecewise`, or both: skipped, nothing created
    all_goals
      refine ⟨[], ?_, ?_⟩
      · intro r hr; cases hr
      · simp

end Cellml.Tie.Sing
