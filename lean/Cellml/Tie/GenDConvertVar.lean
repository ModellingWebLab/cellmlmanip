import Cellml.Tie.ConvertVar

/-! # Closing the ties of the `convert_variable` family for the transfer of the C06 property theorems

    `get_unique_name` is translated with OPEN recursion (`Gen.ConvertVar.getUniqueName rec st name`). Here the closed
    function `genUniqueName` is defined over the generated body — the recursion unrolled `len(names)` times, the hand
    model's termination measure (each call appends `_a`, so more than `len(names)` clashes are impossible) — and proved
    equal to the hand model `freshName`, and to satisfy python's recursion equation. -/

namespace Cellml.Tie.GenD
open Model Model.CV Cellml.Gen Cellml.Tie.CV

/-- the generated body of `get_unique_name`, its recursive call unrolled `n` times (the innermost call answers its
    argument). The generated body cannot raise; `.error` is mapped to the argument to stay total. -/
def getUniqueNameIter (s : CState) : Nat → String → String
  | 0, b => b
  | n + 1, b =>
      match ConvertVar.getUniqueName (getUniqueNameIter s n) s b with
      | .ok r => r
      | .error _ => b

/-- **`get_unique_name`, closed**: the generated body iterated with the hand model's termination measure -/
def genUniqueName (s : CState) (name : String) : String := getUniqueNameIter s (names s).length name

theorem getUniqueNameIter_eq (s : CState) : ∀ (n : Nat) (b : String),
    getUniqueNameIter s n b = uniqueName (names s) n b
  | 0, b => rfl
  | n + 1, b => by
    have hrec : getUniqueNameIter s n = uniqueName (names s) n := funext (getUniqueNameIter_eq s n)
    simp only [getUniqueNameIter]
    rw [hrec, getUniqueName_unfold]

theorem genUniqueName_eq (s : CState) (b : String) : genUniqueName s b = freshName s b :=
  getUniqueNameIter_eq s _ b

/-- python's recursion equation: one more call of the generated body on the closed function changes nothing, i.e. the
    measure was large enough -/
theorem genUniqueName_fix (s : CState) (b : String) :
    ConvertVar.getUniqueName (genUniqueName s) s b = .ok (genUniqueName s b) := by
  rw [funext (genUniqueName_eq s)]
  exact getUniqueName_tie s b

/-- the name answered is not in use (`freshName_fresh` of C06, for the generated function) -/
theorem genUniqueName_fresh (s : CState) (b : String) : genUniqueName s b ∉ names s := by
  rw [genUniqueName_eq]; exact freshName_fresh s b

/-- the early return of `convert_variable`: a factor equal to 1 ⇒ the model object is returned untouched, with the
    original variable — for ANY state of the model (no invariant), provided the variable is in the model -/
theorem convertVariable_noop_gen (view : CVView) (s : CState) (v : Nat) (u : U) (dir : Dir) (move : Bool)
    (hv : v < s.vars.length) (hcf : view.getConversionFactor (unitOfV s v) u = .ok 1) :
    ConvertVar.convertVariable view s v u dir move = .ok (s, v) := by
  unfold ConvertVar.convertVariable
  have hin : Py.isIn (nameOfV s v) (CV.names s) = true := by
    simpa [Py.isIn] using nameOfV_mem s v hv
  have hget : view.getCf (unitOfV s v) u = .ok (.num 1) := by simp [CVView.getCf, hcf]
  simp only [hin, hget, Bool.not_true, Bool.false_eq_true, if_false, ok_bind, num_beq_one, decide_true, if_true]
  rfl

/-- python returned ⇒ it returned the hand model's state and variable, and the hand model's flag is down -/
theorem gen_returns {g : Except PyErr (CState × Nat)} {m : CState × Nat} (h : Tied g m) {r : CState × Nat}
    (hg : g = .ok r) : r = m ∧ m.1.raised = false := by
  subst hg; exact h

/-- python raised ⇒ the hand model's flag is up -/
theorem gen_raises {g : Except PyErr (CState × Nat)} {m : CState × Nat} (h : Tied g m) {e : PyErr}
    (hg : g = .error e) : m.1.raised = true ∧ OkCls e := by
  subst hg; exact h

end Cellml.Tie.GenD
