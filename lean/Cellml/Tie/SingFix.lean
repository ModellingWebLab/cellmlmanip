import Cellml.Generated.Code.SingFix
import Cellml.C12.Lemmas
import Cellml.Tie.ExceptRun

/-! # Tie: `_remove_singularities` (generated from the source) = `C12.removeSing` (hand model), and what the tie of
    `_fix_expr_parts` (`fixExprParts_tie`, `Tie/SingFixAdd.lean`) needs of the python spelling `enc` of a model result -/

namespace Cellml.Tie.Sing
open C12 C12.Expr Cellml.Gen

/-- `_generate_piecewise(ex, V, sp, Vmin, Vmax) if sp is not None else ex` on the python spelling of a model result
    is the model's `wrap` -/
theorem genPw_enc (r : Res) :
    (if (enc r).2.2.1.isSome = true then genPw (enc r).2.2.2.1 (enc r).2.2.1 (enc r).1 (enc r).2.1 else (enc r).2.2.2.1)
      = wrap r := by
  obtain ⟨w, e, c⟩ := r
  cases w <;> simp [enc, genPw, wrap]

theorem genPw_res (r : Res) :
    (if r.win.isSome = true then genPw r.ex (r.win.map (·.sp)) (r.win.map (·.vmin)) (r.win.map (·.vmax)) else r.ex)
      = wrap r := by
  obtain ⟨w, e, c⟩ := r
  cases w <;> simp [genPw, wrap]

theorem touched_enc (r : Res) : ((enc r).2.2.2.2 || (enc r).1.isSome) = r.touched := by
  obtain ⟨w, e, c⟩ := r
  cases w <;> simp [enc, Res.touched]

/-- what `_remove_singularities` returns, by the model: `(changed, new expression)` -/
def pyRemoveSing (det : List Expr → List (Win Rat)) (e : Expr) : Bool × Expr :=
  if !e.hasExp then (false, e)
  else ((fixParts det (e.size + 1) e).touched, wrap (fixParts det (e.size + 1) e))

/-- **Tie of `_remove_singularities`**: with `_fix_expr_parts` the model's `fixParts` (in its python spelling `enc`),
    the generated function never raises and returns `(changed, ex)` with … -/
theorem removeSingularities_tie (det : List Expr → List (Win Rat)) (e : Expr) :
    SingFix.removeSingularities (fun x => .ok (enc (fixParts det (x.size + 1) x))) e = .ok (pyRemoveSing det e) := by
  unfold SingFix.removeSingularities pyRemoveSing
  by_cases h : e.hasExp = true
  · simp only [except_run, Py.truthy_bool, h, Bool.not_true, Bool.false_eq_true, if_false,
      genPw_enc, touched_enc]
  · simp [h, pure, Except.pure]

/-- … `changed` exactly when the model's `removeSing` replaces the equation, and then `ex` is the replacement: the
    `fix` argument of the traversal built from the python pair is the model's `removeSing` -/
theorem fixOf_pyRemoveSing (det : List Expr → List (Win Rat)) : fixOf (pyRemoveSing det) = removeSing det := by
  funext e
  unfold fixOf pyRemoveSing removeSing
  by_cases h : e.hasExp = true <;> simp [h]

/-- a python `for` loop whose body neither raises nor leaves the loop is a left fold -/
theorem forIn_ok_yield {α β : Type} (l : List α) (init : β) (g : α → β → β) :
    forIn l init (fun a s => (Except.ok (ForInStep.yield (g a s)) : Except PyErr (ForInStep β)))
      = Except.ok (l.foldl (fun s a => g a s) init) :=
  List.forIn_eq_foldl_of_yield (fun s a => g a s) _ l init fun _ _ _ => rfl

/-- the loop "append the (wrapped) part, or-in whether it was touched" -/
theorem foldl_parts {α : Type} (l : List α) (g : α → Expr) (t u : α → Bool) (acc : List Expr) (b : Bool) :
    l.foldl (fun (s : List Expr × Bool) a => (s.1 ++ [g a], s.2 || t a || u a)) (acc, b)
      = (acc ++ l.map g, b || l.any (fun a => t a || u a)) := by
  induction l generalizing acc b with
  | nil => simp
  | cons a as ih => rw [List.foldl_cons, ih]; simp [Bool.or_assoc]

theorem genPw_winTuple (e : Expr) (w : Win Rat) :
    genPw e (winTuple w).2.2 (winTuple w).1 (winTuple w).2.1 = wrapWin w e := by
  simp [genPw, winTuple]

theorem dropOnes_filter (as : List Expr) :
    mkMul (List.map (fun a => a) (List.filter (fun a => !(a.isOne && unitless a)) as)) = dropOnes (mul as) := by
  simp [dropOnes, unitless]

theorem mkMul_two (l : List Expr) (h : 2 ≤ l.length) : mkMul l = mul l := by
  match l, h with
  | _ :: _ :: _, _ => rfl

@[simp] theorem args_mul (as : List Expr) : args (mul as) = as := rfl
@[simp] theorem args_add (as : List Expr) : args (add as) = as := rfl
@[simp] theorem isMul_mul (as : List Expr) : isMul (mul as) = true := rfl

/-- `hcanon` is needed: on the (non-SymPy) tree `Mul(Mul(exp(V)))` with a detector that finds nothing, python's
    `Mul(*expr_parts)` of the single rebuilt factor IS that factor (`exp(V)`), the model returns `mul [exp V]` -/
example :
    (SingFix.fixExprParts (fun _ => []) (fun x => enc ⟨none, x, false⟩) (mul [mul [exp volt]])).map
        (fun r => isMul r.2.2.2.1) = .ok false ∧
    isMul (fixBody (fun _ => []) (fun x => ⟨none, x, false⟩) (dropOnes (mul [mul [exp volt]]))).ex = true := by
  constructor <;> rfl

end Cellml.Tie.Sing
