import Cellml.Generated.Code.AddVars

/-! # `self._add_variables(element)` as `Parser._add_components` calls it: the GENERATED `_add_variables`
    (Cellml/Generated/Code/AddVars.lean) on the `<component>` element, its lookup re-keyed by the flat names as the
    pairs the loader models use. Core Lean only. `Cellml.Tie.PAddVars.genAddVariables_leaf` (Tie/AddVars.lean) proves
    it equal to `Cellml.Tie.addVariables` (Tie/LoaderView.lean: `Load.checkVars` + `Load.entry`), the function the
    loader theorems speak about. -/

namespace Cellml.Tie.PAddVars
open Load Cellml.Tie

/-- the flat name held by a key of `variable_lookup_symbol` -/
def refOf : AttrVal → VRef
  | .ref r => r
  | _ => ("", "")

def genAddVariables (self : CompsView) (st : CompsState) (e : CompElem) :
    Except PyErr (List (VRef × VRef) × CompsState) :=
  (Cellml.Gen.AddVars.addVariables self (ofCompElem e) st).map
    (fun r => (r.1.map (fun p => (refOf p.1, p.2)), r.2))

end Cellml.Tie.PAddVars
