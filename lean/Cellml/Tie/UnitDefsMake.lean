import Cellml.Generated.Code.UnitDefs
import Cellml.Units.OffsetLemmas
import Cellml.Tie.ExceptRun

/-! # Tie: `Parser._make_pint_unit_definition` (generated from the source of parser.py) = the hand models
    `Units.elemOffsetBad` (offset test; raised `ValueError`) and — see Tie/UnitDefsDen.lean — `Units.defMeaning`
    (Units/Define.lean), which `Cellml.Props.C03` is about. -/

namespace Cellml.Tie.PUnitDefs
open Units Cellml.Gen


theorem mapM_bad_or_map {α β ε : Type} (g : α → β) (bad : α → Bool) (err : ε) : ∀ l : List α,
    l.mapM (fun a => if bad a then (.error err : Except ε β) else .ok (g a)) =
      if l.any bad then .error err else .ok (l.map g)
  | [] => rfl
  | a :: l => by
    rw [List.mapM_cons, mapM_bad_or_map g bad err l]
    by_cases hb : bad a = true
    · simp [hb, except_run]
    · by_cases hl : l.any bad = true <;> simp [hb, hl, except_run]


/-- the expression of one `<unit>` element: `(multiplier * ((units * 10^prefix)**exponent))`, each part only when
    the attribute is there; the prefix is looked up in `UNIT_PREFIXES` first -/
def elemExpr (e : UnitElem) : UExpr :=
  let x0 : UExpr := .name e.units
  let x1 : UExpr := match e.pfx with
    | some p => .timesPow x0 (if (unitPrefixes.lookup p).isSome then .table p else .sci p)
    | none => x0
  let x2 : UExpr := match e.exponent with
    | some x => .pow x1 x
    | none => x1
  match e.multiplier with
  | some m => .mult m x2
  | none => x2

/-- the offset test as the source writes it (`float(offset) != 0`; `float` may raise `ValueError`, the class of the
    `raise` below it) = the model's `offsetRejected`: either `float` raises and the model refuses, or it returns `x` and
    `x != 0` is the model's answer -/
theorem offset_cond (o : String) :
    (Pint.float o = .error ⟨"ValueError"⟩ ∧ offsetRejected o = true) ∨
      ∃ x, Pint.float o = .ok x ∧ (x != 0) = offsetRejected o := by
  unfold Pint.float offsetRejected
  cases h : floatText o with
  | none => exact Or.inl ⟨rfl, rfl⟩
  | some v =>
    cases v with
    | nan => exact Or.inr ⟨.nan, rfl, rfl⟩
    | inf => exact Or.inr ⟨.inf, rfl, rfl⟩
    | dec q =>
      refine Or.inr ⟨_, rfl, ?_⟩
      by_cases hz : roundsToZero q = true
      · simp only [hz, if_true]; rfl
      · have hq : q ≠ 0 := by
          intro h0; subst h0; exact hz roundsToZero_zero
        have hz' : roundsToZero q = false := by simpa using hz
        simp only [hz', Bool.false_eq_true, if_false, Bool.not_false]
        show (!(q == (0 : Rat))) = true
        simpa [bne_iff_ne] using hq

/-- the offset test as it closes the loop body of the source, whatever the body goes on to yield -/
theorem offset_frag {α : Type} (e : UnitElem) (x : α) :
    (if Py.truthy (e.has "offset") = true then do
        if ((← Pint.float (e.get! "offset")) != 0) = true then
          throw (PyErr.mk "ValueError")
        pure x
      else pure x : Except PyErr α) = if elemOffsetBad e then .error ⟨"ValueError"⟩ else .ok x := by
  obtain ⟨u, pf, ex, mu, off⟩ := e
  cases off with
  | none => rfl
  | some o =>
    simp only [has_offset, get_offset, Py.truthy_bool, Option.isSome_some, if_true, Option.getD_some, elemOffsetBad]
    rcases offset_cond o with ⟨h1, h2⟩ | ⟨x', h1, h2⟩
    · simp [h1, h2, except_run]
    · cases hx : (x' != 0) <;>
        simp [h1, ← h2, hx, except_run]

theorem prefix_try (p : String) :
    (tryCatch (Pint.prefixTable p) fun e__ =>
        if (e__.cls == "KeyError") = true then pure (PowLit.sci p) else throw e__) =
      (.ok (if (unitPrefixes.lookup p).isSome then .table p else .sci p) : Except PyErr PowLit) := by
  unfold Pint.prefixTable
  by_cases h : (unitPrefixes.lookup p).isSome = true
  · simp [h, tryCatch, tryCatchThe, MonadExceptOf.tryCatch, Except.tryCatch]
  · simp [h, tryCatch, tryCatchThe, MonadExceptOf.tryCatch, Except.tryCatch, pure, Except.pure]

/-- `_make_pint_unit_definition(units_name, unit_attributes)` for ALL attribute lists: `ValueError` exactly when some
    element fails the model's offset test (`Units.elemOffsetBad`, the test of `addNow` / `reject_offset`), otherwise
    the list of the elements' expressions -/
theorem makeDef_tie (units_name : String) (elems : List UnitElem) :
    UnitDefs.makePintUnitDefinition units_name elems =
      if elems.any elemOffsetBad then .error ⟨"ValueError"⟩ else .ok ⟨elems.map elemExpr⟩ := by
  unfold UnitDefs.makePintUnitDefinition
  simp only []
  rw [List.forIn_append_eq_mapM (fun e => if elemOffsetBad e then .error ⟨"ValueError"⟩ else .ok (elemExpr e)),
    mapM_bad_or_map]
  · by_cases h : elems.any elemOffsetBad = true <;>
      simp [h, except_run, Pint.joinStar]
  · intro e _ s
    simp only [apply_ite (Except.map _)]
    simp only [offset_frag, Except.map]
    simp only [get_units, get_prefix, get_exponent, get_multiplier, has_prefix, has_exponent,
      has_multiplier, Py.truthy_bool, bind, Except.bind, prefix_try, elemExpr]
    obtain ⟨u, pf, ex, mu, off⟩ := e
    cases pf <;> cases ex <;> cases mu <;> rfl

/-! ### the string: the tree constructors are names for the format strings of the source -/

theorem prefix_try_str (p : String) :
    (tryCatch (Pint.prefixTableStr p) fun e__ =>
        if (e__.cls == "KeyError") = true then pure (Py.fmt "1e%s" [p]) else throw e__) =
      (.ok (if (unitPrefixes.lookup p).isSome then PowLit.table p else PowLit.sci p).render : Except PyErr String) := by
  unfold Pint.prefixTableStr
  by_cases h : (unitPrefixes.lookup p).isSome = true
  · simp [h, tryCatch, tryCatchThe, MonadExceptOf.tryCatch, Except.tryCatch, PowLit.render]
  · simp [h, tryCatch, tryCatchThe, MonadExceptOf.tryCatch, Except.tryCatch, pure, Except.pure, PowLit.render]

/-- the same source translated with the generic rules for `%` and `join` (what pint is handed) is the rendering of
    the tree `makeDef_tie` speaks about -/
theorem makeDefStr_tie (units_name : String) (elems : List UnitElem) :
    UnitDefs.makePintUnitDefinitionStr units_name elems =
      (UnitDefs.makePintUnitDefinition units_name elems).map PintDef.render := by
  rw [makeDef_tie]
  unfold UnitDefs.makePintUnitDefinitionStr
  simp only []
  rw [List.forIn_append_eq_mapM (fun e => if elemOffsetBad e then .error ⟨"ValueError"⟩ else .ok (elemExpr e).render),
    mapM_bad_or_map]
  · by_cases h : elems.any elemOffsetBad = true <;>
      simp [h, except_run, PintDef.render, Function.comp_def]
  · intro e _ s
    simp only [apply_ite (Except.map _)]
    simp only [offset_frag, Except.map]
    simp only [get_units, get_prefix, get_exponent, get_multiplier, has_prefix, has_exponent,
      has_multiplier, Py.truthy_bool, bind, Except.bind, prefix_try_str, elemExpr]
    obtain ⟨u, pf, ex, mu, off⟩ := e
    cases pf <;> cases ex <;> cases mu <;> rfl

/-! ### non-vacuity: the generated definitions run (python gives `(((c * 1e3))**0.5)*(60 * (volt * 0.001))`: the
    float of the table is spelled `0.001` there, see `Pint.floatStr`) -/

example : UnitDefs.makePintUnitDefinitionStr "d"
    [⟨"c", some "3", some "0.5", none, none⟩, ⟨"volt", some "milli", none, some "60", some " 0 "⟩] =
      .ok "(((c * 1e3))**0.5)*(60 * (volt * 1e-3))" := by decide +kernel
/-- zero in another spelling is accepted (before commit 418827e of cellmlmanip: `ValueError`); a fraction, text that is not a number
    (`float` raises) and `nan` are refused -/
example : UnitDefs.makePintUnitDefinition "d" [⟨"c", none, none, none, some "0.0"⟩] = .ok ⟨[.name "c"]⟩ ∧
    UnitDefs.makePintUnitDefinition "d" [⟨"c", none, none, none, some "-0"⟩] = .ok ⟨[.name "c"]⟩ ∧
    UnitDefs.makePintUnitDefinition "d" [⟨"c", none, none, none, some "0.5"⟩] = .error ⟨"ValueError"⟩ ∧
    UnitDefs.makePintUnitDefinition "d" [⟨"c", none, none, none, some "zero"⟩] = .error ⟨"ValueError"⟩ ∧
    UnitDefs.makePintUnitDefinition "d" [⟨"c", none, none, none, some "nan"⟩] = .error ⟨"ValueError"⟩ := by
  decide +kernel

end Cellml.Tie.PUnitDefs
