import Cellml.Generated.Code.PrinterMul2
import Cellml.Tie.PrinterMul
import Cellml.Tie.PrinterPr
import Cellml.C11.Dom

/-! # Tie: the WHOLE of `Printer._print_Mul` (generated from the source) = `C11.mulItems` / `C11.mulDoc`

    `Cellml.Gen.PrinterMul2.printMul` is the translation of the complete method: the sign extraction
    (`as_coeff_Mul`, `c < 0`, `_keep_coeff(-c, e)`, `sign = '-'`), the classification loop over `Mul.make_args(expr)`
    (the same source text as `PrinterMul.mulClassify`, shown here to be the fold of it), `a or [S.One]`, the two lists
    of bracketed operands at `PRECEDENCE['Mul']`, the `pow_brackets` fix-up through `b.index`, the single denominator
    re-bracketed at `PRECEDENCE['Pow']` (`if len(b) == 1 and not pow_brackets`), and the joins with ` * ` and ` / `.

    The tie is cut at the calls of `print`: `printMul_head` is the method up to them, for every `print`; `printMul_core`
    the string assembly after them; `mulItems_leaves` the sign extraction, which calls nothing.
    `_print_Derivative`, `_print_bool`, `_print_int` are in the same generated group and tied at the end of the file. -/


namespace Cellml.Tie.PPrinter2
open C11 Cellml.Gen Cellml.Tie.PPrinter

/-! ## the classification loop, inlined in `printMul`, is the fold of `PrinterMul.mulClassify` -/

/-- `List.forIn_eq_foldlM_of_yield` with the state seen through `to`/`from_`: the inlined loop keeps
    `(pow_brackets, a, b)`, `mulClassify` returns `(a, b, pow_brackets)` -/
theorem forIn_foldlM {α σ τ : Type} (xs : List α) (f : α → σ → Except PyErr (ForInStep σ)) (g : τ → α → Except PyErr τ)
    (to : τ → σ) (from_ : σ → τ) (hft : ∀ t, from_ (to t) = t)
    (h : ∀ x s, f x s = (g (from_ s) x).map (fun r => ForInStep.yield (to r))) (t0 : τ) :
    forIn xs (to t0) f = (xs.foldlM g t0).map to := by
  induction xs generalizing t0 with
  | nil => rfl
  | cons x r ih =>
    rw [List.forIn_cons, h, hft, List.foldlM_cons]
    cases hg : g t0 x with
    | error e => rfl
    | ok t1 => simp only [except_run]; exact ih t1

/-- the loop body as it stands inlined in the generated `printMul` (state: `pow_brackets`, `a`, `b`) is the generated
    step function `PrinterMul.mulClassify` of the same source lines. The left side is copied from
    `#print PrinterMul2.printMul`; the rewrite with `mulLoop2` in `printMul_head` fails when the translator's output
    changes. -/
theorem body_eq (item : E) (s : List E × List E × List E) :
    (if (comm item && isPow item && isRational (expOf item) && isNegNum (expOf item)) = true then
              if (expOf item != E.int (-1)) = true then
                Except.pure (ε := PyErr)
                  (ForInStep.yield (s.fst, s.snd.fst, s.snd.snd ++ [(baseOf item).pow (negNum (expOf item))]))
              else
                if ((argsOf (arg0 item)).length != 1 && isMul (baseOf item)) = true then
                  Except.pure
                    (ForInStep.yield
                      (s.fst ++ [item], s.snd.fst, s.snd.snd ++ [powEval (baseOf item) (negNum (expOf item))]))
                else
                  Except.pure
                    (ForInStep.yield
                      (s.fst, s.snd.fst, s.snd.snd ++ [powEval (baseOf item) (negNum (expOf item))]))
            else
              if isRational item = true then
                if (pOf item != 1) = true then
                  if (qOf item != 1) = true then
                    Except.pure
                      (ForInStep.yield (s.fst, s.snd.fst ++ [E.int (pOf item)], s.snd.snd ++ [E.int ↑(qOf item)]))
                  else Except.pure (ForInStep.yield (s.fst, s.snd.fst ++ [E.int (pOf item)], s.snd.snd))
                else
                  if (qOf item != 1) = true then
                    Except.pure (ForInStep.yield (s.fst, s.snd.fst, s.snd.snd ++ [E.int ↑(qOf item)]))
                  else Except.pure (ForInStep.yield (s.fst, s.snd.fst, s.snd.snd))
              else Except.pure (ForInStep.yield (s.fst, s.snd.fst ++ [item], s.snd.snd))) =
    (PrinterMul.mulClassify item s.2.1 s.2.2 s.1).map (fun r => ForInStep.yield (r.2.2, r.1, r.2.1)) := by
  unfold PrinterMul.mulClassify
  -- `map` is pushed to the leaves of the nested `if`s; the two sides then agree leaf by leaf
  simp only [Py.truthy_bool, pure, Except.pure, apply_ite (Except.map _)]
  rfl

theorem mulLoop2 (f : E → (List E × List E × List E) → Except PyErr (ForInStep (List E × List E × List E)))
    (hf : ∀ item s, f item s =
      (PrinterMul.mulClassify item s.2.1 s.2.2 s.1).map (fun r => ForInStep.yield (r.2.2, r.1, r.2.1)))
    (fs : List Item1)
    (hq : ∀ i ∈ fs, ∀ p q, i.e = .rat p q → q ≠ 1)
    (hm : ∀ i ∈ fs, ∀ bb x, i.e = .pow bb x → isMul bb = true → (argsOf bb).length ≠ 1) :
    forIn (fs.map (·.e)) (([], [], []) : List E × List E × List E) f =
      .ok ((fs.flatMap fun i => (classify i).2.2.map fun _ => i.e), (partition fs).1.map (·.e),
           (partition fs).2.1.map (·.e)) := by
  have := forIn_foldlM (fs.map (·.e)) f
    (fun (s : List E × List E × List E) i => PrinterMul.mulClassify i s.1 s.2.1 s.2.2)
    (fun r => (r.2.2, r.1, r.2.1)) (fun s => (s.2.1, s.2.2, s.1)) (fun _ => rfl) (fun x s => hf x s) ([], [], [])
  rw [this, List.foldlM_map, mulLoop_tie fs [] [] [] hq hm]
  simp [Except.map]

theorem flatten_assemble (num : Doc) (D : List Doc) (n : Nat) (hn : n = D.length) :
    (if (n == 0) = true then (Except.pure (flatten num) : Except PyErr String)
     else Except.pure (flatten num ++ " / " ++
        if (n == 1) = true then String.intercalate " * " (D.map flatten)
        else "(" ++ String.intercalate " * " (D.map flatten) ++ ")")) = .ok (flatten (assemble num D)) := by
  subst hn
  match D with
  | [] => rfl
  | [d] => simp [assemble, flatten, Bop.text, Except.pure]
  | d :: d' :: ds =>
    simp only [assemble]
    rw [flatten, flatten, flatten_prodChain]
    simp [Bop.text, Except.pure, String.append_assoc]

/-! ## the `pow_brackets` fix-up: `b_str[b.index(item.base)] = '(' + b_str[b.index(item.base)] + ')'` = `C11.wrapFirst` -/

theorem wrap_step (m : E) (bs : List Item1) (ds : List Doc) (hlen : bs.length = ds.length)
    (hmem : ∃ j ∈ bs, j.e = m) :
    ∃ idx s, listIndex (bs.map (·.e)) m = .ok idx ∧ listGet (ds.map flatten) idx = .ok s ∧
      listSet (ds.map flatten) idx ("(" ++ s ++ ")") = .ok ((wrapFirst m bs ds).map flatten) := by
  induction bs generalizing ds with
  | nil => obtain ⟨j, hj, _⟩ := hmem; simp at hj
  | cons j bs ih =>
    cases ds with
    | nil => simp at hlen
    | cons d ds =>
      by_cases hj : j.e = m
      · refine ⟨0, flatten d, ?_, ?_, ?_⟩
        · simp [listIndex, hj]
        · simp [listGet]
        · simp [listSet, wrapFirst, hj, flatten]
      · obtain ⟨j', hj', hm'⟩ := hmem
        have hj'' : j' ∈ bs := by
          rcases List.mem_cons.mp hj' with rfl | h
          · exact absurd hm' hj
          · exact h
        obtain ⟨idx, s, h1, h2, h3⟩ := ih ds (by simpa using hlen) ⟨j', hj'', hm'⟩
        refine ⟨idx + 1, s, ?_, ?_, ?_⟩
        · simp [listIndex, hj, h1, Except.map]
        · simpa [listGet] using h2
        · simp only [listSet, List.length_map] at h3 ⊢
          by_cases hlt : idx < ds.length
          · simp only [hlt, if_true, Except.ok.injEq] at h3
            simp [wrapFirst, hj, hlt, ← h3]
          · simp [hlt] at h3

/-- the body of the second loop of the generated `printMul` (over `pow_brackets`; state: `b_str`), copied from
    `#print PrinterMul2.printMul` (hence the continuation behind the `throw` of the `assert`); the `rfl` that ends
    `printMul_head` fails when the translator's output changes -/
def pbBody (b : List E) (item : E) (s1 : List String) : Except PyErr (ForInStep (List String)) :=
  if (!Py.isIn (baseOf item) b) = true then
    (throw { cls := "AssertionError" } : Except PyErr PUnit.{1}).bind fun __r =>
      (listIndex b (baseOf item)).bind fun __do_lift =>
        (listIndex b (baseOf item)).bind fun __do_lift_1 =>
          (listGet s1 __do_lift_1).bind fun __do_lift_2 =>
            (listSet s1 __do_lift ("(" + __do_lift_2 + ")")).bind fun b_str =>
              Except.pure (ForInStep.yield b_str)
  else
    (listIndex b (baseOf item)).bind fun __do_lift =>
      (listIndex b (baseOf item)).bind fun __do_lift_1 =>
        (listGet s1 __do_lift_1).bind fun __do_lift_2 =>
          (listSet s1 __do_lift ("(" + __do_lift_2 + ")")).bind fun b_str =>
            Except.pure (ForInStep.yield b_str)

theorem pbLoop (f : E → List String → Except PyErr (ForInStep (List String))) (bs : List Item1)
    (hf : ∀ item s1, f item s1 = pbBody (bs.map (·.e)) item s1) (pb : List E)
    (hpb : ∀ it ∈ pb, ∃ j ∈ bs, j.e = baseOf it) (ds : List Doc) (hlen : bs.length = ds.length) :
    forIn pb (ds.map flatten) f =
      .ok (((pb.map baseOf).foldl (fun acc m => wrapFirst m bs acc) ds).map flatten) := by
  induction pb generalizing ds with
  | nil => rfl
  | cons it pb ih =>
    obtain ⟨idx, s, h1, h2, h3⟩ := wrap_step (baseOf it) bs ds hlen (hpb it (by simp))
    have hin : Py.isIn (baseOf it) (bs.map (·.e)) = true := by
      obtain ⟨j, hj, hje⟩ := hpb it (by simp)
      simp only [Py.isIn, List.contains_eq_mem, List.mem_map, decide_eq_true_eq]
      exact ⟨j, hj, hje⟩
    rw [List.forIn_cons, hf, pbBody]
    simp only [hin, h1, h2, h3, except_run, Bool.not_true, Bool.false_eq_true, if_false, str_add]
    rw [List.map_cons, List.foldl_cons]
    exact ih (fun x hx => hpb x (by simp [hx])) _ (by rw [wrapFirst_length]; exact hlen)

theorem partition_mem (fs : List Item1) :
    (∀ j ∈ (partition fs).1, ∃ i ∈ fs, j ∈ (classify i).1) ∧
    (∀ j ∈ (partition fs).2.1, ∃ i ∈ fs, j ∈ (classify i).2.1) ∧
    (∀ i ∈ fs, ∀ j ∈ (classify i).2.1, j ∈ (partition fs).2.1) := by
  rw [partition_flat]
  exact ⟨fun _ hj => List.mem_flatMap.mp hj, fun _ hj => List.mem_flatMap.mp hj,
    fun i hi j hj => List.mem_flatMap.mpr ⟨i, hi, hj⟩⟩

/-! ## the loop and the string assembly of `printMul` = `C11.mulDoc` -/

theorem denStrs_eq (b : List Item1) (marks : List E) (h : ¬ (b.length = 1 ∧ marks = [])) :
    denStrs b marks = marks.foldl (fun acc m => wrapFirst m b acc) (b.map (fun i => bracket i.e i.doc 50)) := by
  unfold denStrs
  split
  · exact absurd ⟨rfl, rfl⟩ h
  · rfl

theorem mulDoc_eq (s : Bool) (fs : List Item1) :
    mulDoc s fs = assemble
      (if s then negFirst (prodChain ((if (partition fs).1.isEmpty then [num1 (.int 1)] else (partition fs).1).map
          (fun i => bracket i.e i.doc 50)))
       else prodChain ((if (partition fs).1.isEmpty then [num1 (.int 1)] else (partition fs).1).map
          (fun i => bracket i.e i.doc 50)))
      (denStrs (partition fs).2.1 (partition fs).2.2) :=
  mulDoc_ops s fs

theorem flatten_num (s : Bool) (A : List Item1) (hne : A ≠ []) :
    (if s then "-" else "") ++ String.intercalate " * " (A.map (fun i => flatten (bracket i.e i.doc 50))) =
      flatten (if s then negFirst (prodChain (A.map (fun i => bracket i.e i.doc 50)))
               else prodChain (A.map (fun i => bracket i.e i.doc 50))) := by
  cases A with
  | nil => exact absurd rfl hne
  | cons x xs =>
    cases s
    · simp only [Bool.false_eq_true, if_false, List.map_cons, flatten_prodChain, List.map_map]; simp; rfl
    · simp only [if_true, List.map_cons, flatten_negFirst, flatten_prodChain, List.map_map]; simp; rfl

theorem ok_bind {ε α β : Type} (a : α) (f : α → Except ε β) : (Except.ok a : Except ε α).bind f = f a := rfl

/-- the joins at the end of `_print_Mul` -/
def mulJoin (sign : String) (b : List E) (a_str b_str : List String) : Except PyErr String :=
  if (b.length == 0) = true then Except.pure (sign + String.intercalate " * " a_str)
  else
    Except.pure
      (sign + String.intercalate " * " a_str + " / " +
        if (b.length == 1) = true then String.intercalate " * " b_str
        else "(" + String.intercalate " * " b_str + ")")

/-- `_print_Mul` after the two lists of operands have been printed: the `pow_brackets` fix-up, the single
    denominator printed once more at `PRECEDENCE['Pow']`, the joins -/
def mulRest (print : E → Except PyErr String) (sign : String) (b pb : List E) (a_str b_str : List String) :
    Except PyErr String :=
  (forIn pb b_str (pbBody b)).bind fun b_str =>
    if (b.length == 1 && !Py.truthy pb) = true then
      (listGet b 0).bind fun b0 =>
        (Printer.bracket print b0 60).bind fun s =>
          (listSet b_str 0 s).bind fun b_str => mulJoin sign b a_str b_str
    else mulJoin sign b a_str b_str

/-- **`Printer._print_Mul` up to its calls of `print`**, for EVERY `print`: the sign extraction and the classification
    loop are evaluated (`mulLoop2`); what remains is `_bracket` on the numerator operands, on the denominator
    operands, and `mulRest`. Both directions of the closing induction start here. -/
theorem printMul_head (print : E → Except PyErr String) (expr : E) (s : Bool) (fs : List Item1)
    (hs : isNegNum (asCoeffMul expr).1 = s)
    (hargs : makeArgs (if s then keepCoeff (negNum (asCoeffMul expr).1) (asCoeffMul expr).2 else expr) = fs.map (·.e))
    (hq : ∀ i ∈ fs, ∀ p q, i.e = .rat p q → q ≠ 1)
    (hm : ∀ i ∈ fs, ∀ bb x, i.e = .pow bb x → isMul bb = true → (argsOf bb).length ≠ 1) :
    PrinterMul2.printMul print expr =
      (((mulNum fs).map (·.e)).mapM (fun x => Printer.bracket print x 50)).bind fun a_str =>
        (((partition fs).2.1.map (·.e)).mapM (fun x => Printer.bracket print x 50)).bind fun b_str =>
          mulRest print (if s then "-" else "") ((partition fs).2.1.map (·.e))
            (fs.flatMap fun i => (classify i).2.2.map fun _ => i.e) a_str b_str := by
  have hA' : (if Py.truthy ((partition fs).1.map (·.e)) = true then (partition fs).1.map (·.e) else [E.int 1]) =
      (mulNum fs).map (·.e) := by
    unfold mulNum; cases (partition fs).1 <;> simp [num1]
  unfold PrinterMul2.printMul
  simp only [Py.truthy_bool, bind, pure, hs]
  cases s
  all_goals
    simp only [Bool.false_eq_true, if_false, if_true] at hargs ⊢
    rw [hargs, mulLoop2 _ (fun item s => body_eq item s) fs hq hm, Except.bind_ok]
    dsimp only
    rw [hA']
    rfl

/-- **the body of `Printer._print_Mul` after the sign extraction = `C11.mulDoc`**: for whatever expression `expr` whose
    sign (`c < 0` for `c, e = expr.as_coeff_Mul()`) is `s` and whose factors after `_keep_coeff` are the printed
    factors `fs`. `hq`, `hm`: the domain of `mulClassify_tie`. -/
theorem printMul_core (print : E → Except PyErr String) (expr : E) (s : Bool) (fs : List Item1)
    (hs : isNegNum (asCoeffMul expr).1 = s)
    (hargs : makeArgs (if s then keepCoeff (negNum (asCoeffMul expr).1) (asCoeffMul expr).2 else expr) = fs.map (·.e))
    (hp : ∀ f ∈ fs, print f.e = .ok (flatten f.doc))
    (hbase : ∀ f ∈ fs, ∀ b x, f.e = .pow b x → print b = .ok (flatten f.base))
    (hint : ∀ n, print (.int n) = .ok (flatten (intDoc n)))
    (hpow : ∀ f ∈ fs, ∀ b x, f.e = .pow b x → isNegRat x = true →
      print (.pow b (negNum x)) = .ok (flatten (powDoc b (negNum x) f.base (numDoc (negNum x)))))
    (hq : ∀ i ∈ fs, ∀ p q, i.e = .rat p q → q ≠ 1)
    (hm : ∀ i ∈ fs, ∀ bb x, i.e = .pow bb x → isMul bb = true → (argsOf bb).length ≠ 1) :
    PrinterMul2.printMul print expr = .ok (flatten (mulDoc s fs)) := by
  have hB := (partition_fac (R := fun e d => print e = .ok (flatten d)) fs
    (fun f hf => ⟨hp f hf, hbase f hf⟩) hint).2 hpow
  have hA'p := mulNum_fac (R := fun e d => print e = .ok (flatten d)) fs (fun f hf => ⟨hp f hf, hbase f hf⟩) hint
  have hmarks := partition_marks fs
  have hmem : ∀ it ∈ (fs.flatMap fun i => (classify i).2.2.map fun _ => i.e),
      ∃ j ∈ (partition fs).2.1, j.e = baseOf it := fun it hit =>
    partition_mark fs _ (hmarks ▸ List.mem_map_of_mem hit)
  rw [printMul_head print expr s fs hs hargs hq hm, mulDoc_ops]
  unfold mulRest mulJoin
  generalize hPB : (fs.flatMap fun i => (classify i).2.2.map fun _ => i.e) = PB at hmarks hmem ⊢
  generalize hP : partition fs = P at *
  obtain ⟨A, B, marks⟩ := P
  dsimp only at hA'p hB hmarks hmem ⊢
  have hne := mulNum_ne_nil fs
  rw [mapM_bracket (ι := Item1) print 50 _ (·.e) (·.doc) hA'p, Except.bind_ok, mapM_bracket print 50 B (·.e) (·.doc) hB,
    Except.bind_ok]
  have hds : B.map (fun i => flatten (bracket i.e i.doc 50)) =
      (B.map (fun i => bracket i.e i.doc 50)).map flatten := by simp [List.map_map]
  rw [hds]
  show Except.bind (forIn PB _ (pbBody (B.map (·.e)))) _ = _
  rw [pbLoop _ B (fun _ _ => rfl) PB hmem _ (by simp), Except.bind_ok, hmarks]
  have htr : Py.truthy PB = !marks.isEmpty := by rw [← hmarks]; cases PB <;> rfl
  simp only [List.length_map, htr, Bool.not_not, str_add]
  have hnum := flatten_num s _ hne
  by_cases hc : (B.length == 1 && marks.isEmpty) = true
  · simp only [hc, if_true]
    simp only [Bool.and_eq_true, beq_iff_eq, List.isEmpty_iff] at hc
    obtain ⟨hB1, rfl⟩ := hc
    obtain ⟨d, rfl⟩ : ∃ d, B = [d] := by
      match B, hB1 with
      | [d], _ => exact ⟨d, rfl⟩
    simp only [List.map_cons, List.map_nil, List.foldl_nil, listGet, List.getElem?_cons_zero, Except.bind_ok,
      bracket_tie print d.e d.doc 60 (hB d (by simp)), listSet, List.length_cons, List.length_nil,
      Nat.zero_add, Nat.lt_one_iff, if_true, List.set_cons_zero]
    rw [hnum]
    exact flatten_assemble _ [bracket d.e d.doc 60] 1 rfl
  · simp only [hc, if_false, Bool.false_eq_true]
    rw [hnum]
    rw [denStrs_eq B marks (by simpa using hc)]
    exact flatten_assemble _ _ B.length (by rw [foldl_wrapFirst_length]; simp)

/-! ## the sign extraction: SymPy's `as_coeff_Mul`, `_keep_coeff`, `Mul.make_args` = `C11.mulItems` -/

theorem no_unit (a b : Int) (ha : 2 ≤ a) (h : a * b = 1) : False := by
  have hd : a ∣ 1 := ⟨b, h.symm⟩
  have := Int.le_of_dvd (by decide) hd
  omega

theorem makeArgs_not_mul (e : E) (h : isMul e = false) : makeArgs e = [e] := by
  cases e <;> simp_all [isMul, makeArgs]

theorem isMul_negNum (c : E) (h : isNegNum c = true) : isMul (negNum c) = false := by
  cases c <;> first | rfl | cases h

theorem negNum_ne_one (c : E) (h1 : c ≠ .int (-1)) : negNum c ≠ .int 1 := by
  cases c <;> simp_all [negNum]
  omega

theorem negNum_int_ge (c : E) (hn : isNegNum c = true) (h1 : c ≠ .int (-1)) (a : Int) (h : negNum c = .int a) :
    2 ≤ a := by
  cases c <;> simp_all [isNegNum, negNum]
  omega

/-- `_keep_coeff(k, Mul(m, *rest))` and `Mul.make_args` = the model's `keepCoeffMul` -/
theorem keepCoeffMul_leaves (k m rest : E) (mi : Item1) (resti l : List Item1) (hm : mi.e = m)
    (hr : elems rest = resti.map (·.e)) (hk : k ≠ .int 1) (hk2 : ∀ a, k = .int a → 2 ≤ a)
    (h : KeepCoeffMul k (mi :: resti) l) :
    makeArgs (keepCoeff k (.mul (.cons m rest))) = l.map (·.e) := by
  have h0 : (E.mul (.cons m rest) == E.int 1) = false := by simp
  have h1 : (k == E.int 1) = false := by simpa using hk
  simp only [keepCoeff, h0, h1, Bool.false_eq_true, if_false]
  subst hm
  cases h with
  | front _ _ hn => simp [hn, makeArgs, elems, hr, num1]
  | unit a b _ _ hk' _ hab => exact (no_unit a b (hk2 a hk') hab).elim
  | times a b _ _ hk' hb hab => subst hk'; simp [hb, isNum, numTimes, hab, makeArgs, elems, hr, num1]

/-- `_keep_coeff(k, e)` for a remainder whose product with a number SymPy leaves as it is -/
theorem keepCoeff_opaque (k e : E) (hk : k ≠ .int 1) (he : e ≠ .int 1) (ho : opaqueE e = true) :
    keepCoeff k e = .mul (.cons k (.cons e .nil)) := by
  have h0 : (e == .int 1) = false := by simpa using he
  have h1 : (k == .int 1) = false := by simpa using hk
  unfold keepCoeff
  simp only [h0, h1, Bool.false_eq_true, if_false]
  cases e <;> first | exact absurd ho Bool.false_ne_true | simp only [ho, if_true]

/-- **the sign extraction of `Printer._print_Mul` = `C11.mulItems`**: for a product `Mul(c, r1, *t)` (at least two
    factors) whose printed factors are `ci :: r1i :: ti` (`sub` = the printed factors of a factor that is itself a
    product), whenever the model answers `some (s, fs)`: the sign test `c < 0` on `c, e = expr.as_coeff_Mul()` is `s`,
    and `Mul.make_args` of (`_keep_coeff(-c, e)` if `c < 0`, else `expr`) are the expressions of `fs`. -/
theorem mulItems_leaves (c r1 t : E) (ci r1i : Item) (ti : List Item) (s : Bool) (fs : List Item1)
    (hc : ci.e = c) (hr1 : r1i.e = r1) (ht : elems t = ti.map (·.e))
    (hsub : ∀ l, r1 = .mul l → elems l = r1i.sub.map (·.e))
    (hmi : mulItems (ci :: r1i :: ti) = some (s, fs)) :
    isNegNum (asCoeffMul (.mul (.cons c (.cons r1 t)))).1 = s ∧
    makeArgs (if s then keepCoeff (negNum (asCoeffMul (.mul (.cons c (.cons r1 t)))).1)
        (asCoeffMul (.mul (.cons c (.cons r1 t)))).2 else .mul (.cons c (.cons r1 t))) = fs.map (·.e) := by
  -- `as_coeff_Mul` of a product with a negative leading number, of one and of several remaining factors
  have hco : isNegNum c = true → asCoeffMul (.mul (.cons c (.cons r1 t))) = (c, fromArgs (.cons r1 t)) := fun hn => by
    simp only [asCoeffMul, isNum_of_isNegNum c hn, if_true]
  have hf1 : ti = [] → fromArgs (.cons r1 t) = r1 := fun h => by simp [fromArgs, elems, ht, h]
  have hf2 : ∀ r2 rest, ti = r2 :: rest → fromArgs (.cons r1 t) = .mul (.cons r1 t) := fun r2 rest h => by
    simp [fromArgs, elems, ht, h]
  have hm1 : ci.e = .int (-1) → isNegNum c = true ∧ negNum c = .int 1 := fun h => by rw [← hc, h]; exact ⟨rfl, rfl⟩
  have hkc : ∀ e, keepCoeff (.int 1) e = e := fun e => by by_cases h1 : e = .int 1 <;> simp [keepCoeff, h1]
  subst hc
  cases mulItems_inv _ s fs hmi with
  | pos _ _ hn =>
    constructor
    · simp only [asCoeffMul]; split_ifs
      · exact hn
      · rfl
    · simp [makeArgs, elems, ht, hr1, Item.one, List.map_map, Function.comp_def]
  | negOne _ _ hc1 =>
    obtain ⟨hn, hk⟩ := hm1 hc1
    rw [hco hn, hf1 rfl, hk, hkc]
    refine ⟨hn, ?_⟩
    simp only [if_true, hr1]
    cases hmul : isMul r1
    · rw [if_neg Bool.false_ne_true, makeArgs_not_mul r1 hmul]
      simp [Item.one, hr1]
    · obtain ⟨a, rfl⟩ := isMul_cases r1 hmul
      rw [if_pos rfl, ← hsub a rfl]
      rfl
  | negMany _ _ hc1 hr =>
    obtain ⟨hn, hk⟩ := hm1 hc1
    obtain ⟨r2, rest, rfl⟩ : ∃ r2 rest, ti = r2 :: rest := by
      cases ti with
      | nil => exact absurd rfl (hr r1i)
      | cons r2 rest => exact ⟨r2, rest, rfl⟩
    rw [hco hn, hf2 r2 rest rfl, hk, hkc]
    exact ⟨hn, by simp [makeArgs, elems, ht, Item.one, hr1]⟩
  | one _ _ hn hk hc1 hr =>
    rw [hco hn, hf1 rfl, ← hr1, hr]
    exact ⟨hn, by simp [keepCoeff, makeArgs_not_mul _ (isMul_negNum _ hn), num1]⟩
  | add _ _ a hn hk hc1 hr =>
    rw [hco hn, hf1 rfl, ← hr1, hr]
    have hk1 := negNum_ne_one ci.e hc1
    exact ⟨hn, by simp [keepCoeff, hk1, makeArgs, elems, num1, Item.one, hr]⟩
  | opaq _ _ hn hk hc1 hr1' hr =>
    rw [hco hn, hf1 rfl, ← hr1]
    refine ⟨hn, ?_⟩
    simp [keepCoeff_opaque _ _ (negNum_ne_one ci.e hc1) hr1' hr, makeArgs, elems, num1, Item.one]
  | mul _ _ a l hn hk hc1 hr hl =>
    rw [hco hn, hf1 rfl]
    refine ⟨hn, ?_⟩
    have hsl := hsub a (by rw [← hr1, hr])
    obtain ⟨mi, resti, hs⟩ := hl.args_cons
    rw [hs] at hl hsl
    cases a with
    | cons m rest =>
      simp only [elems, List.map_cons, List.cons.injEq] at hsl
      simp only [if_true, ← hr1, hr]
      exact keepCoeffMul_leaves _ m rest mi resti _ hsl.1.symm hsl.2 (negNum_ne_one ci.e hc1)
        (negNum_int_ge ci.e hn hc1) hl
    | _ => simp [elems] at hsl
  | many _ _ r2 rest l hn hk hc1 hl =>
    rw [hco hn, hf2 r2 rest rfl]
    refine ⟨hn, ?_⟩
    simp only [if_true]
    exact keepCoeffMul_leaves _ r1 t r1i.one ((r2 :: rest).map Item.one) _ (by simp [Item.one, hr1])
      (by simp [ht, Item.one, List.map_map, Function.comp_def]) (negNum_ne_one ci.e hc1)
      (negNum_int_ge ci.e hn hc1) hl

theorem mulItems_mem (items : List Item) (s : Bool) (fs : List Item1) (hmi : mulItems items = some (s, fs)) :
    ∀ f ∈ fs, (∃ i ∈ items, f = i.one) ∨ (∃ i ∈ items, f ∈ i.sub) ∨ (∃ k, f = num1 k ∧ numOK k = true) :=
  fun f hf => (C11.mulItems_mem items s fs hmi f hf).imp_right (Or.imp_left fun ⟨i, hi, _, h⟩ => ⟨i, hi, h⟩)

/-- **`Printer._print_Mul` = `C11.mulItems` + `C11.mulDoc`** (the `mul` case of `C11.pr`): for a product of at least two
    factors on which the model answers (`mulItems … = some`), given that `print` returns the model's text for the
    factors the loop meets, for integers, and for the powers `b**(-x)` that the loop builds. -/
theorem printMul_tie (print : E → Except PyErr String) (c r1 t : E) (ci r1i : Item) (ti : List Item) (s : Bool)
    (fs : List Item1) (hc : ci.e = c) (hr1 : r1i.e = r1) (ht : elems t = ti.map (·.e))
    (hsub : ∀ l, r1 = .mul l → elems l = r1i.sub.map (·.e))
    (hmi : mulItems (ci :: r1i :: ti) = some (s, fs))
    (hp : ∀ f ∈ fs, print f.e = .ok (flatten f.doc))
    (hbase : ∀ f ∈ fs, ∀ b x, f.e = .pow b x → print b = .ok (flatten f.base))
    (hint : ∀ n, print (.int n) = .ok (flatten (intDoc n)))
    (hpow : ∀ f ∈ fs, ∀ b x, f.e = .pow b x → isNegRat x = true →
      print (.pow b (negNum x)) = .ok (flatten (powDoc b (negNum x) f.base (numDoc (negNum x)))))
    (hq : ∀ i ∈ fs, ∀ p q, i.e = .rat p q → q ≠ 1)
    (hm : ∀ i ∈ fs, ∀ bb x, i.e = .pow bb x → isMul bb = true → (argsOf bb).length ≠ 1) :
    PrinterMul2.printMul print (.mul (.cons c (.cons r1 t))) = .ok (flatten (mulDoc s fs)) := by
  obtain ⟨h1, h2⟩ := mulItems_leaves c r1 t ci r1i ti s fs hc hr1 ht hsub hmi
  exact printMul_core print _ s fs h1 h2 hp hbase hint hpow hq hm

/-- **`Printer._print_Derivative`** (default `derivative_function = str`) = the `deriv` case of `C11.pr` -/
theorem printDerivative_tie (print : E → Except PyErr String) (x t : String) :
    PrinterMul2.printDerivative print (.deriv x t) = .ok (flatten (pr (.deriv x t)).doc) := by
  simp [PrinterMul2.printDerivative, derivativeFunction, pr, okDoc, flatten, except_run, String.append_assoc]

/-- **`Printer._print_bool`** (a python `bool`) prints what the model prints for SymPy's `true` / `false` -/
theorem printBool_tie (print : E → Except PyErr String) (b : Bool) :
    PrinterMul2.printBool print b = .ok (flatten (pr (boolE b)).doc) := by
  cases b <;> rfl

/-- **`Printer._print_int`** (a python `int`) prints what the model prints for SymPy's `Integer` -/
theorem printInt_tie (print : E → Except PyErr String) (n : Int) :
    PrinterMul2.printInt print n = .ok (flatten (pr (.int n)).doc) := by
  simp [PrinterMul2.printInt, PyStr.str, int_repr, pr, okDoc, except_run]

end Cellml.Tie.PPrinter2
