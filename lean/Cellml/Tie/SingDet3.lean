import Cellml.Generated.Code.SingDet3
import Cellml.Tie.SingDet

/-! # Tie of the REST of `_get_singularity` (generated from the source: `Cellml/Generated/Code/SingDet3.lean`) to the hand
    model `C12/Detect.lean`; continues `Tie/SingDet.lean` (which ties `_solve_real`, `check_U_match` and the `fp1` loop).
    The recording loop is `C12.record`; the `fp2` loop with the model's matcher leaves is `C12.pass`; the whole side that
    python adds as one more candidate never changes a window; together (`getSingularity_fs`) the generated function on
    well-formed canonical factors is `C12.detect?` after the classification. -/

namespace Cellml.Tie.PSing3
open C12 Cellml.Gen Cellml.Tie.PSing2

/-- `_is_negative_power` on a classified factor (`isinstance(a, Pow) and a.args[1].evalf() < 0`): the sign of the
    exponent — the split `f.2 < 0` of `C12.detect?` -/
theorem isNegativePowerF_tie (f : Fac) : SingDet3.isNegativePowerF f = .ok (decide (f.2 < 0)) := by
  obtain ⟨b, n⟩ := f
  have hq : ((n : Int) : Rat) < 0 ↔ n < 0 := by exact_mod_cast Iff.rfl
  unfold SingDet3.isNegativePowerF
  by_cases h : n < 0
  · have h1 : (n != 1) = true := by
      have : n ≠ 1 := by omega
      simpa using this
    simp [except_run, tryCatch, tryCatchThe, MonadExceptOf.tryCatch, Except.tryCatch,
      facIsPow, facExpQ, hq, h, h1]
    rfl
  · simp [except_run, tryCatch, tryCatchThe, MonadExceptOf.tryCatch, Except.tryCatch,
      facIsPow, facExpQ, hq, h]
    rfl

theorem set_append_mid {α} (pre : List α) (a x : α) (l : List α) :
    (pre ++ a :: l).set pre.length x = pre ++ x :: l := by
  induction pre with
  | nil => rfl
  | cons p ps ih => simp [ih]

/-- the loop over `singularities.zipIdx`, started anywhere in the list (`pre` already visited), for ANY body that stops at
    the FIRST recorded range with the same singular point and leaves it alone (same bounds) or overwrites it IN PLACE with
    `mergeSeq`; the flag says whether it left by `break` -/
theorem recLoop_aux (vmin vmax sp : Rat)
    (body : Win Rat × Nat → List (Win Rat) × Bool → Except PyErr (ForInStep (List (Win Rat) × Bool)))
    (hb : ∀ x s, body x s =
      if x.1.sp = sp then
        .ok (.done (if vmin = x.1.vmin ∧ vmax = x.1.vmax then s.1 else s.1.set x.2 (mergeSeq x.1 vmin vmax), true))
      else .ok (.yield s))
    (l pre : List (Win Rat)) :
    forIn (l.zipIdx pre.length) (pre ++ l, false) body
      = .ok (if l.any (fun s => s.sp == sp) then (pre ++ record ⟨vmin, vmax, sp⟩ l, true) else (pre ++ l, false)) := by
  induction l generalizing pre with
  | nil => simp [pure, Except.pure]
  | cons a l ih =>
    rw [List.zipIdx_cons, List.forIn_cons, hb]
    by_cases h : a.sp = sp
    · by_cases hc : vmin = a.vmin ∧ vmax = a.vmax
      · simp [h, hc, record, except_run]
      · simp [h, hc, record, except_run]
    · have h2 := ih (pre ++ [a])
      simp only [List.length_append, List.length_singleton, List.append_assoc, List.singleton_append] at h2
      simp [h, record, bind, Except.bind, h2]

theorem record_noSp (w : Win Rat) (l : List (Win Rat)) (h : l.any (fun s => s.sp == w.sp) = false) :
    record w l = l ++ [w] := by
  induction l with
  | nil => rfl
  | cons a l ih =>
    simp only [List.any_cons, Bool.or_eq_false_iff] at h
    simp [record, h.1, ih h.2]

/-- **the recording `for … else` (with the in-place `sing[0] = min(…); sing[1] = max(…)`) IS `C12.record`**, for all lists
    and all numbers; it never raises -/
theorem recordLoop_tie (sings : List (Win Rat)) (vmin vmax sp : Rat) :
    SingDet3.recordLoop sings vmin vmax sp = .ok (record ⟨vmin, vmax, sp⟩ sings) := by
  unfold SingDet3.recordLoop
  simp only [Py.truthy_bool, freeSymCount]
  have key := fun body hb => recLoop_aux vmin vmax sp body hb sings []
  simp only [List.length_nil, List.nil_append] at key
  simp only [List.all_cons, List.all_nil, beq_self_eq_true, Bool.and_self, if_true]
  -- the hole is the generated loop body; `hb` says what one iteration of it does
  rw [key _ ?hb]
  case hb =>
    intro x s
    by_cases h : x.1.sp = sp <;> by_cases hc : vmin = x.1.vmin ∧ vmax = x.1.vmax <;>
      simp [h, hc, pure, Except.pure, mergeSeq]
  by_cases ha : sings.any (fun s => s.sp == sp) = true
  · simp [ha, except_run]
  · have ha' : sings.any (fun s => s.sp == sp) = false := by simpa using ha
    have := record_noSp ⟨vmin, vmax, sp⟩ sings ha'
    simp [ha', except_run, this]

/-! ## the `sp` loop and the `fp2` loop, for arbitrary matcher leaves -/

/-- the bounds the `sp` loop picks: the solutions of `u ∓ U_offset = 0` when BOTH sets are singletons, the fixed range
    `sp ∓ U_offset` otherwise -/
def pickBounds (δ sp : Rat) (vmins vmaxs : List Rat) : Rat × Rat :=
  if vmins.length == vmaxs.length && vmaxs.length == 1 then (firstPt vmins, firstPt vmaxs) else (sp - δ, sp + δ)

/-- **the `sp` loop for ONE singular point and ARBITRARY solution sets of the two bound equations** (the singleton check
    and the fallback range come from the source) -/
theorem spLoop_spec (part1 : List Fac) (k c δ : Rat) (vmins vmaxs : List Rat) (found : Bool) (sings : List (Win Rat))
    (hk : k ≠ 0) (hne : part1 ≠ []) (hw : ∀ f ∈ part1, wfFac f) :
    SingDet3.spLoop part1 (k, c) δ [spOf k c] vmins vmaxs found sings
      = .ok (if part1.any (onTop (spOf k c)) then
               (true, record ⟨(pickBounds δ (spOf k c) vmins vmaxs).1, (pickBounds δ (spOf k c) vmins vmaxs).2, spOf k c⟩
                  sings)
             else (false, sings)) := by
  have h1 := pass_test_tie part1 k c δ found hk hne hw
  simp only [window] at h1
  unfold SingDet3.spLoop pickBounds
  simp only [List.forIn_cons, List.forIn_nil, except_run, Py.truthy_bool, h1, recordLoop_tie]
  by_cases h : part1.any (onTop (spOf k c)) = true
  · by_cases hs : (vmins.length == vmaxs.length && vmaxs.length == 1) = true
    · simp [h, hs]
    · simp [h, hs]
  · simp [h]

/-- what the two `match` attempts find on `fp2`, for ARBITRARY matcher leaves: nothing without `exp`; the first pattern
    `1 − Z·exp U`; the second `Z·exp U − 1` only when the first failed -/
def findU (mN mP : Fac → Option BindU) (f : Fac) : Option BindU :=
  if hasExpF f then (match mN f with | some b => some b | none => mP f) else none

/-- what one `fp2` contributes, for ARBITRARY matcher and `log` leaves: a match with `Z > 0` gives `u = U + log Z`, its
    window, and the window is recorded when a part of the other side vanishes at its singular point -/
def fp2Step (mN mP : Fac → Option BindU) (lg : Rat → Rat) (δ : Rat) (part1 : List Fac)
    (st : Bool × List (Win Rat)) (f : Fac) : Bool × List (Win Rat) :=
  match findU mN mP f with
  | some b =>
      if b.Z > 0 then
        (if part1.any (onTop (spOf b.U.1 (b.U.2 + lg b.Z))) then (true, record (window b.U.1 (b.U.2 + lg b.Z) δ) st.2)
         else (false, st.2))
      else st
  | none => st

/-- **the `fp2` loop for ARBITRARY matcher leaves and an ARBITRARY `log`** (with `solveset` of the affine fragment): never
    raises, `= foldl fp2Step`. `hslope`: what is matched as `U` really holds `V` (`include=[V]` of `U_wildcard`) -/
theorem fp2Loop_spec (mN mP : Fac → Option BindU) (lg : Rat → Rat) (part1 part2 : List Fac) (δ : Rat) (found : Bool)
    (sings : List (Win Rat)) (hne : part1 ≠ []) (hw : ∀ f ∈ part1, wfFac f)
    (hslope : ∀ f ∈ part2, ∀ b, findU mN mP f = some b → b.U.1 ≠ 0) :
    SingDet3.fp2Loop mN mP lg solveAff part1 part2 δ found sings
      = .ok (part2.foldl (fp2Step mN mP lg δ part1) (found, sings)) := by
  unfold SingDet3.fp2Loop
  simp only [except_run, Py.truthy_bool, Py.truthy_option]
  rw [List.forIn_eq_foldl_of_yield (fp2Step mN mP lg δ part1) _ part2]
  intro f hf s
  have hs := hslope f hf
  have key : ∀ b : BindU, b.U.1 ≠ 0 →
      SingDet.solveReal solveAff (b.U + lg b.Z) = .ok (.plain [spOf b.U.1 (b.U.2 + lg b.Z)]) ∧
      SingDet.solveReal solveAff (b.U + lg b.Z - δ) = .ok (.plain [vminOf b.U.1 (b.U.2 + lg b.Z) δ]) ∧
      SingDet.solveReal solveAff (b.U + lg b.Z + δ) = .ok (.plain [vmaxOf b.U.1 (b.U.2 + lg b.Z) δ]) ∧
      SingDet3.spLoop part1 (b.U + lg b.Z) δ [spOf b.U.1 (b.U.2 + lg b.Z)] [vminOf b.U.1 (b.U.2 + lg b.Z) δ]
          [vmaxOf b.U.1 (b.U.2 + lg b.Z) δ] s.1 s.2
        = .ok (if part1.any (onTop (spOf b.U.1 (b.U.2 + lg b.Z))) then
                 (true, record (window b.U.1 (b.U.2 + lg b.Z) δ) s.2) else (false, s.2)) := by
    intro b hb
    obtain ⟨w1, w2, w3⟩ := solveReal_window b.U.1 (b.U.2 + lg b.Z) δ
    refine ⟨w1, w2, w3, ?_⟩
    exact (spLoop_spec part1 b.U.1 (b.U.2 + lg b.Z) δ _ _ s.1 s.2 hb hne hw).trans (by simp [pickBounds, firstPt, window])
  unfold fp2Step findU at *
  by_cases he : hasExpF f = true
  · cases hN : mN f with
    | some b =>
      have hb := hs b (by simp [he, hN])
      by_cases hz : b.Z > 0
      · obtain ⟨w1, w2, w3, w4⟩ := key b hb
        simp [he, getZ, getU, evalAtOnes, hz, w1, w2, w3, w4, SolveSet.pts]
      · simp [he, getZ, evalAtOnes, hz]
    | none =>
      cases hP : mP f with
      | some b =>
        have hb := hs b (by simp [he, hN, hP])
        by_cases hz : b.Z > 0
        · obtain ⟨w1, w2, w3, w4⟩ := key b hb
          simp [he, getZ, getU, evalAtOnes, hz, w1, w2, w3, w4, SolveSet.pts]
        · simp [he, getZ, evalAtOnes, hz]
      | none => simp [he]
  · simp [he]

theorem mergeSeq_idem (s : Win Rat) (a b : Rat) : mergeSeq (mergeSeq s a b) a b = mergeSeq s a b := by
  simp [mergeSeq, min2_eq, max2_eq]

/-- recording the same range twice is recording it once (python visits a single-factor side twice: `Mul(*[x])` is `x`) -/
theorem record_idem (w : Win Rat) (acc : List (Win Rat)) : record w (record w acc) = record w acc := by
  induction acc with
  | nil => simp [record]
  | cons s ss ih =>
    by_cases h : s.sp = w.sp
    · by_cases hb : w.vmin = s.vmin ∧ w.vmax = s.vmax
      · simp [record, h, hb]
      · have hm : (mergeSeq s w.vmin w.vmax).sp = w.sp := h
        have e1 : record w (s :: ss) = mergeSeq s w.vmin w.vmax :: ss := by simp [record, h, hb]
        rw [e1]
        unfold record
        simp only [hm, beq_self_eq_true, if_true, mergeSeq_idem]
        split_ifs <;> rfl
    · simp [record, h, ih]

/-! ## the model's matchers: the `fp2` loop is `C12.pass` -/

/-- the classes `±(exp(k·V + c) − 1)` have `k ≠ 0` (`classifySum`: a zero slope is outside the fragment) -/
def wfE (f : Fac) : Prop :=
  match f.1 with
  | .em k _ _ => k ≠ 0
  | _ => True

/-- the step of the fold `C12.pass` -/
def passStep (δ : Rat) (part1 : List Fac) (acc : List (Win Rat)) (f : Fac) : List (Win Rat) :=
  match f with
  | (.em k c _, 1) =>
      let w := window k c δ
      if part1.any (onTop w.sp) then record w acc else acc
  | _ => acc

theorem pass_eq (δ : Rat) (part1 part2 : List Fac) (found : List (Win Rat)) :
    pass δ part1 part2 found = part2.foldl (passStep δ part1) found := rfl

/-- what the model's matchers find: a class `±(exp(k·V + c) − 1)` with exponent one, with `Z = 1`; nothing else -/
theorem findU_model_em (k c : Rat) (pos : Bool) : findU matchNegM matchPosM (.em k c pos, 1) = some ⟨(k, c), 1⟩ := by
  cases pos <;> simp [findU, matchNegM, matchPosM, hasExpF, baseHasExp]

theorem findU_model_none (f : Fac) (h : ∀ k c pos, f ≠ (.em k c pos, 1)) : findU matchNegM matchPosM f = none := by
  obtain ⟨b, n⟩ := f
  by_cases hn : n = 1
  · subst hn
    cases b with
    | em k c pos => exact absurd rfl (h k c pos)
    | _ => simp [findU, matchNegM, matchPosM, hasExpF, baseHasExp]
  · cases b <;> simp [findU, matchNegM, matchPosM, hn]

/-- with the model's reading of the matcher (`Z = 1`, any `log` with `log 1 = 0`) the step is the step of `C12.pass` -/
theorem fp2Step_model (lg : Rat → Rat) (hlg : lg 1 = 0) (δ : Rat) (part1 : List Fac) (st : Bool × List (Win Rat))
    (f : Fac) : (fp2Step matchNegM matchPosM lg δ part1 st f).2 = passStep δ part1 st.2 f := by
  unfold passStep
  split
  · rename_i k c _
    rw [fp2Step, findU_model_em]
    simp only [hlg, add_zero, zero_lt_one, if_true, window, spOf]
    by_cases h : part1.any (onTop (-c / k)) = true <;> simp only [h, if_true, if_false, Bool.false_eq_true]
  · rename_i hne
    rw [fp2Step, findU_model_none f fun k c pos h => hne k c pos h]

theorem findU_model_slope (f : Fac) (hf : wfE f) (b : BindU) (h : findU matchNegM matchPosM f = some b) : b.U.1 ≠ 0 := by
  by_cases hem : ∃ k c pos, f = (.em k c pos, 1)
  · obtain ⟨k, c, pos, rfl⟩ := hem
    rw [findU_model_em] at h
    cases h; exact hf
  · rw [findU_model_none f fun k c pos e => hem ⟨k, c, pos, e⟩] at h
    cases h

/-- the generated `fp2` loop with the model's matcher leaves IS `C12.pass` -/
theorem fp2Loop_pass (lg : Rat → Rat) (hlg : lg 1 = 0) (part1 part2 : List Fac) (δ : Rat) (found : Bool)
    (sings : List (Win Rat)) (hne : part1 ≠ []) (hw : ∀ f ∈ part1, wfFac f) (hE : ∀ f ∈ part2, wfE f) :
    ∃ fl, SingDet3.fp2Loop matchNegM matchPosM lg solveAff part1 part2 δ found sings
      = .ok (fl, pass δ part1 part2 sings) := by
  refine ⟨(part2.foldl (fp2Step matchNegM matchPosM lg δ part1) (found, sings)).1, ?_⟩
  rw [fp2Loop_spec matchNegM matchPosM lg part1 part2 δ found sings hne hw
    (fun f hf b h => findU_model_slope f (hE f hf) b h), pass_eq]
  -- the second component commutes with the fold because it commutes with the step
  have := List.foldl_hom (l := part2) (init := (found, sings)) Prod.snd
    fun x y => (fp2Step_model lg hlg δ part1 x y).symm
  simp only at this
  rw [this]

theorem wf_mulSide (side : List Fac) (hw : ∀ f ∈ side, wfFac f ∧ wfE f) : wfFac (mulSide side) ∧ wfE (mulSide side) := by
  unfold mulSide
  split
  · exact hw _ (by simp)
  · rename_i q k c
    have hk : k ≠ 0 := (hw (.aff k c, 1) (by simp)).1
    by_cases hq : q = 0 <;> simp [hq, wfFac, wfE, hk]
  · rename_i k c q
    have hk : k ≠ 0 := (hw (.aff k c, 1) (by simp)).1
    by_cases hq : q = 0 <;> simp [hq, wfFac, wfE, hk]
  · simp [wfFac, wfE]

theorem wf_withWhole (side : List Fac) (hw : ∀ f ∈ side, wfFac f ∧ wfE f) :
    ∀ f ∈ side ++ [mulSide side], wfFac f ∧ wfE f :=
  fun f hf => (List.mem_append.mp hf).elim (hw f) fun hm => List.mem_singleton.mp hm ▸ wf_mulSide side hw

theorem onTop_scaled (sp q k c : Rat) (hq : q ≠ 0) :
    onTop sp (.aff (q * k) (q * c), 1) = onTop sp (.aff k c, 1) := by
  have e : -(q * c) / (q * k) = -c / k := by field_simp
  simp [onTop, e]

/-- the whole side as a candidate TOP never matches unless one of its factors does -/
theorem any_withWhole (sp : Rat) (side : List Fac) :
    (side ++ [mulSide side]).any (onTop sp) = side.any (onTop sp) := by
  unfold mulSide
  split
  · simp
  · rename_i q k c
    by_cases hq : q = 0
    · simp [hq, onTop]
    · simp [hq, onTop_scaled sp q k c hq]
  · rename_i k c q
    by_cases hq : q = 0
    · simp [hq, onTop]
    · simp [hq, onTop_scaled sp q k c hq]
      simp [onTop]
  · simp [onTop]

theorem passStep_idem (δ : Rat) (part1 : List Fac) (acc : List (Win Rat)) (f : Fac) :
    passStep δ part1 (passStep δ part1 acc f) f = passStep δ part1 acc f := by
  obtain ⟨b, n⟩ := f
  by_cases hn : n = 1
  · subst hn
    cases b with
    | em k c pos =>
      simp only [passStep]
      split_ifs
      · exact record_idem _ _
      · rfl
    | _ => rfl
  · unfold passStep
    split
    · rename_i h; cases h; exact absurd rfl hn
    · split
      · rename_i h; cases h; exact absurd rfl hn
      · rfl

/-- the whole side as a candidate `±(exp U − 1)` never adds or changes a window -/
theorem fold_withWhole (δ : Rat) (part1 side : List Fac) (acc : List (Win Rat)) :
    (side ++ [mulSide side]).foldl (passStep δ part1) acc = side.foldl (passStep δ part1) acc := by
  rw [List.foldl_append]
  unfold mulSide
  split
  · simp [passStep_idem]
  · split_ifs <;> simp [passStep]
  · split_ifs <;> simp [passStep]
  · simp [passStep]

theorem passStep_withWhole (δ : Rat) (p1 : List Fac) :
    passStep δ (p1 ++ [mulSide p1]) = passStep δ p1 := by
  funext acc f
  unfold passStep
  simp only [any_withWhole _ p1]

set_option linter.unusedVariables false in
/-- **the whole-side candidates never add or change a window**: `C12.pass` over the sides with `Mul(*side)` appended
    (what python runs) is `C12.pass` over the sides (what the model runs) -/
theorem pass_withWhole (δ : Rat) (p1 p2 : List Fac) (acc : List (Win Rat)) (hw : ∀ f ∈ p1, wfFac f) :
    pass δ (p1 ++ [mulSide p1]) (p2 ++ [mulSide p2]) acc = pass δ p1 p2 acc := by
  rw [pass_eq, pass_eq, passStep_withWhole δ p1, fold_withWhole]

/-! ## the partition, the guard, the two orientations -/

/-- `C12.detect?` after the classification: what it does with the canonical factors -/
def detectFs (δ : Rat) (fs : List Fac) : List (Win Rat) :=
  let numerator := fs.filter (fun f => f.2 > 0)
  let denominator := (fs.filter (fun f => f.2 < 0)).map (fun f => (f.1, absInt f.2))
  if denominator.isEmpty || numerator.isEmpty || !(fs.any (fun f => baseHasExp f.1)) then []
  else pass δ denominator numerator (pass δ numerator denominator [])

theorem detect?_fs (δ : Rat) (rev : Bool) (args : List Expr) :
    detect? δ rev args =
      (let fs := normalise (classifyAll 0 (if rev then args.reverse else args))
       if fs.any (fun f => f.1 == .unsup) then none else some (detectFs δ fs)) := by
  unfold detect? detectFs
  simp only [apply_ite some]

def partStep (s : List Fac × List Fac) (a : Fac) : List Fac × List Fac :=
  if a.2 < 0 then (s.1, s.2 ++ [(a.1, -a.2)]) else (s.1 ++ [a], s.2)

/-- the numerator / denominator partition loop is the split of `C12.detect?` (no factor has the exponent zero) -/
theorem partition_fold : ∀ (fs : List Fac) (s : List Fac × List Fac), (∀ f ∈ fs, f.2 ≠ 0) →
    fs.foldl partStep s = (s.1 ++ fs.filter (fun f => f.2 > 0),
                           s.2 ++ (fs.filter (fun f => f.2 < 0)).map (fun f => (f.1, absInt f.2)))
  | [], s, _ => by simp
  | a :: l, s, h => by
    rw [List.foldl_cons, partition_fold l _ fun f hf => h f (List.mem_cons_of_mem _ hf)]
    have := h a List.mem_cons_self
    by_cases hn : a.2 < 0
    · have : ¬ a.2 > 0 := by omega
      simp [partStep, hn, this, absInt]
    · have : a.2 > 0 := by omega
      simp [partStep, hn, this]

/-- **the generated `_get_singularity` on well-formed canonical factors = `C12.detect?` after the classification** -/
theorem getSingularity_fs (lg : Rat → Rat) (hlg : lg 1 = 0) (fs : List Fac) (δ : Rat)
    (hfs : ∀ f ∈ fs, f.2 ≠ 0 ∧ wfFac f ∧ wfE f) :
    SingDet3.getSingularity matchNegM matchPosM lg solveAff fs δ = .ok ((detectFs δ fs).map winTriple) := by
  unfold SingDet3.getSingularity
  simp only [isNegativePowerF_tie, prodArgs, Py.truthy_bool]
  rw [List.forIn_eq_foldl_of_yield partStep _ fs _ (by
    intro a _ s
    by_cases h : a.2 < 0 <;> simp [partStep, h, except_run, mkFac, facBase, facExpn])]
  rw [partition_fold fs _ fun f hf => (hfs f hf).1]
  simp only [List.nil_append, except_run]
  generalize hN : fs.filter (fun f => f.2 > 0) = num
  generalize hD : (fs.filter (fun f => f.2 < 0)).map (fun f => (f.1, absInt f.2)) = den
  have hN' := wf_withWhole num fun f hf => (hfs f (List.mem_filter.mp (hN ▸ hf)).1).2
  have hD' := wf_withWhole den (by
    intro f hf; rw [← hD] at hf
    obtain ⟨g, hg, rfl⟩ := List.mem_map.mp hf
    exact (hfs g (List.mem_filter.mp hg).1).2)
  have hwN : ∀ f ∈ num, wfFac f := fun f hf => (hN' f (List.mem_append_left _ hf)).1
  have hwD : ∀ f ∈ den, wfFac f := fun f hf => (hD' f (List.mem_append_left _ hf)).1
  unfold detectFs
  rw [hN, hD]
  by_cases hg : (den.isEmpty || num.isEmpty || !(fs.any (fun f => baseHasExp f.1))) = true
  · have hg' : (den.length == 0 || num.length == 0 || !anyHasExp fs) = true := by
      simpa [anyHasExp, List.isEmpty_iff_length_eq_zero] using hg
    simp only [hg, hg', if_true, List.map_nil]
  · have hg' : ¬ (den.length == 0 || num.length == 0 || !anyHasExp fs) = true := by
      simpa [anyHasExp, List.isEmpty_iff_length_eq_zero] using hg
    obtain ⟨fl1, h1⟩ := fp2Loop_pass lg hlg (num ++ [mulSide num]) (den ++ [mulSide den]) δ false [] (by simp)
      (fun f hf => (hN' f hf).1) (fun f hf => (hD' f hf).2)
    rw [pass_withWhole δ num den [] hwN] at h1
    obtain ⟨fl2, h2⟩ := fp2Loop_pass lg hlg (den ++ [mulSide den]) (num ++ [mulSide num]) δ false
      (pass δ num den []) (by simp) (fun f hf => (hD' f hf).1) (fun f hf => (hN' f hf).2)
    rw [pass_withWhole δ den num _ hwD] at h2
    -- the loop over the two orientations `(num, den)`, `(den, num)`: each resets `found_on_top` and nothing reads it after
    -- the `fp2` loop, so the two flags `fl1`, `fl2` that `fp2Loop_pass` leaves open do not matter
    cases fl1 <;> cases fl2 <;>
      simp [hg, hg', List.forIn_cons, List.forIn_nil, except_run, h1, h2]

def baseOK (b : Base) : Prop :=
  match b with
  | .aff k _ => k ≠ 0
  | .em k _ _ => k ≠ 0
  | _ => True

/-- every `±(exp(k·V + c) − 1)` answer of `classifySum` sits under `if k == 0 then .unsup else …` -/
theorem classifySum_ok (i : Nat) (as : List Expr) : baseOK (classifySum i as) := by
  unfold classifySum
  simp only
  split
  · split
    · split
      · rename_i k c _
        by_cases hk : k = 0
        · simp [hk, baseOK]
        · simp only [beq_iff_eq, hk, if_false]
          split_ifs <;> simp [baseOK, hk]
      · trivial
    · trivial
  · trivial

theorem classifyBase_ok (i : Nat) (e : Expr) : baseOK (classifyBase i e) := by
  unfold classifyBase
  repeat' split
  all_goals first | exact classifySum_ok _ _ | simp_all [baseOK]

/-- what the classification guarantees of a factor: numbers and `exp(k·V)` carry the exponent one, slopes are non-zero.
    The invariant that `insertFactor` keeps (`baseOK` is its part about one `classifyBase`); after the filter of `normalise`
    it gives what the loops need: `wfFac` (python asserts `P ≠ 0`), `wfE` (`solveset` of `U`) and a non-zero exponent. -/
def FacInv (f : Fac) : Prop :=
  match f.1 with
  | .const _ => f.2 = 1
  | .ex _ => f.2 = 1
  | .aff k _ => k ≠ 0
  | .em k _ _ => k ≠ 0
  | _ => True

theorem classifyFactor_inv (i : Nat) (e : Expr) : ∀ f ∈ classifyFactor i e, FacInv f := by
  have key : ∀ (b : Base) (n : Int), baseOK b → ∀ f ∈ (match b with
      | .const q => if q == 0 && n < 0 then [(Base.unsup, (1 : Int))] else [(.const (zpow q n), 1)]
      | .ex k => [(.ex (k * n), 1)]
      | .aff k c => if c == 0 && k != 1 then [(.const (zpow k n), 1), (.aff 1 0, n)] else [(.aff k c, n)]
      | b' => [(b', n)]), FacInv f := by
    intro b n hb f hf
    cases b with
    | const q => simp only at hf; split_ifs at hf <;> simp_all [FacInv]
    | ex k => simp_all [FacInv]
    | aff k c =>
      simp only at hf
      split_ifs at hf
      · simp only [List.mem_cons, List.not_mem_nil, or_false] at hf
        rcases hf with rfl | rfl <;> simp [FacInv]
      · simp_all [FacInv, baseOK]
    | em k c p => simp_all [FacInv, baseOK]
    | opq a b => simp_all [FacInv]
    | unsup => simp_all [FacInv]
  unfold classifyFactor
  split
  · exact key _ _ (classifyBase_ok _ _)
  · exact key _ _ (classifyBase_ok _ _)

theorem classifyAll_inv (i : Nat) (es : List Expr) : ∀ f ∈ classifyAll i es, FacInv f := by
  induction es generalizing i with
  | nil => simp [classifyAll]
  | cons e es ih =>
    intro f hf
    simp only [classifyAll, List.mem_append] at hf
    rcases hf with h | h
    · exact classifyFactor_inv i e f h
    · exact ih (i + 1) f h

theorem merged_inv (fb gb : Base) (fn gn : Int) :
    FacInv (fb, fn) → FacInv (gb, gn) → sameBase fb gb = true →
    FacInv (match fb, gb with
         | .const a, .const b => (.const (a * b), 1)
         | .ex a, .ex b => (.ex (a + b), 1)
         | _, _ => (gb, gn + fn)) := by
  intro hf hg hs
  -- `sameBase` leaves the five diagonal pairs (numbers, `exp`s, equal `aff`, equal `em`, equal `opq`); the merged factor keeps
  -- the base of `g` (or is a number / an `exp` with exponent one), so its invariant is that of `g`
  cases fb <;> cases gb <;> first | (exact Bool.noConfusion hs) | (simp only [FacInv] at hg ⊢; try exact hg)

theorem insertFactor_inv (f : Fac) (hf : FacInv f) (acc : List Fac) (ha : ∀ g ∈ acc, FacInv g) :
    ∀ g ∈ insertFactor f acc, FacInv g := by
  induction acc with
  | nil => simpa [insertFactor] using hf
  | cons g gs ih =>
    intro x hx
    unfold insertFactor at hx
    split_ifs at hx with hs
    · simp only [List.mem_cons] at hx
      rcases hx with rfl | hx
      · have hg := ha g List.mem_cons_self
        obtain ⟨fb, fn⟩ := f
        obtain ⟨gb, gn⟩ := g
        exact merged_inv fb gb fn gn hf hg hs
      · exact ha x (List.mem_cons_of_mem _ hx)
    · simp only [List.mem_cons] at hx
      rcases hx with rfl | hx
      · exact ha _ List.mem_cons_self
      · exact ih (fun g hg => ha g (List.mem_cons_of_mem _ hg)) x hx

/-- **`normalise (classifyAll …)` produces well-formed factors** (the hypotheses `wfFac` of `onTopLoop_tie`, non-zero
    exponents, non-zero slopes of the `±(exp U − 1)` classes) -/
theorem normalise_classifyAll_wf (i : Nat) (es : List Expr) :
    ∀ f ∈ normalise (classifyAll i es), f.2 ≠ 0 ∧ wfFac f ∧ wfE f := by
  intro f hf
  unfold normalise at hf
  obtain ⟨hm, hp⟩ := List.mem_filter.mp hf
  have hi := List.foldl_inv _ (fun acc => ∀ g ∈ acc, FacInv g) (classifyAll i es) [] (by simp)
    (fun b f hm hb => insertFactor_inv f (classifyAll_inv i es f hm) b hb) f hm
  obtain ⟨b, n⟩ := f
  cases b <;> simp_all [FacInv, wfFac, wfE]

/-- the canonical product as the code receives it: the model's classification of SymPy's factors (a leaf: the reading of
    `Mul.flatten`; `rev`: the order of the factors, see `C12.detect?`) -/
def canon (rev : Bool) (args : List Expr) : List Fac :=
  normalise (classifyAll 0 (if rev then args.reverse else args))

/-- **`_get_singularity` (generated from the source) returns exactly the windows of `C12.detect?`** on the affine
    fragment (where the model answers at all: no factor outside the fragment), for both factor orders; it never raises.
    Leaves: the classification `canon`, the matchers `matchNegM` / `matchPosM` / `matchMulU` / `matchLin` /
    `matchExpLin`, `solveAff` (`solveset` of `k·V + c`), any `log` with `log 1 = 0`, `isClose` (exact equality). -/
theorem getSingularity_tie (lg : Rat → Rat) (hlg : lg 1 = 0) (δ : Rat) (rev : Bool) (args : List Expr)
    (ws : List (Win Rat)) (h : detect? δ rev args = some ws) :
    SingDet3.getSingularity matchNegM matchPosM lg solveAff (canon rev args) δ = .ok (ws.map winTriple) := by
  rw [detect?_fs] at h
  change (if (canon rev args).any (fun f => f.1 == .unsup) then none else some (detectFs δ (canon rev args))) = some ws
    at h
  split_ifs at h
  have e : detectFs δ (canon rev args) = ws := Option.some.inj h
  rw [← e]
  exact getSingularity_fs lg hlg (canon rev args) δ (normalise_classifyAll_wf 0 _)

/-- the same with `C12.detect` (the function `Props/C12.lean` speaks about) -/
theorem getSingularity_detect (lg : Rat → Rat) (hlg : lg 1 = 0) (δ : Rat) (rev : Bool) (args : List Expr)
    (h : (detect? δ rev args).isSome) :
    SingDet3.getSingularity matchNegM matchPosM lg solveAff (canon rev args) δ
      = .ok ((detect δ rev args).map winTriple) := by
  obtain ⟨ws, hws⟩ := Option.isSome_iff_exists.mp h
  rw [getSingularity_tie lg hlg δ rev args ws hws, detect, hws]
  rfl

end Cellml.Tie.PSing3
