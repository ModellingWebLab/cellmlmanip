import Cellml.Tie.ExceptAttr
import Cellml.Tie.Prelude

/-! What `simp [except_run]` unfolds: the `Except` monad operations, `try … except` and `errClass` (the attribute is
    registered in `Tie/ExceptAttr.lean`; an attribute cannot be used in the module that declares it). -/

namespace Cellml.Tie

attribute [except_run] errClass Except.map throw throwThe MonadExceptOf.throw bind Except.bind pure Except.pure
  tryCatch tryCatchThe MonadExceptOf.tryCatch Except.tryCatch

end Cellml.Tie
