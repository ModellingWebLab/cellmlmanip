import Cellml.Tie.Units
import Cellml.Tie.UnitsInit

/-! # GenB: the process of C16 (`Iso.step`, `Iso.run`, `Iso.obsStore`, `Iso.crossFactor`) over the GENERATED methods

    `Iso.step` applies the hand models `World.newStore`, `Units.addUnit`, `Units.addBaseUnit` to the process state.
    `genStep` applies the definitions generated from `cellmlmanip/units.py` instead — `UnitStore.__init__`
    (`Gen.UnitsInit.init`), `add_unit` (`Gen.Units.addUnit`), `add_base_unit` (`Gen.Units.addBaseUnit`) — to the python
    objects of that state (`storeObj`, `storeRef`, `shareArg`: the views of `Tie/UnitsView.lean`) and reads the
    mutated object back (`storeOfObj`, `storeOfRef`). `genObsStore` / `genProbe` observe through the generated
    `get_unit` (and pint's `get_base_units` / `dimensionality`: leaves), `genCrossFactor` converts with the generated
    `get_unit` and `get_conversion_factor`.

    `genStep_eq`: `genStep w op = Iso.step w op` whenever `OpDom w op` — the domain of `addUnit_tie` (no `dimensionless`
    mixed with dimensional units and no multiplier ≤ 0: the model ABSTAINS there). For `newStore`, `addBase`, for
    definitions refused for an offset or a malformed number, for unknown names with a total exponent of zero and for
    any order of a bad name and a bad expression, there is no condition: model and code agree. -/


namespace Cellml.Tie.PGenB
open Units Units.Wire Iso PMap Cellml.Gen Cellml.Tie.PUnits

/-- the user names of `_known_units` (the set starts as the built-in names, kept last) -/
def userNames (known : List String) : List String := known.take (known.length - cellmlUnits.length)

theorem userNames_append (l : List String) : userNames (l ++ cellmlUnits) = l := by
  simp [userNames]

/-- the model store of a `UnitStore` object -/
def storeOfObj (o : StoreObj) : Store := ⟨o._id, userNames o._known_units⟩
/-- … and of one whose registry is a reference -/
def storeOfRef (o : StoreRef) : Store := ⟨o._id, userNames o._known_units⟩

@[simp] theorem storeOfObj_storeObj (st : Store) (reg : Registry) (rules : List Rule) :
    storeOfObj (storeObj st reg rules) = st := by
  simp [storeOfObj, storeObj, userNames_append]

@[simp] theorem storeOfRef_storeRef (p : Store × Nat) : storeOfRef (storeRef p) = p.1 := by
  simp [storeOfRef, storeRef, userNames_append]

/-- the memory `__init__` is handed before it has run -/
def rawSelf : StoreRef := ⟨0, "", [], 0⟩

/-- run a generated method on the object of store `s`; a raise changes nothing; otherwise the mutated object is
    written back (its registry object and its own fields). The object has no conversion rule enabled (`storeObj st reg []`):
    `World` holds none (that rules are seen by all stores sharing a registry is DESIGN.md, C16 "Partial"; not modelled). -/
def genApplyTo (w : World) (s : Nat) (f : StoreObj → Except PyErr (StoreObj × UnitObj)) : World :=
  match w.regOf s with
  | some (st, ri, reg) =>
      match f (storeObj st reg []) with
      | .ok (o, _) => w.update s ri o._registry.defs (storeOfObj o)
      | .error _ => w
  | none => w

/-- `Iso.step` with the generated `__init__`, `add_unit`, `add_base_unit` -/
def genStep (w : World) : Op → World
  | .newStore share =>
      match UnitsInit.init rawSelf (shareArg w share) w.stores.length w.regs with
      | .ok (o, _, regs) => { regs := regs, stores := w.stores ++ [(storeOfRef o, o._registry)] }
      | .error _ => w
  | .addUnit s name elems => genApplyTo w s (fun o => Gen.Units.addUnit o name ⟨elems, id⟩)
  | .addBase s name => genApplyTo w s (fun o => Gen.Units.addBaseUnit o name)

def genRun (w : World) (ops : List Op) : World := ops.foldl genStep w

/-- `get_unit(name)` by the generated method, then its root form (pint); `none` is the `KeyError` -/
def genObsName (reg : Registry) (st : Store) (name : String) : Option UnitObs :=
  match Gen.Units.getUnit (storeObj st reg []) name with
  | .ok u => some (obsUnit reg u.c)
  | .error _ => none

/-- everything observable through store `i`: its `_known_units` (hence the generated `is_defined` of every name) and
    the root form of every known name -/
def genObsStore (w : World) (i : Nat) : Option StoreObs :=
  match w.regOf i with
  | some (st, _, reg) =>
      some { known := (storeObj st reg [])._known_units,
             units := (storeObj st reg [])._known_units.map (fun n => (n, genObsName reg st n)) }
  | none => none

/-- probe with an arbitrary name: generated `is_defined`, generated `get_unit` + root form -/
def genProbe (w : World) (i : Nat) (name : String) : Option (Bool × Option UnitObs) :=
  match w.regOf i with
  | some (st, _, reg) => some (Id.run (Gen.Units.isDefined (storeObj st reg []) name), genObsName reg st name)
  | none => none

/-- `stores[i].get_conversion_factor(stores[i].get_unit(x), stores[j].get_unit(y))` by the generated methods
    (units of two different pint registries: pint raises `ValueError` — a leaf) -/
def genCrossFactor (w : World) (i : Nat) (x : String) (j : Nat) (y : String) : Except PyErr CFObj :=
  match w.regOf i, w.regOf j with
  | some (sti, ri, reg), some (stj, rj, regj) => do
      let a ← Gen.Units.getUnit (storeObj sti reg []) x
      let b ← Gen.Units.getUnit (storeObj stj regj []) y
      if ri ≠ rj then throw ⟨"ValueError"⟩
      Gen.Units.getConversionFactor (storeObj sti reg []) a b
  | _, _ => throw ⟨"IndexError"⟩

/-! ### the domain on which `add_unit` and the hand model agree -/

/-- the domain of `addUnit_tie` (`hsup`) for a definition whose text has a value in the hand model.
    A definition the hand model refuses as `unsupported` (a zero or negative multiplier: outside its number fragment;
    the CODE defines such a unit) is outside; one it refuses for an offset or a malformed number is inside (the code
    raises as well: `gen_addUnit_defErr`). -/
def AddDom (_reg : Registry) (st : Store) (elems : List UnitElem) : Prop :=
  match defMeaning st.id elems with
  | .ok (_, c, d) => ¬ (norm c ≠ [] ∧ d = true)
  | .error (.unsupported _) => False
  | .error _ => True

instance (reg : Registry) (st : Store) (elems : List UnitElem) : Decidable (AddDom reg st elems) :=
  match h : defMeaning st.id elems with
  | .ok (_, c, d) =>
      decidable_of_iff (¬ (norm c ≠ [] ∧ d = true)) (by unfold AddDom; rw [h])
  | .error (.unsupported _) => isFalse (by unfold AddDom; rw [h]; exact id)
  | .error .offset => isTrue (by unfold AddDom; rw [h]; trivial)
  | .error (.badNumber _) => isTrue (by unfold AddDom; rw [h]; trivial)

/-- the domain of `addUnit_tie` for the operation `op` in the state `w` (decidable; `True` for `newStore`, `addBase`
    and for a store that does not exist) -/
def OpDom (w : World) : Op → Prop
  | .addUnit s _ elems =>
      match w.regOf s with
      | some (st, _, reg) => AddDom reg st elems
      | none => True
  | _ => True

instance instDecidableOpDom (w : World) (op : Op) : Decidable (OpDom w op) :=
  match op with
  | .addUnit s _ elems =>
      match h : w.regOf s with
      | some (st, _, reg) => decidable_of_iff (AddDom reg st elems) (by simp only [OpDom, h])
      | none => isTrue (by simp only [OpDom, h])
  | .newStore _ => isTrue trivial
  | .addBase _ _ => isTrue trivial

/-- … along a run -/
def RunDom : World → List Op → Prop
  | _, [] => True
  | w, op :: ops => OpDom w op ∧ RunDom (step w op) ops

def decRunDom : (ops : List Op) → (w : World) → Decidable (RunDom w ops)
  | [], _ => isTrue trivial
  | op :: ops, w =>
      match instDecidableOpDom w op, decRunDom ops (step w op) with
      | isTrue h1, isTrue h2 => isTrue ⟨h1, h2⟩
      | isFalse h1, _ => isFalse (fun h => h1 h.1)
      | _, isFalse h2 => isFalse (fun h => h2 h.2)

instance (w : World) (ops : List Op) : Decidable (RunDom w ops) := decRunDom ops w

theorem model_addUnit_defErr (reg : Registry) (st : Store) (name : String) (elems : List UnitElem) (e : DefErr)
    (hdef : defMeaning st.id elems = .error e) : ∃ e', Units.addUnit reg st name elems = .error e' := by
  cases h : Units.addUnit reg st name elems with
  | error e' => exact ⟨e', rfl⟩
  | ok r =>
    obtain ⟨k, c, md, hd, _⟩ := Units.addUnit_ok h
    rw [hdef] at hd; cases hd

/-- a definition whose text has no value (bad number, offset): the generated `add_unit` raises (one of the three
    name tests, or pint's parser) -/
theorem gen_addUnit_defErr (reg : Registry) (st : Store) (rules : List Rule) (name : String) (elems : List UnitElem)
    (e : DefErr) (hdef : defMeaning st.id elems = .error e) :
    ∃ e', Gen.Units.addUnit (storeObj st reg rules) name ⟨elems, id⟩ = .error e' := by
  have hw := wordSub_tie st reg rules elems
  have hm : defMeaningG (mangle st.id) elems = .error e := by rw [defMeaningG_mangle, hdef]
  cases h : Gen.Units.addUnit (storeObj st reg rules) name ⟨elems, id⟩ with
  | error e' => exact ⟨e', rfl⟩
  | ok r =>
    exfalso
    unfold Gen.Units.addUnit at h
    simp only [hw] at h
    by_cases h1 : Py.isIn name Cellml.Gen.cellmlUnits = true
    · simp [except_run, h1] at h
    by_cases h2 : Py.isIn name (storeObj st reg rules)._known_units = true
    · simp [except_run, h1, h2] at h
    by_cases h3 : Py.isIn name Cellml.Gen.unsupportedUnits = true
    · simp [except_run, h1, h2, h3] at h
    simp [except_run, h1, h3, pintParse, hm, storeObj] at h
    split at h <;> cases h

theorem genApplyTo_addUnit (w : World) (s : Nat) (name : String) (elems : List UnitElem)
    (hd : OpDom w (.addUnit s name elems)) :
    genApplyTo w s (fun o => Gen.Units.addUnit o name ⟨elems, id⟩) =
      applyTo w s (fun reg st => Units.addUnit reg st name elems) := by
  unfold genApplyTo applyTo
  cases hr : w.regOf s with
  | none => rfl
  | some p =>
    obtain ⟨st, ri, reg⟩ := p
    simp only [OpDom, hr] at hd
    simp only
    cases hdef : defMeaning st.id elems with
    | error e =>
      obtain ⟨e1, h1⟩ := model_addUnit_defErr reg st name elems e hdef
      obtain ⟨e2, h2⟩ := gen_addUnit_defErr reg st [] name elems e hdef
      rw [h1, h2]
    | ok q =>
      obtain ⟨k, c, d⟩ := q
      simp only [AddDom, hdef] at hd
      rw [addUnit_tie st reg [] name elems k c d hdef hd]
      cases Units.addUnit reg st name elems with
      | error e => rfl
      | ok r =>
        obtain ⟨reg', st'⟩ := r
        simp [except_run, added, storeObj, storeOfObj, userNames_append]

theorem genApplyTo_addBase (w : World) (s : Nat) (name : String) :
    genApplyTo w s (fun o => Gen.Units.addBaseUnit o name) =
      applyTo w s (fun reg st => Units.addBaseUnit reg st name) := by
  unfold genApplyTo applyTo
  cases hr : w.regOf s with
  | none => rfl
  | some p =>
    obtain ⟨st, ri, reg⟩ := p
    simp only
    rw [addBaseUnit_tie]
    cases Units.addBaseUnit reg st name with
    | error e => rfl
    | ok r =>
      obtain ⟨reg', st'⟩ := r
      simp [except_run, added, storeObj, storeOfObj, userNames_append]

theorem genStep_newStore (w : World) (share : Option Nat) : genStep w (.newStore share) = w.newStore share := by
  obtain ⟨p, hinit, hstores, _⟩ := init_tie w share rawSelf
  simp only [genStep, hinit, storeOfRef_storeRef]
  have : (storeRef p)._registry = p.2 := rfl
  rw [this, ← hstores]

theorem genStep_eq (w : World) (op : Op) (hd : OpDom w op) : genStep w op = step w op := by
  cases op with
  | newStore share => exact genStep_newStore w share
  | addUnit s name elems => exact genApplyTo_addUnit w s name elems hd
  | addBase s name => exact genApplyTo_addBase w s name

theorem genRun_eq : ∀ (ops : List Op) (w : World), RunDom w ops → genRun w ops = run w ops := by
  intro ops
  induction ops with
  | nil => intro w _; rfl
  | cons op ops ih =>
    intro w hd
    have h1 := genStep_eq w op hd.1
    show genRun (genStep w op) ops = run (step w op) ops
    rw [h1]
    exact ih _ hd.2

/-! ### observations through the generated methods = observations of the hand model (no hypothesis) -/

theorem genObsName_eq (reg : Registry) (st : Store) (name : String) : genObsName reg st name = obsName reg st name := by
  unfold genObsName obsName
  rw [getUnit_tie]
  cases Units.getUnit st name <;> rfl

/-- the generated observation is the model's, with the python set `_known_units` (user names, then the built-in
    names) in place of the list of user names -/
theorem genObsStore_eq (w : World) (i : Nat) :
    genObsStore w i = (obsStore w i).map (fun o => { o with known := o.known ++ cellmlUnits }) := by
  unfold genObsStore obsStore
  cases w.regOf i with
  | none => rfl
  | some p =>
    obtain ⟨st, ri, reg⟩ := p
    simp only [Option.map, storeObj]
    congr 2
    apply List.map_congr_left
    intro n _
    rw [genObsName_eq]

theorem genProbe_eq (w : World) (i : Nat) (name : String) : genProbe w i name = probe w i name := by
  unfold genProbe probe
  cases w.regOf i with
  | none => rfl
  | some p =>
    obtain ⟨st, ri, reg⟩ := p
    simp only [isDefined_tie, genObsName_eq]

end Cellml.Tie.PGenB
