import Cellml.Generated.Code.ConnDir
import Cellml.Tie.ExceptRun

/-! # Tie: `Parser._determine_connection_direction` (generated from the source) = `Load.direction` (hand model) -/

namespace Cellml.Tie
open Load Cellml.Gen

/-- `if a: return x` / `elif b: return y` / fall through to the `raise` — the shape of both halves of the function —
    against the model's three-way `if` -/
theorem pick_tie {α β : Type} (f : α → β) (a b : Bool) (x y : α) (msg : String) :
    (if a = true then pure x else if b = true then pure y else throw ⟨"ValueError"⟩ : Except PyErr α).map f =
      errClass Err.className (if a then .ok (f x) else if b then .ok (f y) else .error (.valueError msg)) := by
  cases a <;> cases b <;> rfl

/-- For every encapsulation map, variable table and connection, the definition generated from parser.py computes
    the hand-written model `Load.direction` (identities of source and target; error class). -/
theorem connDir_tie (par : ParentMap) (vt : VarTable) (c : Conn) :
    (ConnDir.determineConnectionDirection (loaderView par vt) c.c1 c.v1 c.c2 c.v2).map (fun p => (p.1.1, p.2.1))
      = errClass Err.className (direction par vt c) := by
  unfold ConnDir.determineConnectionDirection direction directionPC loaderView
  cases h1 : vt.lookup c.end1 with
  | none => simp only [Conn.end1] at h1; simp only [h1]; rfl
  | some i1 =>
  cases h2 : vt.lookup c.end2 with
  | none => simp only [Conn.end1, Conn.end2] at h1 h2; simp only [h1, h2]; rfl
  | some i2 =>
  simp only [Conn.end1, Conn.end2] at h1 h2
  simp only [h1, h2, Py.truthy_bool, beq_iff_eq, ifaceStr_eq_out, ifaceStr_eq_in, Bool.or_eq_true, except_run]
  -- siblings / comp_1 parent of comp_2 / comp_2 parent of comp_1 / neither: each leaf is a `pick_tie`
  by_cases hs : List.lookup c.c1 par = List.lookup c.c2 par
  · rw [if_pos hs, if_pos hs]; exact pick_tie _ _ _ _ _ _
  · rw [if_neg hs, if_neg hs]
    by_cases hp1 : List.lookup c.c2 par = some c.c1
    · rw [if_pos hp1, if_pos (Or.inl hp1.symm)]
      simp only [if_pos hp1.symm]
      exact pick_tie _ _ _ _ _ _
    · have hp1' : ¬ some c.c1 = List.lookup c.c2 par := fun e => hp1 e.symm
      rw [if_neg hp1]
      simp only [if_neg hp1']
      by_cases hp2 : List.lookup c.c1 par = some c.c2
      · rw [if_pos hp2, if_pos (Or.inr hp2.symm)]
        exact pick_tie _ _ _ _ _ _
      · rw [if_neg hp2, if_neg (fun h => h.elim hp1' (fun e => hp2 e.symm))]
        rfl

end Cellml.Tie
