import Cellml.Tie.Prelude

/-! # GenB: python's `while test(s): s = body(s)` over a GENERATED loop body, three ways

    The code translator writes the body of a `while` loop as a step function on the loop state (`while_body`) and the
    test as a Boolean function. To state a property of the python function that contains the loop, the loop itself has
    to be put back. This file does that for any test and body (core Lean only; used for the loop of `genAddUnits`,
    `Tie/GenBUnitDefs.lean`). Where the translator writes the `while` itself it uses two other cut-offs, `Py.whileUpTo`
    (`Tie/Prelude.lean`) and `Cellml.Tie.PCmeta.Py.whileFuel` (`Tie/PyM.lean`, not the `whileFuel` below); no lemma
    relates those to `WhileRuns`.

    * `WhileRuns test body s r` — the big-step semantics of the python statement: the loop started in state `s` ends
      with `r` (the final state, or the exception raised by an iteration). Deterministic (`WhileRuns.det`). A loop
      that does not terminate has no `r`.
    * `whileFuel test body n s` — the loop with a budget of `n` passes through the test; `none` = budget exhausted.
    * `whileMeasure μ test body s` — the loop as a TOTAL function by well-founded recursion on a measure
      `μ : σ → Nat × Nat` (lexicographic). An iteration that does not decrease `μ` ends the loop with the pseudo-exception
      `MeasureViolation`; whenever the result is anything else, it is the result of the python loop
      (`whileMeasure_runs`). -/

namespace Cellml.Tie.PGenB

variable {σ : Type}

/-- big-step semantics of `while test(s): s = body(s)` -/
inductive WhileRuns (test : σ → Bool) (body : σ → Except PyErr σ) : σ → Except PyErr σ → Prop
  | stop (s : σ) : test s = false → WhileRuns test body s (.ok s)
  | raise (s : σ) (e : PyErr) : test s = true → body s = .error e → WhileRuns test body s (.error e)
  | step (s s' : σ) (r : Except PyErr σ) : test s = true → body s = .ok s' → WhileRuns test body s' r →
      WhileRuns test body s r

theorem WhileRuns.det {test : σ → Bool} {body : σ → Except PyErr σ} {s : σ} {r r' : Except PyErr σ}
    (h : WhileRuns test body s r) (h' : WhileRuns test body s r') : r = r' := by
  induction h with
  | stop s ht => cases h' <;> simp_all
  | raise s e ht hb => cases h' <;> simp_all
  | step s s' r ht hb _ ih =>
    cases h' with
    | step _ s'' _ _ hb' hr' => rw [hb] at hb'; cases hb'; exact ih hr'
    | _ => simp_all

/-- the loop with a step budget (`none`: the budget ran out before the loop ended) -/
def whileFuel (test : σ → Bool) (body : σ → Except PyErr σ) : Nat → σ → Option (Except PyErr σ)
  | 0, _ => none
  | n + 1, s =>
      if test s then
        match body s with
        | .error e => some (.error e)
        | .ok s' => whileFuel test body n s'
      else some (.ok s)

/-- a result within the budget is the result of the python loop -/
theorem whileFuel_runs {test : σ → Bool} {body : σ → Except PyErr σ} :
    ∀ (n : Nat) (s : σ) (r : Except PyErr σ), whileFuel test body n s = some r → WhileRuns test body s r := by
  intro n
  induction n with
  | zero => intro s r h; cases h
  | succ n ih =>
    intro s r h
    unfold whileFuel at h
    split at h
    · rename_i ht
      split at h
      · rename_i e hb; cases h; exact .raise s e ht hb
      · rename_i s' hb; exact .step s s' r ht hb (ih s' r h)
    · rename_i ht; cases h; exact .stop s (by simpa using ht)

/-- the order the measure decreases in -/
abbrev lexLt (a b : Nat × Nat) : Prop := Prod.Lex (· < ·) (· < ·) a b

instance (a b : Nat × Nat) : Decidable (lexLt a b) := by
  unfold lexLt
  exact decidable_of_iff (a.1 < b.1 ∨ (a.1 = b.1 ∧ a.2 < b.2)) (by
    obtain ⟨a1, a2⟩ := a
    obtain ⟨b1, b2⟩ := b
    constructor
    · rintro (h | ⟨h1, h2⟩)
      · exact Prod.Lex.left _ _ h
      · simp only at h1; subst h1; exact Prod.Lex.right _ h2
    · intro h
      cases h with
      | left _ _ h => exact Or.inl h
      | right _ h => exact Or.inr ⟨rfl, h⟩)

/-- the loop as a total function: well-founded recursion on the measure `μ` -/
def whileMeasure (μ : σ → Nat × Nat) (test : σ → Bool) (body : σ → Except PyErr σ) (s : σ) : Except PyErr σ :=
  if test s then
    match body s with
    | .error e => .error e
    | .ok s' => if lexLt (μ s') (μ s) then whileMeasure μ test body s' else .error ⟨"MeasureViolation"⟩
  else .ok s
termination_by μ s
decreasing_by assumption

theorem whileMeasure_stop (μ : σ → Nat × Nat) (test : σ → Bool) (body : σ → Except PyErr σ) (s : σ)
    (ht : test s = false) : whileMeasure μ test body s = .ok s := by
  rw [whileMeasure]; simp [ht]

theorem whileMeasure_raise (μ : σ → Nat × Nat) (test : σ → Bool) (body : σ → Except PyErr σ) (s : σ) (e : PyErr)
    (ht : test s = true) (hb : body s = .error e) : whileMeasure μ test body s = .error e := by
  rw [whileMeasure]; simp [ht, hb]

theorem whileMeasure_step (μ : σ → Nat × Nat) (test : σ → Bool) (body : σ → Except PyErr σ) (s s' : σ)
    (ht : test s = true) (hb : body s = .ok s') (hlt : lexLt (μ s') (μ s)) :
    whileMeasure μ test body s = whileMeasure μ test body s' := by
  rw [whileMeasure]; simp [ht, hb, hlt]

theorem whileMeasure_violation (μ : σ → Nat × Nat) (test : σ → Bool) (body : σ → Except PyErr σ) (s s' : σ)
    (ht : test s = true) (hb : body s = .ok s') (hlt : ¬ lexLt (μ s') (μ s)) :
    whileMeasure μ test body s = .error ⟨"MeasureViolation"⟩ := by
  rw [whileMeasure]; simp [ht, hb, hlt]

/-- unless the measure guard fired, `whileMeasure` returns what the python loop returns -/
theorem whileMeasure_runs (μ : σ → Nat × Nat) (test : σ → Bool) (body : σ → Except PyErr σ) (s : σ)
    (h : whileMeasure μ test body s ≠ .error ⟨"MeasureViolation"⟩) :
    WhileRuns test body s (whileMeasure μ test body s) := by
  have wf : WellFounded (fun a b : σ => lexLt (μ a) (μ b)) :=
    InvImage.wf μ (Prod.lex Nat.lt_wfRel Nat.lt_wfRel).wf
  revert h
  refine wf.induction (C := fun s => whileMeasure μ test body s ≠ .error ⟨"MeasureViolation"⟩ →
    WhileRuns test body s (whileMeasure μ test body s)) s ?_
  intro s ih h
  by_cases ht : test s = true
  · cases hb : body s with
    | error e => rw [whileMeasure_raise μ test body s e ht hb]; exact .raise s e ht hb
    | ok s' =>
      by_cases hlt : lexLt (μ s') (μ s)
      · rw [whileMeasure_step μ test body s s' ht hb hlt] at h ⊢
        exact .step s s' _ ht hb (ih s' hlt h)
      · exact absurd (whileMeasure_violation μ test body s s' ht hb hlt) h
  · have ht' : test s = false := by simpa using ht
    rw [whileMeasure_stop μ test body s ht']
    exact .stop s ht'

end Cellml.Tie.PGenB
