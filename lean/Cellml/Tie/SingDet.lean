import Cellml.Generated.Code.SingDet
import Cellml.C12.Lemmas
import Mathlib.Tactic.SplitIfs
import Cellml.Tie.ExceptRun

/-! # Ties of the decision logic of `_is_negative_power`, `_solve_real` and the first half of `_get_singularity` (generated
    from the source, `Cellml/Generated/Code/SingDet.lean`) to the hand model `C12/Detect.lean`.

    Tied: the sign test of the exponent; the unwrapping of `Intersection(Reals, S)`; `check_U_match` (assertion on
    `P_wildcard`, `sp == SP or isclose(SP, sp)`); the loop over the candidate "tops" (`for fp1 in fraction_part_1`):
    the order `P·u`, then `P·V − P·SP`, then `exp(P·V − P·SP)`, `match[P] != 0`, the `break` — = `C12.onTop` under
    `List.any`. What the leaves are: `Tie/SingDetView.lean`. The rest of `_get_singularity` (the `fp2` loop, the recording, the two
    orientations) is tied in `Tie/SingDet3.lean`. -/

namespace Cellml.Tie.PSing2
open C12 Cellml.Gen

/-- a power with a negative exponent, on the trees of C12. (The generated `_get_singularity` of `Tie/SingDet3.lean` runs on
    classified factors and uses the second translation `isNegativePowerF`, tied there; nothing rests on this tree version.) -/
def isNegPow : Expr → Bool
  | .pow _ n => decide (n < 0)
  | _ => false

/-- **`_is_negative_power`, for an ARBITRARY `evalf` leaf** (it may return a number, raise `TypeError` — an exponent
    with free symbols — or raise anything else): not a `Pow`: `False` (and `evalf` is not run); a number: its sign;
    `TypeError`: swallowed, `False`; any other exception: passed on -/
theorem isNegativePower_spec (evalf : Expr → Except PyErr Rat) (e : Expr) :
    SingDet.isNegativePower evalf e =
      if isPowE e then
        (match evalf e with
         | .ok q => .ok (decide (q < 0))
         | .error err => if err.cls == "TypeError" then .ok false else .error err)
      else .ok false := by
  unfold SingDet.isNegativePower
  by_cases hp : isPowE e = true
  · cases hv : evalf e with
    | ok q =>
      simp [hp, except_run, tryCatch, tryCatchThe, MonadExceptOf.tryCatch,
        Except.tryCatch]
      rfl
    | error err =>
      by_cases hc : err.cls = "TypeError"
      · simp [hp, hc, except_run, tryCatch, tryCatchThe, MonadExceptOf.tryCatch,
          Except.tryCatch]
        rfl
      · simp [hp, hc, bind, Except.bind, pure, Except.pure, tryCatch, tryCatchThe, MonadExceptOf.tryCatch,
          Except.tryCatch]
        rfl
  · simp [hp, except_run, tryCatch, tryCatchThe, MonadExceptOf.tryCatch, Except.tryCatch]
    rfl

/-- on the C12 trees (integer exponents: `evalf` never raises) it is the model's test -/
theorem isNegativePower_tie (e : Expr) : SingDet.isNegativePower expEvalf e = .ok (isNegPow e) := by
  rw [isNegativePower_spec]
  cases e <;> simp [isPowE, expEvalf, isNegPow]

/-- what the model expects of `_solve_real`: `Intersection(Reals, S)` is unwrapped once, anything else is returned -/
def stripReals : SolveSet → SolveSet
  | .inter true s => s
  | r => r

theorem solveReal_tie (ss : Aff → SolveSet) (u : Aff) : SingDet.solveReal ss u = .ok (stripReals (ss u)) := by
  unfold SingDet.solveReal stripReals
  cases h : ss u with
  | plain pts => simp [pure, Except.pure, SolveSet.isInter, SolveSet.arg0IsReals]
  | inter b s =>
    cases b <;> simp [pure, Except.pure, SolveSet.isInter, SolveSet.arg0IsReals, SolveSet.arg1]

/-- `solveset` on the affine fragment: `k·V + c = 0` has the one real solution `−c/k` -/
def solveAff (u : Aff) : SolveSet := .plain [-u.2 / u.1]

/-- the three calls of `_get_singularity` (`u`, `u − U_offset`, `u + U_offset`; on `(k, c)` the offset goes to `c`)
    give the model's `spOf`, `vminOf`, `vmaxOf`: the window `C12.window k c δ` -/
theorem solveReal_window (k c δ : Rat) :
    SingDet.solveReal solveAff (k, c) = .ok (.plain [spOf k c]) ∧
    SingDet.solveReal solveAff (k, c - δ) = .ok (.plain [vminOf k c δ]) ∧
    SingDet.solveReal solveAff (k, c + δ) = .ok (.plain [vmaxOf k c δ]) := by
  have h2 : -(c - δ) = δ - c := by ring
  have h3 : -(c + δ) = -δ - c := by ring
  refine ⟨?_, ?_, ?_⟩ <;> simp only [solveReal_tie, solveAff, stripReals, spOf, vminOf, vmaxOf, h2, h3]

/-- **`check_U_match` for an ARBITRARY `isclose` leaf**: no match: `False`; a match with `P = 0`: the assertion
    fails; otherwise `sp == SP or isclose(SP, sp)` (the singular points of the fragment are numbers) -/
theorem checkUMatch_spec (close : Rat → Rat → Bool) (m : Option Bind) (sp : Rat) :
    SingDet.checkUMatch close m sp =
      match m with
      | none => .ok false
      | some b => if b.P = 0 then .error ⟨"AssertionError"⟩ else .ok (sp == b.SP || close b.SP sp) := by
  cases m with
  | none => simp [SingDet.checkUMatch, pure, Except.pure]
  | some b =>
    by_cases hP : b.P = 0
    · simp [SingDet.checkUMatch, bind, Except.bind, getP, hP, throw, throwThe,
        MonadExceptOf.throw]
    · simp [SingDet.checkUMatch, pure, Except.pure, getP, getSP, hP, isNumber]

theorem checkUMatch_none (sp : Rat) : SingDet.checkUMatch isClose none sp = .ok false := by
  rw [checkUMatch_spec]

/-- in the exact model (`isclose` = equality): accepted exactly when the matched offset IS the singular point -/
theorem checkUMatch_some (b : Bind) (sp : Rat) (hP : b.P ≠ 0) :
    SingDet.checkUMatch isClose (some b) sp = .ok (sp == b.SP) := by
  rw [checkUMatch_spec]
  by_cases h : sp = b.SP
  · simp [hP, isClose, h]
  · have h' : b.SP ≠ sp := fun e => h e.symm
    simp [hP, isClose, h, h']

/-- a match with `P = 0` trips the assertion -/
theorem checkUMatch_zero (b : Bind) (sp : Rat) (hP : b.P = 0) :
    SingDet.checkUMatch isClose (some b) sp = .error ⟨"AssertionError"⟩ := by
  rw [checkUMatch_spec]; simp [hP]

/-- what the classification guarantees of a factor (`classifyBase`: a zero slope is a constant; `normalise` drops
    `exp(0·V)`): needed, because python asserts `P_wildcard != 0` and the model's `onTop` divides by the slope -/
def wfFac (f : Fac) : Prop :=
  match f.1 with
  | .aff k _ => k ≠ 0
  | .ex k => k ≠ 0
  | _ => True

/-- a python `for` whose body ends in `if found: break`, with the flag as the only state -/
theorem forIn_any {α : Type} (l : List α) (g : α → Bool) (body : α → Bool → Except PyErr (ForInStep Bool))
    (hb : ∀ a ∈ l, ∀ r, body a r = .ok (if g a then .done true else .yield false)) (init : Bool) :
    forIn l init body = .ok (if l.isEmpty then init else l.any g) := by
  induction l generalizing init with
  | nil => rfl
  | cons a as ih =>
    rw [List.forIn_cons, hb a List.mem_cons_self]
    by_cases h : g a = true
    · simp [h, except_run]
    · simp only [h, Bool.false_eq_true, if_false, bind, Except.bind]
      rw [ih (fun a' ha' => hb a' (List.mem_cons_of_mem _ ha'))]
      cases as <;> simp [h]

theorem onTopLoop_tie (part1 : List Fac) (u : Aff) (found0 : Bool) (hu : u.1 ≠ 0) (hw : ∀ f ∈ part1, wfFac f) :
    SingDet.onTopLoop part1 u (-u.2 / u.1) found0
      = .ok (if part1.isEmpty then found0 else part1.any (onTop (-u.2 / u.1))) := by
  unfold SingDet.onTopLoop
  simp only [except_run, Py.truthy_bool]
  rw [forIn_any part1 (onTop (-u.2 / u.1))]
  intro f hf r
  have hwf := hw f hf
  obtain ⟨b, n⟩ := f
  unfold onTop
  by_cases hn : n = 1
  · subst hn
    cases b with
    | aff k' c' =>
      have hk' : k' ≠ 0 := hwf
      simp only [matchMulU, matchLin, matchExpLin, beq_self_eq_true, if_true, checkUMatch_none]
      rw [checkUMatch_some _ _ hk']
      by_cases hprop : k' * u.2 = c' * u.1
      · have hsp : -u.2 / u.1 = -c' / k' := by field_simp; linarith
        simp [hprop, hasP, getP, hk', hu, hsp]
      · simp [hprop]
        -- `P·u` did not match; `P·V − P·SP` decides with `sp == -c'/k'`, the test of `onTop` with the sides exchanged
        split_ifs <;> simp_all
    | ex k' =>
      have hk' : k' ≠ 0 := hwf
      simp only [matchMulU, matchLin, matchExpLin, beq_self_eq_true, if_true, checkUMatch_none]
      rw [checkUMatch_some _ _ hk']
      simp
      split_ifs <;> simp_all
    | _ => simp [matchMulU, matchLin, matchExpLin, checkUMatch_none]
  · simp [matchMulU, matchLin, matchExpLin, checkUMatch_none, hn]

/-- the test of `C12.pass` (`part1.any (onTop w.sp)` for the window `w` of a part `±(exp(k·V + c) − 1)` of the other
    side) IS the generated loop over `fraction_part_1` (never empty in python: the whole product is appended), run
    with `u = k·V + c` and the singular point of that window -/
theorem pass_test_tie (part1 : List Fac) (k c δ : Rat) (found0 : Bool) (hk : k ≠ 0) (hne : part1 ≠ [])
    (hw : ∀ f ∈ part1, wfFac f) :
    SingDet.onTopLoop part1 (k, c) (window k c δ).sp found0 = .ok (part1.any (onTop (window k c δ).sp)) := by
  have h := onTopLoop_tie part1 (k, c) found0 hk hw
  have he : part1.isEmpty = false := by cases part1 <;> simp_all
  simp only [he, Bool.false_eq_true, if_false] at h
  exact h

end Cellml.Tie.PSing2
