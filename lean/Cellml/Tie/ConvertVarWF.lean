import Cellml.Tie.ConvertVarDriver
import Cellml.C06.CaseInput

/-! # Tie on well-formed models: `convert_variable` (generated from model.py) RETURNS the hand model's result

    From a well-formed model (`WF`) the hand model's flag `raised` stays down (`convertVariable_wf`); with
    `convertVariable_tie` the python code then raises nothing and returns exactly the state and the variable the
    theorems of `Props/C06.lean` speak about. -/

namespace Cellml.Tie.CV
open Model.CV Cellml.Gen

theorem convertVariable_tie_wf (view : CVView) (s : CState) (v : Nat) (u : U) (dir : Dir) (move : Bool) (cf : Rat)
    (h : WF s) (hv : v < s.vars.length) (hcf : view.getConversionFactor (unitOfV s v) u = .ok cf) :
    ConvertVar.convertVariable view s v u dir move =
      .ok ((convertVariable s v u cf dir move).1, (convertVariable s v u cf dir move).2.1) :=
  (convertVariable_tie_inv0 view s v u dir move cf h.inv hv hcf).ok_of_flag_down
    (convertVariable_wf h v hv u cf dir move).inv.notRaised

end Cellml.Tie.CV
