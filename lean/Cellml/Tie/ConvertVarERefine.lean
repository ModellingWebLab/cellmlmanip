import Cellml.Tie.ConvertVarE

/-! # The stopping model `Model.CVE` (class and state at the first raise) REFINES the flag model `Model.CV`

    `RefG D f0 rd g m`: the stopping model's outcome `g` against the flag model's result `m` (flag read by `rd`), from an
    entry state whose flag is `f0`:
    * `g` returns `r`  ⇒  `r = m` (the same state and value) and the flag model's flag is still `f0` — NO hypothesis on the
      entry flag is needed: the flag model's calls never READ the flag;
    * `g` raises `e`   ⇒  the flag model's flag is up — or `e` is the `IndexError` of `args[k]` on a plain-variable
      left-hand side filed among the ODEs, which the flag model does not have (it skips such an entry); `D` = "the entry
      state files only derivatives among the ODEs" excludes it.
    So everything `Props/C06.lean` / `C06/*.lean` prove about `Model.CV.convertVariable` holds for what the stopping model
    returns, and "flag up" has a class and a state. -/

namespace Cellml.Tie.CVE
open Model Model.CV Cellml.Tie.CV
open Model.CVE (Raised)

def RefG {β : Type} (D : Prop) (f0 : Bool) (rd : β → Bool) (g : Except Raised β) (m : β) : Prop :=
  match g with
  | .ok r => r = m ∧ rd m = f0
  | .error e => rd m = true ∨ (e.cls = "IndexError" ∧ ¬ D)

/-- a function that answers a value (and has changed the model) -/
abbrev Ref {α : Type} (D : Prop) (f0 : Bool) (g : Except Raised (CState × α)) (m : CState × α) : Prop :=
  RefG D f0 (fun r => r.1.raised) g m
/-- a function that answers nothing -/
abbrev RefS (D : Prop) (f0 : Bool) (g : Except Raised CState) (m : CState) : Prop := RefG D f0 (fun r => r.raised) g m

theorem RefG.bind {β γ : Type} {D : Prop} {f0 : Bool} {rb : β → Bool} {rc : γ → Bool} {g : Except Raised β} {m' : β}
    {k : β → Except Raised γ} {M : γ} (hg : RefG D f0 rb g m') (hr : rb m' = true → rc M = true)
    (hk : rb m' = f0 → RefG D f0 rc (k m') M) : RefG D f0 rc (g >>= k) M := by
  cases g with
  | error e =>
    rcases hg with h | h
    · exact Or.inl (hr h)
    · exact Or.inr h
  | ok r =>
    obtain ⟨rfl, h⟩ := hg
    exact hk h

theorem RefG.pure {β : Type} {D : Prop} {f0 : Bool} {rb : β → Bool} (m : β) (h : rb m = f0) :
    RefG D f0 rb (pure m : Except Raised β) m := ⟨rfl, h⟩

theorem RefG.ok_of_flag_down {β : Type} {D : Prop} {f0 : Bool} {rd : β → Bool} {g : Except Raised β} {m : β}
    (h : RefG D f0 rd g m) (hD : D) (hm : rd m = false) : g = .ok m := by
  cases g with
  | ok r => rw [h.1]
  | error e =>
    rcases h with h | ⟨_, h⟩
    · rw [h] at hm; cases hm
    · exact absurd hD h

theorem ref_addVariable (D : Prop) (s : CState) (n : String) (u : U) (i : Option Rat) (f0 : Bool) (hf : s.raised = f0) :
    Ref D f0 (Model.CVE.addVariable s n u i) (CV.addVariable s n u i) := by
  unfold Model.CVE.addVariable CV.addVariable
  by_cases h : n ∈ CV.names s <;> simp [RefG, h, hf]

theorem ref_transferCmeta (D : Prop) (s : CState) (a b : Nat) (f0 : Bool) (hf : s.raised = f0) :
    RefS D f0 (Model.CVE.transferCmeta s a b) (CV.transferCmeta s a b) := by
  unfold Model.CVE.transferCmeta CV.transferCmeta
  cases ha : cmetaOfV s a with
  | none => simp [RefG]
  | some c =>
    cases hb : cmetaOfV s b with
    | some d => simp [RefG]
    | none => simp [RefG, hf]

theorem ref_addEq (D : Prop) (s : CState) (e : CEqn) (c : Bool) (f0 : Bool) (hf : s.raised = f0) :
    RefS D f0 (Model.CVE.addEq s e c) (CV.addEq s e c) := by
  unfold Model.CVE.addEq CV.addEq
  obtain ⟨lhs, rhs⟩ := e
  cases lhs with
  | var v =>
    by_cases h : (c && CV.isDefined s v) = true <;> simp [RefG, Model.CVE.lhsVar, h, hf]
  | deriv x t =>
    by_cases h : (c && CV.isDefined s x) = true <;> simp [RefG, Model.CVE.lhsVar, h, hf]

theorem ref_removeEq (D : Prop) (s : CState) (e : CEqn) (f0 : Bool) (hf : s.raised = f0) :
    RefS D f0 (Model.CVE.removeEq s e) (CV.removeEq s e) := by
  unfold Model.CVE.removeEq CV.removeEq Model.CVE.filed
  obtain ⟨lhs, rhs⟩ := e
  by_cases hm : (⟨lhs, rhs⟩ : CEqn) ∈ s.equations
  · cases lhs with
    | var v => by_cases h : hasKey v s.varDef = true <;> simp [RefG, hm, h, hf]
    | deriv x t => by_cases h : hasKey x s.odeDef = true <;> simp [RefG, hm, h, hf]
  · simp [RefG, hm]

theorem ref_removeOdeAssign (D : Prop) (s : CState) (ode : CEqn) (x : Nat) (f0 : Bool) (hf : s.raised = f0) :
    Ref D f0 (Model.CVE.removeOdeAssign s ode x) (CV.removeOdeAssign s ode x) := by
  unfold Model.CVE.removeOdeAssign CV.removeOdeAssign
  refine RefG.bind (ref_addVariable D _ _ _ _ f0 hf) (fun h => addEq_sticky _ _ _ (removeEq_sticky _ _ h)) fun h1 => ?_
  refine RefG.bind (ref_removeEq D _ _ f0 h1) (fun h => addEq_sticky _ _ _ h) fun h2 => ?_
  refine RefG.bind (ref_addEq D _ _ _ f0 h2) (fun h => h) fun h3 => ?_
  exact ⟨rfl, h3⟩

/-- `hl`: where only derivatives are filed among the ODEs (`D`), `original_ode` has a derivative on the left -/
theorem ref_convertFreeDeriv (D : Prop) (s : CState) (ode : CEqn) (nt : Nat) (cfq : X) (f0 : Bool) (hf : s.raised = f0)
    (hl : D → ∃ x t, ode.lhs = .deriv x t) :
    Ref D f0 (Model.CVE.convertFreeDeriv s ode nt cfq) (CV.convertFreeDeriv s ode nt cfq) := by
  unfold Model.CVE.convertFreeDeriv CV.convertFreeDeriv
  cases h : ode.lhs with
  | var w =>
    show _ ∨ _
    refine Or.inr ⟨rfl, fun hD => ?_⟩
    obtain ⟨x, t, hxt⟩ := hl hD
    rw [h] at hxt; cases hxt
  | deriv x t =>
    refine RefG.bind (ref_removeOdeAssign D _ _ _ f0 hf) (fun h => addEq_sticky _ _ _ h) fun h1 => ?_
    refine RefG.bind (ref_addEq D _ _ _ f0 h1) (fun h => h) fun h2 => ?_
    exact ⟨rfl, h2⟩

theorem ref_convertStateDeriv (D : Prop) (s : CState) (v nv : Nat) (cfq : X) (f0 : Bool) (hf : s.raised = f0)
    (hd : D → ∀ e, s.odeDef.lookup v = some e → ∃ x t, e.lhs = .deriv x t) :
    Ref D f0 (Model.CVE.convertStateDeriv s v nv cfq) (CV.convertStateDeriv s v nv cfq) := by
  unfold Model.CVE.convertStateDeriv CV.convertStateDeriv
  cases ho : s.odeDef.lookup v with
  | none => exact Or.inl rfl
  | some ode =>
    dsimp only
    cases h : ode.lhs with
    | var w =>
      show _ ∨ _
      refine Or.inr ⟨rfl, fun hD => ?_⟩
      obtain ⟨x, t, hxt⟩ := hd hD ode ho
      rw [h] at hxt; cases hxt
    | deriv x t =>
      refine RefG.bind (ref_removeOdeAssign D _ _ _ f0 hf) (fun h => addEq_sticky _ _ _ h) fun h1 => ?_
      refine RefG.bind (ref_addEq D _ _ _ f0 h1) (fun h => h) fun h2 => ?_
      exact ⟨rfl, h2⟩

theorem refG_foldlM {σ α : Type} (D : Prop) (f0 : Bool) (rd : σ → Bool) (step : σ → α → σ)
    (stepE : σ → α → Except Raised σ) (hst : ∀ s a, rd s = true → rd (step s a) = true) :
    ∀ (l : List α) (s : σ), (∀ a ∈ l, ∀ s, rd s = f0 → RefG D f0 rd (stepE s a) (step s a)) →
      rd s = f0 → RefG D f0 rd (l.foldlM stepE s) (l.foldl step s)
  | [], s, _, h => ⟨rfl, h⟩
  | a :: l, s, hbody, h => by
    rw [List.foldlM_cons, List.foldl_cons]
    refine RefG.bind (hbody a (List.mem_cons_self ..) s h) (fun h' => foldl_sticky rd step hst l _ h') fun h' => ?_
    exact refG_foldlM D f0 rd step stepE hst l _ (fun a ha => hbody a (List.mem_cons_of_mem _ ha)) h'

theorem ref_replaceRefs (D : Prop) (s : CState) (rep : Rep) (f0 : Bool) (hf : s.raised = f0) :
    RefS D f0 (Model.CVE.replaceRefs s rep) (CV.replaceRefs s rep) := by
  unfold Model.CVE.replaceRefs CV.replaceRefs
  refine refG_foldlM D f0 (fun s : CState => s.raised) _ _ (fun s e h => ?_) _ _ (fun e _ st hst => ?_) hf
  · show (if _ then _ else _ : CState).raised = true
    split
    · exact addEq_sticky _ _ _ (removeEq_sticky _ _ h)
    · exact h
  · unfold Model.CVE.replaceStep
    by_cases hm : mentions rep e = true
    · simp only [hm, if_true]
      refine RefG.bind (ref_removeEq D _ _ f0 hst) (fun h => addEq_sticky _ _ _ h) fun h1 => ?_
      exact ref_addEq D _ _ _ f0 h1
    · simp only [hm]
      exact ⟨rfl, hst⟩

theorem ref_instInput (D : Prop) (s2 : CState) (v nv : Nat) (cfq : X) (f0 : Bool) (hf : s2.raised = f0) :
    RefS D f0 (Model.CVE.instInput s2 v nv cfq) (CV.instInput s2 v nv cfq) := by
  unfold Model.CVE.instInput CV.instInput
  cases ho : s2.varDef.lookup v with
  | none =>
    simp only [pure_bind]
    exact ref_addEq D _ _ _ f0 hf
  | some oe =>
    refine RefG.bind (ref_removeEq D _ _ f0 hf) (fun h => addEq_sticky _ _ _ (addEq_sticky _ _ _ h)) fun h1 => ?_
    refine RefG.bind (ref_addEq D _ _ _ f0 h1) (fun h => addEq_sticky _ _ _ h) fun h2 => ?_
    exact ref_addEq D _ _ _ f0 h2

theorem ite_bind_eq {ε β γ : Type} (c : Prop) [Decidable c] (x y : Except ε β) (k : β → Except ε γ) :
    (if c then x >>= k else y >>= k) = (if c then x else y) >>= k := by split <;> rfl

theorem ref_convertInstance (D : Prop) (s : CState) (v : Nat) (cf : Rat) (u : U) (dir : Dir) (move : Bool) (f0 : Bool)
    (hf : s.raised = f0) :
    Ref D f0 (Model.CVE.convertInstance s v cf u dir move) (CV.convertInstance s v cf u dir move) := by
  unfold Model.CVE.convertInstance
  refine RefG.bind (ref_addVariable D _ _ _ _ f0 hf) kept_raised.convertInstance_of_added fun h1 => ?_
  unfold CV.convertInstance
  generalize CV.addVariable s (freshName s (nameOfV s v ++ "_converted")) u (newInit s v cf dir) = p at h1 ⊢
  obtain ⟨s1, nv⟩ := p
  dsimp only at h1 ⊢
  rw [ite_bind_eq]
  refine RefG.bind (rb := fun r : CState => r.raised)
    (m' := if ((cmetaOfV s1 v).isSome && move) = true then CV.transferCmeta s1 v nv else s1) ?_ (fun h => ?_)
    fun h2 => ?_
  · split
    · exact ref_transferCmeta D _ _ _ f0 h1
    · exact ⟨rfl, h1⟩
  · cases dir with
    | input => exact instInput_sticky _ _ _ _ h
    | output => exact instOutput_sticky _ _ _ _ h
  · cases dir with
    | input =>
      refine RefG.bind (ref_instInput D _ _ _ _ f0 h2) (fun h => h) fun h3 => ?_
      exact ⟨rfl, h3⟩
    | output =>
      refine RefG.bind (ref_addEq D _ _ _ f0 h2) (fun h => h) fun h3 => ?_
      exact ⟨rfl, h3⟩

theorem sortedItems_eq_sortedOdes (s : CState) (hk : KeysNodup s) : Model.CVE.sortedItems s = sortedOdes s := by
  rw [sortedOdes_eq s hk, pySorted_eq_foldr]
  rfl

theorem mem_sortedItems (s : CState) (ode : CEqn) (h : ode ∈ Model.CVE.sortedItems s) : ∃ p ∈ s.odeDef, p.2 = ode := by
  unfold Model.CVE.sortedItems at h
  rw [← pySorted_eq_foldr s] at h
  obtain ⟨p, hp, rfl⟩ := List.mem_map.mp h
  exact ⟨p, mem_pySorted _ _ _ hp, rfl⟩

theorem ref_freeStep (D : Prop) (v nv : Nat) (cfq : X) (acc : CState × Rep) (ode : CEqn) (f0 : Bool)
    (hf : acc.1.raised = f0) (hl : D → ∃ x t, ode.lhs = .deriv x t) :
    RefG D f0 (fun r : CState × Rep => r.1.raised) (Model.CVE.freeStep v nv cfq acc ode) (CV.freeStep v nv cfq acc ode) := by
  unfold Model.CVE.freeStep CV.freeStep
  cases h : ode.lhs with
  | var w =>
    show _ ∨ _
    refine Or.inr ⟨rfl, fun hD => ?_⟩
    obtain ⟨x, t, hxt⟩ := hl hD
    rw [h] at hxt; cases hxt
  | deriv x t =>
    dsimp only
    by_cases htv : t = v
    · simp only [htv, if_true]
      refine RefG.bind (ref_convertFreeDeriv D _ _ _ _ f0 hf (fun hD => ⟨x, t, h⟩)) (fun h => h) fun h1 => ?_
      exact ⟨rfl, h1⟩
    · simp only [htv, if_false]
      exact Or.inl rfl

/-- **refinement of the driver.** From ANY entry flag: when the stopping model returns, the flag model computes exactly
    that state and variable and leaves the flag as it was; when the stopping model raises, the flag model's flag is up
    (or, outside `DerivOdes s`, the exception is the `IndexError` the flag model does not have). -/
theorem ref_convertVariable (s : CState) (v : Nat) (u : U) (cf : Rat) (dir : Dir) (move : Bool)
    (hv : v < s.vars.length) (hk : KeysNodup s) :
    Ref (DerivOdes s) s.raised (Model.CVE.convertVariable s v u (.ok cf) dir move)
      ((CV.convertVariable s v u cf dir move).1, (CV.convertVariable s v u cf dir move).2.1) := by
  have hin := nameOfV_mem s v hv
  unfold Model.CVE.convertVariable CV.convertVariable
  simp only [hin, if_true]
  by_cases h1 : cf = 1
  · simp only [h1, if_true]
    exact ⟨rfl, rfl⟩
  · simp only [h1, if_false]
    cases dir with
    | output =>
      refine RefG.bind (ref_convertInstance _ s v cf u .output move _ rfl) (fun h => h) fun hci => ?_
      exact ⟨rfl, hci⟩
    | input =>
      have hDci : DerivOdes s → DerivOdes (CV.convertInstance s v cf u .input move).1 :=
        fun hd => hd.convertInstance v cf u .input move
      have hKci := hk.convertInstance v cf u .input move
      refine RefG.bind (ref_convertInstance _ s v cf u .input move _ rfl)
        (fun h => replacePhase_sticky _ (freePhase_sticky _ _ _ _ _ (kept_raised.statePhase h _ _ _ _))) fun hci => ?_
      -- from here on the result of `_convert_variable_instance` is just a state and a variable
      generalize CV.convertInstance s v cf u .input move = ci at hDci hKci hci ⊢
      generalize X.lit cf (u.div (unitOfV s v)) = cfq
      have hDa : DerivOdes s → DerivOdes (statePhase (hasKey v s.odeDef) ci.1 v ci.2 cfq).1 :=
        fun hd => kept_derivOdes.statePhase (hDci hd) _ _ _ _
      have hKa : KeysNodup (statePhase (hasKey v s.odeDef) ci.1 v ci.2 cfq).1 :=
        kept_keysNodup.statePhase hKci _ _ _ _
      dsimp only
      simp only [ite_bind_eq]
      refine RefG.bind (rb := fun r : CState × Rep => r.1.raised) (m' := statePhase (hasKey v s.odeDef) ci.1 v ci.2 cfq) ?_
        (fun h => replacePhase_sticky _ (freePhase_sticky _ _ _ _ _ h)) fun ha => ?_
      · unfold statePhase; split
        · exact ref_convertStateDeriv _ _ _ _ _ _ hci (fun hd e he => hDci hd _ (List.mem_of_lookup _ _ _ he))
        · exact ⟨rfl, hci⟩
      · generalize statePhase (hasKey v s.odeDef) ci.1 v ci.2 cfq = a at hDa hKa ha ⊢
        refine RefG.bind (rb := fun r : CState × Rep => r.1.raised) (m' := freePhase (getFree s == some v) a v ci.2 cfq) ?_
          (fun h => replacePhase_sticky _ h) fun hb => ?_
        · unfold freePhase; split
          · rw [sortedItems_eq_sortedOdes _ hKa]
            refine refG_foldlM _ _ (fun r : CState × Rep => r.1.raised) _ _
              (fun a e ha => freeStep_sticky v _ _ a e ha) _ _ (fun ode hode acc hacc => ?_) ha
            refine ref_freeStep _ _ _ _ _ _ _ hacc (fun hd => ?_)
            rw [← sortedItems_eq_sortedOdes _ hKa] at hode
            obtain ⟨p, hp, rfl⟩ := mem_sortedItems _ _ hode
            exact hDa hd p hp
          · exact ⟨rfl, ha⟩
        · generalize freePhase (getFree s == some v) a v ci.2 cfq = b at hb ⊢
          refine RefG.bind (rb := fun r : CState => r.raised) (m' := replacePhase b) ?_ (fun h => h) fun hc => ⟨rfl, hc⟩
          unfold replacePhase; split
          · exact ⟨rfl, hb⟩
          · exact ref_replaceRefs _ _ _ _ hb

end Cellml.Tie.CVE
