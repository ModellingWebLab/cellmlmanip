import Cellml.Tie.Units
import Cellml.Tie.ConvertVarSym

/-! # GenB: the generated `Model.convert_variable` over the GENERATED `get_conversion_factor`

    `Tie/ConvertVarSym.lean` runs the generated `convert_variable` on a view (`symView`) whose leaf
    `self.units.get_conversion_factor(…)` is bound to the hand model `Units.conversionFactorR`. `symViewGen` binds it to
    the generated `UnitStore.get_conversion_factor` instead; `symViewGen_eq` shows the two views are the same
    (`getConversionFactor_tie`, and: a unit error of the conversion is never `UErr.other`, the one constructor on which
    the two class-name tables `uErrClass` / `CVSym.uerrClass` differ). -/


namespace Cellml.Tie.PGenB
open Units PMap Cellml.Gen Cellml.Tie.PUnits Cellml.Tie.CVSym

/-- the classes pint raises in a conversion -/
def PintConvErr (e : UErr) : Prop := e = .undefinedUnit ∨ e = .dimensionality

theorem factor_err {reg : Registry} {a b : Container} {e : UErr} (h : factor reg a b = .error e) : PintConvErr e :=
  (Units.factor_error_iff.mp h).elim (fun h => .inl h.2) (fun h => .inr h.2.2.2)

theorem convertWithRules_err {reg : Registry} {rules : List Rule} {a b : Container} {e : UErr}
    (h : convertWithRules reg rules a b = .error e) : PintConvErr e := by
  rw [Units.convertWithRules_eq] at h
  cases hf : factor reg (add a (pathUnit (pathRules rules (dimsOf reg a) (dimsOf reg b)))) b with
  | error e' => rw [hf] at h; cases h; exact factor_err hf
  | ok f => rw [hf] at h; cases h

theorem conversionFactorR_err {reg : Registry} {rules : List Rule} {a b : Container} {e : UErr}
    (h : conversionFactorR reg rules a b = .error e) : PintConvErr e := by
  unfold conversionFactorR at h
  rw [convertQ_eq] at h
  cases hc : convertWithRules reg rules a b with
  | error e' => rw [hc] at h; cases h; exact convertWithRules_err hc
  | ok p => rw [hc] at h; cases h

theorem uerrClass_eq {e : UErr} (h : PintConvErr e) : uerrClass e = uErrClass e := by
  rcases h with rfl | rfl <;> rfl

/-- the view of `convert_variable` whose `self.units.get_conversion_factor(original.units, units)` is the GENERATED
    `UnitStore.get_conversion_factor` on the object of the model's unit store -/
def symViewGen (st : Store) (reg : Registry) (rules : List Rule) (a b : Container) (kind : VarKind) (hasInit : Bool)
    (nOdes : Nat) (cmeta : Option Unit) : SymView :=
  { getCf := (Gen.Units.getConversionFactor (storeObj st reg rules) ⟨a⟩ ⟨b⟩).map CFObj.toModel,
    kind := kind, hasInit := hasInit, nOdes := nOdes, cmeta := cmeta }

theorem symViewGen_eq (st : Store) (reg : Registry) (rules : List Rule) (a b : Container) (kind : VarKind)
    (hasInit : Bool) (nOdes : Nat) (cmeta : Option Unit) :
    symViewGen st reg rules a b kind hasInit nOdes cmeta = symView reg rules a b kind hasInit nOdes cmeta := by
  unfold symViewGen symView
  rw [getConversionFactor_tie]
  cases h : conversionFactorR reg rules a b with
  | ok o => rfl
  | error e => simp only [errClass, uerrClass_eq (conversionFactorR_err h)]

/-- the generated `convert_variable` (with its four generated helpers) over the generated `get_conversion_factor`
    produces the outcome of the hand model of C19 -/
theorem genConvertVariable_eq (st : Store) (reg : Registry) (rules : List Rule) (a b : Container) (dir : Dir)
    (kind : VarKind) (hasInit : Bool) (nOdes : Nat) (cmeta : Option Unit) (move : Bool) :
    ConvertVarSym.convertVariable (symViewGen st reg rules a b kind hasInit nOdes cmeta) {} .orig dir move =
      enc (Units.convertVariable reg rules a b dir kind hasInit nOdes) := by
  rw [symViewGen_eq, convertVariable_sym_tie]

theorem genCf_ok_iff (st : Store) (reg : Registry) (rules : List Rule) (a b : Container) (r : CFObj) :
    Gen.Units.getConversionFactor (storeObj st reg rules) ⟨a⟩ ⟨b⟩ = .ok r ↔
      conversionFactorR reg rules a b = .ok r.toModel := by
  rw [getConversionFactor_eq]
  unfold conversionFactorR
  cases convertQ reg rules a b with
  | error e => simp
  | ok p =>
    obtain ⟨f, y⟩ := p
    by_cases h : f = [] ∧ y = [] <;> rcases r with _ | ⟨f', y'⟩ <;> simp [h, CFObj.toModel]

/-- the generated `get_conversion_factor` returns the int `1` exactly when the model's factor is `none` -/
theorem genCf_one_iff (st : Store) (reg : Registry) (rules : List Rule) (a b : Container) :
    Gen.Units.getConversionFactor (storeObj st reg rules) ⟨a⟩ ⟨b⟩ = .ok 1 ↔
      conversionFactorR reg rules a b = .ok none :=
  genCf_ok_iff st reg rules a b 1

/-- … and a magnitude `(f, y)` exactly when the model's factor is `some (f, y)` -/
theorem genCf_mag_iff (st : Store) (reg : Registry) (rules : List Rule) (a b : Container) (f : Scale) (y : Syms) :
    Gen.Units.getConversionFactor (storeObj st reg rules) ⟨a⟩ ⟨b⟩ = .ok (CFObj.mag ⟨f, y⟩) ↔
      conversionFactorR reg rules a b = .ok (some (f, y)) :=
  genCf_ok_iff st reg rules a b (.mag ⟨f, y⟩)

end Cellml.Tie.PGenB
