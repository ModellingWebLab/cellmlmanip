import Cellml.Tie.Prelude
import Cellml.Units.Worklist

/-! # What the translated functions `Parser._make_pint_unit_definition` and `Parser._add_units` see

    The pattern tables of harness/code_specs/unitdefs.py bind every python leaf of the two functions (dict access on the
    attribute dicts of `<unit>` elements, the `%`-formats that build the pint expression, the table `UNIT_PREFIXES`,
    `float`, the etree queries, the `UnitStore` methods, the deque operations) to one
    of the definitions below. Core Lean only. -/

namespace Cellml.Tie.PUnitDefs
open Units

/-! ## the attribute dict of a `<unit>` element (`etree._Attrib`) -/

/-- `d[k]` for the five attributes of the schema; python raises `KeyError` for an absent key, the stand-in returns
    `""` (total). `units` is a required attribute: the model's `UnitElem` always has it. -/
def _root_.Units.UnitElem.get! (e : UnitElem) (k : String) : String :=
  if k = "units" then e.units
  else if k = "prefix" then e.pfx.getD ""
  else if k = "exponent" then e.exponent.getD ""
  else if k = "multiplier" then e.multiplier.getD ""
  else if k = "offset" then e.offset.getD ""
  else ""

/-- `k in d` -/
def _root_.Units.UnitElem.has (e : UnitElem) (k : String) : Bool :=
  if k = "units" then true
  else if k = "prefix" then e.pfx.isSome
  else if k = "exponent" then e.exponent.isSome
  else if k = "multiplier" then e.multiplier.isSome
  else if k = "offset" then e.offset.isSome
  else false

@[simp] theorem get_units (e : UnitElem) : e.get! "units" = e.units := by simp [UnitElem.get!]
@[simp] theorem get_prefix (e : UnitElem) : e.get! "prefix" = e.pfx.getD "" := by simp [UnitElem.get!]
@[simp] theorem get_exponent (e : UnitElem) : e.get! "exponent" = e.exponent.getD "" := by simp [UnitElem.get!]
@[simp] theorem get_multiplier (e : UnitElem) : e.get! "multiplier" = e.multiplier.getD "" := by simp [UnitElem.get!]
@[simp] theorem get_offset (e : UnitElem) : e.get! "offset" = e.offset.getD "" := by simp [UnitElem.get!]
@[simp] theorem has_prefix (e : UnitElem) : e.has "prefix" = e.pfx.isSome := by simp [UnitElem.has]
@[simp] theorem has_exponent (e : UnitElem) : e.has "exponent" = e.exponent.isSome := by simp [UnitElem.has]
@[simp] theorem has_multiplier (e : UnitElem) : e.has "multiplier" = e.multiplier.isSome := by simp [UnitElem.has]
@[simp] theorem has_offset (e : UnitElem) : e.has "offset" = e.offset.isSome := by simp [UnitElem.has]

/-! ## the pint expression `_make_pint_unit_definition` builds

    The function pastes attribute texts into `%`-formats; pint later parses the string. The tree below names the
    formats (one constructor per format string, the argument TYPES fix the role of each argument), and `UExpr.den` is
    what pint's evaluation of such an expression gives: `*` multiplies quantities, `**` raises to a number, a name is
    the unit of that name (after the `_WORD` prefix substitution of `UnitStore.add_unit`), a number is a number. -/

/-- the value `power` -/
inductive PowLit where
  /-- `UNIT_PREFIXES[p]` formatted with `%s`: the float of the table (`p` is a key of the table) -/
  | table (p : String)
  /-- `'1e%s' % p` -/
  | sci (p : String)
deriving Repr, DecidableEq

inductive UExpr where
  /-- `unit_element['units']` pasted as it is -/
  | name (n : String)
  /-- `'(%s * %s)' % (expr, power)` -/
  | timesPow (e : UExpr) (p : PowLit)
  /-- `'((%s)**%s)' % (expr, x)`, `x` an attribute text -/
  | pow (e : UExpr) (x : String)
  /-- `'(%s * %s)' % (m, expr)`, `m` an attribute text -/
  | mult (m : String) (e : UExpr)
deriving Repr, DecidableEq

/-- a python `str` used where the expression is expected: the unit name the loop starts from -/
instance : Coe String UExpr := ⟨UExpr.name⟩

/-- `'*'.join(full_unit_expr)` -/
structure PintDef where
  factors : List UExpr
deriving Repr, DecidableEq

/-- a python `float` object, as far as `== 0` / `!= 0` can see it -/
inductive PyFloat where
  | nan
  | inf
  /-- a finite double; the rational is zero exactly when the double is -/
  | fin (q : Rat)
deriving Repr, DecidableEq

/-- the python literal `0` compared with a float: `0.0` -/
instance : OfNat PyFloat 0 := ⟨.fin 0⟩

/-- python `==` on floats: `nan` equals nothing (not even itself) -/
instance : BEq PyFloat where
  beq
    | .fin a, .fin b => a == b
    | .inf, .inf => true
    | _, _ => false

namespace Pint

/-- `'(%s * %s)' % (a, b)`: the two uses in the function differ by the types of their arguments -/
class FmtMul (α β : Type) where
  fmtMul : α → β → UExpr
export FmtMul (fmtMul)
instance : FmtMul UExpr PowLit := ⟨UExpr.timesPow⟩
instance : FmtMul String UExpr := ⟨UExpr.mult⟩

/-- `'((%s)**%s)' % (a, b)` -/
def fmtPow (a : UExpr) (b : String) : UExpr := .pow a b

/-- `'*'.join(xs)` -/
def joinStar (xs : List UExpr) : PintDef := ⟨xs⟩

/-- `UNIT_PREFIXES[p]` (the table is `Cellml.Gen.unitPrefixes`, generated from the source); `KeyError` otherwise -/
def prefixTable (p : String) : Except PyErr PowLit :=
  if (Cellml.Gen.unitPrefixes.lookup p).isSome then .ok (.table p) else .error ⟨"KeyError"⟩

/-- `'%s' % UNIT_PREFIXES[p]`: python's `str` of the float of the table. Representation: the text `1e<k>` for the
    float `10^k` (python prints `0.001`, `1e-24`, `1000.0`, … — another spelling of the same number) -/
def floatStr (p : String) : String :=
  match Cellml.Gen.unitPrefixes.lookup p with
  | some (some k) => "1e" ++ toString k
  | _ => "nan"

/-- `UNIT_PREFIXES[p]` where the value is only pasted into a string -/
def prefixTableStr (p : String) : Except PyErr String :=
  if (Cellml.Gen.unitPrefixes.lookup p).isSome then .ok (floatStr p) else .error ⟨"KeyError"⟩

/-- `float(s)`: CPython's conversion of ASCII text (`Units.floatText`: white space stripped, `inf` / `nan`, decimal
    literals with PEP 515 underscores; `ValueError` for anything else), rounded to binary64 as far as a comparison with
    zero can see (`Units.roundsToZero`: the nearest double is zero exactly for `|value| ≤ 2^-1075`; any other value is
    kept as it is and stands for its non-zero double) -/
def float (s : String) : Except PyErr PyFloat :=
  match floatText s with
  | none => .error ⟨"ValueError"⟩
  | some .nan => .ok .nan
  | some .inf => .ok .inf
  | some (.dec q) => .ok (.fin (if roundsToZero q then 0 else q))

end Pint

/-- the text of `power` inside the expression -/
def PowLit.render : PowLit → String
  | .table p => Pint.floatStr p
  | .sci p => Py.fmt "1e%s" [p]

/-- the python string the tree stands for -/
def UExpr.render : UExpr → String
  | .name n => n
  | .timesPow e p => Py.fmt "(%s * %s)" [e.render, p.render]
  | .pow e x => Py.fmt "((%s)**%s)" [e.render, x]
  | .mult m e => Py.fmt "(%s * %s)" [m, e.render]

def PintDef.render (d : PintDef) : String := String.intercalate "*" (d.factors.map UExpr.render)

/-- the number `power` stands for -/
def PowLit.den : PowLit → Except DefErr Scale
  | .table p => match Cellml.Gen.unitPrefixes.lookup p with
      | some (some k) => .ok (pow10 k)
      | _ => .error (.badNumber ("prefix " ++ p))
  | .sci p => match Decimal.parseInt p with
      | some k => .ok (pow10 k)
      | none => .error (.badNumber ("prefix " ++ p))

/-- pint's value of the expression in the store `storeId`: (scale, units, mentions `dimensionless`) -/
def UExpr.den (storeId : Nat) : UExpr → Except DefErr (Scale × Container × Bool)
  | .name n => .ok ([], nameContainer (mangle storeId n), n == "dimensionless")
  | .timesPow e p => do
      let (s, c, d) ← e.den storeId
      let k ← p.den
      pure (PMap.add s k, c, d)
  | .pow e x => do
      let (s, c, d) ← e.den storeId
      match Decimal.parse x with
      | some q => pure (PMap.smul q s, PMap.smul q c, d)
      | none => throw (.badNumber ("exponent " ++ x))
  | .mult m e => do
      let (s, c, d) ← e.den storeId
      match Decimal.parse m with
      | some q => match Factor.rat q with
          | some ms => pure (PMap.add ms s, c, d)
          | none => throw (.unsupported ("multiplier " ++ m))
      | none => throw (.badNumber ("multiplier " ++ m))

/-- the unit names that occur in the expression -/
def UExpr.names : UExpr → List String
  | .name n => [n]
  | .timesPow e _ => e.names
  | .pow e _ => e.names
  | .mult _ e => e.names

/-- value of `a*b*…` -/
def denAll (storeId : Nat) : List UExpr → Except DefErr (Scale × Container × Bool)
  | [] => pure ([], [], false)
  | e :: es => do
      let (s, c, d) ← e.den storeId
      let (s', c', d') ← denAll storeId es
      pure (PMap.add s s', PMap.add c c', d || d')

/-! ## the `UnitStore` (`self.model.units`) and the collections of `_add_units` -/

/-- the exception class python raises for an error of the unit store (`ValueError`, pint's `UndefinedUnitError`);
    `BadDefinition` and `Unsupported` are not python classes: they name inputs outside the model's fragment, which no
    generated code raises (`Tie.PUnits.addErrClass`, the same table for `units.py`, writes `unsupported`) -/
def addErrClass : AddErr → String
  | .valueError _ => "ValueError"
  | .undefinedUnit => "UndefinedUnitError"
  | .badDefinition _ => "BadDefinition"
  | .unsupported _ => "Unsupported"

/-- the state of `self.model.units`: pint registry and `_known_units` -/
abbrev UStore := Registry × Store

/-- `self.model.units.is_defined(name)`: `name in self._known_units` — the set starts as `set(_CELLML_UNITS)` and
    receives every name added through the store, so this is the hand model's `Store.isDefined` (built-ins included;
    tied to the source of `UnitStore.is_defined` / `__init__` by `PUnits.isDefined_tie`, `init_tie`) -/
def isDefined (u : UStore) (name : String) : Bool := u.2.isDefined name

/-- `self.model.units.add_base_unit(name)` -/
def addBaseUnitLeaf (u : UStore) (name : String) : Except PyErr UStore :=
  errClass addErrClass (addBaseUnit u.1 u.2 name)

/-- `self.model.units.add_unit(name, definition)` (units.py 143-181): the hand model `Units.addUnitWith` (the three
    tests on the name in the order of the source, every identifier of the expression must be a key of the pint
    registry, then the definition proper) on what pint makes of the expression the generated
    `_make_pint_unit_definition` built: its identifiers and its value (`denAll`). `Units.addUnit` is the same function
    on the `<unit>` elements (`addUnit_eq_with` in Tie/UnitDefs.lean). -/
def addUnitLeaf (u : UStore) (name : String) (d : PintDef) : Except PyErr UStore :=
  errClass addErrClass (
    Units.addUnitWith (d.factors.all (fun e => e.names.all (fun n => allKnown u.1 (nameContainer (mangle u.2.id n)))))
      (denAll u.2.id d.factors) u.1 u.2 name)

/-- the python spelling of the `base_units` attribute of a `<units>` element (`units_element.get('base_units')`):
    the model keeps only whether it is `yes` -/
def baseUnitsAttr (d : UDef) : String := if d.base then "yes" else "no"

/-- `t.attrib` of a `<unit>` child: the model's `UnitElem` IS the attribute dict -/
def _root_.Units.UnitElem.attrib (e : UnitElem) : UnitElem := e

/-- `deque.pop()`: from the RIGHT end -/
def popRight {α} (l : List α) : Except PyErr (α × List α) :=
  match l.getLast? with
  | none => .error ⟨"IndexError"⟩
  | some a => .ok (a, l.dropLast)

end Cellml.Tie.PUnitDefs
