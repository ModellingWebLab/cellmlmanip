import Cellml.Generated.Code.GraphBuild
import Cellml.C09.Build
import Cellml.Basic.Writes
import Mathlib.Tactic.SplitIfs

/-! # Tie: the `Model.graph` property (generated from cellmlmanip/model.py) = `C09.buildGraph` (hand model)

    The second hand model of the same property, `Model.buildGraph` with `typeMap` (`Model/Graph.lean`, for C08 and C10),
    is not tied here, and no theorem relates the two. -/

namespace Cellml.Tie.PGraph
open C09 Cellml.Gen

theorem foldl_congr_mem {α σ} (f g : σ → α → σ) : ∀ (l : List α) (s : σ), (∀ s, ∀ x ∈ l, f s x = g s x) →
    l.foldl f s = l.foldl g s
  | [], _, _ => rfl
  | x :: xs, s, h => by
    simp only [List.foldl_cons]
    rw [h s x (by simp)]
    exact foldl_congr_mem f g xs _ (fun s y hy => h s y (List.mem_cons_of_mem _ hy))

theorem addNew_eq_addNode (ns : List Node) (v : Node) : Py.addNew ns v = addNode ns v := rfl

theorem foldl_addNew_len {α} [DecidableEq α] : ∀ (l acc : List α),
    (l.foldl Py.addNew acc).length ≤ acc.length + l.length ∧
    ((l.Nodup ∧ ∀ x ∈ l, x ∉ acc) → l.foldl Py.addNew acc = acc ++ l) ∧
    (¬ (l.Nodup ∧ ∀ x ∈ l, x ∉ acc) → (l.foldl Py.addNew acc).length < acc.length + l.length)
  | [], acc => by simp
  | x :: xs, acc => by
    simp only [List.foldl_cons, List.length_cons, List.nodup_cons, List.mem_cons, forall_eq_or_imp]
    by_cases hx : x ∈ acc
    · have ih := foldl_addNew_len xs acc
      have e1 : Py.addNew acc x = acc := by simp [Py.addNew, hx]
      rw [e1]
      refine ⟨by omega, fun h => absurd hx h.2.1, fun _ => by omega⟩
    · have ih := foldl_addNew_len xs (acc ++ [x])
      have e1 : Py.addNew acc x = acc ++ [x] := by simp [Py.addNew, hx]
      rw [e1]
      simp only [List.length_append, List.length_cons, List.length_nil] at ih
      have key : (xs.Nodup ∧ ∀ y ∈ xs, y ∉ acc ++ [x]) ↔ ((x ∉ xs ∧ xs.Nodup) ∧ x ∉ acc ∧ ∀ y ∈ xs, y ∉ acc) := by
        simp only [List.mem_append, List.mem_cons, List.not_mem_nil, or_false, not_or]
        constructor
        · rintro ⟨h1, h2⟩
          exact ⟨⟨fun hxx => (h2 x hxx).2 rfl, h1⟩, hx, fun y hy => (h2 y hy).1⟩
        · rintro ⟨⟨h1, h2⟩, _, h4⟩
          exact ⟨h2, fun y hy => ⟨h4 y hy, fun hyx => h1 (hyx ▸ hy)⟩⟩
      refine ⟨by omega, fun h => ?_, fun h => ?_⟩
      · rw [ih.2.1 (key.mpr h)]; simp
      · have := ih.2.2 (fun h' => h (key.mp h')); omega

theorem foldl_addNew_nodup {α} [DecidableEq α] (l : List α) (h : l.Nodup) : l.foldl Py.addNew [] = l := by
  have := (foldl_addNew_len l []).2.1 ⟨h, by simp⟩
  simpa using this

theorem foldl_addNew_len_eq {α} [DecidableEq α] (l : List α) :
    ((l.foldl Py.addNew []).length == l.length) = decide l.Nodup := by
  by_cases h : l.Nodup
  · simp [foldl_addNew_nodup l h, h]
  · have := (foldl_addNew_len l []).2.2 (fun h' => h h'.1)
    simp only [List.length_nil, Nat.zero_add] at this
    simp only [h, decide_false, beq_eq_false_iff_ne, ne_eq]
    omega

/-! ## the loops that write `Variable.type`

    Two reset loops, then three loops over the equations (left-hand sides, `twL`; states and free variables, `twK`; all
    three, `tw`), read off the equation itself; `twLV` / `twSV` / `twFV` are the same bodies through the view (`tw_view`). -/

theorem tyGet_set (ty : TyMap) (w v : Node) (t : Option VT) :
    tyGet (tySet ty w t) v = if v = w then t else tyGet ty v := by
  unfold tyGet tySet
  by_cases h : v = w
  · subst h; simp [List.lookup]
  · have : (v == w) = false := by simpa using h
    simp [List.lookup, this, h]

/-- `t in [VariableType.STATE, VariableType.FREE]` -/
def isSF (t : Option VT) : Bool := Py.isIn t [some VT.state, some VT.free]

theorem reset_get (v : Node) (l : List Node) (s : TyMap) :
    tyGet (l.foldl (fun s w => tySet s w none) s) v = if v ∈ l then none else tyGet s v := by
  unfold tyGet
  rw [show (fun s w => tySet s w none) = (fun (m : TyMap) w => [(w, (none : Option VT))] ++ m) from rfl,
    List.lookup_writes_const _ none (fun _ _ h => by rw [List.mem_singleton.mp h])]
  by_cases h : v ∈ l <;> simp [h]

/-- the first type-writing loop, one equation: the left-hand side of an ordinary equation is PARAMETER or COMPUTED, an
    ODE writes nothing -/
def twL (rq : Eqn → Bool) (ty : TyMap) (e : Eqn) : TyMap :=
  match e.ode with
  | some _ => ty
  | none => if rq e then tySet ty e.lhs (some VT.parameter) else tySet ty e.lhs (some VT.computed)

/-- the two loops after it, one equation: the variable `k (state, free)` of an ODE gets the role `t` -/
def twK (k : Node × Node → Node) (t : VT) (ty : TyMap) (e : Eqn) : TyMap :=
  match e.ode with
  | some p => tySet ty (k p) (some t)
  | none => ty

/-- `v` is the variable `k (state, free)` of the ODE `e` -/
def isK (k : Node × Node → Node) (v : Node) (e : Eqn) : Bool :=
  match e.ode with
  | some p => v == k p
  | none => false

/-- the three type-writing loops: all left-hand sides, then all states, then all free variables -/
def tw (rq : Eqn → Bool) (ty : TyMap) (es : List Eqn) : TyMap :=
  es.foldl (twK Prod.snd VT.free) (es.foldl (twK Prod.fst VT.state) (es.foldl (twL rq) ty))

theorem twK_get (k : Node × Node → Node) (t : VT) (v : Node) : ∀ (es : List Eqn) (ty : TyMap),
    tyGet (es.foldl (twK k t) ty) v = if es.any (isK k v) = true then some t else tyGet ty v
  | [], ty => by simp
  | e :: es, ty => by
    simp only [List.foldl_cons, List.any_cons]
    rw [twK_get k t v es]
    cases ho : e.ode with
    | none => simp [twK, isK, ho]
    | some p =>
      by_cases h : v = k p
      · simp [twK, isK, ho, h, tyGet_set]
      · have : (v == k p) = false := by simpa using h
        simp [twK, isK, ho, h, this, tyGet_set]

theorem twK_isSF (k : Node × Node → Node) (t : VT) (ht : isSF (some t) = true) (v : Node) (es : List Eqn) (ty : TyMap) :
    isSF (tyGet (es.foldl (twK k t) ty) v) = (es.any (isK k v) || isSF (tyGet ty v)) := by
  rw [twK_get]
  cases es.any (isK k v) <;> simp [ht]

theorem twK_isSome (k : Node × Node → Node) (t : VT) (v : Node) (es : List Eqn) (ty : TyMap)
    (h : es.any (isK k v) = true ∨ (tyGet ty v).isSome = true) : (tyGet (es.foldl (twK k t) ty) v).isSome = true := by
  rw [twK_get]
  cases ha : es.any (isK k v)
  · simpa [ha] using h
  · rfl

/-- the first loop: the last ordinary equation with left-hand side `v` decides, or nothing is written for `v` -/
theorem twL_cases (rq : Eqn → Bool) (v : Node) : ∀ (es : List Eqn) (ty : TyMap),
    (∃ e ∈ es, e.ode = none ∧ e.lhs = v ∧
      tyGet (es.foldl (twL rq) ty) v = some (if rq e then VT.parameter else VT.computed)) ∨
    ((∀ e ∈ es, e.ode = none → e.lhs ≠ v) ∧ tyGet (es.foldl (twL rq) ty) v = tyGet ty v)
  | [], _ => .inr ⟨fun _ h => (nomatch h), rfl⟩
  | e :: es, ty => by
    rw [List.foldl_cons]
    rcases twL_cases rq v es (twL rq ty e) with ⟨e', he', h⟩ | ⟨hno, hl⟩
    · exact .inl ⟨e', List.mem_cons_of_mem _ he', h⟩
    · rw [hl]
      by_cases hw : e.ode = none ∧ e.lhs = v
      · refine .inl ⟨e, List.mem_cons_self, hw.1, hw.2, ?_⟩
        simp only [twL, hw.1]
        split <;> simp [tyGet_set, hw.2, *]
      · refine .inr ⟨fun e' he' ho hl' => ?_, ?_⟩
        · rcases List.mem_cons.mp he' with rfl | he'
          · exact hw ⟨ho, hl'⟩
          · exact hno e' he' ho hl'
        · unfold twL
          cases ho : e.ode with
          | some p => rfl
          | none =>
            have hne : ¬ v = e.lhs := fun hh => hw ⟨ho, hh.symm⟩
            simp only []
            split <;> simp [tyGet_set, hne]

theorem twL_notSF (rq : Eqn → Bool) (v : Node) (es : List Eqn) (ty : TyMap) (h : isSF (tyGet ty v) = false) :
    isSF (tyGet (es.foldl (twL rq) ty) v) = false := by
  rcases twL_cases rq v es ty with ⟨e, _, _, _, hl⟩ | ⟨_, hl⟩
  · rw [hl]; cases rq e <;> rfl
  · rw [hl]; exact h

theorem twL_isSome (rq : Eqn → Bool) (v : Node) (es : List Eqn) (ty : TyMap)
    (h : (∃ e ∈ es, e.ode = none ∧ e.lhs = v) ∨ (tyGet ty v).isSome = true) :
    (tyGet (es.foldl (twL rq) ty) v).isSome = true := by
  rcases twL_cases rq v es ty with ⟨e, _, _, _, hl⟩ | ⟨hno, hl⟩
  · rw [hl]; rfl
  · rw [hl]
    rcases h with ⟨e, he, ho, hv⟩ | h
    · exact absurd hv (hno e he ho)
    · exact h

theorem twL_miss (rq : Eqn → Bool) (v : Node) (es : List Eqn) (ty : TyMap)
    (h : ∀ e ∈ es, e.ode = none → e.lhs ≠ v) : tyGet (es.foldl (twL rq) ty) v = tyGet ty v := by
  rcases twL_cases rq v es ty with ⟨e, he, ho, hv, _⟩ | ⟨_, hl⟩
  · exact absurd hv (h e he ho)
  · exact hl

theorem twL_hit (rq : Eqn → Bool) (v : Node) (es : List Eqn) (ty : TyMap) (hnd : (es.map (·.lhs)).Nodup)
    (e : Eqn) (he : e ∈ es) (ho : e.ode = none) (hl : e.lhs = v) :
    tyGet (es.foldl (twL rq) ty) v = some (if rq e then VT.parameter else VT.computed) := by
  rcases twL_cases rq v es ty with ⟨e', he', _, hv', hl'⟩ | ⟨hno, _⟩
  · have h1 := eqnOf_of_mem hnd he
    have h2 := eqnOf_of_mem hnd he'
    rw [hl] at h1
    rw [hv', h1] at h2
    rw [hl', Option.some.inj h2]
  · exact absurd hl (hno e he ho)

theorem sf_split (v : Node) : ∀ (es : List Eqn),
    isStateOrFree es v = (es.any (isK Prod.snd v) || es.any (isK Prod.fst v))
  | [] => by simp [isStateOrFree]
  | e :: es => by
    have ih := sf_split v es
    simp only [isStateOrFree, List.any_cons] at ih ⊢
    rw [ih]
    unfold isK
    cases e.ode with
    | none => simp
    | some p =>
      obtain ⟨s, f⟩ := p
      simp only []
      ac_rfl

/-- after the three loops a variable is typed STATE or FREE iff it is the state or the free variable of some ODE —
    whether or not it is a left-hand side, too, and wherever the ODE stands -/
theorem tw_isSF (rq : Eqn → Bool) (v : Node) (es : List Eqn) (ty : TyMap) (h0 : isSF (tyGet ty v) = false) :
    isSF (tyGet (tw rq ty es) v) = isStateOrFree es v := by
  unfold tw
  rw [twK_isSF _ _ (by decide) v, twK_isSF _ _ (by decide) v, twL_notSF rq v es ty h0, sf_split]
  simp

theorem tw_isSome (rq : Eqn → Bool) (v : Node) (es : List Eqn) (ty : TyMap)
    (h : (∃ e ∈ es, e.ode = none ∧ e.lhs = v) ∨ isStateOrFree es v = true ∨ (tyGet ty v).isSome = true) :
    (tyGet (tw rq ty es) v).isSome = true := by
  unfold tw
  rcases h with h | h | h
  · exact twK_isSome _ _ v es _ (.inr (twK_isSome _ _ v es _ (.inr (twL_isSome rq v es ty (.inl h)))))
  · rw [sf_split, Bool.or_eq_true] at h
    rcases h with h | h
    · exact twK_isSome _ _ v es _ (.inl h)
    · exact twK_isSome _ _ v es _ (.inr (twK_isSome _ _ v es _ (.inl h)))
  · exact twK_isSome _ _ v es _ (.inr (twK_isSome _ _ v es _ (.inr (twL_isSome rq v es ty (.inr h)))))

/-- `for rhs in <list>` (the list being `sorted(find_variables_and_derivatives([equation.rhs]), key=str)`) =
    `C09.addRefs` -/
theorem refsLoop (sf : Node → Bool) (T : TyMap) (lhs : Node) (f : Node → Graph → Except PyErr (ForInStep Graph))
    (hf : ∀ r G, f r G =
      if r ∈ G.nodes then .ok (.yield (nxAddEdge G r lhs))
      else if isSF (tyGet T r) then .ok (.yield (nxAddEdge (nxAddNode G r) r lhs))
      else .error ⟨"AssertionError"⟩) :
    ∀ (rs : List Node) (G : Graph), (∀ r ∈ rs, r ∉ G.nodes → isSF (tyGet T r) = sf r) →
      forIn rs G f = errClass (errName true) (addRefs sf lhs rs G)
  | [], G, _ => by simp [pure, Except.pure, addRefs, errClass]
  | r :: rs, G, h => by
    rw [List.forIn_cons, hf]
    simp only [addRefs]
    by_cases hr : r ∈ G.nodes
    · simp only [hr, if_true, bind, Except.bind]
      exact refsLoop sf T lhs f hf rs _ (fun r' hr' => h r' (List.mem_cons_of_mem _ hr'))
    · rw [h r (by simp) hr]
      simp only [hr, if_false]
      by_cases hs : sf r = true
      · simp only [hs, if_true, bind, Except.bind]
        have : nxAddEdge (nxAddNode G r) r lhs = ⟨G.nodes ++ [r], G.edges ++ [(r, lhs)]⟩ := by
          simp [nxAddEdge, nxAddNode, Py.addNew, hr]
        rw [this]
        apply refsLoop sf T lhs f hf rs
        intro r' hr' hn
        exact h r' (List.mem_cons_of_mem _ hr') (fun hh => hn (List.mem_append_left _ hh))
      · simp [hs, bind, Except.bind, errClass, errName]

/-- `for equation in self.equations` (the loop "Add edges between the nodes") = `C09.addEqs` -/
theorem eqsLoop (key : Node → String) (sf : Node → Bool) (all : List Eqn)
    (f : Eqn → Graph → Except PyErr (ForInStep Graph))
    (hf : ∀ e G, e ∈ all → f e G =
      match errClass (errName true) (addRefs sf e.lhs (sortStr key e.refs) G) with
      | .error x => .error x
      | .ok v => .ok (.yield (addOde e.ode v))) :
    ∀ (es : List Eqn) (G : Graph), (∀ e ∈ es, e ∈ all) →
      forIn es G f = errClass (errName true) (addEqs key sf es G)
  | [], G, _ => by simp [pure, Except.pure, addEqs, errClass]
  | e :: es, G, hall => by
    rw [List.forIn_cons, hf e G (hall e (by simp))]
    simp only [addEqs]
    cases h1 : addRefs sf e.lhs (sortStr key e.refs) G with
    | error x => simp [errClass, bind, Except.bind]
    | ok g1 =>
      simp only [errClass, bind, Except.bind]
      exact eqsLoop key sf all f hf es _ (fun e' he' => hall e' (List.mem_cons_of_mem _ he'))

/-- the last loop raises nothing when every non-derivative node has a type -/
theorem typeLoop (isDer : Node → Bool) (T : TyMap) (f : Node → PUnit → Except PyErr (ForInStep PUnit))
    (hf : ∀ v s, f v s = if (!isDer v) = true then
        (if (!(tyGet T v).isSome) = true then .error ⟨"AssertionError"⟩ else .ok (.yield PUnit.unit))
      else .ok (.yield PUnit.unit)) :
    ∀ (ns : List Node), (∀ v ∈ ns, isDer v = true ∨ (tyGet T v).isSome = true) → forIn ns PUnit.unit f = .ok PUnit.unit
  | [], _ => by simp [pure, Except.pure]
  | v :: vs, h => by
    rw [List.forIn_cons, hf]
    have := h v (by simp)
    have ih := typeLoop isDer T f hf vs (fun w hw => h w (List.mem_cons_of_mem _ hw))
    rcases this with h1 | h1 <;> simp [h1, bind, Except.bind, ih]

theorem reset_eqs_get (atoms : Eqn → List Node) (v : Node) : ∀ (es : List Eqn) (s : TyMap),
    tyGet (es.foldl (fun s e => (atoms e).foldl (fun s w => tySet s w none) s) s) v
      = if es.any (fun e => decide (v ∈ atoms e)) then none else tyGet s v
  | [], _ => rfl
  | e :: es, s => by
    rw [List.foldl_cons, reset_eqs_get atoms v es, reset_get, List.any_cons]
    by_cases h : v ∈ atoms e <;> simp [h]

/-- the first type-writing loop, one equation, as the generated code does it (through the view) -/
def twLV (V : BuildView) (ty : TyMap) (e : Eqn) : TyMap :=
  if V.isDerivative e.lhs = true then ty
  else if V.rhsIsQuantity e = true then tySet ty e.lhs (some VT.parameter)
  else tySet ty e.lhs (some VT.computed)

def twSV (V : BuildView) (ty : TyMap) (e : Eqn) : TyMap :=
  if V.isDerivative e.lhs = true then tySet ty (V.stateOf e.lhs) (some VT.state) else ty

def twFV (V : BuildView) (ty : TyMap) (e : Eqn) : TyMap :=
  if V.isDerivative e.lhs = true then tySet ty (V.freeOf e.lhs) (some VT.free) else ty

/-- the loop that adds the left-hand sides carries (types, graph, count) at once; it is three folds side by side -/
theorem fold1 (f : TyMap → Eqn → TyMap) : ∀ (es : List Eqn) (t : TyMap) (g : Graph) (n : Nat),
    es.foldl (fun (s : TyMap × Graph × Nat) e => (f s.1 e, nxAddNode s.2.1 e.lhs, s.2.2 + 1)) (t, g, n)
      = (es.foldl f t, ⟨(es.map (·.lhs)).foldl Py.addNew g.nodes, g.edges⟩, n + es.length)
  | [], t, g, n => by simp
  | e :: es, t, g, n => by
    simp only [List.foldl_cons, List.map_cons, List.length_cons]
    rw [fold1 f es]
    simp only [nxAddNode]
    congr 2
    omega

theorem odeOfNode_of_mem {eqs : List Eqn} (hnd : (eqs.map (·.lhs)).Nodup) {e : Eqn} (he : e ∈ eqs) :
    odeOfNode eqs e.lhs = e.ode := by
  simp [odeOfNode, eqnOf_of_mem hnd he]

theorem tw_view (key : Node → String) (eqs : List Eqn) (vars : List Node) (rq : Eqn → Bool)
    (hnd : (eqs.map (·.lhs)).Nodup) (ty : TyMap) :
    eqs.foldl (twFV (buildView key eqs vars rq))
      (eqs.foldl (twSV (buildView key eqs vars rq)) (eqs.foldl (twLV (buildView key eqs vars rq)) ty)) = tw rq ty eqs := by
  unfold tw
  rw [foldl_congr_mem (twLV _) (twL rq) eqs ty fun s e he => by
      simp only [twLV, twL, buildView, odeOfNode_of_mem hnd he]
      cases e.ode with
      | none => by_cases h : rq e = true <;> simp [h]
      | some p => simp,
    foldl_congr_mem (twSV _) (twK Prod.fst VT.state) eqs _ fun s e he => by
      simp only [twSV, twK, buildView, odeOfNode_of_mem hnd he]
      cases e.ode <;> simp,
    foldl_congr_mem (twFV _) (twK Prod.snd VT.free) eqs _ fun s e he => by
      simp only [twFV, twK, buildView, odeOfNode_of_mem hnd he]
      cases e.ode <;> simp]

/-- `Variable.type` of every variable after the two reset loops at the head of `Model.graph` -/
def resetTy (V : BuildView) (ty0 : TyMap) : TyMap :=
  V.equations.foldl (fun s e => (V.atoms e).foldl (fun s v => tySet s v none) s)
    (V.variables.foldl (fun s v => tySet s v none) ty0)

/-- **Tie of the `Model.graph` property** (no cached graph), graph AND roles. For every equation system, every list
    of model variables, every assignment of `isinstance(rhs, Quantity)` and EVERY initial state `ty0` of the
    `Variable.type` attributes (whatever an earlier build left behind), the definition generated from model.py returns
    the graph `C09.buildGraph` returns and caches it, and leaves the `Variable.type` attributes that the three
    type-writing loops `tw` give (left-hand sides, then STATE, then FREE) — or raises `AssertionError` where the model
    reports `assertion` / `badRef`. -/
theorem graph_tie_types (key : Node → String) (eqs : List Eqn) (vars : List Node) (rq : Eqn → Bool) (ty0 : TyMap) :
    GraphBuild.graph (buildView key eqs vars rq) none ty0
      = errClass (errName true) ((buildGraph key eqs).map
          (fun g => (g, some g, tw rq (resetTy (buildView key eqs vars rq) ty0) eqs))) := by
  /- Plan. The five loops that cannot raise (two resets, three type-writing) become folds (`forIn_eq_foldl_of_yield`);
     the two asserts compare lengths, which is `Nodup` of the left-hand sides and of their keys (`hA`, `hB`), the two
     tests of `buildGraph`; the type-writing folds through the view are `tw` (`tw_view`); the edge loop is `addEqs`
     (`eqsLoop` over `refsLoop`, where a reference not yet a node has the role `tw` gives it: `tw_isSF`); the last
     loop raises nothing because every node that is no derivative has a role (`typeLoop`, `tw_isSome`).
     The view goes behind the name `V` (`hV`); `← hV` brings it back where a projection has to be computed. -/
  unfold resetTy
  unfold GraphBuild.graph
  simp only [bind, Except.bind, pure, Except.pure, Py.truthy_bool, throw, throwThe, MonadExceptOf.throw]
  generalize hV : buildView key eqs vars rq = V
  have hVeq : V.equations = eqs := by rw [← hV]; rfl
  have hVkey : V.key = key := by rw [← hV]; rfl
  have hVrefs : V.refsOf = fun e => e.refs := by rw [← hV]; rfl
  rw [List.forIn_eq_foldl_of_yield (fun s v => tySet s v none) _ _ _ (fun _ _ _ => by rfl)]
  simp only []
  rw [List.forIn_eq_foldl_of_yield (fun s e => (V.atoms e).foldl (fun s v => tySet s v none) s) _ _ _
    (fun e _ s => by
      rw [List.forIn_eq_foldl_of_yield (fun s v => tySet s v none) _ _ _ (fun _ _ _ => by rfl)])]
  simp only []
  rw [List.forIn_eq_foldl_of_yield
    (fun (s : TyMap × Graph × Nat) e => (twLV V s.1 e, nxAddNode s.2.1 e.lhs, s.2.2 + 1)) _ _ _
    (fun e _ s => by simp only [twLV]; split_ifs <;> rfl)]
  simp only [hVeq, fold1]
  rw [List.forIn_eq_foldl_of_yield (twSV V) _ _ _ (fun e _ s => by simp only [twSV]; split_ifs <;> rfl)]
  simp only []
  rw [List.forIn_eq_foldl_of_yield (twFV V) _ _ _ (fun e _ s => by simp only [twFV]; split_ifs <;> rfl)]
  simp only []
  generalize hty1 : List.foldl (fun s e => List.foldl (fun s v => tySet s v none) s (V.atoms e)) _ eqs = ty1
  simp only [Option.isSome_none, Bool.false_eq_true, if_false, Nat.zero_add, hVkey, hVrefs]
  -- the two sanity asserts compare a number of distinct elements with the number of equations: `Nodup`
  have hA : ((List.foldl Py.addNew [] (eqs.map (·.lhs))).length == eqs.length) = decide (eqs.map (·.lhs)).Nodup := by
    rw [← foldl_addNew_len_eq, List.length_map]
  have hB : (Py.distinctCount ((eqs.map (·.lhs)).map key) == eqs.length) = decide ((eqs.map (·.lhs)).map key).Nodup := by
    rw [← foldl_addNew_len_eq, List.length_map, List.length_map]; rfl
  simp only [hA]
  by_cases hnd : (eqs.map (·.lhs)).Nodup
  · simp only [hnd, decide_true, Bool.not_true, Bool.false_eq_true, if_false, foldl_addNew_nodup _ hnd, hB]
    by_cases hkn : ((eqs.map (·.lhs)).map key).Nodup
    · simp only [hkn, decide_true, Bool.not_true, Bool.false_eq_true, if_false]
      rw [← hV, tw_view key eqs vars rq hnd ty1, hV]
      generalize hTT : tw rq ty1 eqs = T
      have hreset : ∀ e ∈ eqs, ∀ r ∈ e.refs, tyGet ty1 r = none := by
        intro e he r hr
        rw [← hty1, reset_eqs_get, if_pos (List.any_eq_true.mpr ⟨e, he, ?_⟩)]
        rw [← hV]
        simp [buildView, hr]
      rw [eqsLoop key (isStateOrFree eqs) eqs _ (fun e G he => by
        rw [Py.sortedByStr_eq, refsLoop (isStateOrFree eqs) T e.lhs _ (fun r G' => by
          simp only [isSF, Py.isIn, List.contains_eq_mem]
          by_cases h1 : r ∈ G'.nodes <;> simp [h1]) (sortStr key e.refs) G (fun r hr hn => by
            rw [← hTT, tw_isSF rq r eqs ty1 (by simp [hreset e he r (mem_sortStr.mp hr), isSF, Py.isIn])])]
        cases addRefs (isStateOrFree eqs) e.lhs (sortStr key e.refs) G with
        | error x => rfl
        | ok v =>
          simp only [errClass]
          rw [← hV]
          simp only [buildView, odeOfNode_of_mem hnd he, Py.isIn]
          cases ho : e.ode with
          | none => simp [addOde]
          | some p =>
            obtain ⟨s, f⟩ := p
            simp only [addOde, addNode, nxAddNode, Py.addNew, Option.isSome_some, if_true, Option.getD_some,
              List.contains_eq_mem]
            by_cases h1 : f ∈ v.nodes <;> by_cases h2 : s ∈ v.nodes <;> simp [h1, h2]
            ) eqs _ (fun _ h => h)]
      have hbg : buildGraph key eqs
          = addEqs key (isStateOrFree eqs) eqs { nodes := List.map (fun x => x.lhs) eqs, edges := [] } := by
        simp only [buildGraph, hnd, hkn, not_true_eq_false, if_false]
      rw [hbg]
      cases hg : addEqs key (isStateOrFree eqs) eqs { nodes := List.map (fun x => x.lhs) eqs, edges := [] } with
      | error x => rfl
      | ok g =>
        simp only [errClass]
        obtain ⟨_, hs⟩ := buildGraph_valid (hbg.trans hg)
        rw [typeLoop V.isDerivative T _ (fun v s => by rfl) g.nodes (fun v hv => by
          rcases (hs.nodes v).mp hv with h | h
          · obtain ⟨e, he, hl⟩ := List.mem_map.mp (hasEq_iff.mp h)
            cases ho : e.ode with
            | none =>
              right; rw [← hTT]
              exact tw_isSome rq v eqs ty1 (Or.inl ⟨e, he, ho, hl⟩)
            | some p =>
              left; rw [← hV, ← hl]
              simp [buildView, odeOfNode_of_mem hnd he, ho]
          · right; rw [← hTT]
            exact tw_isSome rq v eqs ty1 (Or.inr (Or.inl h)))]
        rfl
    · simp only [hkn, decide_false, Bool.not_false, if_true, buildGraph, hnd, not_true_eq_false, not_false_eq_true,
        if_false]
      rfl
  · simp only [hnd, decide_false, Bool.not_false, if_true, buildGraph, not_false_eq_true]
    rfl

/-- **Tie of the `Model.graph` property** (no cached graph): the graph and the cache. -/
theorem graph_tie (key : Node → String) (eqs : List Eqn) (vars : List Node) (rq : Eqn → Bool) (ty0 : TyMap) :
    (GraphBuild.graph (buildView key eqs vars rq) none ty0).map (fun r => (r.1, r.2.1))
      = errClass (errName true) ((buildGraph key eqs).map (fun g => (g, some g))) := by
  rw [graph_tie_types]
  cases buildGraph key eqs <;> rfl

theorem tw_perm (rq : Eqn → Bool) {es es' : List Eqn} (hp : es'.Perm es) (hnd : (es.map (·.lhs)).Nodup)
    (ty ty' : TyMap) (v : Node) (hty : tyGet ty' v = tyGet ty v) :
    tyGet (tw rq ty' es') v = tyGet (tw rq ty es) v := by
  unfold tw
  rw [twK_get, twK_get, twK_get, twK_get, hp.any_eq, hp.any_eq]
  have hnd' : (es'.map (·.lhs)).Nodup := (hp.map _).nodup_iff.mpr hnd
  have : tyGet (es'.foldl (twL rq) ty') v = tyGet (es.foldl (twL rq) ty) v := by
    by_cases h : ∃ e ∈ es, e.ode = none ∧ e.lhs = v
    · obtain ⟨e, he, ho, hl⟩ := h
      rw [twL_hit rq v es ty hnd e he ho hl, twL_hit rq v es' ty' hnd' e (hp.mem_iff.mpr he) ho hl]
    · rw [twL_miss rq v es ty (fun e he ho hl => h ⟨e, he, ho, hl⟩),
        twL_miss rq v es' ty' (fun e he ho hl => h ⟨e, hp.mem_iff.mp he, ho, hl⟩), hty]
  rw [this]

theorem resetTy_perm (key : Node → String) {eqs eqs' : List Eqn} (hp : eqs'.Perm eqs) (vars : List Node)
    (rq : Eqn → Bool) (ty0 : TyMap) (v : Node) :
    tyGet (resetTy (buildView key eqs' vars rq) ty0) v = tyGet (resetTy (buildView key eqs vars rq) ty0) v := by
  show tyGet (eqs'.foldl (fun s e => ((buildView key eqs vars rq).atoms e).foldl (fun s v => tySet s v none) s) _) v
    = tyGet (eqs.foldl (fun s e => ((buildView key eqs vars rq).atoms e).foldl (fun s v => tySet s v none) s) _) v
  rw [reset_eqs_get, reset_eqs_get, hp.any_eq]
  rfl

/-- Corollary (the roles that come from the ODEs win, on the GENERATED code): two runs of the property
    on the same equations in two orders that both build the graph leave every variable with the same
    `Variable.type` — whatever an earlier build had left. -/
theorem graph_types_equation_order (key : Node → String) {eqs eqs' : List Eqn} (hp : eqs'.Perm eqs)
    (vars : List Node) (rq : Eqn → Bool) (ty0 : TyMap) {r r' : Graph × Option Graph × TyMap}
    (h : GraphBuild.graph (buildView key eqs vars rq) none ty0 = .ok r)
    (h' : GraphBuild.graph (buildView key eqs' vars rq) none ty0 = .ok r') (v : Node) :
    tyGet r'.2.2 v = tyGet r.2.2 v := by
  rw [graph_tie_types] at h h'
  cases hg : buildGraph key eqs with
  | error x => rw [hg] at h; cases h
  | ok g =>
    cases hg' : buildGraph key eqs' with
    | error x => rw [hg'] at h'; cases h'
    | ok g' =>
      rw [hg] at h; rw [hg'] at h'
      simp only [Except.map, errClass, Except.ok.injEq] at h h'
      rw [← h, ← h']
      exact tw_perm rq hp (buildGraph_valid hg).1.lhsNodup _ _ v (resetTy_perm key hp vars rq ty0 v)

/-- a cached graph is returned as it is; cache and types stay -/
theorem graph_cached (V : BuildView) (c : Graph) (ty : TyMap) :
    GraphBuild.graph V (some c) ty = .ok (c, some c, ty) := by
  unfold GraphBuild.graph
  simp [pure, Except.pure]

/-- Corollary: what the property returns does not depend on `Variable.type` values left by earlier builds, nor on the
    model's variable list, nor on which right-hand sides are bare quantities. -/
theorem graph_independent (key : Node → String) (eqs : List Eqn) (vars vars' : List Node) (rq rq' : Eqn → Bool)
    (ty0 ty0' : TyMap) :
    (GraphBuild.graph (buildView key eqs vars rq) none ty0).map (fun r => (r.1, r.2.1))
      = (GraphBuild.graph (buildView key eqs vars' rq') none ty0').map (fun r => (r.1, r.2.1)) := by
  rw [graph_tie, graph_tie]

/-- Corollary (the graph nodes come in a reproducible order, on the GENERATED code): two runs of the property that
    are handed the reference sets of the equations in different orders — same left-hand sides, same ODE pairs, the
    references sorting to the same list by `str`, which is what two iteration orders of one set with distinct `str`
    keys do (`C09.sortStr_eq_of_perm`) — return the same graph: node list in insertion order, edge list, cache; or
    raise the same class. -/
theorem graph_set_order_irrelevant (key : Node → String) {α : Type} (f f' : α → Eqn) (l : List α)
    (h : ∀ a ∈ l, SameSorted key (f a) (f' a)) (vars vars' : List Node) (rq rq' : Eqn → Bool) (ty0 ty0' : TyMap) :
    (GraphBuild.graph (buildView key (l.map f') vars' rq') none ty0').map (fun r => (r.1, r.2.1))
      = (GraphBuild.graph (buildView key (l.map f) vars rq) none ty0).map (fun r => (r.1, r.2.1)) := by
  rw [graph_tie, graph_tie, buildGraph_congr key f f' l h]

end Cellml.Tie.PGraph
