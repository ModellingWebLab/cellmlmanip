import Cellml.Tie.RolesValue

/-! # Tie (Roles, closed form): the recursion of `Model._get_value` / `expand_derivatives` CLOSED over the generated bodies

    `Tie/RolesValue.lean` ties one level of each open recursion, for an arbitrary recursive call that agrees with the
    model (`expandDerivatives_fix`, `getValueRec_tie_rec`; `expandDerivatives_tie`, `getValueRec_tie` are their instances
    at the model itself). Here the recursion is closed: python's call stack is a depth counter, a call at depth 0 raises
    `RecursionError`, a call at depth `n+1` runs the GENERATED body with the recursive call bound to depth `n` (as
    `closeFuel` of `Tie/TranspileClosed.lean` does for the transpiler's handlers; here two recursions are nested).

    * `genExpand M F`        = `F` levels of the generated `expand_derivatives`,
    * `genGetValueRec fn M F f` = `f` levels of the generated `_get_value` whose nested function is `genExpand M F`,
    * `genGetValueFuel fn M F`  = the generated `get_value` calling `genGetValueRec fn M (F+1) F`.

    `genGetValueFuel_eq`: this is the hand model's `getValueFuel fn M F` (value and exception class) — the function
    `Props/C10.lean` is about — on the stated domain. No model function occurs in the definitions of this file's `gen…`. -/

namespace Cellml.Tie.PRolesClosed
open Model Cellml.Gen Cellml.Tie.PRoles

/-- the hand model's `expand` with python's convention for the bottom of the stack: at depth 0 the CALL raises
    (`expand M 0` still looks at the expression and raises only if it meets a derivative) -/
def expandP (M : RModel) : Nat → Expr → Except VErr Expr
  | 0, _ => .error .fuel
  | F + 1, e => e.bindD (fun s t =>
      match odeRhs M s t with
      | none => .error .noDefinition
      | some r => expandP M F r)

/-- `F` levels of the generated `expand_derivatives`; depth 0: `RecursionError` -/
def genExpand (M : RModel) : Nat → Expr → Except PyErr Expr
  | 0 => fun _ => .error ⟨"RecursionError"⟩
  | F + 1 => RolesValue.expandDerivatives M (genExpand M F)

theorem genExpand_eq (M : RModel) :
    ∀ (F : Nat) (e : Expr), genExpand M F e = errClass verrClass (expandP M F e)
  | 0, _ => rfl
  | F + 1, e => by
    show RolesValue.expandDerivatives M (genExpand M F) e = _
    rw [expandDerivatives_fix M (genExpand M F) (expandP M F) (fun tok => genExpand_eq M F _) e]
    rfl

theorem bind_congr_fuel {α β : Type} {c c' : Except VErr α} {k k' : α → Except VErr β}
    (h : c' ≠ .error .fuel → c = c') (hk : ∀ a, k' a ≠ .error .fuel → k a = k' a)
    (hne : (c' >>= k') ≠ .error .fuel) : (c >>= k) = (c' >>= k') := by
  cases c' with
  | error x => rw [h fun hc => hne (congrArg (· >>= k') hc)]; rfl
  | ok a => rw [h (fun hc => nomatch hc)]; exact hk a hne

/-- two `bindD`s agree when the functions agree wherever the second does not run out of fuel, and the second result is
    not `fuel` (`bindD` returns the FIRST error in traversal order) -/
theorem bindDL_congr (f f' : Nat → Nat → Except VErr Expr) : ∀ (es : List Expr),
    (∀ a ∈ es, a.bindD f' ≠ .error .fuel → a.bindD f = a.bindD f') →
    Expr.bindDL f' es ≠ .error .fuel → Expr.bindDL f es = Expr.bindDL f' es
  | [], _, _ => rfl
  | a :: as, ih, h => by
    rw [bindDL_cons] at h
    rw [bindDL_cons, bindDL_cons]
    exact bind_congr_fuel (ih a List.mem_cons_self) (fun _ => bind_congr_fuel
      (bindDL_congr f f' as fun x hx => ih x (List.mem_cons_of_mem _ hx)) fun _ _ => rfl) h

theorem bindD_congr (f f' : Nat → Nat → Except VErr Expr)
    (hff : ∀ s t, f' s t ≠ .error .fuel → f s t = f' s t) :
    ∀ e : Expr, e.bindD f' ≠ .error .fuel → e.bindD f = e.bindD f' := by
  intro e
  induction e with
  | num q => intro _; rfl
  | var v => intro _; rfl
  | opq id args ih =>
    rw [bindD_opq, bindD_opq]
    exact bind_congr_fuel (bindDL_congr f f' args ih) fun _ _ => rfl
  | deriv s t => exact hff s t
  | pow a n iha =>
    rw [bindD_pow, bindD_pow]
    exact bind_congr_fuel iha fun _ _ => rfl
  | bin op a b iha ihb =>
    rw [bindD_bin, bindD_bin]
    exact bind_congr_fuel iha fun _ => bind_congr_fuel ihb fun _ _ => rfl

theorem expandP_eq_expand (M : RModel) : ∀ (F : Nat) (e : Expr), expand M F e ≠ .error .fuel →
    expandP M (F + 1) e = expand M F e
  | 0, e, h => by
    show e.bindD _ = e.bindD _
    exact bindD_congr _ _ (fun s t hst => absurd rfl hst) e h
  | F + 1, e, h => by
    show e.bindD _ = e.bindD _
    refine bindD_congr _ _ (fun s t hst => ?_) e h
    cases ho : odeRhs M s t with
    | none => rfl
    | some r =>
      simp only [ho] at hst ⊢
      exact expandP_eq_expand M F r hst

/-- **the closed generated `expand_derivatives`, one level deeper, = the hand model's `expand`** wherever `expand` does
    not answer `fuel` (there python raises `ValueError` or `RecursionError`, depending on which derivative it meets
    first — the hand model says `fuel` for both) -/
theorem genExpand_eq_expand (M : RModel) (F : Nat) (e : Expr) (hnf : expand M F e ≠ .error .fuel) :
    genExpand M (F + 1) e = errClass verrClass (expand M F e) := by
  rw [genExpand_eq M (F + 1) e, expandP_eq_expand M F e hnf]

/-- `f` levels of the generated `_get_value`, its nested `expand_derivatives` being `F` levels of the generated one;
    depth 0: `RecursionError` -/
def genGetValueRec (fn : Interp) (M : RModel) (F : Nat) : Nat → Nat → PyMemo → Except PyErr (Rat × PyMemo)
  | 0 => fun _ _ => .error ⟨"RecursionError"⟩
  | f + 1 => RolesValue.getValueRec M fn (genExpand M F) (genGetValueRec fn M F f)

/-- the expansions `_get_value` asks for do not run out of fuel at depth `F` (true on well-formed models for
    `F > |variables|`: `Props/C10Gen.lean`) -/
def ExpandsWithin (M : RModel) (F : Nat) : Prop :=
  ∀ v eq, M.st.varDef.lookup v = some eq → expand M F (M.rhs eq.tok) ≠ .error .fuel

/-- **the closed generated `_get_value` = the hand model's `getValueAux`** at every depth, for every variable and
    dictionary: value, dictionary left behind, exception class -/
theorem genGetValueRec_eq (fn : Interp) (M : RModel) (F : Nat) (hl : odeLhsOk M = true) (hnf : ExpandsWithin M F) :
    ∀ (f v : Nat) (m : Memo), genGetValueRec fn M (F + 1) f v (enc m) = recOf (getValueAux fn M F f) v (enc m)
  | 0, _, _ => rfl
  | f + 1, v, m => by
    show RolesValue.getValueRec M fn (genExpand M (F + 1)) (genGetValueRec fn M (F + 1) f) v (enc m) = _
    rw [getValueRec_congr_ex fn M (genExpand M (F + 1)) (fun e => errClass verrClass (expand M F e)) _ v (enc m)]
    · exact getValueRec_tie_rec fn M F f v m hl _ (fun d m0 => genGetValueRec_eq fn M F hl hnf f d m0)
    · intro eq heq
      have hlk : M.st.varDef.lookup v = some eq := by
        unfold varDefItem at heq
        cases hlk : M.st.varDef.lookup v with
        | none => rw [hlk] at heq; cases heq
        | some e => rw [hlk] at heq; cases heq; rfl
      exact genExpand_eq_expand M F _ (hnf v eq hlk)

/-- the generated `get_value` over the closed generated `_get_value`, with `F` levels of stack -/
def genGetValueFuel (fn : Interp) (M : RModel) (F : Nat) (v : Nat) : Except PyErr Rat :=
  RolesValue.getValue M (genGetValueRec fn M (F + 1) F) v

/-- **the closed generated `get_value` = the hand model's `getValueFuel`** (value and exception class). Domain:
    `odeLhsOk` (from C08's invariant); every state has an initial value and the ODE-map keys are distinct (as
    `getValue_tie`); the expansions stay within the fuel. For every interpretation `fn` of the opaque terms and every
    right-hand side. -/
theorem genGetValueFuel_eq (fn : Interp) (M : RModel) (F v : Nat) (hl : odeLhsOk M = true)
    (hinit : ∀ s ∈ stateKeys M.st, (initOf M.st s).isSome = true) (hnd : (stateKeys M.st).Nodup)
    (hnf : ExpandsWithin M F) :
    genGetValueFuel fn M F v = errClass verrClass (getValueFuel fn M F v) := by
  cases F with
  | zero => rfl
  | succ F' =>
    have h := getValueRec_none fn M (genExpand M (F' + 2)) (genGetValueRec fn M (F' + 2) F') v hl hinit hnd
    have h2 := genGetValueRec_eq fn M (F' + 1) hl hnf (F' + 1) v (memo0 M)
    have h2' : RolesValue.getValueRec M fn (genExpand M (F' + 2)) (genGetValueRec fn M (F' + 2) F') v (enc (memo0 M))
        = recOf (getValueAux fn M (F' + 1) (F' + 1)) v (enc (memo0 M)) := h2
    rw [h2'] at h
    exact getValue_of_rec M _ _ v (memo0 M) h

end Cellml.Tie.PRolesClosed
