import Cellml.Tie.AddVarsLeaf
import Mathlib.Tactic.SplitIfs

/-! # Tie: `Parser._add_variables` / `Parser._get_variable_name` (generated from the source) = `Load.checkVars`
    (what it raises) + `Load.entry` (what it records), i.e. the leaf `Cellml.Tie.addVariables` of `_add_components` -/

namespace Cellml.Tie.PAddVars
open Load Cellml.Gen Cellml.Tie.Py

theorem getVariableName_tie (c x : String) : AddVars.getVariableName c (.str x) = .ok (.ref (c, x)) := rfl

theorem bind_ok {ε α β} (a : α) (f : α → Except ε β) : (Except.ok a >>= f) = f a := Except.ok_bind a f
theorem bind_err {ε α β} (e : ε) (f : α → Except ε β) : (Except.error e >>= f) = Except.error e := rfl

theorem lookup_cons_if {β} (k a : String) (b : β) (l : List (String × β)) :
    List.lookup k ((a, b) :: l) = if k = a then some b else List.lookup k l := List.lookup_cons_ite k a b l

theorem lookup_dictErase (k k' : String) : ∀ d : Attrs,
    (dictErase k d).lookup k' = if k' = k then none else d.lookup k'
  | [] => by simp only [dictErase, List.lookup_nil, ite_self]
  | (a, b) :: d => by
    simp only [dictErase]
    split
    · rename_i h; subst h; simp only [List.lookup_cons_ite, lookup_dictErase a k' d]; split <;> rfl
    · rename_i h
      simp only [List.lookup_cons_ite, lookup_dictErase k k' d]
      split
      · rename_i h'; subst h'; rw [if_neg h]
      · rfl

theorem isIn_keys (k : String) (d : Attrs) : Py.isIn k (Py.keys d) = (d.lookup k).isSome := by
  rw [Bool.eq_iff_iff, List.lookup_isSome_iff_mem_keys]
  simp [Py.isIn, Py.keys, DictLike.keys]

theorem lookup_attribOf (v : VarElem) :
    (attribOf v).lookup "name" = some (.str v.decl.name) ∧ (attribOf v).lookup "units" = some (.str v.decl.units) ∧
    (attribOf v).lookup "public_interface" = some (.str (ifaceStr v.decl.pub)) ∧
    (attribOf v).lookup "private_interface" = some (.str (ifaceStr v.decl.priv)) ∧
    (attribOf v).lookup "initial_value" =
      (if v.badInit then some (.floatText none) else v.decl.init.map (fun q => .floatText (some q))) ∧
    (attribOf v).lookup (withNs XmlNs.CMETA "id") = v.decl.cmeta.map .str ∧
    (attribOf v).lookup "cmeta_id" = none := by
  obtain ⟨⟨name, units, pub, priv, init, cmeta⟩, bad⟩ := v
  cases bad <;> cases init <;> cases cmeta <;>
    simp only [attribOf, withNs, XmlNs, String.reduceAppend, List.cons_append, List.nil_append, List.append_nil,
      List.lookup_cons_ite, List.lookup_nil, String.reduceEq, Bool.false_eq_true, if_false, if_true, Option.map_some,
      Option.map_none, and_self]

/-- the body of `for variable_element in …` of the generated `_add_variables` as Lean elaborates it: pasted from
    `#print AddVars.addVariables` (the `show` in `addVariables_spec` checks it), to be pasted again when that changes -/
@[reducible] def genStep (ust : Units.Store) (e : CompElemV) (variable_element : VarElem)
    (__s : CompsState × List (AttrVal × VRef)) : Except PyErr (ForInStep (CompsState × List (AttrVal × VRef))) :=
            if Py.isIn (withNs XmlNs.CMETA "id") (Py.keys (attribOf variable_element)) = true then do
              let __x ← dictPop (attribOf variable_element) (withNs XmlNs.CMETA "id")
              let __do_lift ← dictGetItem (Py.setItem __x.snd "cmeta_id" __x.fst) "name"
              let __do_lift ← AddVars.getVariableName e.name __do_lift
              let __do_lift_1 ←
                dictGetItem (Py.setItem (Py.setItem __x.snd "cmeta_id" __x.fst) "name" __do_lift) "units"
              let __do_lift_2 ← unitsGetUnit { ust := ust } __do_lift_1
              let __x_1 ←
                modelAddVariable { ust := ust } __s.fst
                    (Py.setItem (Py.setItem (Py.setItem __x.snd "cmeta_id" __x.fst) "name" __do_lift) "units"
                      __do_lift_2)
              let __do_lift ←
                dictGetItem
                    (Py.setItem (Py.setItem (Py.setItem __x.snd "cmeta_id" __x.fst) "name" __do_lift) "units"
                      __do_lift_2)
                    "name"
              pure (ForInStep.yield (__x_1.snd, Py.setItem __s.snd __do_lift __x_1.fst))
            else do
              let __do_lift ← dictGetItem (attribOf variable_element) "name"
              let __do_lift ← AddVars.getVariableName e.name __do_lift
              let __do_lift_1 ← dictGetItem (Py.setItem (attribOf variable_element) "name" __do_lift) "units"
              let __do_lift_2 ← unitsGetUnit { ust := ust } __do_lift_1
              let __x ←
                modelAddVariable { ust := ust } __s.fst
                    (Py.setItem (Py.setItem (attribOf variable_element) "name" __do_lift) "units" __do_lift_2)
              let __do_lift ←
                dictGetItem (Py.setItem (Py.setItem (attribOf variable_element) "name" __do_lift) "units" __do_lift_2)
                    "name"
              pure (ForInStep.yield (__x.snd, Py.setItem __s.snd __do_lift __x.fst))

end Cellml.Tie.PAddVars

namespace Cellml.Tie.PAddVarRef
open Load Cellml.Tie.PAddVars Cellml.Tie.Py

/-- `cmeta_id=` as `add_variable` receives it from the dict -/
def cmetaArg (attrs : Attrs) : Option String :=
  match attrs.lookup "cmeta_id" with | some (.str id) => some id | _ => none

/-- `initial_value=` after `float(...)` -/
def initArg (attrs : Attrs) : Option Rat :=
  match attrs.lookup "initial_value" with | some (.floatText (some q)) => some q | _ => none

theorem modelAddVariable_of (self : CompsView) (cs : CompsState) {attrs : Attrs} {r : VRef} {n : String}
    {c : Container} (hk : attrs.any (fun p => !kwargNames.contains p.1) = false)
    (hn : attrs.lookup "name" = some (.ref r)) (hu : attrs.lookup "units" = some (.unit n c)) :
    modelAddVariable self cs attrs =
      if cs.acc.1.contains r then .error ⟨"ValueError"⟩
      else if (match cmetaArg attrs with | some id => cs.acc.2.contains id | none => false) then
        .error ⟨"ValueError"⟩
      else if attrs.lookup "initial_value" = some (.floatText none) then .error ⟨"ValueError"⟩
      else .ok (r, { cs with
        acc := (r :: cs.acc.1, match cmetaArg attrs with | some id => id :: cs.acc.2 | none => cs.acc.2),
        vt := cs.vt ++ [(r, ⟨c, ifaceArg attrs "public_interface", ifaceArg attrs "private_interface",
                             initArg attrs, cmetaArg attrs, n⟩)] }) := by
  unfold modelAddVariable
  simp only [hk, hn, hu, Bool.false_eq_true, if_false]
  by_cases h1 : cs.acc.1.contains r = true
  · rw [if_pos h1, if_pos h1]
  · rw [if_neg h1, if_neg h1]
    show (if (match cmetaArg attrs with | some id => cs.acc.2.contains id | none => false) = true then _ else _) = _
    by_cases h2 : (match cmetaArg attrs with | some id => cs.acc.2.contains id | none => false) = true
    · rw [if_pos h2, if_pos h2]
    · rw [if_neg h2, if_neg h2]
      by_cases h3 : attrs.lookup "initial_value" = some (.floatText none)
      · rw [if_pos h3, h3]
      · rw [if_neg h3]
        split
        · exact absurd ‹_› h3
        · rfl

/-- the dict `attributes` at the call `self.model.add_variable(**attributes)`, for the `<variable>` element `v` of the
    component `cname` whose units the store knows (container `c`): `dict(element.attrib)`, `cmeta:id` renamed to
    `cmeta_id`, `name` replaced by the flat name, `units` by the `Unit` object -/
def kwargsOf (cname : String) (v : VarElem) (c : Container) : Attrs :=
  let a1 : Attrs :=
    if Py.isIn (withNs XmlNs.CMETA "id") (Py.keys (attribOf v)) = true then
      match dictPop (attribOf v) (withNs XmlNs.CMETA "id") with
      | .ok x => Py.setItem x.2 "cmeta_id" x.1
      | .error _ => attribOf v
    else attribOf v
  Py.setItem (Py.setItem a1 "name" (.ref (cname, v.decl.name))) "units" (.unit v.decl.units c)

-- otherwise `simp` decides `"a" = "b"` by `whnf` on the byte arrays of the literals and times out; the literals are
-- compared by the `String.reduceEq` simprocs instead
attribute [local irreducible] String.decEq

/-- **the call in the generated loop body is the leaf at `kwargsOf`**: the body of the `for` of the generated
    `_add_variables` (`PAddVars.genStep`, checked against the generated definition in `addVariables_spec`) looks the
    unit up (KeyError), calls `modelAddVariable` with exactly the dict `kwargsOf`, and stores the result under the flat
    name -/
theorem genStep_kwargs (ust : Units.Store) (e : CompElemV) (v : VarElem) (s : CompsState × List (AttrVal × VRef)) :
    genStep ust e v s =
      match Units.getUnit ust v.decl.units with
      | .error _ => .error ⟨"KeyError"⟩
      | .ok c =>
        match modelAddVariable ⟨ust⟩ s.1 (kwargsOf e.name v c) with
        | .error x => .error x
        | .ok x => .ok (.yield (x.2, Py.setItem s.2 (.ref (e.name, v.decl.name)) x.1)) := by
  obtain ⟨hn, hu, _, _, _, hid, _⟩ := lookup_attribOf v
  unfold genStep kwargsOf
  rw [isIn_keys]
  simp only [withNs, XmlNs, String.reduceAppend] at hid ⊢
  revert hid
  -- with a `cmeta:id` the dict is popped and re-keyed first; `name` and `units` read the same either way
  cases v.decl.cmeta <;> intro hid <;>
    simp only [hid, Option.map_none, Option.map_some, Option.isSome_none, Option.isSome_some, Bool.false_eq_true,
      if_false, if_true, dictPop, dictGetItem, Py.setItem, DictLike.setItem, lookup_setAssoc, lookup_dictErase, hn, hu,
      String.reduceEq, bind_ok, getVariableName_tie, unitsGetUnit]
  all_goals
    cases Units.getUnit ust v.decl.units <;> simp only [bind_ok, bind_err]
    cases modelAddVariable { ust := ust } s.1 _ <;> rfl

theorem kwargsOf_keys (cname : String) (v : VarElem) (c : Container) :
    (kwargsOf cname v c).any (fun p => !kwargNames.contains p.1) = false := by
  obtain ⟨⟨name, units, pub, priv, init, cmeta⟩, bad⟩ := v
  cases bad <;> cases init <;> cases cmeta <;>
    simp only [kwargsOf, attribOf, withNs, XmlNs, String.reduceAppend, List.cons_append, List.nil_append,
      List.append_nil, Bool.false_eq_true, if_false, if_true, Py.isIn, Py.keys, Py.setItem, DictLike.keys,
      DictLike.setItem, List.map_cons, List.map_nil, List.contains_cons, List.contains_nil, String.reduceBEq,
      Bool.or_false, Bool.or_true, dictPop, List.lookup_cons_ite, List.lookup_nil, String.reduceEq, setAssoc, dictErase,
      kwargNames, List.any_cons, List.any_nil, Bool.not_true]

theorem kwargsOf_reads (cname : String) (v : VarElem) (c : Container) :
    (kwargsOf cname v c).lookup "name" = some (.ref (cname, v.decl.name)) ∧
    (kwargsOf cname v c).lookup "units" = some (.unit v.decl.units c) ∧
    cmetaArg (kwargsOf cname v c) = v.decl.cmeta ∧
    ifaceArg (kwargsOf cname v c) "public_interface" = v.decl.pub ∧
    ifaceArg (kwargsOf cname v c) "private_interface" = v.decl.priv ∧
    (kwargsOf cname v c).lookup "initial_value" =
      if v.badInit then some (.floatText none) else v.decl.init.map (fun q => .floatText (some q)) := by
  obtain ⟨_, _, hpub, hpriv, hiv, hid, hno⟩ := lookup_attribOf v
  unfold cmetaArg ifaceArg kwargsOf
  rw [isIn_keys]
  simp only [withNs, XmlNs, String.reduceAppend] at hid ⊢
  revert hid
  cases v.decl.cmeta <;> intro hid <;>
    simp only [hid, Option.map_none, Option.map_some, Option.isSome_none, Option.isSome_some, Bool.false_eq_true,
      if_false, if_true, dictPop, Py.setItem, DictLike.setItem, lookup_setAssoc, lookup_dictErase, String.reduceEq,
      hpub, hpriv, hiv, hno, ifaceOfStr_ifaceStr, and_self]

end Cellml.Tie.PAddVarRef

namespace Cellml.Tie.PAddVars
open Load Cellml.Gen Cellml.Tie.Py Cellml.Tie.PAddVarRef

/-- one iteration of the loop in the words of the model (`genStep_eq`); `varsSpec` below is this on the component
    `acc` alone, over the whole list -/
def stepSpec (ust : Units.Store) (cname : String) (v : VarElem) (s : CompsState × List (AttrVal × VRef)) :
    Except PyErr (ForInStep (CompsState × List (AttrVal × VRef))) :=
  match Units.getUnit ust v.decl.units with
  | .error _ => .error ⟨"KeyError"⟩
  | .ok c =>
    if s.1.acc.1.contains (cname, v.decl.name) then .error ⟨"ValueError"⟩
    else if (match v.decl.cmeta with | some id => s.1.acc.2.contains id | none => false) then .error ⟨"ValueError"⟩
    else if v.badInit then .error ⟨"ValueError"⟩
    else .ok (.yield ({ s.1 with
        acc := ((cname, v.decl.name) :: s.1.acc.1,
                match v.decl.cmeta with | some id => id :: s.1.acc.2 | none => s.1.acc.2),
        vt := s.1.vt ++ [((cname, v.decl.name),
                ⟨c, v.decl.pub, v.decl.priv, v.decl.init, v.decl.cmeta, v.decl.units⟩)] },
      Py.setItem s.2 (.ref (cname, v.decl.name)) (cname, v.decl.name)))

theorem genStep_eq (ust : Units.Store) (e : CompElemV) (v : VarElem) (s : CompsState × List (AttrVal × VRef)) :
    genStep ust e v s = stepSpec ust e.name v s := by
  rw [genStep_kwargs]
  unfold stepSpec
  cases Units.getUnit ust v.decl.units with
  | error a => rfl
  | ok c =>
    simp only []
    obtain ⟨hn, hu, hcm, hpub, hpriv, hiv⟩ := kwargsOf_reads e.name v c
    rw [modelAddVariable_of _ _ (kwargsOf_keys _ _ _) hn hu, hcm, hpub, hpriv, initArg, hiv]
    cases v.badInit <;> cases v.decl.init <;>
      simp only [Bool.false_eq_true, if_false, if_true, Option.map_some, Option.map_none, reduceCtorEq,
        Option.some.injEq, AttrVal.floatText.injEq] <;>
      split_ifs <;> rfl

/-- `Load.checkVars` over `<variable>` elements, with the ValueError of `float(initial_value)` at the place where the
    code has it (inside `Variable.__init__`, after the two checks of `add_variable`); exception classes only -/
def varsSpec (ust : Units.Store) (cname : String) : List VarElem → List VRef × List String →
    Except PyErr (List VRef × List String)
  | [], acc => .ok acc
  | v :: r, acc =>
      match Units.getUnit ust v.decl.units with
      | .error _ => .error ⟨"KeyError"⟩
      | .ok _ =>
        if acc.1.contains (cname, v.decl.name) then .error ⟨"ValueError"⟩
        else if (match v.decl.cmeta with | some id => acc.2.contains id | none => false) then .error ⟨"ValueError"⟩
        else if v.badInit then .error ⟨"ValueError"⟩
        else varsSpec ust cname r ((cname, v.decl.name) :: acc.1,
               match v.decl.cmeta with | some id => id :: acc.2 | none => acc.2)

theorem loop_spec (ust : Units.Store) (cname : String) : ∀ (vs : List VarElem) (st : CompsState)
    (vls : List (AttrVal × VRef)), (∀ p ∈ vls, ∃ r ∈ st.acc.1, p.1 = .ref r) →
    forIn vs (st, vls) (stepSpec ust cname) =
      match varsSpec ust cname vs st.acc with
      | .error x => .error x
      | .ok acc' => .ok ({ st with acc := acc', vt := st.vt ++ vs.map (fun v => entry ust cname v.decl) },
          vls ++ vs.map (fun v => (AttrVal.ref (cname, v.decl.name), (cname, v.decl.name)))) := by
  intro vs
  induction vs with
  | nil => intro st vls _; simp [varsSpec]; rfl
  | cons v r ih =>
    intro st vls hinv
    rw [List.forIn_cons]
    simp only [stepSpec, varsSpec]
    cases hu : Units.getUnit ust v.decl.units with
    | error a => simp only [bind_err]
    | ok c =>
      simp only []
      by_cases h1 : st.acc.1.contains (cname, v.decl.name) = true
      · simp only [h1, if_true, bind_err]
      · by_cases h2 : (match v.decl.cmeta with | some id => st.acc.2.contains id | none => false) = true
        · simp only [h1, h2, if_true, if_false, bind_err, Bool.false_eq_true]
        · by_cases h3 : v.badInit = true
          · simp only [h1, h2, h3, if_true, if_false, bind_err, Bool.false_eq_true]
          · simp only [h1, h2, h3, if_false, bind_ok, Bool.false_eq_true]
            -- the keys of the lookup are names the Model knows (`hinv`), this name is new: `setItem` appends
            have hk : ∀ p ∈ vls, p.1 ≠ AttrVal.ref (cname, v.decl.name) := by
              intro p hp heq
              obtain ⟨r', hr', hpr⟩ := hinv p hp
              rw [hpr] at heq
              injection heq with heq
              subst heq
              exact h1 (by simpa using hr')
            simp only [Py.setItem, DictLike.setItem]
            rw [setAssoc_fresh _ _ vls (fun hm => by
              obtain ⟨p, hp, e⟩ := List.mem_map.mp hm
              exact hk p hp e), ih]
            · cases varsSpec ust cname r _ with
              | error x => rfl
              | ok acc' => simp [entry, hu, List.append_assoc]
            · intro p hp
              rcases List.mem_append.mp hp with hp | hp
              · obtain ⟨r', hr', hpr⟩ := hinv p hp
                exact ⟨r', List.mem_cons_of_mem _ hr', hpr⟩
              · simp only [List.mem_singleton] at hp
                subst hp
                exact ⟨_, List.mem_cons_self, rfl⟩

theorem varsSpec_checkVars (ust : Units.Store) (cname : String) : ∀ (vs : List VarElem) (acc : List VRef × List String),
    (∀ v ∈ vs, v.badInit = false) →
    varsSpec ust cname vs acc = errClass Err.className (checkVars ust cname (vs.map (·.decl)) acc)
  | [], _, _ => rfl
  | v :: r, (names, ids), h => by
    have hv : v.badInit = false := h v List.mem_cons_self
    have hr := fun acc' => varsSpec_checkVars ust cname r acc' (fun v' h' => h v' (List.mem_cons_of_mem _ h'))
    simp only [varsSpec, List.map_cons, checkVars, hv, Bool.false_eq_true, if_false]
    cases Units.getUnit ust v.decl.units with
    | error a => rfl
    | ok c =>
      simp only []
      cases hc : v.decl.cmeta with
      -- name in use: ValueError on both sides; else the rest of the list
      | none =>
        simp only [Bool.false_eq_true, if_false]
        split_ifs
        · rfl
        · exact hr _
      -- name in use, cmeta id in use: ValueError on both sides; else the rest of the list
      | some id =>
        simp only []
        split_ifs
        · rfl
        · rfl
        · exact hr _

/-- **`Parser._add_variables`**, for every unit store, `<component>` element (any `<variable>` children, readable
    `initial_value` or not) and parser state: the generated function raises what `varsSpec` (= `Load.checkVars` plus the
    ValueError of an unreadable `initial_value`) raises, same class, same first offender; otherwise it returns the lookup
    flat name ↦ Variable in document order and has appended `Load.entry` of every variable to the table. -/
theorem addVariables_spec (ust : Units.Store) (e : CompElemV) (st : CompsState) :
    AddVars.addVariables ⟨ust⟩ e st =
      match varsSpec ust e.name e.vars st.acc with
      | .error x => .error x
      | .ok acc' => .ok (e.vars.map (fun v => (AttrVal.ref (e.name, v.decl.name), (e.name, v.decl.name))),
          { st with acc := acc', vt := st.vt ++ e.vars.map (fun v => entry ust e.name v.decl) }) := by
  unfold AddVars.addVariables
  simp only [findall, beq_self_eq_true, if_true]
  show (do let __s ← forIn e.vars (st, Py.emptyDict) (genStep ust e); pure (__s.snd, __s.fst)) = _
  rw [show genStep ust e = stepSpec ust e.name from funext fun v => funext fun s => genStep_eq ust e v s]
  rw [loop_spec ust e.name e.vars st Py.emptyDict (by intro p hp; cases hp)]
  cases varsSpec ust e.name e.vars st.acc with
  | error x => rfl
  | ok acc' =>
    simp [Py.emptyDict]
    rfl

/-- **`Parser._add_variables` = the leaf `Cellml.Tie.addVariables`** (`Load.checkVars` + `Load.entry`) that the
    generated `_add_components` and the loader theorems use, on every `<component>` element of the models (all
    `initial_value`s readable): same result (the keys of the lookup are the flat names), same state, same exception
    class (KeyError: unknown unit; ValueError: duplicate variable name, duplicate cmeta id). -/
theorem genAddVariables_eq (ust : Units.Store) (e : CompElem) (st : CompsState) :
    AddVars.addVariables ⟨ust⟩ (ofCompElem e) st =
      (Cellml.Tie.addVariables ⟨ust⟩ st e).map
        (fun r => (r.1.map (fun p => (AttrVal.ref p.1, p.2)), r.2)) := by
  rw [addVariables_spec, varsSpec_checkVars _ _ _ _ (by
    intro v hv; simp only [ofCompElem, List.mem_map] at hv; obtain ⟨d, _, rfl⟩ := hv; rfl)]
  simp only [ofCompElem, List.map_map, Cellml.Tie.addVariables]
  have hm : List.map ((fun x => x.decl) ∘ fun d => ({ decl := d } : VarElem)) e.comp.vars = e.comp.vars := by
    simp [Function.comp_def]
  rw [hm]
  cases checkVars ust e.comp.name e.comp.vars st.acc with
  | error err => rfl
  | ok acc' => simp [errClass, Except.map, Function.comp_def]

/-- **the leaf of the generated `_add_components` IS the generated `_add_variables`**: `genAddVariables` (the generated
    function, re-keyed) equals the hand-written `Cellml.Tie.addVariables` for every store, state and element -/
theorem genAddVariables_leaf (self : CompsView) (st : CompsState) (e : CompElem) :
    genAddVariables self st e = Cellml.Tie.addVariables self st e := by
  obtain ⟨ust⟩ := self
  unfold genAddVariables
  rw [genAddVariables_eq]
  cases Cellml.Tie.addVariables ⟨ust⟩ st e with
  | error x => rfl
  | ok r =>
    obtain ⟨l, st'⟩ := r
    simp only [Except.map, List.map_map]
    congr 2
    conv => rhs; rw [← List.map_id l]
    apply List.map_congr_left
    intro p _
    rfl

end Cellml.Tie.PAddVars
