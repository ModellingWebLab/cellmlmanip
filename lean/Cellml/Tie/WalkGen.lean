import Cellml.Tie.MathsWalk
import Cellml.Tie.TranspileClosed

/-! # Tie: the hand-written walk of `Tie/MathsWalkView.lean` (`walkExpr`) = the GENERATED handlers of
      `cellmlmanip.parser.Transpiler`, run with the two callbacks of the transpiler object

    `walkExpr T` stands, inside the generated `Parser._add_maths`, for `Transpiler.parse_tree` / `transpile` and the
    handlers. Here it is tied to the code generated from those handlers (`Generated/Code/Transpile.lean`), closed with
    the two callbacks of the transpiler object: `genWalk` is `PGenE.closeFuel (runMethodW sym num)` at the size of the
    tree, so it has the fixpoint equation `genWalk_fix`, and every lemma is about `genWalk` on a tree. -/

namespace Cellml.Tie.PWalkGen
open C02 Cellml.Gen Cellml.Tie.PTranspile Cellml.Tie.PGenE
open Cellml.Tie.PMathsWalk (TranspilerObj walkExpr walkSide MSide MEq MathElem TrEq parseEqs parseTree)

/-- `<cn cellml:units="u">text</cn>`. `C02.Mml.cn` has the `type` attribute, the text and the children of a `<cn>`
    but no slot for `cellml:units` (the default transpiler of C02 ignores it): the element is written as `.el "cn"`
    holding the `.cn` cell and the attribute value in a `.ci` cell. `runMethodW` reads it back into the `CnNode` the
    generated `_cn_handler` consumes. Such a tree is OUTSIDE `PGenE.wfV` (which excludes `.el "cn"`): `genTranspile_eq`
    and `Props/C02Gen.lean` say nothing about the trees of this walk, and this file nothing about `C02.transpile`. -/
def cnUnits (text u : String) : Mml := .el "cn" (.cons (.cn none (some text) []) (.cons (.ci u) .nil))

/-- `harness/docgen.py:expr_xml`, transcribed by hand (no theorem or check compares the two); `render` is the decimal
    text the writer puts into `<cn>` -/
def toMml (render : Rat → String) : Load.Expr String String → Mml
  | .num q u => cnUnits (render q) u
  | .var a => .ci a
  | .diff x t => .el "apply" (Mml.ofList [.el "diff" .nil, .el "bvar" (Mml.ofList [.ci t]), .ci x])
  | .add a b => .el "apply" (Mml.ofList [.el "plus" .nil, toMml render a, toMml render b])
  | .sub a b => .el "apply" (Mml.ofList [.el "minus" .nil, toMml render a, toMml render b])
  | .mul a b => .el "apply" (Mml.ofList [.el "times" .nil, toMml render a, toMml render b])
  | .div a b => .el "apply" (Mml.ofList [.el "divide" .nil, toMml render a, toMml render b])
  | .neg a => .el "apply" (Mml.ofList [.el "minus" .nil, toMml render a])
  | .powi a n => .el "apply" (Mml.ofList [.el "power" .nil, toMml render a, cnUnits (render n) "dimensionless"])

/-- the leaves of the GENERATED `_cn_handler` for a transpiler constructed with `number_generator=num`: `float`, `int`,
    `strip` as for C02; the number generator is the callback (python floats that are not finite, and a `<cn>` without
    `cellml:units`, are outside the loader's documents) -/
def cnViewW (num : Rat → String → Except PyErr Sy) : CnView FVal Sy :=
  { cnViewC02 with
    numberGenerator := fun v u => match v, u with
      | .fin q, some u => num q u
      | _, _ => .error ⟨"outside: number generator on inf / nan or without units"⟩ }

/-- `self.handlers[tag]` by method name, for `Transpiler(symbol_generator=sym, number_generator=num)`: as
    `PGenE.runMethod`, but `_ci_handler` (`self.symbol_generator(node.text.strip())`) calls `sym` and the GENERATED
    `_cn_handler` runs on `cnViewW num`. Every other method IS `PGenE.runMethod` (generated definitions). -/
def runMethodW (sym : String → Except PyErr Sy) (num : Rat → String → Except PyErr Sy) (m : String) (self : TView)
    (node : Mml) : Except PyErr Sy :=
  if m = "_cn_handler" then
    (match node with
      | .el _ (.cons (.cn ty text kids) (.cons (.ci u) .nil)) => Transpile.cnHandler (cnViewW num) ⟨ty, text, kids, some u⟩
      | .cn ty text kids => Transpile.cnHandler (cnViewW num) ⟨ty, text, kids, none⟩
      | _ => .error ⟨"outside: <cn> not in its own encoding"⟩)
  else if m = "_ci_handler" then
    (match node with
      | .ci n => sym n
      | _ => .error ⟨"outside: <ci> not in its own encoding"⟩)
  else runMethod m self node

/-- `self.handlers[tag](child)`, recursion depth at most `n` — `PGenE.genHandlerFuel` with the callbacks; it is
    `PGenE.closeFuel (runMethodW sym num)` (`genWalkFuel_eq_close`) -/
def genWalkFuel (sym : String → Except PyErr Sy) (num : Rat → String → Except PyErr Sy) :
    Nat → String → Mml → Except PyErr Sy
  | 0, _, _ => .error ⟨"RecursionError"⟩
  | n + 1, tag, child =>
    match handlerOf tag with
    | none => .error ⟨"KeyError"⟩
    | some m => runMethodW sym num m ⟨fun node => Transpile.transpileChildren ⟨hasH, genWalkFuel sym num n⟩ node⟩ child

/-- the handler of the element's own tag, run on the element (fuel: the size `C02.Mml.size` of the element) -/
def genWalk (sym : String → Except PyErr Sy) (num : Rat → String → Except PyErr Sy) (t : Mml) : Except PyErr Sy :=
  genWalkFuel sym num t.size (mmlTag t) t

/-- names of the `sympy.Dummy` objects: a Variable, a Quantity (`create_quantity(value, units)`); `dimless`: the unit
    object `get_unit('dimensionless')` returns -/
structure Names where
  var : Load.VRef → String
  qty : Rat → Load.FUnit → String
  dimless : Load.FUnit

/-- the SymPy term of a transpiled expression, in the heads of `C02.Sy` (`Add`, `Mul`: SymPy classes of the generated
    table; `sub`, `div`, `neg`, `pow`: python operators of the closures; `Derivative(x, t, 1)`) -/
def toSy (N : Names) : Load.Expr Load.VRef Load.FUnit → Sy
  | .num q u => .sym (N.qty q u)
  | .var v => .sym (N.var v)
  | .diff x t => .app "Derivative" (Sy.ofList [.sym (N.var x), .sym (N.var t), .int 1])
  | .add a b => .app "Add" (Sy.ofList [toSy N a, toSy N b])
  | .sub a b => .app "sub" (Sy.ofList [toSy N a, toSy N b])
  | .mul a b => .app "Mul" (Sy.ofList [toSy N a, toSy N b])
  | .div a b => .app "div" (Sy.ofList [toSy N a, toSy N b])
  | .neg a => .app "neg" (Sy.ofList [toSy N a])
  | .powi a n => .app "pow" (Sy.ofList [toSy N a, .sym (N.qty n N.dimless)])

/-- `symbol_generator` of `T` as the generated handlers see it (`TranspilerObj.ci`: the closure with its assertion) -/
def symOf (N : Names) (T : TranspilerObj) (a : String) : Except PyErr Sy := (T.ci a).map fun v => .sym (N.var v)
/-- `number_generator` of `T` as the generated handlers see it -/
def numOf (N : Names) (T : TranspilerObj) (q : Rat) (u : String) : Except PyErr Sy := (T.num q u).map (toSy N)

theorem numLike_toSy (N : Names) : ∀ e, numLike (toSy N e) = true
  | .num _ _ | .var _ => rfl
  | .diff _ _ | .add _ _ | .sub _ _ | .mul _ _ | .div _ _ | .neg _ | .powi _ _ => by
    simp only [toSy, numLike, Sy.srt]; decide +kernel

section
variable (sym : String → Except PyErr Sy) (num : Rat → String → Except PyErr Sy)

theorem genWalkFuel_eq_close : ∀ n, genWalkFuel sym num n = closeFuel (runMethodW sym num) n
  | 0 => rfl
  | n + 1 => by
    funext tag child
    simp only [genWalkFuel, closeFuel, genWalkFuel_eq_close n]
    cases handlerOf tag <;> rfl

theorem runMethodW_local : Local (runMethodW sym num) := fun m s1 s2 node h => by
  unfold runMethodW
  split
  · rfl
  · split
    · rfl
    · exact runMethod_local m s1 s2 node h

theorem genWalk_eq_close : genWalk sym num = close (runMethodW sym num) := by
  funext c; rw [genWalk, genWalkFuel_eq_close]; rfl

/-- **the fixpoint equation of the walk**: the handler of the element's tag, run with a `self` whose `transpile` is the
    GENERATED loop over the walk itself -/
theorem genWalk_fix (t : Mml) :
    genWalk sym num t =
      match handlerOf (mmlTag t) with
      | none => .error ⟨"KeyError"⟩
      | some m => runMethodW sym num m
          ⟨fun node => Transpile.transpileChildren ⟨hasH, fun _ c => genWalk sym num c⟩ node⟩ t := by
  rw [genWalk_eq_close]; exact close_fix (runMethodW_local sym num) t

theorem hasH_of {t m : String} (h : handlerOf t = some m) : hasH t = true := by
  rw [hasH, h]
  rfl

/-- one child in the loop of `Transpiler.transpile` over the walk -/
abbrev stepW : Mml → Except PyErr Sy := DView.step ⟨hasH, fun _ c => genWalk sym num c⟩

theorem stepW_eq {k : Mml} (h : hasH (mmlTag k) = true) : stepW sym num k = genWalk sym num k := by
  simp only [stepW, DView.step, h, if_true]

/-- **the GENERATED container handlers** met here (`_apply_handler`, `_bvar_handler`, `_degree_handler`) over the
    generated loop: transpile the children, then `C02.assemble` (`applyHandler_tie`, …; for `_apply_handler` that is
    the call of the first result on the rest, `C02.call`, which `call_tie` ties to the GENERATED closures
    `_wrapped_*` and `_wrapper_relational`) -/
theorem container_eq (tag m : String) (ks : List Mml) (h : handlerOf tag = some m)
    (hm : m = "_apply_handler" ∨ m = "_bvar_handler" ∨ m = "_degree_handler") :
    genWalk sym num (.el tag (Mml.ofList ks)) =
      (ks.mapM (stepW sym num)).bind fun l => syE (assemble m (Sy.ofList l)) := by
  rw [genWalk_fix, mmlTag, h]
  rcases hm with rfl | rfl | rfl <;>
    simp [runMethodW, runMethod, applyHandler_tie, bvarHandler_tie, degreeHandler_tie, modelContainer,
      transpileChildren_mapM, mmlChildren, mml_toList_ofList]

theorem apply_bin (opTag : String) (f : Sy) (A B : Mml) (hop : hasH opTag = true)
    (hf : genWalk sym num (.el opTag .nil) = .ok f) (hA : hasH (mmlTag A) = true) (hB : hasH (mmlTag B) = true) :
    genWalk sym num (.el "apply" (Mml.ofList [.el opTag .nil, A, B])) =
      match genWalk sym num A with
      | .error e => .error e
      | .ok a => match genWalk sym num B with
        | .error e => .error e
        | .ok b => syE (call f (Sy.ofList [a, b])) := by
  rw [container_eq sym num "apply" _ _ handlerOf_apply (.inl rfl)]
  simp only [List.mapM_cons, List.mapM_nil, stepW_eq sym num (k := .el opTag .nil) hop, stepW_eq sym num hA,
    stepW_eq sym num hB, hf, except_run]
  cases genWalk sym num A with
  | error e => rfl
  | ok a => cases genWalk sym num B <;> rfl

theorem apply_un (opTag : String) (f : Sy) (A : Mml) (hop : hasH opTag = true)
    (hf : genWalk sym num (.el opTag .nil) = .ok f) (hA : hasH (mmlTag A) = true) :
    genWalk sym num (.el "apply" (Mml.ofList [.el opTag .nil, A])) =
      match genWalk sym num A with
      | .error e => .error e
      | .ok a => syE (call f (Sy.ofList [a])) := by
  rw [container_eq sym num "apply" _ _ handlerOf_apply (.inl rfl)]
  simp only [List.mapM_cons, List.mapM_nil, stepW_eq sym num (k := .el opTag .nil) hop, stepW_eq sym num hA,
    hf, except_run]
  cases genWalk sym num A <;> rfl

/-- an element MathML 2 gives a meaning is an operator of the generated table (`table_keys`) -/
theorem handlerOf_of_mml {t : String} {m : Meaning} (h : mmlMeaning t = some m) :
    handlerOf t = some "_simple_operator_handler" := by
  obtain ⟨c, hc⟩ := mml_key h
  exact handlerOf_simple hc

theorem handlerOf_plus : handlerOf "plus" = some "_simple_operator_handler" := handlerOf_of_mml (m := .add) (by decide)
theorem handlerOf_times : handlerOf "times" = some "_simple_operator_handler" := handlerOf_of_mml (m := .mul) (by decide)
theorem handlerOf_eq : handlerOf "eq" = some "_simple_operator_handler" := handlerOf_of_mml (m := .eq) (by decide)

theorem op_simple (tag : String) (f : Sy) (h : handlerOf tag = some "_simple_operator_handler")
    (hf : simpleOperator tag = .ok f) : genWalk sym num (.el tag .nil) = .ok f := by
  rw [genWalk_fix, mmlTag, h]
  simp [runMethodW, runMethod, simpleOperatorHandler_tie, hf, syE, errClass]

theorem op_wrapped (tag m : String) (h : handlerOf tag = some m) (hm : m ∈ wrappedHandlers) :
    genWalk sym num (.el tag .nil) = .ok (.wrapped m) := by
  rw [genWalk_fix, mmlTag, h]
  simp only [wrappedHandlers, List.mem_cons, List.mem_nil_iff, or_false] at hm
  rcases hm with rfl | rfl | rfl | rfl | rfl | rfl <;> simp [runMethodW, runMethod, wrappedHandlers]

theorem ci_eq (a : String) : genWalk sym num (.ci a) = sym a := by
  rw [genWalk_fix, mmlTag, handlerOf_ci]
  simp [runMethodW]

theorem cn_eq (text u : String) (q : Rat) (h : pyFloat text.toList = some (.fin q)) :
    genWalk sym num (cnUnits text u) = num q u := by
  rw [genWalk_fix, cnUnits, mmlTag, handlerOf_cn]
  simp only [runMethodW, if_true]
  unfold Transpile.cnHandler
  simp [except_run, cnViewW, cnViewC02, String.toList_ofList, pyFloat_strip, h, optToExcept]

theorem bvar_eq (t : String) : genWalk sym num (.el "bvar" (Mml.ofList [.ci t])) = sym t := by
  rw [container_eq sym num "bvar" _ _ handlerOf_bvar (.inr (.inl rfl))]
  simp only [List.mapM_cons, List.mapM_nil, stepW_eq sym num (k := .ci t) (hasH_of handlerOf_ci), ci_eq, except_run]
  cases sym t <;> simp [assemble_bvar, Sy.ofList, syE, errClass]

/-- `<degree><cn cellml:units="dimensionless">n</cn></degree>` -/
def degreeEl (render : Rat → String) (n : Nat) : Mml :=
  .el "degree" (Mml.ofList [cnUnits (render n) "dimensionless"])

theorem degree_eq (render : Rat → String) (n : Nat) (h : pyFloat (render n).toList = some (.fin n)) :
    genWalk sym num (degreeEl render n) = num n "dimensionless" := by
  rw [degreeEl, container_eq sym num "degree" _ _ handlerOf_degree (.inr (.inr rfl))]
  simp only [List.mapM_cons, List.mapM_nil, stepW_eq sym num (k := cnUnits (render n) "dimensionless") (hasH_of handlerOf_cn),
    cn_eq _ _ _ _ _ h, except_run]
  cases num n "dimensionless" <;> simp [assemble_degree, Sy.ofList, syE, errClass]

theorem bvar2_eq (render : Rat → String) (t : String) (n : Nat) (h : pyFloat (render n).toList = some (.fin n)) :
    genWalk sym num (.el "bvar" (Mml.ofList [.ci t, degreeEl render n])) =
      match sym t with
      | .error e => .error e
      | .ok a => match num n "dimensionless" with
        | .error e => .error e
        | .ok d => .ok (.pylist (Sy.ofList [a, d])) := by
  rw [container_eq sym num "bvar" _ _ handlerOf_bvar (.inr (.inl rfl))]
  simp only [List.mapM_cons, List.mapM_nil, stepW_eq sym num (k := .ci t) (hasH_of handlerOf_ci),
    stepW_eq sym num (k := degreeEl render n) (hasH_of handlerOf_degree), ci_eq, degree_eq _ _ render n h,
    except_run]
  cases sym t with
  | error e => rfl
  | ok a => cases num n "dimensionless" <;> simp [assemble_bvar, Sy.ofList, syE, errClass]

end

/-- the fragment: every number of the expression is written as a text python's `float` reads back as that number
    (`render`), and — `walkExpr` does not hand the exponent of an integer power to the number generator, python does
    (`<cn cellml:units="dimensionless">n</cn>`) — the number generator of `T` makes the Quantity `n [dimensionless]` of
    every exponent -/
def Frag (render : Rat → String) (N : Names) (T : TranspilerObj) : Load.Expr String String → Prop
  | .num q _ => pyFloat (render q).toList = some (.fin q)
  | .var _ => True
  | .diff _ _ => True
  | .add a b => Frag render N T a ∧ Frag render N T b
  | .sub a b => Frag render N T a ∧ Frag render N T b
  | .mul a b => Frag render N T a ∧ Frag render N T b
  | .div a b => Frag render N T a ∧ Frag render N T b
  | .neg a => Frag render N T a
  | .powi a n => Frag render N T a ∧ pyFloat (render n).toList = some (.fin n) ∧
      T.num n "dimensionless" = .ok (.num n N.dimless)

theorem hasH_toMml (render : Rat → String) (e : Load.Expr String String) :
    hasH (mmlTag (toMml render e)) = true :=
  match e with
  | .num _ _ => hasH_of handlerOf_cn
  | .var _ => hasH_of handlerOf_ci
  | .diff _ _ | .add _ _ | .sub _ _ | .mul _ _ | .div _ _ | .neg _ | .powi _ _ => hasH_of handlerOf_apply

def toMmlSide (render : Rat → String) : MSide → Mml
  | .e x => toMml render x
  | .higher x t n =>
    .el "apply" (Mml.ofList [.el "diff" .nil, .el "bvar" (Mml.ofList [.ci t, degreeEl render n]), .ci x])

section
variable (render : Rat → String) (N : Names) (T : TranspilerObj)

theorem bin_eq {m : String} (tag : String) (f : Sy)
    (mk : Load.Expr Load.VRef Load.FUnit → Load.Expr Load.VRef Load.FUnit → Load.Expr Load.VRef Load.FUnit) (A B : Mml)
    (ra rb : Except PyErr (Load.Expr Load.VRef Load.FUnit)) (h : handlerOf tag = some m)
    (hf : genWalk (symOf N T) (numOf N T) (.el tag .nil) = .ok f)
    (hcall : ∀ a b, rb = .ok b → call f (Sy.ofList [toSy N a, toSy N b]) = .ok (toSy N (mk a b)))
    (hA : hasH (mmlTag A) = true) (hB : hasH (mmlTag B) = true)
    (iha : genWalk (symOf N T) (numOf N T) A = ra.map (toSy N))
    (ihb : genWalk (symOf N T) (numOf N T) B = rb.map (toSy N)) :
    genWalk (symOf N T) (numOf N T) (.el "apply" (Mml.ofList [.el tag .nil, A, B])) =
      Except.map (toSy N) (match (generalizing := false) ra with
        | .error e => .error e
        | .ok a => match (generalizing := false) rb with
          | .error e => .error e
          | .ok b => .ok (mk a b)) := by
  rw [apply_bin _ _ tag f A B (hasH_of h) hf hA hB, iha, ihb]
  cases ra with
  | error e => rfl
  | ok a =>
    cases rb with
    | error e => rfl
    | ok b => simp only [Except.map, hcall a b rfl, syE, errClass]

/-- **`walkExpr` = the generated handlers.** For every expression of the fragment, the hand-written walk of
    `Tie/MathsWalkView.lean` is the code GENERATED from `Transpiler.transpile`, `_apply_handler`, `_bvar_handler`,
    `_simple_operator_handler`, `_cn_handler` and (the call inside `_apply_handler` is the leaf `pyCall`, which
    `call_tie` ties to them) the closures `_wrapped_minus`, `_wrapped_divide`, `_wrapped_power`, `_wrapped_diff`, run on
    the MathML `docgen` writes, with `T`'s callbacks where the transpiler calls its
    `symbol_generator` / `number_generator`: same term (through `toSy`), same first exception of a callback — left
    operand before right, `<bvar>` before the differentiated variable. -/
theorem walkExpr_eq_genWalk (e : Load.Expr String String) (hf : Frag render N T e) :
    genWalk (symOf N T) (numOf N T) (toMml render e) = (walkExpr T e).map (toSy N) :=
  match e, hf with
  | .num q u, hf => cn_eq _ _ _ u q hf
  | .var a, hf => by
    simp only [toMml, ci_eq, symOf, walkExpr]
    cases T.ci a <;> rfl
  | .diff x t, hf => by
    simp only [toMml]
    rw [apply_bin _ _ "diff" (.wrapped "_diff_handler") (.el "bvar" (Mml.ofList [.ci t])) (.ci x)
      (hasH_of handlerOf_diff) (op_wrapped _ _ "diff" _ handlerOf_diff (by decide)) (hasH_of handlerOf_bvar)
      (hasH_of handlerOf_ci)]
    simp only [bvar_eq, ci_eq, symOf, walkExpr]
    cases T.ci t with
    | error e => rfl
    | ok t' =>
      cases T.ci x with
      | error e => rfl
      | ok x' =>
        -- `_wrapped_diff(t, x)` on two Dummy objects: `sympy.Derivative(x, t, evaluate=False)`
        simp [Except.map, toSy, call, callWrapped_diff, Sy.ofList, diffCb, isBoolConst, mkDeriv, numLike, Sy.srt, syE,
          errClass]
  | .add a b, hf =>
    bin_eq N T "plus" (.cls "Add") .add _ _ _ _ handlerOf_plus (op_simple _ _ _ _ handlerOf_plus (by decide +kernel))
      (fun a b _ => by simp [call, callClass, toSy, Sy.ofList, Sy.all, Sy.len, numLike_toSy,
        (by decide +kernel : sympyArity "Add" = some (0, none)), (by decide +kernel : classKind "Add" = .arith)])
      (hasH_toMml render a) (hasH_toMml render b) (walkExpr_eq_genWalk a hf.1) (walkExpr_eq_genWalk b hf.2)
  | .mul a b, hf =>
    bin_eq N T "times" (.cls "Mul") .mul _ _ _ _ handlerOf_times (op_simple _ _ _ _ handlerOf_times (by decide +kernel))
      (fun a b _ => by simp [call, callClass, toSy, Sy.ofList, Sy.all, Sy.len, numLike_toSy,
        (by decide +kernel : sympyArity "Mul" = some (0, none)), (by decide +kernel : classKind "Mul" = .arith)])
      (hasH_toMml render a) (hasH_toMml render b) (walkExpr_eq_genWalk a hf.1) (walkExpr_eq_genWalk b hf.2)
  | .sub a b, hf =>
    bin_eq N T "minus" (.wrapped "_minus_handler") .sub _ _ _ _ handlerOf_minus
      (op_wrapped _ _ _ _ handlerOf_minus (by decide))
      (fun a b _ => by simp [call, callWrapped_minus, arith2, toSy, Sy.ofList, numLike_toSy])
      (hasH_toMml render a) (hasH_toMml render b) (walkExpr_eq_genWalk a hf.1) (walkExpr_eq_genWalk b hf.2)
  | .div a b, hf =>
    bin_eq N T "divide" (.wrapped "_divide_handler") .div _ _ _ _ handlerOf_divide
      (op_wrapped _ _ _ _ handlerOf_divide (by decide))
      (fun a b _ => by simp [call, callWrapped_divide, arith2, toSy, Sy.ofList, numLike_toSy])
      (hasH_toMml render a) (hasH_toMml render b) (walkExpr_eq_genWalk a hf.1) (walkExpr_eq_genWalk b hf.2)
  | .powi a m, hf =>
    -- the exponent is the second operand: `<cn cellml:units="dimensionless">m</cn>`, through the number generator
    bin_eq N T "power" (.wrapped "_power_handler") (fun a' _ => .powi a' m) _ (cnUnits (render m) "dimensionless") _
      (.ok (.num m N.dimless)) handlerOf_power (op_wrapped _ _ _ _ handlerOf_power (by decide))
      (fun a b hb => by
        cases hb
        have hq := numLike_toSy N (.num m N.dimless)
        simp only [toSy] at hq
        simp [call, callWrapped_power, arith2, toSy, Sy.ofList, numLike_toSy, hq])
      (hasH_toMml render a) (hasH_of handlerOf_cn) (walkExpr_eq_genWalk a hf.1)
      ((cn_eq _ _ _ _ _ hf.2.1).trans (congrArg (Except.map (toSy N)) hf.2.2))
  | .neg a, hf => by
    simp only [toMml]
    rw [apply_un _ _ "minus" (.wrapped "_minus_handler") _ (hasH_of handlerOf_minus)
      (op_wrapped _ _ "minus" _ handlerOf_minus (by decide)) (hasH_toMml render a), walkExpr_eq_genWalk a hf]
    simp only [walkExpr]
    cases walkExpr T a with
    | error e => rfl
    | ok a' => simp [Except.map, toSy, call, callWrapped_minus, arith1, Sy.ofList, numLike_toSy, syE, errClass]


def FragSide : MSide → Prop
  | .e x => Frag render N T x
  | .higher _ _ n => pyFloat (render n).toList = some (.fin n) ∧ ∃ q u, T.num n "dimensionless" = .ok (.num q u)

/-- **`walkSide` = the generated handlers**, both kinds of side -/
theorem walkSide_eq_genWalk (s : MSide) (hf : FragSide render N T s) :
    genWalk (symOf N T) (numOf N T) (toMmlSide render s) = (walkSide T s).map (toSy N) :=
  match s, hf with
  | .e x, hf => walkExpr_eq_genWalk render N T x hf
  | .higher x t n, ⟨h1, q, u, h2⟩ => by
    simp only [toMmlSide]
    rw [apply_bin _ _ "diff" (.wrapped "_diff_handler") (.el "bvar" (Mml.ofList [.ci t, degreeEl render n])) (.ci x)
      (hasH_of handlerOf_diff) (op_wrapped _ _ "diff" _ handlerOf_diff (by decide)) (hasH_of handlerOf_bvar)
      (hasH_of handlerOf_ci)]
    simp only [bvar2_eq _ _ render t n h1, ci_eq, symOf, numOf, h2, walkSide]
    cases T.ci t with
    | error e => rfl
    | ok t' =>
      cases T.ci x with
      | error e => rfl
      | ok x' =>
        -- `_wrapped_diff([t, q], x)` with `q` a Dummy (the Quantity of the degree): `int(q)` is a TypeError
        simp [Except.map, toSy, call, callWrapped_diff, Sy.ofList, diffCb, isBoolConst, syE, errClass, syErrName]


end

open Cellml.Tie.PMathsWalk in
theorem theTranspiler_num (self : MathsView) (cname : String) (v2s : Load.VRef → Option Load.VRef) (m : Cellml.Tie.VMap)
    (q : Rat) (u : String) (c : Container) (h : self.getUnit u = .ok c) :
    (theTranspiler self cname v2s m).num q u = .ok (.num q ([], c)) := by
  simp [theTranspiler, mkTranspiler, h, createQuantity, except_run]

/-- every number of the expression (and every exponent) is written as a text `float` reads back as that number -/
def NumsOk (render : Rat → String) : Load.Expr String String → Prop
  | .num q _ => pyFloat (render q).toList = some (.fin q)
  | .var _ => True
  | .diff _ _ => True
  | .add a b => NumsOk render a ∧ NumsOk render b
  | .sub a b => NumsOk render a ∧ NumsOk render b
  | .mul a b => NumsOk render a ∧ NumsOk render b
  | .div a b => NumsOk render a ∧ NumsOk render b
  | .neg a => NumsOk render a
  | .powi a n => NumsOk render a ∧ pyFloat (render n).toList = some (.fin n)

open Cellml.Tie.PMathsWalk in
/-- for the transpiler of `_add_maths` the condition on the number generator is: the unit store knows
    `dimensionless` -/
theorem frag_theTranspiler (render : Rat → String) (N : Names) (self : MathsView) (cname : String)
    (v2s : Load.VRef → Option Load.VRef) (m : Cellml.Tie.VMap) (c : Container)
    (hd : self.getUnit "dimensionless" = .ok c) (hN : N.dimless = ([], c)) :
    ∀ e, NumsOk render e → Frag render N (theTranspiler self cname v2s m) e
  | .num _ _, h => h
  | .var _, _ => trivial
  | .diff _ _, _ => trivial
  | .add a b, h | .sub a b, h | .mul a b, h | .div a b, h =>
    ⟨frag_theTranspiler render N self cname v2s m c hd hN a h.1, frag_theTranspiler render N self cname v2s m c hd hN b h.2⟩
  | .neg a, h => frag_theTranspiler render N self cname v2s m c hd hN a h
  | .powi a n, h => ⟨frag_theTranspiler render N self cname v2s m c hd hN a h.1, h.2, by
      rw [theTranspiler_num self cname v2s m n "dimensionless" c hd, hN]⟩

/-- the fragment is inhabited: `2`, `-1.5`, `0.001` as python reads them -/
theorem render_examples :
    pyFloat "2".toList = some (.fin 2) ∧ pyFloat "-1.5".toList = some (.fin (-3/2)) ∧
    pyFloat "0.001".toList = some (.fin (1/1000)) := by
  refine ⟨?_, ?_, ?_⟩ <;> decide +kernel

theorem isNan_toSy (N : Names) (e : Load.Expr Load.VRef Load.FUnit) : isNan (toSy N e) = false := by
  cases e <;> rfl
theorem isBoolConst_toSy (N : Names) (e : Load.Expr Load.VRef Load.FUnit) : isBoolConst (toSy N e) = false := by
  cases e <;> rfl

/-- `_wrapper_relational` around `Eq` on two transpiled expressions: `sympy.Eq(l, r)` -/
theorem call_Eq (N : Names) (l r : Load.Expr Load.VRef Load.FUnit) :
    call (.rel "Eq") (Sy.ofList [toSy N l, toSy N r]) = .ok (.app "Eq" (Sy.ofList [toSy N l, toSy N r])) := by
  have h1 : sympyArity "Eq" = some (2, some 2) := by decide +kernel
  have h2 : classKind "Eq" = .eq := by decide +kernel
  have h3 : isIneqClass "Eq" = false := by decide +kernel
  simp [call, callRel, callClass, h1, h2, h3, Sy.ofList, Sy.all, Sy.any, Sy.len, numLike_toSy, isNan_toSy,
    isBoolConst_toSy]

/-- `sympy.Eq(lhs, rhs)` -/
def eqToSy (N : Names) (q : TrEq) : Sy := .app "Eq" (Sy.ofList [toSy N q.lhs, toSy N q.rhs])

def toMmlEq (render : Rat → String) (q : MEq) : Mml :=
  .el "apply" (Mml.ofList [.el "eq" .nil, toMmlSide render q.lhs, toMml render q.rhs])

def toMmlMath (render : Rat → String) (m : MathElem) : Mml := .el "math" (Mml.ofList (m.eqs.map (toMmlEq render)))

section
variable (render : Rat → String) (N : Names) (T : TranspilerObj)

theorem hasH_toMmlSide (s : MSide) : hasH (mmlTag (toMmlSide render s)) = true := by
  cases s with
  | e x => exact hasH_toMml render x
  | higher x t n => exact hasH_of handlerOf_apply

def FragEq (q : MEq) : Prop := FragSide render N T q.lhs ∧ Frag render N T q.rhs

theorem eq_eq (q : MEq) (hf : FragEq render N T q) :
    genWalk (symOf N T) (numOf N T) (toMmlEq render q) =
      match walkSide T q.lhs with
      | .error e => .error e
      | .ok l => match walkExpr T q.rhs with
        | .error e => .error e
        | .ok r => .ok (eqToSy N ⟨l, r⟩) := by
  rw [toMmlEq, apply_bin _ _ "eq" (.rel "Eq") _ _ (hasH_of handlerOf_eq)
    (op_simple _ _ _ _ handlerOf_eq (by decide +kernel)) (hasH_toMmlSide render q.lhs)
    (hasH_toMml render q.rhs), walkSide_eq_genWalk render N T q.lhs hf.1, walkExpr_eq_genWalk render N T q.rhs hf.2]
  cases walkSide T q.lhs with
  | error e => rfl
  | ok l =>
    cases walkExpr T q.rhs with
    | error e => rfl
    | ok r => simp only [Except.map, call_Eq, eqToSy, syE, errClass]

theorem eqs_eq : ∀ (qs : List MEq), (∀ q ∈ qs, FragEq render N T q) →
    (qs.map (toMmlEq render)).mapM (stepW (symOf N T) (numOf N T)) = (parseEqs T qs).map (List.map (eqToSy N))
  | [], _ => rfl
  | q :: r, h => by
    have ih := eqs_eq r (fun x hx => h x (by simp [hx]))
    simp only [List.map_cons, List.mapM_cons, stepW_eq _ _ (k := toMmlEq render q) (hasH_of handlerOf_apply),
      eq_eq render N T q (h q (by simp)), ih, parseEqs, except_run]
    cases walkSide T q.lhs with
    | error e => rfl
    | ok l =>
      cases walkExpr T q.rhs with
      | error e => rfl
      | ok rh => cases parseEqs T r <;> rfl

/-- **`transpiler.parse_tree(math_element)`** (`= self.transpile(math_element)`: the GENERATED loop over the generated
    handlers, fuel = the size of the element) **= the hand-written `parseTree`**: all equations transpiled in document
    order, left side before right side, the first exception of a callback wins -/
theorem parseTree_eq_gen (m : MathElem) (hf : ∀ q ∈ m.eqs, FragEq render N T q) :
    Transpile.transpileChildren ⟨hasH, genWalkFuel (symOf N T) (numOf N T) (toMmlMath render m).size⟩
        (toMmlMath render m) = (parseTree T m).map (List.map (eqToSy N)) := by
  rw [genWalkFuel_eq_close, transpileChildren_close (runMethodW_local _ _) _ _ (by omega), ← genWalk_eq_close,
    transpileChildren_mapM, toMmlMath, mmlChildren, mml_toList_ofList]
  exact eqs_eq render N T m.eqs hf

end

/-- `toSy` loses nothing when the Dummy objects have distinct names -/
theorem toSy_inj (N : Names) (hv : ∀ v w, N.var v = N.var w → v = w)
    (hq : ∀ q u q' u', N.qty q u = N.qty q' u' → q = q' ∧ u = u')
    (hd : ∀ v q u, N.var v ≠ N.qty q u) : ∀ a b, toSy N a = toSy N b → a = b := by
  intro a
  induction a with
  | num q u =>
    intro b h
    cases b <;> simp only [toSy, Sy.ofList, Sy.sym.injEq, reduceCtorEq] at h
    · obtain ⟨h1, h2⟩ := hq _ _ _ _ h; rw [h1, h2]
    · exact absurd h.symm (hd _ _ _)
  | var v =>
    intro b h
    cases b <;> simp only [toSy, Sy.ofList, Sy.sym.injEq, reduceCtorEq] at h
    · exact absurd h (hd _ _ _)
    · rw [hv _ _ h]
  | diff x t =>
    intro b h
    cases b <;> simp [toSy, Sy.ofList] at h
    rw [hv _ _ h.1, hv _ _ h.2]
  | add a b iha ihb | sub a b iha ihb | mul a b iha ihb | div a b iha ihb =>
    intro c h
    cases c <;> simp [toSy, Sy.ofList] at h
    rw [iha _ h.1, ihb _ h.2]
  | neg a iha =>
    intro c h
    cases c <;> simp [toSy, Sy.ofList] at h
    rw [iha _ h]
  | powi a n iha =>
    intro c h
    cases c <;> simp [toSy, Sy.ofList] at h
    rw [iha _ h.1, Rat.intCast_inj.mp (hq _ _ _ _ h.2).1]

end Cellml.Tie.PWalkGen
