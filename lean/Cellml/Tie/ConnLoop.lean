import Cellml.Generated.Code.ConnLoop
import Cellml.Tie.ExceptRun

/-! # Tie: body of the `while connections_to_process:` loop of `Parser._add_connections` (generated) = one unfolding
    of `Load.connectLoop` (hand model: `stepConn` + the deque / counter bookkeeping + the `assert`) -/

namespace Cellml.Tie
open Load Cellml.Gen

/-- what one iteration of the model loop does to (deque, unchanged_loop_count, state) -/
def modelIter (reg : Registry) (vt : VarTable) (dq : List (VRef × VRef)) (unch : Nat) (st : CState) :
    Except PyErr (List (VRef × VRef) × Nat × CState) :=
  match dq with
  | [] => .error ⟨"IndexError"⟩
  | c :: rest =>
    match stepConn reg vt st c with
    | .error e => .error ⟨e.className⟩
    | .ok none =>
        if unch + 1 ≤ (rest ++ [c]).length then .ok (rest ++ [c], unch + 1, st)
        else .error ⟨"AssertionError"⟩
    | .ok (some st') => .ok (rest, 0, st')

/-- the record is spelled out because the generated body builds it field by field -/
theorem asg_cons_ne (st : CState) (t s a : VRef) (h : s ≠ t) (m : List (VRef × VRef)):
   ({ assigned := (t, a) :: st.assigned, mapping := m, convs := st.convs, cmeta := st.cmeta } : CState).asg s = st.asg s := by
  simp only [CState.asg, List.lookup_cons, beq_eq_false_iff_ne.mpr h]

/-- The tie unfolds `stepConn` itself (it compares two texts and needs nothing of `Load/Lemmas.lean`); its leaves are the
    eight outcomes of `Load.Step`. -/
theorem connLoop_body_tie (reg : Registry) (vt : VarTable) (dq : List (VRef × VRef)) (unch : Nat) (st : CState) :
    ConnLoop.addConnectionsBody (connLoopView reg vt) dq unch st = modelIter reg vt dq unch st := by
  unfold ConnLoop.addConnectionsBody modelIter
  cases dq with
  | nil => simp [popleft, except_run]
  | cons c rest =>
    obtain ⟨s, t⟩ := c
    simp only [popleft, stepConn, connLoopView, Py.truthy_option, Py.truthy_bool, except_run]
    cases ht : st.asg t with
    | some b => simp [Err.className]  -- `Step.assigned`: target already assigned, `raise ValueError`
    | none =>
      cases hs : st.asg s with
      | none =>
        -- `Step.wait`: the connection goes to the back of the deque, the counter up by one, then the `assert`
        by_cases h : unch ≤ rest.length
        · have : ¬ rest.length < unch := by omega
          simp [h]
        · have : rest.length < unch := by omega
          simp [h]
      | some a =>
        have hne : s ≠ t := by rintro rfl; simp [ht] at hs
        have e1 : ({ assigned := st.assigned, mapping := (t, s) :: st.mapping, convs := st.convs, cmeta := st.cmeta } : CState).asg s = some a := by
          simpa [CState.asg] using hs
        simp only [e1, setAssigned]
        cases hf : Units.factor reg (unitsOf vt s) (unitsOf vt t) with
        | error e => cases e <;> simp [Err.className]  -- `Step.dim`, `Step.unit`: the class of the units error
        | ok f =>
          by_cases hf1 : f = []
          · -- `cf == 1`: `t` is assigned to `a` directly, then `transfer_cmeta_id`
            subst hf1
            simp [scaleIsOne, cmetaOf, asg_cons_ne, hne, hs, transferCmeta]
            generalize (List.lookup t st.cmeta).join = ct
            cases ct
            · simp  -- `Step.plain`: `t` has no id
            · -- `Step.clash` (`a` has one already: `ValueError`) / `Step.move`
              by_cases hd : (List.lookup a st.cmeta).join.isSome = true <;> simp [hd, Err.className]
          · simp [scaleIsOne, hf1, addConvEq]  -- `Step.conv`: `t` stays its own variable, a conversion equation is added

theorem connectLoop_nil (reg : Registry) (vt : VarTable) (unch : Nat) (h : unch ≤ ([] : List (VRef × VRef)).length)
    (st : CState) : connectLoop reg vt [] unch h st = .ok st := by
  unfold connectLoop; rfl

/-- The model loop `Load.connectLoop` IS the `while connections_to_process:` loop over the generated body: it stops on
    the empty deque (`connectLoop_nil`), and otherwise runs the generated body once and continues from the state the
    body returns. -/
theorem connectLoop_cons (reg : Registry) (vt : VarTable) (c : VRef × VRef) (rest : List (VRef × VRef)) (unch : Nat)
    (h : unch ≤ (c :: rest).length) (st : CState) :
    errClass Err.className (connectLoop reg vt (c :: rest) unch h st) =
      match ConnLoop.addConnectionsBody (connLoopView reg vt) (c :: rest) unch st with
      | .error e => .error e
      | .ok (dq', unch', st') =>
        if h' : unch' ≤ dq'.length then errClass Err.className (connectLoop reg vt dq' unch' h' st')
        else .error ⟨"AssertionError"⟩ := by
  rw [connLoop_body_tie]
  unfold modelIter
  rw [connectLoop]
  cases hstep : stepConn reg vt st c with
  | error e => simp [hstep, errClass]
  | ok o =>
    cases o with
    | none =>
      simp only [hstep]
      by_cases hlt : unch + 1 ≤ (rest ++ [c]).length
      · rw [dif_pos hlt, if_pos hlt]; simp only [dif_pos hlt]
      · rw [dif_neg hlt, if_neg hlt]; simp [errClass, Err.className]
    | some st' => simp [hstep]

end Cellml.Tie
