import Cellml.Generated.Code.UnitsInit
import Cellml.Iso.Namespace


/-! # Tie: `UnitStore.__init__` (generated from the source) = `Units.Wire.World.newStore` (the process model of C16:
    `Iso.step w (.newStore share)`).

    The generated constructor is run on the process state of the hand model: `UnitStore._next_id` is the number of
    stores created so far, the heap of registry objects is `w.regs`, and the argument `store` is the object of the
    store `share` points at (`None` when `share` is `none` or names no store, as in the model). -/

namespace Cellml.Tie.PUnits
open Units Units.Wire Cellml.Gen

/-- the argument `store` of the constructor call the model's `newStore share` stands for -/
def shareArg (w : World) (share : Option Nat) : Option StoreRef :=
  (share.bind (fun s => w.stores[s]?)).map storeRef

/-- For every process state and every `share`: the constructor succeeds, the object it builds is the object of a new
    store `p` = (id = number of stores so far, no user names; registry reference), the store counter is incremented,
    and store list and registry heap afterwards are exactly those of `World.newStore`. The result does not depend on
    the uninitialised `self0`. -/
theorem init_tie (w : World) (share : Option Nat) (self0 : StoreRef) :
    ∃ p : Store × Nat,
      UnitsInit.init self0 (shareArg w share) w.stores.length w.regs =
        .ok (storeRef p, (w.newStore share).stores.length, (w.newStore share).regs) ∧
      (w.newStore share).stores = w.stores ++ [p] ∧
      p.1 = { id := w.stores.length, known := [] } := by
  unfold UnitsInit.init shareArg World.newStore
  cases h : share.bind (fun s => w.stores[s]?) with
  | none =>
    refine ⟨({ id := w.stores.length, known := [] }, w.regs.length), ?_, ?_, rfl⟩
    · simp [newRegistry, storeRef, pySet, PyStr.str, except_run]
    · simp
  | some q =>
    obtain ⟨st, ri⟩ := q
    refine ⟨({ id := w.stores.length, known := [] }, ri), ?_, ?_, rfl⟩
    · simp [derefStore, storeRef, pySet, PyStr.str, except_run]
    · simp

/-- the prefix the constructor stores is the one `Units.prefixName` uses (the `StoreObj` view of the other methods
    carries the same text) -/
theorem init_prefix (p : Store × Nat) (name : String) (h : Cellml.Gen.cellmlUnits.contains name = false) :
    (storeRef p)._prefix ++ name = Units.prefixName p.1.id name := by
  have h' : name ∉ Cellml.Gen.cellmlUnits := by simpa using h
  simp [storeRef, Units.prefixName, h']

end Cellml.Tie.PUnits
