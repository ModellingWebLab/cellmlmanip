import Cellml.Tie.UnitDefsMake

/-! # What the expression built by `_make_pint_unit_definition` means to pint = `Units.elemMeaning` / `Units.defMeaning` -/

namespace Cellml.Tie.PUnitDefs
open Units Cellml.Gen

theorem smul_one {κ : Type} (a : PMap κ) : PMap.smul 1 a = a := by
  simp [PMap.smul, Rat.one_mul]

theorem powLit_den (p : String) :
    (if (unitPrefixes.lookup p).isSome then PowLit.table p else PowLit.sci p).den =
      match prefixPower p with
      | some k => .ok (pow10 k)
      | none => .error (.badNumber ("prefix " ++ p)) := by
  unfold prefixPower
  cases h : unitPrefixes.lookup p with
  | none => simp only [Option.isSome_none, Bool.false_eq_true, if_false, PowLit.den]; cases Decimal.parseInt p <;> rfl
  | some o => cases o <;> simp [PowLit.den, h]

/-- what the `exponent` attribute does to a value -/
def powStage (ex : Option String) (v : Scale × Container × Bool) : Except DefErr (Scale × Container × Bool) :=
  match ex with
  | none => pure v
  | some t => match Decimal.parse t with
    | some q => pure (PMap.smul q v.1, PMap.smul q v.2.1, v.2.2)
    | none => throw (.badNumber ("exponent " ++ t))

/-- what the `multiplier` attribute does to a value -/
def multStage (mu : Option String) (v : Scale × Container × Bool) : Except DefErr (Scale × Container × Bool) :=
  match mu with
  | none => pure v
  | some t => match Decimal.parse t with
    | some q => match Factor.rat q with
      | some ms => pure (PMap.add ms v.1, v.2.1, v.2.2)
      | none => throw (.unsupported ("multiplier " ++ t))
    | none => throw (.badNumber ("multiplier " ++ t))

/-- the expression with its `exponent` / `multiplier` wrapper, as `elemExpr` builds it -/
def wrapPow (ex : Option String) (x : UExpr) : UExpr := match ex with | some t => .pow x t | none => x
def wrapMult (mu : Option String) (x : UExpr) : UExpr := match mu with | some m => .mult m x | none => x

theorem den_pow (id : Nat) (x : UExpr) (ex : Option String) :
    (wrapPow ex x).den id = x.den id >>= powStage ex := by
  unfold wrapPow
  cases ex with
  | none => cases x.den id <;> rfl
  | some t =>
    simp only [UExpr.den]
    unfold powStage
    dsimp only
    -- (`rfl` with `Decimal.parse t` in sight would unfold the parser)
    generalize Decimal.parse t = o
    cases x.den id with
    | error _ => rfl
    | ok v => obtain ⟨s, c, d⟩ := v; rfl

theorem den_mult (id : Nat) (x : UExpr) (mu : Option String) :
    (wrapMult mu x).den id = x.den id >>= multStage mu := by
  unfold wrapMult
  cases mu with
  | none => cases x.den id <;> rfl
  | some t =>
    simp only [UExpr.den]
    unfold multStage
    dsimp only
    generalize Decimal.parse t = o
    cases x.den id with
    | error _ => rfl
    | ok v => obtain ⟨s, c, d⟩ := v; rfl

/-- one element: the value of the expression built by the source is `Units.elemMeaning` -/
theorem elemExpr_den (id : Nat) (e : UnitElem) (h : elemOffsetBad e = false) :
    (elemExpr e).den id = elemMeaning id e := by
  obtain ⟨u, pf, ex, mu, off⟩ := e
  change UExpr.den id (wrapMult mu (wrapPow ex _)) = _
  rw [den_mult, den_pow]
  unfold elemMeaning
  -- the `do` block of `elemMeaning` is a chain of `match`es, each ending in a call of the rest: one stage at a time
  extract_lets c0 rest
  suffices key : ∀ s0, (powStage ex (s0, nameContainer (mangle id u), u == "dimensionless") >>= multStage mu) = rest s0 by
    cases pf with
    | none =>
      simp only [UExpr.den]
      exact key []
    | some p =>
      simp only [UExpr.den, powLit_den]
      cases prefixPower p with
      | some k =>
        simp only [bind, Except.bind, pure, Except.pure, PMap.add, List.nil_append]
        exact key (pow10 k)
      | none => rfl
  intro s0
  dsimp -zeta only [rest]
  clear rest
  extract_lets rest
  suffices key : ∀ q, multStage mu (PMap.smul q s0, PMap.smul q (nameContainer (mangle id u)), u == "dimensionless") = rest q by
    cases ex with
    | none =>
      have := key 1
      rw [smul_one, smul_one] at this
      exact this
    | some t =>
      simp only [powStage]
      cases Decimal.parse t with
      | some q => exact key q
      | none => rfl
  intro q
  dsimp -zeta only [rest]
  clear rest
  extract_lets rest
  suffices key : ∀ m, .ok (PMap.add m (PMap.smul q s0), PMap.smul q (nameContainer (mangle id u)), u == "dimensionless") = rest m by
    cases mu with
    | none => exact key []
    | some t =>
      simp only [multStage]
      cases Decimal.parse t with
      | none => rfl
      | some r =>
        dsimp only
        cases Factor.rat r with
        | some m => exact key m
        | none => rfl
  intro m
  cases off with
  | none => rfl
  | some o =>
    have ho : offsetRejected o = false := h
    simp only [rest, ho]
    rfl
/-- the whole definition: the value pint computes for `a*b*…` is `Units.defMeaning` -/
theorem denAll_map (id : Nat) (elems : List UnitElem) (h : elems.any elemOffsetBad = false) :
    denAll id (elems.map elemExpr) = defMeaning id elems := by
  induction elems with
  | nil => rfl
  | cons e es ih =>
    simp only [List.any_cons, Bool.or_eq_false_iff] at h
    simp only [List.map_cons, denAll, defMeaning, elemExpr_den id e h.1, ih h.2]

end Cellml.Tie.PUnitDefs
