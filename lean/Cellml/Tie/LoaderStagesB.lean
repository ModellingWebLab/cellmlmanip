import Cellml.C17.Stages
import Cellml.Tie.LoaderRel

/-! # Closed GENERATED stages of `Parser.parse`, part B: `_add_relationships` / `_handle_component_ref`

    `Tie/LoaderRel.lean` ties the two functions with OPEN recursion (`handleComponentRef_fix`: the hand model is a
    fixpoint of the generated functional). Here the recursion is closed. -/

namespace Cellml.Tie.LoaderClose
open Load Cellml.Gen

mutual
def depth : Elem → Nat
  | .mk _ _ rs => depthList rs + 1
def depthList : List Elem → Nat
  | [] => 0
  | t :: ts => max (depth t) (depthList ts)
end

theorem depth_eq (t : Elem) : depth t = depthList t.refs + 1 := by
  cases t; simp [depth, Elem.refs]

theorem depth_le_of_mem : ∀ {ts : List Elem} {t : Elem}, t ∈ ts → depth t ≤ depthList ts
  | t' :: ts, t, h => by
    simp only [depthList]
    simp only [List.mem_cons] at h
    rcases h with rfl | h
    · exact Nat.le_max_left _ _
    · exact Nat.le_trans (depth_le_of_mem h) (Nat.le_max_right _ _)

theorem handleComponentRef_congr (rec rec' : Elem → Option String → RelState → Except PyErr RelState) (self : RelView)
    (tag : Elem) (parent : Option String) (st : RelState) (h : ∀ t ∈ tag.refs, ∀ p s, rec t p s = rec' t p s) :
    LoaderRel.handleComponentRef rec self tag parent st = LoaderRel.handleComponentRef rec' self tag parent st := by
  unfold LoaderRel.handleComponentRef
  simp only []
  congr 1
  apply List.forIn_congr_mem
  intro x hx s
  simp only [h x hx]

/-- `Parser._handle_component_ref` calling itself, at most `n` levels deep (a deeper tree ends in the pseudo-exception
    `RecursionError`) -/
def genHandleRef (self : RelView) : Nat → Elem → Option String → RelState → Except PyErr RelState
  | 0 => fun _ _ _ => .error ⟨"RecursionError"⟩
  | n + 1 => LoaderRel.handleComponentRef (genHandleRef self n) self

theorem genHandleRef_eq (comps : List String) : ∀ (n : Nat) (tag : Elem) (parent : Option String) (st : RelState),
    depth tag ≤ n → genHandleRef ⟨comps⟩ n tag parent st = relModel comps tag parent st
  | 0, tag, _, _, h => by rw [depth_eq] at h; omega
  | n + 1, tag, parent, st, h => by
    show LoaderRel.handleComponentRef (genHandleRef ⟨comps⟩ n) ⟨comps⟩ tag parent st = _
    rw [handleComponentRef_congr _ (relModel comps) _ _ _ _ (fun t ht p s =>
      genHandleRef_eq comps n t p s (by
        have := depth_le_of_mem ht
        rw [depth_eq] at h
        omega))]
    exact handleComponentRef_fix comps tag parent st

theorem addRelationships_congr (rec rec' : Elem → Option String → RelState → Except PyErr RelState) (self : RelView)
    (m : ModelElem) (st : RelState) (h : ∀ g ∈ m.groups, ∀ p s, rec g p s = rec' g p s) :
    LoaderRel.addRelationships rec self m st = LoaderRel.addRelationships rec' self m st := by
  unfold LoaderRel.addRelationships
  simp only []
  congr 1
  apply List.forIn_congr_mem
  intro x hx s
  simp only [h x hx]

/-- `Parser._add_relationships` with `self._handle_component_ref` the closed generated function -/
def genAddRelationships (comps : List String) (m : ModelElem) (st : RelState) : Except PyErr RelState :=
  LoaderRel.addRelationships (genHandleRef ⟨comps⟩ (depthList m.groups)) ⟨comps⟩ m st

theorem genAddRelationships_eq (comps : List String) (gs : List Elem) (st : RelState)
    (hrel : ∀ g ∈ gs, g.relationships.length = 1) :
    genAddRelationships comps ⟨gs⟩ st =
      match buildParents comps (encapsOf gs) st.par st.enc with
      | .error e => .error ⟨e.className⟩
      | .ok par => .ok ⟨par, encOf (encapsOf gs) ++ st.enc⟩ := by
  unfold genAddRelationships
  rw [addRelationships_congr _ (relModel comps) _ _ _ (fun g hg p s =>
    genHandleRef_eq comps _ g p s (depth_le_of_mem hg))]
  exact addRelationships_tie comps gs st hrel

/-- an edge list written back as XML: one encapsulation `<group>` per edge -/
def groupsOf : List (Option String × String) → List Elem
  | [] => []
  | (none, c) :: r => .mk "" [some "encapsulation"] [.mk c [] []] :: groupsOf r
  | (some p, c) :: r => .mk "" [some "encapsulation"] [.mk p [] [.mk c [] []]] :: groupsOf r

theorem groupsOf_rel : ∀ (l : List (Option String × String)), ∀ g ∈ groupsOf l, g.relationships.length = 1
  | [], g, h => by cases h
  | (none, c) :: r, g, h => by
    simp only [groupsOf, List.mem_cons] at h
    rcases h with rfl | h
    · rfl
    · exact groupsOf_rel r g h
  | (some p, c) :: r, g, h => by
    simp only [groupsOf, List.mem_cons] at h
    rcases h with rfl | h
    · rfl
    · exact groupsOf_rel r g h

theorem encapsOf_cons_enc (g : Elem) (gs : List Elem) (h : g.relationships = [some "encapsulation"]) :
    encapsOf (g :: gs) = flatRefs none g.refs ++ encapsOf gs := by
  simp [encapsOf, h]

/-- the flattening of `groupsOf l` differs from `l` by top-level edges only, which `buildParents` (like the code:
    `if parent_component:`) passes over -/
theorem buildParents_groupsOf (comps : List String) : ∀ (l : List (Option String × String)) (par : ParentMap)
    (enc : List (String × String)),
    buildParents comps (encapsOf (groupsOf l)) par enc = buildParents comps l par enc
  | [], par, enc => by simp [groupsOf, encapsOf]
  | (none, c) :: r, par, enc => by
    rw [groupsOf, encapsOf_cons_enc _ _ rfl]
    simp only [Elem.refs, flatRefs, Elem.flat, List.append_nil, List.cons_append, List.nil_append, buildParents]
    exact buildParents_groupsOf comps r par enc
  | (some p, c) :: r, par, enc => by
    rw [groupsOf, encapsOf_cons_enc _ _ rfl]
    simp only [Elem.refs, flatRefs, Elem.flat, List.append_nil, List.cons_append, List.nil_append, buildParents]
    split
    · rfl
    · split
      · rfl
      · split
        · rfl
        · split
          · rfl
          · exact buildParents_groupsOf comps r _ _

/-- the stage `self._add_relationships(model_xml)`: the generated function, its callee the closed generated
    `_handle_component_ref`, on the `<group>` elements of the document and the component names registered by
    `_add_components`; no component has a parent yet -/
def genRelStage (d : C17.FaultDoc) (st : ParseState) : Except PyErr ParseState :=
  match genAddRelationships (d.doc.comps.map (·.name)) ⟨groupsOf d.doc.encaps⟩ ⟨[], []⟩ with
  | .error e => .error e
  | .ok rs => .ok { st with par := some rs.par }

theorem genRelStage_eq (fd : C17.FaultDoc) : genRelStage = (parseView fd).addRelationships := by
  funext d st
  simp only [genRelStage, parseView]
  rw [genAddRelationships_eq _ _ _ (groupsOf_rel _), buildParents_groupsOf]
  cases hb : buildParents (d.doc.comps.map (·.name)) d.doc.encaps [] [] with
  | error e => simp [stageErr, C17.buildParents_err_class hb]
  | ok par => rfl

end Cellml.Tie.LoaderClose
