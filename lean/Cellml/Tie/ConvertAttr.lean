import Lean.Meta.Tactic.Simp.RegisterCommand

/-- the simp set that selects a branch of the generated `convert_expression_recursively`: on an expression headed by a
    constructor of `E`, `simp only [sympy_view]` evaluates the class tests, takes the `if`s and leaves the code of that
    class. It is filled in `Cellml/Tie/Convert.lean`. -/
register_simp_attr sympy_view
