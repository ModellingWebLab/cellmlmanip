import Cellml.Tie.NumPipe
import Cellml.Basic.ListLemmas

/-! # Tie: `Model.graph_with_sympy_numbers` on ARBITRARY graphs (property C14)

    The generated `graphWithSympyNumbers` on every graph — any number of nodes, with or without an equation, every
    right-hand side any expression with any number of Quantity atoms, any edges — returns `substGraph g`, the graph with
    every Quantity of every equation replaced by `q.evalf(FLOAT_PRECISION)` (`graphNum_all`). The three hypotheses
    (`UniqueIds`, `EdgesOK`, `FloatAtoms`) are facts about what `Model.graph` returns.

    No edge goes here: the view's `xreplaceQ` keeps every variable leaf (`varRefs_subst`), so under `EdgesOK`
    `edge[0] not in refs` never holds. That SymPy may lose a variable when it re-evaluates (`0.0*b + 2.5`) is the
    subject of the other translation of this function, `Tie/GraphNum.lean` (C09). -/

namespace Cellml.Tie.PNumPipe
open C14 Cellml.Gen.NumPipe

/-- `q.evalf(FLOAT_PRECISION)` by the generated code (`Zero` where that raises: never for a Quantity holding a float) -/
def strippedNum (q : QObj) : SNum :=
  match sympyEvalf (quantityEvalEvalf q) Cellml.Gen.floatPrecision with
  | .ok s => s
  | .error _ => .zero

/-- for a Quantity holding the double `b`: the generated stripping stage answers `strippedNum q`, whose `float()` has
    exactly the bits the C14 pipeline predicts -/
theorem strippedNum_spec (q : QObj) (b : Nat) (h : q._value = some (.flt b)) :
    sympyEvalf (quantityEvalEvalf q) Cellml.Gen.floatPrecision = .ok (strippedNum q) ∧
      floatOfSNum (strippedNum q) = strippedValue (quantityValue b) := by
  obtain ⟨s, hs, hfl⟩ := stripped_tie q b h
  unfold strippedNum
  rw [hs]
  exact ⟨rfl, hfl⟩

/-- a Quantity leaf becomes its stripped number; `substExpr`, `substEq`, `substNode` lift this to an expression, an
    equation, a node of the graph -/
def substLeaf : NLeaf → NLeaf
  | .qty q => .num (strippedNum q)
  | l => l

def substExpr (e : NExpr) : NExpr := { e with leaves := e.leaves.map substLeaf }
def substEq (eq : NEq) : NEq := ⟨eq.lhs, substExpr eq.rhs⟩
def substNode (p : Nat × Option NEq) : Nat × Option NEq := (p.1, p.2.map substEq)

/-- the graph with every Quantity of every equation replaced by its stripped number; nothing else changes -/
def substGraph (g : NGraph) : NGraph := { g with nodes := g.nodes.map substNode }

/-- a node id has one attribute dict (networkx: `graph.nodes` is a dict) -/
def UniqueIds (g : NGraph) : Prop := ∀ p ∈ g.nodes, ∀ p' ∈ g.nodes, p.1 = p'.1 → p = p'

/-- every edge into the left-hand side of an equation starts at a variable / derivative of its right-hand side
    (`Model.graph`: `for ref in refs: graph.add_edge(ref, lhs)`) -/
def EdgesOK (g : NGraph) : Prop :=
  ∀ ed ∈ g.edges, ∀ p ∈ g.nodes, ∀ eq, p.2 = some eq → eq.lhs = ed.2 → ed.1 ∈ varRefs eq.rhs

/-- every Quantity of every equation holds a python float -/
def FloatAtoms (g : NGraph) : Prop :=
  ∀ p ∈ g.nodes, ∀ eq, p.2 = some eq → ∀ q, NLeaf.qty q ∈ eq.rhs.leaves → ∃ b, q._value = some (.flt b)

theorem UniqueIds.of_nodup (g : NGraph) (h : g.nodeIds.Nodup) : UniqueIds g :=
  List.inj_of_nodup_map _ g.nodes h

theorem find_node {g : NGraph} (hu : UniqueIds g) {p0 : Nat × Option NEq} (hp0 : p0 ∈ g.nodes) :
    g.nodes.find? (fun p => p.1 == p0.1) = some p0 := by
  cases hf : g.nodes.find? (fun p => p.1 == p0.1) with
  | none => simpa using List.find?_eq_none.1 hf p0 hp0
  | some p1 => rw [hu p1 (List.mem_of_find?_eq_some hf) p0 hp0 (by simpa using List.find?_some hf)]

theorem mem_dedup {α} [DecidableEq α] (a : α) : ∀ l : List α, a ∈ dedup l ↔ a ∈ l
  | [] => Iff.rfl
  | x :: l => by
    have ih := mem_dedup a l
    unfold dedup
    split
    · rename_i hx
      rw [List.mem_cons, ih, or_iff_right_of_imp]
      rintro rfl
      exact (mem_dedup a l).1 hx
    · rw [List.mem_cons, List.mem_cons, ih]

theorem mem_quantityAtoms (e : NExpr) (q : QObj) : q ∈ quantityAtoms e ↔ NLeaf.qty q ∈ e.leaves := by
  unfold quantityAtoms
  rw [mem_dedup, List.mem_filterMap]
  constructor
  · intro ⟨l, hl, h⟩
    cases l with
    | qty q' => simp only [Option.some.injEq] at h; rw [← h]; exact hl
    | num s => cases h
    | var v => cases h
    | deriv v => cases h
  · intro h; exact ⟨_, h, rfl⟩

theorem bind_ok {ε α β} (a : α) (f : α → Except ε β) : (Except.ok a : Except ε α).bind f = f a := Except.bind_ok a f

theorem mapM_evalf : ∀ (l : List QObj), (∀ q ∈ l, ∃ b, q._value = some (.flt b)) →
    List.mapM (fun d => (sympyEvalf (quantityEvalEvalf d) Cellml.Gen.floatPrecision).bind fun v =>
        (Except.ok (d, v) : Except PyErr (QObj × SNum))) l
      = Except.ok (l.map fun d => (d, strippedNum d)) :=
  fun l h => (List.mapM_congr_mem l fun q hq => by
    obtain ⟨b, hb⟩ := h q hq
    rw [(strippedNum_spec q b hb).1]; rfl).trans List.mapM_pure

theorem nodup_dedup {α} [DecidableEq α] : ∀ l : List α, (dedup l).Nodup
  | [] => List.nodup_nil
  | a :: l => by
    unfold dedup
    split
    · exact nodup_dedup l
    · rename_i h; exact List.nodup_cons.2 ⟨h, nodup_dedup l⟩

/-- the dict comprehension over `expr.atoms(Quantity)` has distinct keys: it is the list of its items -/
theorem dictOf_atoms (e : NExpr) (f : QObj → SNum) :
    Py.dictOf ((quantityAtoms e).map fun d => (d, f d)) = (quantityAtoms e).map fun d => (d, f d) :=
  Py.dictOf_nodup _ (by rw [List.map_map]; exact (List.map_id _).symm ▸ nodup_dedup _)

theorem lookupQ_map (f : QObj → SNum) (q : QObj) : ∀ l : List QObj, q ∈ l →
    lookupQ (l.map fun d => (d, f d)) q = some (f q)
  | a :: l, h => by
    unfold lookupQ
    rw [List.map_cons, List.find?_cons]
    by_cases hq : a = q
    · simp [hq]
    · simp only [beq_eq_false_iff_ne.2 hq]
      exact lookupQ_map f q l ((List.mem_cons.1 h).resolve_left (Ne.symm hq))

theorem substExpr_noq (e : NExpr) (h : quantityAtoms e = []) : substExpr e = e := by
  have hn : ∀ q, NLeaf.qty q ∉ e.leaves := by
    intro q hq
    have := (mem_quantityAtoms e q).2 hq
    rw [h] at this; cases this
  have : e.leaves.map substLeaf = e.leaves.map id := by
    apply List.map_congr_left
    intro l hl
    cases l with
    | qty q => exact absurd hl (hn q)
    | num s => rfl
    | var v => rfl
    | deriv v => rfl
  unfold substExpr
  rw [this, List.map_id]

theorem xreplaceQ_eq (e : NExpr) :
    xreplaceQ e ((quantityAtoms e).map fun d => (d, strippedNum d)) = substExpr e := by
  unfold xreplaceQ substExpr
  congr 1
  apply List.map_congr_left
  intro l hl
  cases l with
  | qty q =>
    have := lookupQ_map strippedNum q (quantityAtoms e) ((mem_quantityAtoms e q).2 hl)
    simp only [this]; rfl
  | num s => rfl
  | var v => rfl
  | deriv v => rfl

theorem varRefs_subst (e : NExpr) : varRefs (substExpr e) = varRefs e := by
  unfold varRefs substExpr
  rw [List.filterMap_map]
  congr 1
  funext l
  cases l <;> rfl

theorem not_qty_mem_subst (e : NExpr) (q : QObj) : NLeaf.qty q ∉ (substExpr e).leaves := by
  unfold substExpr
  intro h
  rw [List.mem_map] at h
  obtain ⟨l, _, hl⟩ := h
  cases l <;> cases hl

theorem substExpr_idem (e : NExpr) : substExpr (substExpr e) = substExpr e :=
  substExpr_noq _ (List.eq_nil_iff_forall_not_mem.2 fun q hq => not_qty_mem_subst e q ((mem_quantityAtoms _ q).1 hq))

theorem substNode_idem (p : Nat × Option NEq) : substNode (substNode p) = substNode p := by
  obtain ⟨n, eq⟩ := p
  cases eq with
  | none => rfl
  | some eq => simp only [substNode, Option.map_some, substEq, substExpr_idem]

/-- what one round does: the Quantities of the equation of node `n` are replaced -/
def step (s : NGraph) (n : Nat) : NGraph :=
  { s with nodes := s.nodes.map fun p => if p.1 == n then substNode p else p }

/-- the three hypotheses of `graphNum_all`, carried together through the loop -/
structure Good (s : NGraph) : Prop where
  uniq : UniqueIds s
  edges : EdgesOK s
  floats : FloatAtoms s

theorem mem_step (s : NGraph) (n : Nat) (p' : Nat × Option NEq) (h : p' ∈ (step s n).nodes) :
    ∃ p ∈ s.nodes, p' = (if p.1 == n then substNode p else p) :=
  let ⟨p, hp, e⟩ := List.mem_map.1 h; ⟨p, hp, e.symm⟩

theorem step_fst (n : Nat) (p : Nat × Option NEq) : (if p.1 == n then substNode p else p).1 = p.1 := by
  split <;> rfl

theorem step_snd (n : Nat) (p : Nat × Option NEq) (eq' : NEq)
    (h : (if p.1 == n then substNode p else p).2 = some eq') :
    ∃ eq, p.2 = some eq ∧ (eq' = eq ∨ eq' = substEq eq) := by
  split at h
  · obtain ⟨eq, hpe, rfl⟩ := Option.map_eq_some_iff.1 h
    exact ⟨eq, hpe, Or.inr rfl⟩
  · exact ⟨eq', h, Or.inl rfl⟩

theorem step_good (s : NGraph) (n : Nat) (h : Good s) : Good (step s n) := by
  refine ⟨?_, ?_, ?_⟩
  · intro p1 h1 p2 h2 e
    obtain ⟨q1, hq1, rfl⟩ := mem_step s n p1 h1
    obtain ⟨q2, hq2, rfl⟩ := mem_step s n p2 h2
    rw [step_fst, step_fst] at e
    rw [h.uniq q1 hq1 q2 hq2 e]
  · intro ed hed p' hp' eq' heq' hl
    obtain ⟨p, hp, rfl⟩ := mem_step s n p' hp'
    obtain ⟨eq, hpe, hor⟩ := step_snd n p eq' heq'
    rcases hor with rfl | rfl
    · exact h.edges ed hed p hp eq' hpe hl
    · rw [substEq, varRefs_subst]
      exact h.edges ed hed p hp eq hpe hl
  · intro p' hp' eq' heq' q hq
    obtain ⟨p, hp, rfl⟩ := mem_step s n p' hp'
    obtain ⟨eq, hpe, hor⟩ := step_snd n p eq' heq'
    rcases hor with rfl | rfl
    · exact h.floats p hp eq' hpe q hq
    · exact absurd hq (not_qty_mem_subst eq.rhs q)

theorem step_nodeIds (s : NGraph) (n : Nat) : (step s n).nodeIds = s.nodeIds := by
  unfold step NGraph.nodeIds
  simp only [List.map_map]
  apply List.map_congr_left
  intro p _
  exact step_fst n p

theorem step_edges (s : NGraph) (n : Nat) : (step s n).edges = s.edges := rfl

theorem step_of_node {s : NGraph} (hu : UniqueIds s) {n : Nat} {e2 : Option NEq} (hp0 : (n, e2) ∈ s.nodes)
    (hfix : e2.map substEq = e2) : step s n = s := by
  have : (s.nodes.map fun p => if p.1 == n then substNode p else p) = s.nodes.map id := by
    apply List.map_congr_left
    intro p hp
    by_cases e : p.1 = n
    · cases hu p hp _ hp0 e
      simp [substNode, hfix]
    · simp [e]
  rw [step, this, List.map_id]

theorem setEquation_eq_step {s : NGraph} (hu : UniqueIds s) {n : Nat} {eq : NEq} (hp0 : (n, some eq) ∈ s.nodes) :
    setEquation s n ⟨eq.lhs, substExpr eq.rhs⟩ = step s n := by
  unfold setEquation step
  congr 1
  apply List.map_congr_left
  intro p hp
  by_cases e : p.1 = n
  · cases hu p hp _ hp0 e
    simp only [beq_self_eq_true, if_true, substNode, Option.map_some, substEq]
  · simp [e]

theorem inEdges_refs {s : NGraph} (he : EdgesOK s) {n : Nat} {eq : NEq} (hp0 : (n, some eq) ∈ s.nodes) :
    ∀ ed ∈ inEdges s eq.lhs, Py.isIn ed.1 (varRefs eq.rhs) = true := by
  intro ed hed
  obtain ⟨hm, hl⟩ := List.mem_filter.1 hed
  exact List.contains_iff_mem.2 (he ed hm _ hp0 eq rfl (beq_iff_eq.1 hl).symm)

theorem loop_eq (body : Nat → NGraph → Except PyErr (ForInStep NGraph))
    (hb : ∀ (s : NGraph) (n : Nat), Good s → n ∈ s.nodeIds → body n s = .ok (.yield (step s n))) :
    ∀ (l : List Nat) (s : NGraph), Good s → (∀ n ∈ l, n ∈ s.nodeIds) → forIn l s body = .ok (l.foldl step s)
  | [], s, _, _ => rfl
  | n :: l, s, h, hl => by
    rw [List.forIn_cons, hb s n h (hl n List.mem_cons_self)]
    simp only [except_run, List.foldl_cons]
    exact loop_eq body hb l (step s n) (step_good s n h)
      (fun k hk => by rw [step_nodeIds]; exact hl k (List.mem_cons_of_mem _ hk))

theorem foldl_step_nodes : ∀ (l : List Nat) (s : NGraph),
    (l.foldl step s).nodes = s.nodes.map (fun p => if l.contains p.1 then substNode p else p) ∧
    (l.foldl step s).edges = s.edges
  | [], s => by simp
  | n :: l, s => by
    rw [List.foldl_cons]
    obtain ⟨h1, h2⟩ := foldl_step_nodes l (step s n)
    refine ⟨?_, by rw [h2]; rfl⟩
    rw [h1]
    unfold step
    simp only [List.map_map]
    apply List.map_congr_left
    intro p hp
    simp only [Function.comp]
    rw [step_fst]
    by_cases e : p.1 = n
    · subst e
      by_cases e2 : p.1 ∈ l <;> simp [e2, substNode_idem]
    · by_cases e2 : p.1 ∈ l <;> simp [e, e2]

theorem foldl_step_all (g : NGraph) : g.nodeIds.foldl step g = substGraph g := by
  obtain ⟨h1, h2⟩ := foldl_step_nodes g.nodeIds g
  have : (g.nodeIds.foldl step g).nodes = g.nodes.map substNode := by
    rw [h1]
    apply List.map_congr_left
    intro p hp
    have : p.1 ∈ g.nodeIds := List.mem_map_of_mem hp
    simp [this]
  cases hr : g.nodeIds.foldl step g with
  | mk ns es =>
    rw [hr] at this h2
    simp only at this h2
    unfold substGraph
    rw [this, h2]

/-- **`Model.graph_with_sympy_numbers` on ANY graph.** For every model whose `graph` leaf answers `g` (nodes with one
    attribute dict each, edges made from the right-hand sides, Quantities holding floats) the generated function returns
    `substGraph g` — EVERY Quantity `q` of EVERY equation replaced by `strippedNum q`, the number the generated
    `_eval_evalf` gives inside sympy's `evalf` at the generated `FLOAT_PRECISION`; node list, left-hand sides, shapes,
    other leaves, edges unchanged — and caches it. -/
theorem graphNum_all (m : NModel) (g : NGraph) (hg : m.graph = .ok g) (hu : UniqueIds g) (he : EdgesOK g)
    (hf : FloatAtoms g) : graphWithSympyNumbers m none = .ok (substGraph g, some (substGraph g)) := by
  unfold graphWithSympyNumbers
  simp only [hg, bind, pure, Except.pure, Option.isSome_none, Bool.false_eq_true, if_false, bind_ok]
  -- the hole is the generated body of `for node in graph.nodes`; `hb`: one round of it on a good graph is `step`
  rw [loop_eq _ ?hb g.nodeIds g ⟨hu, he, hf⟩ (fun n hn => hn), foldl_step_all]
  case hb =>
    intro s n h hn
    obtain ⟨⟨n', e2⟩, hp0, e0⟩ := List.mem_map.1 hn
    replace hp0 : (n, e2) ∈ s.nodes := (show n' = n from e0) ▸ hp0
    unfold nodeEquation
    rw [find_node h.uniq hp0]
    simp only [bind_ok]
    cases e2 with
    | none =>
      simp only [Option.isNone_none, if_true]
      rw [step_of_node h.uniq hp0 rfl]
    | some eq =>
      have hth : theEq (some eq) = eq := rfl
      rw [hth]
      simp only [Option.isNone_some, Bool.false_eq_true, if_false]
      have hfl : ∀ q ∈ quantityAtoms eq.rhs, ∃ b, q._value = some (.flt b) :=
        fun q hq => h.floats _ hp0 eq rfl q ((mem_quantityAtoms _ q).1 hq)
      rw [mapM_evalf _ hfl]
      simp only [bind_ok, dictOf_atoms, Py.truthy_list, List.isEmpty_map]
      by_cases hat : quantityAtoms eq.rhs = []
      · -- `if subs_dict:` fails: nothing to replace
        simp only [hat, List.isEmpty_nil, Bool.not_true, Bool.false_eq_true, if_false]
        rw [step_of_node h.uniq hp0 (by simp only [Option.map_some, substEq, substExpr_noq eq.rhs hat])]
      · have hne : (quantityAtoms eq.rhs).isEmpty = false := List.isEmpty_eq_false_iff.2 hat
        simp only [hne, Bool.not_false, if_true, xreplaceQ_eq, varRefs_subst]
        -- the references are those of the old right-hand side, so no edge is removed
        rw [List.forIn_noop _ _ _ fun ed hed => by
          simp only [inEdges_refs h.edges hp0 ed hed, Bool.not_true, Bool.false_eq_true, if_false]]
        simp only [bind_ok, setEquation_eq_step h.uniq hp0]
  rfl

/-- **cached**: the second call — with the cache the first one returned, on ANY model (its `graph` is not read, so
    nothing is recomputed) — returns the same graph -/
theorem graphNum_all_twice (m m' : NModel) (g : NGraph) (hg : m.graph = .ok g) (hu : UniqueIds g) (he : EdgesOK g)
    (hf : FloatAtoms g) :
    ∃ r c, graphWithSympyNumbers m none = .ok (r, c) ∧ r = substGraph g ∧
      graphWithSympyNumbers m' c = .ok (r, c) := by
  refine ⟨_, _, graphNum_all m g hg hu he hf, rfl, graphNum_cached m' _⟩

/-- a Quantity leaf holding a double has become the number the generated `_eval_evalf` gives at `FLOAT_PRECISION`;
    any other leaf is what it was -/
def LeafStripped (l l' : NLeaf) : Prop :=
  match l with
  | .qty q => ∃ b s, q._value = some (.flt b) ∧ l' = .num s ∧
      sympyEvalf (quantityEvalEvalf q) Cellml.Gen.floatPrecision = .ok s ∧
      floatOfSNum s = strippedValue (quantityValue b)
  | l => l' = l

theorem substGraph_node (g : NGraph) (hu : UniqueIds g) (n : Nat) (oe : Option NEq) (hp : (n, oe) ∈ g.nodes) :
    nodeEquation (substGraph g) n = .ok (oe.map substEq) := by
  unfold nodeEquation substGraph
  simp only [List.find?_map]
  rw [show (fun p => p.1 == n) ∘ substNode = fun p => p.1 == n from rfl, find_node hu hp]
  rfl

/-- **every number of every equation**: in the graph the generated function returns, the equation of node `n` has the
    left-hand side and the shape it had, and leaf for leaf: a Quantity holding the double `b` has become a number `s`
    with `q.evalf(FLOAT_PRECISION) = s` (generated code) and `float(s) = C14.strippedValue (C14.quantityValue b)`;
    every other leaf is what it was. -/
theorem graphNum_all_leaf (m : NModel) (g : NGraph) (hg : m.graph = .ok g) (hu : UniqueIds g) (he : EdgesOK g)
    (hf : FloatAtoms g) (n : Nat) (eq : NEq) (hp : (n, some eq) ∈ g.nodes) :
    ∃ r c eq', graphWithSympyNumbers m none = .ok (r, c) ∧ c = some r ∧ r.nodeIds = g.nodeIds ∧ r.edges = g.edges ∧
      nodeEquation r n = .ok (some eq') ∧ eq'.lhs = eq.lhs ∧ eq'.rhs.shape = eq.rhs.shape ∧
      eq'.rhs.leaves.length = eq.rhs.leaves.length ∧
      ∀ i (hi : i < eq.rhs.leaves.length) (hi' : i < eq'.rhs.leaves.length),
        LeafStripped (eq.rhs.leaves[i]) (eq'.rhs.leaves[i]) := by
  refine ⟨_, _, substEq eq, graphNum_all m g hg hu he hf, rfl, ?_, rfl, substGraph_node g hu n _ hp, rfl, rfl, ?_, ?_⟩
  · unfold substGraph NGraph.nodeIds
    simp only [List.map_map]
    apply List.map_congr_left
    intro p _; rfl
  · simp only [substEq, substExpr, List.length_map]
  · intro i hi hi'
    simp only [substEq, substExpr, List.getElem_map]
    have hmem : eq.rhs.leaves[i] ∈ eq.rhs.leaves := List.getElem_mem hi
    cases hl : eq.rhs.leaves[i] with
    | qty q =>
      rw [hl] at hmem
      obtain ⟨b, hb⟩ := hf (n, some eq) hp eq rfl q hmem
      exact ⟨b, strippedNum q, hb, rfl, (strippedNum_spec q b hb).1, (strippedNum_spec q b hb).2⟩
    | num s => rfl
    | var v => rfl
    | deriv v => rfl

/-- the graph of one equation `x = q` (`q` a Quantity): one node, no edge -/
def graph1 (x : Nat) (q : QObj) : NGraph := ⟨[(x, some ⟨x, ⟨0, [.qty q]⟩⟩)], []⟩

theorem graph1_good (x : Nat) (q : QObj) (b : Nat) (hq : q._value = some (.flt b)) : Good (graph1 x q) := by
  refine ⟨?_, ?_, ?_⟩
  · intro p hp p' hp' _
    rw [List.mem_singleton.1 hp, List.mem_singleton.1 hp']
  · intro ed hed; cases hed
  · intro p hp eq he q' hq'
    cases List.mem_singleton.1 hp
    cases he
    cases List.mem_singleton.1 hq'
    exact ⟨b, hq⟩

/-- **`graph_with_sympy_numbers` on an equation `x = q`**: the Quantity is replaced by `q.evalf(FLOAT_PRECISION)` — the
    generated `_eval_evalf` inside sympy's `evalf` at the generated constant — whose `float()` is `C14.strippedValue`
    of the stored double; the result is cached. For every Quantity holding a float, every model around it. -/
theorem graphNum_single (m : NModel) (x : Nat) (q : QObj) (b : Nat) (hg : m.graph = .ok (graph1 x q))
    (hq : q._value = some (.flt b)) :
    ∃ s, graphWithSympyNumbers m none
        = .ok (⟨[(x, some ⟨x, ⟨0, [.num s]⟩⟩)], []⟩, some ⟨[(x, some ⟨x, ⟨0, [.num s]⟩⟩)], []⟩) ∧
      sympyEvalf (quantityEvalEvalf q) Cellml.Gen.floatPrecision = .ok s ∧
      floatOfSNum s = strippedValue (quantityValue b) :=
  have g := graph1_good x q b hq
  ⟨strippedNum q, graphNum_all m _ hg g.uniq g.edges g.floats, strippedNum_spec q b hq⟩

/-- the three hypotheses hold of the one-equation graph of `graphNum_single` -/
example (x : Nat) (q : QObj) (b : Nat) (hq : q._value = some (.flt b)) :
    UniqueIds (graph1 x q) ∧ EdgesOK (graph1 x q) ∧ FloatAtoms (graph1 x q) :=
  have g := graph1_good x q b hq
  ⟨g.uniq, g.edges, g.floats⟩

end Cellml.Tie.PNumPipe
