import Cellml.Generated.Code.GraphNum
import Cellml.C09.Build
import Cellml.Tie.ExceptRun

/-! # Tie: `Model.graph_with_sympy_numbers` (generated from cellmlmanip/model.py) = `C09.stripGraph` (hand model)

    Which EDGES go (C09): the references after the substitution are the observed input `Eqn.refsNum`, the numbers are
    not looked at. What the NUMBERS become is the other translation of this function, `Tie/NumPipeAll.lean` (C14). -/

namespace Cellml.Tie.PGraph
open C09 Cellml.Gen

theorem eqnOf_lhs {eqs : List Eqn} {n : Node} {e : Eqn} (h : eqnOf eqs n = some e) : e.lhs = n := C09.eqnOf_lhs h

theorem graph_eta_true (G : Graph) : (⟨G.nodes, G.edges.filter (fun _ => true)⟩ : Graph) = G := by
  cases G; simp [List.filter_eq_self]

theorem edgeFilterLoop {α} (keep : α → Edge → Bool) (f : α → Graph → Except PyErr (ForInStep Graph)) :
    ∀ (l : List α) (G : Graph), (∀ a ∈ l, ∀ G, f a G = .ok (.yield ⟨G.nodes, G.edges.filter (keep a)⟩)) →
      forIn l G f = .ok ⟨G.nodes, G.edges.filter (fun ed => l.all (fun a => keep a ed))⟩
  | [], G, _ => by simp [pure, Except.pure, graph_eta_true]
  | a :: l, G, h => by
    rw [List.forIn_cons, h a List.mem_cons_self]
    simp only [except_run, edgeFilterLoop keep f l _ fun b hb => h b (List.mem_cons_of_mem _ hb),
      List.filter_filter, List.all_cons]
    congr 2
    apply List.filter_congr
    intro ed _
    rw [Bool.and_comm]

/-- the inner loop `for edge in graph.in_edges(lhs): if edge[0] not in refs: graph.remove_edge(edge[0], lhs)`:
    of the edges into `l` those that start in `refs` stay -/
theorem removeLoop (refs : List Node) (l : Node) (f : Edge → Graph → Except PyErr (ForInStep Graph))
    (hf : ∀ ed G, f ed G = .ok (.yield (if refs.contains ed.1 then G else nxRemoveEdge G ed.1 l))) (G : Graph) :
    forIn (nxInEdges G l) G f = .ok ⟨G.nodes, G.edges.filter (fun ed => !(ed.2 == l && !(refs.contains ed.1)))⟩ := by
  rw [edgeFilterLoop (fun ed0 ed => refs.contains ed0.1 || !(ed == ed0)) f]
  · congr 2
    apply List.filter_congr
    intro ed hed
    rw [Bool.eq_iff_iff]
    simp only [nxInEdges, List.all_eq_true, List.mem_filter, beq_iff_eq, Bool.or_eq_true, Bool.not_eq_true',
      beq_eq_false_iff_ne, Bool.and_eq_false_imp, Bool.not_eq_false', List.contains_iff_mem, and_imp]
    exact ⟨fun hall hl => (hall ed hed hl).resolve_right (fun hne => hne rfl),
      fun himp ed0 _ hl0 => (Decidable.em (ed = ed0)).elim (fun e => Or.inl (e ▸ himp (e ▸ hl0))) Or.inr⟩
  · intro ed0 hed0 G'
    have : (ed0.1, l) = ed0 := by rw [← beq_iff_eq.1 (List.mem_filter.1 hed0).2]
    rw [hf]
    cases hr : refs.contains ed0.1
    · simp only [Bool.false_eq_true, if_false, Bool.false_or, nxRemoveEdge, this]
    · simp only [if_true, Bool.true_or, graph_eta_true]

/-- what the visit of one node keeps -/
def keepAt (eqs : List Eqn) (n : Node) (ed : Edge) : Bool :=
  match eqnOf eqs n with
  | none => true
  | some e => !e.hasQ || !(ed.2 == e.lhs && !(e.refsNum.contains ed.1))

/-- the visit of a node decides only the edges into it, and decides them as the model does -/
theorem keepAt_eq (eqs : List Eqn) (n : Node) (ed : Edge) : keepAt eqs n ed = (!(ed.2 == n) || keepEdge eqs ed) := by
  unfold keepAt keepEdge
  by_cases h : ed.2 = n
  · subst h
    cases hq : eqnOf eqs ed.2 with
    | none => simp
    | some e => simp [eqnOf_lhs hq]
  · have hb : (ed.2 == n) = false := beq_eq_false_iff_ne.2 h
    cases hq : eqnOf eqs n with
    | none => simp [hb]
    | some e => simp [eqnOf_lhs hq, hb]

theorem keep_all_eq (eqs : List Eqn) (g : Graph) (ed : Edge) (hT : ed.2 ∈ g.nodes) :
    (g.nodes.all fun n => keepAt eqs n ed) = keepEdge eqs ed := by
  simp only [keepAt_eq]
  cases keepEdge eqs ed
  · simpa using hT
  · simp

/-- **Tie of `Model.graph_with_sympy_numbers`** (no cached value): the definition generated from model.py removes from
    the graph exactly the edges `C09.stripGraph` removes, and caches the result — for ALL equation lists and every
    graph whose edges point to nodes (`hT`: true of every graph `C09.buildGraph` returns, `GraphSpec.wf`; python walks
    `graph.nodes`, so an edge into a non-node would never be visited).

    The guard `if subs_dict:` of the source is the model's `Eqn.hasQ` in `C09.keepEdge`: an equation without a
    `Quantity` keeps all its in-edges in the code and in the model alike, so no condition on the model input
    `refsNum` is needed. -/
theorem graphNum_tie (eqs : List Eqn) (g : Graph) (hT : ∀ ed ∈ g.edges, ed.2 ∈ g.nodes) :
    GraphNum.graphWithSympyNumbers (numView eqs (.ok g)) none
      = .ok (stripGraph eqs g, some (stripGraph eqs g)) := by
  unfold GraphNum.graphWithSympyNumbers numView
  simp only [except_run, Py.truthy_list]
  -- the outer loop `for node in graph.nodes`: every round filters the edges by `keepAt`
  rw [edgeFilterLoop (keepAt eqs) _ _ _ (fun n _ G => by
    unfold keepAt
    by_cases hnone : eqnOf eqs n = none
    · simp only [hnone, graph_eta_true, Option.isNone_none, if_true]
    · obtain ⟨e, he⟩ := Option.ne_none_iff_exists'.mp hnone
      simp only [he, Option.isNone_some, Bool.false_eq_true, if_false, theEqn_some, quantityAtoms_isEmpty]
      by_cases hd : e.hasQ = true
      · simp only [hd, Bool.not_true, Bool.not_false, if_true, Bool.false_or]
        rw [removeLoop e.refsNum e.lhs _ (fun ed G' => by
          simp only [Py.isIn]
          by_cases hr : ed.1 ∈ e.refsNum <;> simp [hr])]
      · have hd' : e.hasQ = false := by simpa using hd
        simp [hd', graph_eta_true])]
  simp only [Option.isSome_none, Bool.false_eq_true, if_false, stripGraph]
  have : List.filter (fun ed => g.nodes.all fun n => keepAt eqs n ed) g.edges
      = List.filter (keepEdge eqs) g.edges := by
    apply List.filter_congr
    intro ed hed
    exact keep_all_eq eqs g ed (hT ed hed)
  rw [this]

/-- The same on the graph `Model.graph` builds: no hypothesis at all. -/
theorem graphNum_tie_built (key : Node → String) (eqs : List Eqn) (g : Graph) (hb : buildGraph key eqs = .ok g) :
    GraphNum.graphWithSympyNumbers (numView eqs (.ok g)) none
      = .ok (stripGraph eqs g, some (stripGraph eqs g)) := by
  obtain ⟨_, hs⟩ := buildGraph_valid hb
  apply graphNum_tie
  rintro ⟨u, v⟩ hed
  exact hs.wf.tgt u v hed

/-- a cached value is returned as it is, and stays -/
theorem graphNum_cached (v : NumView) (c : Graph) :
    GraphNum.graphWithSympyNumbers v (some c) = .ok (c, some c) := by
  unfold GraphNum.graphWithSympyNumbers
  simp [pure, Except.pure]

/-- an exception raised by `self.graph` propagates -/
theorem graphNum_error (eqs : List Eqn) (e : PyErr) :
    GraphNum.graphWithSympyNumbers (numView eqs (.error e)) none = .error e := by
  unfold GraphNum.graphWithSympyNumbers numView
  simp [except_run]

end Cellml.Tie.PGraph
