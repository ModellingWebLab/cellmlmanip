import Cellml.Generated.Code.ConvRule
import Cellml.Model.ConvRule
import Cellml.Tie.Infer

set_option linter.constructorNameAsVariable false

/-! # Tie: `UnitStore.add_conversion_rule`, `UnitStore.evaluate_units`, nested `_is_equal` (generated from units.py)

    `add_conversion_rule` is tied to `Units.addRule` (`Model/ConvRule.lean`, the step of the C19 driver) for all
    arguments; `evaluate_units` to the units of `Infer.traverse` (C04), through the generated `traverse` only on the
    domain of `traverse_tie`; the stand-alone translation of `_is_equal` is shown to be the local function inside the
    generated `_check_unit_of_quantities_equal` (group Infer, `checkUnit_tie`). -/

namespace Cellml.Tie.PConvRule
open Units Cellml.Tie.PUnits

/-- the python object after the call: same store, same definitions, the new list of enabled transformations -/
def added (st : Store) (reg : Registry) (rules : List Rule) : StoreObj := storeObj st reg rules

/-- **Tie of `UnitStore.add_conversion_rule`.** For the python object `storeObj st reg rules` of ANY store, registry
    and enabled rules, any two units and any rule body: the generated method returns the object of the same store
    whose registry has the rule list `Units.addRule reg rules f t body` = `mkRule reg f t body :: rules` (source
    dimensionality from `from_unit`, target from `to_unit`, newest first), or raises `UndefinedUnitError` exactly
    where the model does, leaving the store as it was. -/
theorem addConversionRule_tie (st : Store) (reg : Registry) (rules : List Rule) (f t : Container)
    (body : List RFactor) :
    Gen.ConvRule.addConversionRule (storeObj st reg rules) ⟨f⟩ ⟨t⟩ body =
      errClass uErrClass ((addRule reg rules f t body).map (added st reg)) := by
  unfold Gen.ConvRule.addConversionRule addRule
  simp only [except_run, pintContext, ContextObj.addTransformation, dictSet, pintEnableContexts, List.any_nil,
      Bool.false_eq_true, if_false, List.nil_append, List.all_cons, List.all_nil, Bool.and_true,
      List.reverse_cons, List.reverse_nil, List.map_cons, List.map_nil, storeObj]
  by_cases h : (allKnown reg f && allKnown reg t) = true
  · simp only [h, if_true]
    rfl
  · simp only [h]
    rfl

/-- the rules of the returned object, spelled out -/
theorem addConversionRule_ok (st : Store) (reg : Registry) (rules : List Rule) (f t : Container) (body : List RFactor)
    (hf : allKnown reg f = true) (ht : allKnown reg t = true) :
    Gen.ConvRule.addConversionRule (storeObj st reg rules) ⟨f⟩ ⟨t⟩ body =
      .ok (storeObj st reg (mkRule reg f t body :: rules)) := by
  rw [addConversionRule_tie]; simp [except_run, addRule, hf, ht, added]

theorem addConversionRule_unknown (st : Store) (reg : Registry) (rules : List Rule) (f t : Container)
    (body : List RFactor) (h : (allKnown reg f && allKnown reg t) = false) :
    Gen.ConvRule.addConversionRule (storeObj st reg rules) ⟨f⟩ ⟨t⟩ body = .error ⟨"UndefinedUnitError"⟩ := by
  rw [addConversionRule_tie]; simp [except_run, addRule, h, uErrClass]

/-- for EVERY calculator: `evaluate_units(expr)` is the `.units` of what `self._calculator.traverse(expr)` returns,
    and raises what it raises -/
theorem evaluateUnits_eq (s : CalcStore) (x : PInfer.Obj) :
    Gen.ConvRule.evaluateUnits s x = (s.traverse x).map (·.2) := by
  unfold Gen.ConvRule.evaluateUnits
  cases h : s.traverse x <;> simp [except_run, qUnits]

/-- the store whose calculator is the hand model's `Infer.traverse` (the fixpoint of the generated `traverse`:
    `PInfer.traverse_tie`) -/
def calcStore (reg : Registry) (Γ : VarEnv) : CalcStore := ⟨PInfer.modelRec reg Γ⟩

/-- **Tie of `UnitStore.evaluate_units`**: the units component of the hand model `Infer.traverse` (C04), same
    exception class; on the domain of `traverse_tie` this is also the generated `traverse` applied to the node. -/
theorem evaluateUnits_tie (reg : Registry) (Γ : VarEnv) (e : E) :
    Gen.ConvRule.evaluateUnits (calcStore reg Γ) (.ex e) =
      PInfer.liftE ((_root_.Infer.traverse reg Γ e).map (·.2)) := by
  rw [evaluateUnits_eq]
  simp only [calcStore, PInfer.modelRec, PInfer.liftE]
  cases _root_.Infer.traverse reg Γ e <;> rfl

theorem evaluateUnits_gen (reg : Registry) (Γ : VarEnv) (e : E) (h : PInfer.inDomain Γ e = true) :
    Gen.ConvRule.evaluateUnits (calcStore reg Γ) (.ex e) =
      (Gen.Infer.traverse (PInfer.TravView.mk reg Γ) (PInfer.modelRec reg Γ) (.ex e)).map (·.2) := by
  rw [evaluateUnits_eq, PInfer.traverse_tie reg Γ e h]
  rfl

/-- **Tie of the nested `_is_equal`**: the model's `Infer.sameUnits` (= `Units.isEquivalent`: equal root containers
    and equal scales) of the units of the two quantities; it never raises. -/
theorem isEqual_tie (v : CalcView) (q1 q2 : PInfer.Q) :
    Gen.ConvRule.isEqual v q1 q2 = _root_.Infer.sameUnits v.reg q1.2 q2.2 := by
  unfold Gen.ConvRule.isEqual
  simp only [pure, qUnits, PInfer.TravView.baseUnits, PInfer.Py.isclose, Py.truthy_bool,
    _root_.Infer.sameUnits, isEquivalent, BEq.beq]
  exact Bool.and_comm _ _

/-- the stand-alone translation of `_is_equal` IS the local function of the generated
    `_check_unit_of_quantities_equal` (group Infer; tied to `Infer.finish` by `PInfer.checkUnit_tie`): on a non-empty
    list the check is "every later quantity `_is_equal` to the first". -/
theorem isEqual_is_local (v : CalcView) (q : PInfer.Q) (rest : List PInfer.Q) :
    Gen.Infer.checkUnitOfQuantitiesEqual v (q :: rest) = .ok (rest.all (fun r => Gen.ConvRule.isEqual v q r)) := by
  rfl

theorem isEqual_is_local_nil (v : CalcView) : Gen.Infer.checkUnitOfQuantitiesEqual v [] = .ok true := by
  rfl

end Cellml.Tie.PConvRule
