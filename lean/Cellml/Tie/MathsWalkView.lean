import Cellml.Tie.LoaderView
import Cellml.Generated.Code.LoaderSym
import Cellml.Generated.Code.ModelState

/-! # What the translated `Parser._add_maths` sees (package MathsWalk: C01 / C17)

    The generated code (`Cellml/Generated/Code/MathsWalk.lean`) is the whole of `_add_maths`: the loop over
    `component_variables`, `findall(<math>)`, the guard `if math_elements:`, the prefix, the construction
    `Transpiler(symbol_generator=…, number_generator=…)`, the loop over the `<math>` elements, `parse_tree`, and
    `self.model.add_equation(expr)` for every equation that comes back. Its leaves:

    * the XML of a component as far as `_add_maths` reads it (`MCompElem`, `MathElem`, `MEq`);
    * the closure `symbol_generator`: the GENERATED `Gen.LoaderSym.symbolGenerator` applied to the three names it captures
      (`prefix`, `variable_to_symbol`, `connected_variable_mapping`), its `while` cut at `whileBound` iterations;
    * the lambda `number_generator`: translated (`createQuantity x (← self.getUnit y)`); its two leaves are here;
    * `transpiler.parse_tree(math_element)`: `parseTree` — the walk of the transpiler over the modelled fragment of MathML,
      hand-written (`walkExpr`; `Tie/WalkGen.lean` proves it equal to the generated Transpiler handlers on the
      fragment; the Transpiler's own source is tied for C02 in `Tie/Transpile*.lean`), with EVERY `<ci>`
      handed to the closure and EVERY `<cn>` to the lambda the generated code built;
    * `self.model.add_equation(expr)`: the GENERATED `Gen.ModelState.addEquation` (`check_duplicates` at its default
      `True`) run on the model object `MathsSt.ms` that the stage threads — so the refusal of a left-hand side that is
      neither a variable nor a first derivative of a variable, and of a second definition, is generated code.

    Core Lean only. -/

namespace Cellml.Tie.PMathsWalk
open Load Cellml.Tie Cellml.Tie.PModelState

/-! ## the document side -/

/-- one side of an `<apply><eq/> … </apply>`, as far as `Load.Doc` / `C17.FaultDoc` can express it -/
inductive MSide where
  /-- MathML of the arithmetic fragment (`<ci>`, `<cn cellml:units>`, `<diff/>` of a variable, + − × ÷, unary minus,
      integer power) -/
  | e (x : Expr String String)
  /-- `<apply><diff/><bvar><ci>t</ci><degree><cn cellml:units="…">n</cn></degree></bvar><ci>x</ci></apply>` -/
  | higher (x t : String) (n : Nat)
deriving Repr, DecidableEq

structure MEq where
  lhs : MSide
  rhs : Expr String String
deriving Repr, DecidableEq

/-- a `<math>` element: its `<apply><eq/>` children in document order -/
structure MathElem where
  eqs : List MEq
deriving Repr, DecidableEq

/-- a `<component>` element as `_add_maths` reads it: `get('name')` and `findall(with_ns(XmlNs.MATHML, 'math'))` -/
structure MCompElem where
  name : String
  maths : List MathElem
deriving Repr, DecidableEq

/-! ## the transpiler object -/

/-- `sympy.Eq(lhs, rhs)` as `parse_tree` returns it: BOTH sides are expressions (what the left one is, is decided by
    `Model.add_equation`) -/
structure TrEq where
  lhs : Expr VRef FUnit
  rhs : Expr VRef FUnit
deriving Repr, DecidableEq

/-- a `Transpiler` instance: the two callbacks it was constructed with -/
structure TranspilerObj where
  /-- `symbol_generator(identifier)` -/
  sym : String → Except PyErr (Option VRef)
  /-- `number_generator(value, units)` -/
  num : Rat → String → Except PyErr (Expr VRef FUnit)

/-- `Transpiler(symbol_generator=s, number_generator=n)` -/
def mkTranspiler (s : String → Except PyErr (Option VRef)) (n : Rat → String → Except PyErr (Expr VRef FUnit)) :
    TranspilerObj := ⟨s, n⟩

/-- the bound on the `while` of the closure: `len(connected_variable_mapping)` (the python loop has ended by then,
    `connect_forest_gen` G2) -/
def whileBound (m : VMap) : Nat := m.entries.length

/-- `_ci_handler`: `self.symbol_generator(node.text.strip())` (the closure asserts that it does not return `None`) -/
def TranspilerObj.ci (T : TranspilerObj) (a : String) : Except PyErr VRef :=
  match T.sym a with
  | .error e => .error e
  | .ok (some v) => .ok v
  | .ok none => .error ⟨"AssertionError"⟩

/-- the walk of the transpiler over an expression of the fragment: `<ci>` through `symbol_generator`, `<cn>` through
    `number_generator`, operands left to right, `<bvar>` before the differentiated variable -/
def walkExpr (T : TranspilerObj) : Expr String String → Except PyErr (Expr VRef FUnit)
  | .num q u => T.num q u
  | .var a => match T.ci a with
      | .ok v => .ok (.var v)
      | .error e => .error e
  | .diff x t => match T.ci t with
      | .error e => .error e
      | .ok t' => match T.ci x with
        | .error e => .error e
        | .ok x' => .ok (.diff x' t')
  | .add a b => match walkExpr T a with
      | .error e => .error e
      | .ok a' => match walkExpr T b with
        | .error e => .error e
        | .ok b' => .ok (.add a' b')
  | .sub a b => match walkExpr T a with
      | .error e => .error e
      | .ok a' => match walkExpr T b with
        | .error e => .error e
        | .ok b' => .ok (.sub a' b')
  | .mul a b => match walkExpr T a with
      | .error e => .error e
      | .ok a' => match walkExpr T b with
        | .error e => .error e
        | .ok b' => .ok (.mul a' b')
  | .div a b => match walkExpr T a with
      | .error e => .error e
      | .ok a' => match walkExpr T b with
        | .error e => .error e
        | .ok b' => .ok (.div a' b')
  | .neg a => match walkExpr T a with
      | .error e => .error e
      | .ok a' => .ok (.neg a')
  | .powi a n => match walkExpr T a with
      | .error e => .error e
      | .ok a' => .ok (.powi a' n)

/-- one side of an equation. A `<degree>` holding a `<cn>` with units: `_wrapped_diff` calls `int(…)` on the Quantity the
    number generator made of it — TypeError while the side is being built (both identifiers have been resolved) -/
def walkSide (T : TranspilerObj) : MSide → Except PyErr (Expr VRef FUnit)
  | .e x => walkExpr T x
  | .higher x t _ => match T.ci t with
      | .error e => .error e
      | .ok _ => match T.ci x with
        | .error e => .error e
        | .ok _ => .error ⟨"TypeError"⟩

/-- the equations of one `<math>` element: ALL of them are transpiled (left side, then right side, in document order)
    before `parse_tree` returns -/
def parseEqs (T : TranspilerObj) : List MEq → Except PyErr (List TrEq)
  | [] => .ok []
  | q :: r => match walkSide T q.lhs with
      | .error e => .error e
      | .ok l => match walkExpr T q.rhs with
        | .error e => .error e
        | .ok rh => match parseEqs T r with
          | .error e => .error e
          | .ok rs => .ok (⟨l, rh⟩ :: rs)

/-- `transpiler.parse_tree(math_element)` -/
def parseTree (T : TranspilerObj) (m : MathElem) : Except PyErr (List TrEq) := parseEqs T m.eqs

/-! ## the leaves of the lambda `number_generator` -/

/-- `Parser` / `Model` as seen by `_add_maths`: the unit store `self.model.units` -/
structure MathsView where
  ust : Units.Store

/-- `self.model.units.get_unit(name)`: KeyError for a name the store does not know -/
def MathsView.getUnit (self : MathsView) (u : String) : Except PyErr Container :=
  match Units.getUnit self.ust u with
  | .ok c => .ok c
  | .error _ => .error ⟨"KeyError"⟩

/-- `self.model.create_quantity(value, units)`: a number carrying the pint unit (no magnitude multiplier) -/
def createQuantity (q : Rat) (c : Container) : Expr VRef FUnit := .num q ([], c)

/-! ## `self.model.add_equation(expr)`: the GENERATED `Model.add_equation` on the threaded model object -/

theorem char_lt (c : Char) : c.toNat < 1114112 := by
  have h := c.valid
  unfold UInt32.isValidChar Nat.isValidChar at h
  show c.val.toNat < 1114112
  omega

/-- a text as a number: bijective numeration with the code points (+1) as digits -/
def encS : List Char → Nat
  | [] => 0
  | c :: l => (c.toNat + 1) + 1114113 * encS l

theorem encS_inj : ∀ (a b : List Char), encS a = encS b → a = b
  | [], [], _ => rfl
  | [], c :: l, h => by have := char_lt c; simp only [encS] at h; omega
  | c :: l, [], h => by have := char_lt c; simp only [encS] at h; omega
  | c :: l, d :: m, h => by
    have h1 := char_lt c
    have h2 := char_lt d
    simp only [encS] at h
    have hc : c.toNat = d.toNat := by omega
    have hl : encS l = encS m := by omega
    rw [Char.toNat_inj.mp hc, encS_inj l m hl]

/-- the digits of the component, a separator digit, then the name -/
def encP : List Char → List Char → Nat
  | [], x => 1114113 + 1114114 * encS x
  | c :: l, x => c.toNat + 1114114 * encP l x

theorem encP_inj : ∀ (a b x y : List Char), encP a x = encP b y → a = b ∧ x = y
  | [], [], x, y, h => by
    simp only [encP] at h
    exact ⟨rfl, encS_inj x y (by omega)⟩
  | [], c :: l, x, y, h => by have := char_lt c; simp only [encP] at h; omega
  | c :: l, [], x, y, h => by have := char_lt c; simp only [encP] at h; omega
  | c :: l, d :: m, x, y, h => by
    have h1 := char_lt c
    have h2 := char_lt d
    simp only [encP] at h
    have hc : c.toNat = d.toNat := by omega
    have hl : encP l x = encP m y := by omega
    obtain ⟨e1, e2⟩ := encP_inj l m x y hl
    exact ⟨by rw [Char.toNat_inj.mp hc, e1], e2⟩

/-- the identity number under which `Model.MState` (Tie/ModelStateView.lean: variables are numbers) knows the Variable
    object that the loader's models call `(component, name)`: any injective numbering will do, this is one -/
def encV (v : VRef) : Nat := encP v.1.toList v.2.toList

theorem encV_inj {v w : VRef} (h : encV v = encV w) : v = w := by
  obtain ⟨a, x⟩ := v
  obtain ⟨b, y⟩ := w
  obtain ⟨e1, e2⟩ := encP_inj _ _ _ _ h
  have e1' : a.toList = b.toList := e1
  have e2' : x.toList = y.toList := e2
  rw [String.toList_inj.mp e1', String.toList_inj.mp e2']

/-- the left-hand side as `Model.add_equation` classifies it (`lhs.is_Derivative`, `isinstance(lhs.args[0], Variable)`,
    `isinstance(lhs, Variable)` are then read by the leaves of Tie/ModelStateView.lean): a Variable, the first derivative
    of a Variable with respect to one (what the walk builds for `<diff/>`), or any other expression -/
def encLhs : Expr VRef FUnit → Model.Lhs
  | .var v => .var (encV v)
  | .diff x t => .deriv (encV x) (encV t) 1
  | _ => .other

/-- `len(lhs.args)` and `lhs.args[1][1]` of the `sympy.Derivative(x, t)` that `_wrapped_diff` builds: `(x, (t, 1))` -/
def firstDeriv : DerivShape := ⟨2, 1⟩

/-- the equation as an object of `Model.MState` (only its left-hand side is looked at by `add_equation`) -/
def encEq (q : TrEq) : Model.Eqn := ⟨0, encLhs q.lhs, [], [], false⟩

/-- the left-hand side in the words of the flat model, when it is one -/
def flatLhs : Expr VRef FUnit → Option (Lhs VRef)
  | .var v => some (.var v)
  | .diff x t => some (.diff x t)
  | _ => none

/-- what `_add_maths` changes: the `Model` object (`ms`: the definition maps `add_equation` reads and writes), and — for
    the later stages of the loader model — the variables that got a definition and the equations added, in order -/
structure MathsSt where
  ms : Model.MState
  defined : List VRef
  eqs : List FlatEq

/-- `self.model.add_equation(expr)`: the GENERATED `Model.add_equation(equation, check_duplicates=True)` decides and
    updates the model object; the loader's record follows it -/
def addEquation (st : MathsSt) (q : TrEq) : Except PyErr MathsSt :=
  match (Cellml.Gen.ModelState.addEquation firstDeriv (encEq q) true).run st.ms with
  | (.error e, _) => .error e
  | (.ok (), ms') =>
    match flatLhs q.lhs with
    | some l => .ok ⟨ms', l.defines :: st.defined, st.eqs ++ [⟨l, q.rhs⟩]⟩
    | none => .ok ⟨ms', st.defined, st.eqs⟩

end Cellml.Tie.PMathsWalk
