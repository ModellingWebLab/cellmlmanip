import Cellml.Generated.Code.ModelState
import Cellml.C08.Lemmas
import Cellml.Tie.PyRunAttr

/-! # Tie: the editing methods of `cellmlmanip.model.Model` (generated from the source) = the hand model
      `Cellml/Model/State.lean` that the theorems of `Props/C08.lean` are about -/

namespace Cellml.Tie.PModelState
open Model PyM Cellml.Gen

attribute [py_run] run_bind run_readSelf run_modifySelf run_ite run_throw run_pure run_liftE run_tryCatch
  run_tryCatchThe run_forIn_nil Py.truthy_bool Bool.false_eq_true Bool.not_true Bool.not_false if_true if_false ite_self
  Option.isSome_some Option.isSome_none

/-- `_invalidate_cache` = `Model.invalidate` -/
@[simp, py_run] theorem invalidateCache_tie (s : MState) : ModelState.invalidateCache.run s = (.ok (), invalidate s) := by
  simp only [py_run, ModelState.invalidateCache, setGraph, setGraphNum]
  rfl

/-! The accessors of `ModelStateView.lean` on the arguments the generated methods pass. Those whose run is an equation
    without hypothesis are in `py_run`; `getUnit`, `nameSet` and `nameDel` need one and are handed to `simp` where they
    occur; the rest are unfolded by name. -/

@[simp] theorem outcome_ok {α} (a : α) (s : MState) : outcome a (s, .ok) = (.ok a, s) := rfl
@[simp] theorem outcome_raised {α} (a : α) (s : MState) (e : Model.Err) :
    outcome a (s, .raised e) = (.error ⟨errName e⟩, s) := rfl


@[py_run] theorem run_equationsAppend (e : Eqn) (s : MState) :
    (equationsAppend e).run s = (.ok (), { s with equations := s.equations ++ [e] }) := rfl

@[py_run] theorem run_equationsRemove (e : Eqn) (s : MState) :
    (equationsRemove e).run s = if s.equations.contains e then (.ok (), { s with equations := s.equations.erase e })
      else (.error ⟨"ValueError"⟩, s) := by
  simp only [py_run, equationsRemove]

@[py_run] theorem run_odeSet (k : Nat) (e : Eqn) (s : MState) :
    (odeSet k e).run s = (.ok (), { s with odeDef := insertKey k e s.odeDef }) := rfl

@[py_run] theorem run_varSet (v : Nat) (e : Eqn) (s : MState) :
    (varSet (Lhs.var v) e).run s = (.ok (), { s with varDef := insertKey v e s.varDef }) := rfl

@[py_run] theorem run_odeDel (k : Nat) (s : MState) :
    (odeDel k).run s = if hasKey k s.odeDef then (.ok (), { s with odeDef := eraseKey k s.odeDef })
      else (.error ⟨"KeyError"⟩, s) := by
  simp only [py_run, odeDel, dictDel, key_nat]
  cases hasKey k s.odeDef <;> rfl

@[py_run] theorem run_varDel (l : Lhs) (s : MState) :
    (varDel l).run s = match l with
      | .var v => if hasKey v s.varDef then (.ok (), { s with varDef := eraseKey v s.varDef })
          else (.error ⟨"KeyError"⟩, s)
      | _ => (.error ⟨"KeyError"⟩, s) := by
  cases l with
  | var v => simp only [py_run, varDel, dictDel, key_lhs_var]; cases hasKey v s.varDef <;> rfl
  | deriv _ _ _ => rfl
  | other => rfl

@[py_run] theorem run_cmetaSet (c : String) (v : Nat) (s : MState) :
    (cmetaSet (some c) v).run s = (.ok (), { s with cmetaMap := insertKey c v s.cmetaMap }) := rfl

@[py_run] theorem run_cmetaDel (c : String) (s : MState) :
    (cmetaDel (some c)).run s = if hasKey c s.cmetaMap then (.ok (), { s with cmetaMap := eraseKey c s.cmetaMap })
      else (.error ⟨"KeyError"⟩, s) := by
  simp only [py_run, cmetaDel]

theorem run_getUnit (u : UnitArg) (hu : u ≠ .name false) (s : MState) : (getUnit u).run s = (.ok .unit, s) := by
  cases u with
  | unit => rfl
  | name k => cases k; exact absurd rfl hu; rfl

@[py_run] theorem run_newVariable (n : String) (u : UnitArg) (i : Option Rat) (o : Nat) (c : Option String) (s : MState) :
    (newVariable n u i o c).run s = (.ok s.heap.length, { s with heap := s.heap ++ [⟨n, o, c, i, none⟩] }) := rfl

theorem run_nameSet (n : String) (v : Nat) (s : MState) (h : nameHas s n = false) :
    (nameSet n v).run s = (.ok (), { s with live := s.live ++ [v] }) := by
  simp only [py_run, nameSet, h]

@[py_run] theorem run_variablesAddedIncr (n : Nat) (s : MState) :
    (variablesAddedIncr n).run s = (.ok (), { s with nextOrder := s.nextOrder + n }) := rfl

/-- `_check_duplicate_definitions` raises ValueError exactly when `Model.isDefined`, and never changes anything
    (`k`: the variable itself, or an `lhs` that is a variable) -/
theorem checkDuplicateDefinitions_tie {κ} [DictKey κ] (s : MState) (k : κ) (v : Nat) (hk : DictKey.key k = some v)
    (e : Eqn) :
    (ModelState.checkDuplicateDefinitions k e).run s =
      (if isDefined s v then .error ⟨"ValueError"⟩ else .ok (), s) := by
  simp only [py_run, ModelState.checkDuplicateDefinitions, isDefined, dictHas, hk]
  by_cases h1 : hasKey v s.odeDef = true <;> by_cases h2 : hasKey v s.varDef = true <;> simp [h1, h2]

/-- `get_definition` = `Model.getDefinition` (the model object is not touched) -/
theorem getDefinition_tie (s : MState) (v : Nat) :
    (ModelState.getDefinition v).run s = (.ok (getDefinition s v), s) := by
  simp only [py_run, ModelState.getDefinition]
  have h0 : dictGet v s.odeDef = s.odeDef.lookup v := rfl
  have h1 : dictGet v s.varDef = s.varDef.lookup v := rfl
  cases h : dictGet v s.odeDef <;> rw [h] at h0 <;> simp [getDefinition, ← h0, h1]

/-- `is_state` = membership in `_ode_definition_map` as the model reads it (`hasKey · odeDef`, the predicate of
    `states_in_order_of_introduction`; equivalently membership in `stateKeys`) -/
theorem isState_tie (s : MState) (v : Nat) :
    (ModelState.isState v).run s = (.ok (hasKey v s.odeDef), s) := by
  simp only [py_run, ModelState.isState]
  simp only [dictHas, key_nat]

theorem isState_tie_stateKeys (s : MState) (v : Nat) :
    (ModelState.isState v).run s = (.ok (decide (v ∈ stateKeys s)), s) := by
  rw [isState_tie]
  have := hasKey_iff_mem_keys v s.odeDef
  unfold stateKeys
  by_cases h : hasKey v s.odeDef = true
  · simp [h, this.mp h]
  · have h' : v ∉ List.map (fun x => x.fst) s.odeDef := fun hm => h (this.mpr hm)
    simp [h, h']

theorem DerivShape.raise_iff {sh : DerivShape} {o : Nat} (h : sh.ok o) :
    (decide (sh.nargs > 2) || decide (sh.count1 > 1)) = decide (o > 1) := by
  obtain ⟨h1, h2, h3, h4⟩ := h
  by_cases hn : sh.nargs = 2
  · have := h4 hn
    simp [hn, this]
  · have : sh.nargs > 2 := by omega
    have : o > 1 := by omega
    simp [*]

/-- `add_equation` = `Model.addEquationCore`: the same state afterwards (also when it raises) and the same outcome,
    for every `DerivShape` sympy can produce for the order of a derivative on the left.
    Not seen by this tie: `if not isinstance(lhs.args[0], Variable): raise ValueError`. The view answers that test by
    `derivOfVariable`, which is `isDerivative` (the derivative of an expression is an `Lhs.other`, refused by the last
    `else`): the statement holds with or without that line. -/
theorem addEquation_tie (s : MState) (e : Eqn) (check : Bool) (sh : DerivShape)
    (hsh : ∀ st t o, e.lhs = .deriv st t o → sh.ok o) :
    (ModelState.addEquation sh e check).run s = outcome () (addEquationCore s e check) := by
  unfold addEquationCore
  cases hl : e.lhs with
  | var v =>
    simp only [py_run, ModelState.addEquation, hl, isDerivative, isVariable,
      checkDuplicateDefinitions_tie _ (Lhs.var v) v rfl]
    cases check <;> cases isDefined s v <;> rfl
  | deriv st t o =>
    simp only [py_run, ModelState.addEquation, hl, isDerivative, derivOfVariable, freeSymbolsPop,
      DerivShape.raise_iff (hsh st t o hl), decide_eq_true_eq, checkDuplicateDefinitions_tie _ st st rfl]
    by_cases ho : o > 1
    · simp only [ho, if_true]; rfl
    · simp only [ho, if_false]
      cases check <;> cases isDefined s st <;> rfl
  | other =>
    simp only [py_run, ModelState.addEquation, hl, isDerivative, isVariable]
    rfl

/-- `remove_equation` = `Model.removeEquation` -/
theorem removeEquation_tie (s : MState) (e : Eqn) :
    (ModelState.removeEquation e).run s = outcome () (Model.removeEquation s e) := by
  unfold Model.removeEquation
  simp only [py_run, ModelState.removeEquation]
  cases hc : s.equations.contains e
  · rfl
  · simp only [py_run]
    cases hl : e.lhs with
    | var v =>
      simp only [py_run, isDerivative]
      cases hasKey v s.varDef <;> rfl
    | deriv st t o =>
      simp only [py_run, isDerivative, freeSymbolsPop]
      cases hasKey st s.odeDef <;> rfl
    | other =>
      simp only [py_run, isDerivative]
      rfl

theorem find_by_key {β : Type} [DecidableEq β] (f : Nat → β) (l : List Nat) (v : Nat) (hv : v ∈ l)
    (hn : (l.map f).Nodup) : l.find? (fun i => f i == f v) = some v := by
  cases hf : l.find? (fun i => f i == f v) with
  | none => simpa using List.find?_eq_none.1 hf v hv
  | some w =>
    rw [List.inj_of_nodup_map f l hn w (List.mem_of_find?_eq_some hf) v hv (by simpa using List.find?_some hf)]

theorem run_nameDel (s1 : MState) (v : Nat) (hv : v ∈ s1.live) (hn : (s1.live.map (nameOfVar s1)).Nodup) :
    (nameDel (nameOfVar s1 v)).run s1 = (.ok (), { s1 with live := s1.live.erase v }) := by
  simp only [py_run, nameDel]
  rw [find_by_key (nameOfVar s1) s1.live v hv hn]
  rfl

theorem cmetaOf_live (s1 : MState) (l : List Nat) (v : Nat) :
  cmetaOf { s1 with live := l } v = cmetaOf s1 v := rfl

/-- the first two statements of `remove_variable` (the defining equation, if there is one, is removed), in front of
    any `rest` that is tied on the states `remove_equation` can leave -/
theorem run_removeDefinition_then (s : MState) (d : Option Eqn) (rest : PyM MState Unit)
    (rest' : MState → MState × Outcome)
    (hrest : ∀ s1, s1.live = s.live → s1.heap = s.heap → rest.run s1 = outcome () (rest' s1)) :
    (if d.isSome then (do ModelState.removeEquation (← notNone d); rest) else rest).run s =
      outcome () (match (match d with | some e => Model.removeEquation s e | none => (s, .ok)) with
        | (s1, .raised x) => (s1, .raised x)
        | (s1, .ok) => rest' s1) := by
  cases d with
  | none => exact hrest s rfl rfl
  | some e =>
    simp only [py_run, notNone, removeEquation_tie]
    have hf := removeEquation_frame s e
    rcases hr : Model.removeEquation s e with ⟨s1, o⟩
    rw [hr] at hf
    cases o with
    | raised x => rfl
    | ok => exact hrest s1 hf.2.1 hf.1

/-- `remove_variable` = `Model.removeVariable`, for a variable of the model with pairwise different names (both follow
    from the invariant: `removeVariable_tie_of_inv`).
    Not seen by this tie: the loop that takes the triples of the variable out of the RDF store (the view's `rdfTriples`
    is empty); `PCmeta.removeVariable_tie` (`Tie/Cmeta.lean`) ties the method over a store. -/
theorem removeVariable_tie (s : MState) (v : Nat) (hlive : isLive s v = true)
    (hnames : (s.live.map (nameOfVar s)).Nodup) :
    (ModelState.removeVariable v).run s = outcome () (Model.removeVariable s v) := by
  have hv : v ∈ s.live := by simpa [isLive] using hlive
  unfold Model.removeVariable ModelState.removeVariable
  rw [hlive, run_bind, getDefinition_tie]
  simp only [Bool.not_true, Bool.false_eq_true, if_false]
  apply run_removeDefinition_then
  intro s1 hl hh
  have hv1 : v ∈ s1.live := hl ▸ hv
  have hn1 : (s1.live.map (nameOfVar s1)).Nodup := by
    have : nameOfVar s1 = nameOfVar s := by funext i; simp only [nameOfVar, names, hh]
    rw [this, hl]; exact hnames
  unfold unregister
  cases hc : cmetaOf s1 v with
  | none =>
    simp only [py_run, rdfTriples, run_nameDel s1 v hv1 hn1, cmetaOf_live, hc]
    rfl
  | some c =>
    simp only [py_run, rdfTriples, run_nameDel s1 v hv1 hn1, cmetaOf_live, hc]
    cases hasKey c s1.cmetaMap <;> rfl

theorem nameHas_heap_append (s : MState) (x : Var) (name : String) (hb : ∀ i ∈ s.live, i < s.heap.length) :
    nameHas { s with heap := s.heap ++ [x] } name = nameHas s name := by
  unfold nameHas
  rw [Bool.eq_iff_iff]; simp only [List.any_eq_true]
  exact exists_congr fun i => and_congr_right fun hi => by
    rw [nameOfVar_snoc (s := s) (x := x) (by rfl), if_neg (Nat.ne_of_lt (hb i hi))]

/-- `add_variable` = `Model.addVariable`, returning the new variable's identity number; `units` is a unit object or a
    name the store knows (the other case: `addVariable_unknown_unit`) -/
theorem addVariable_tie (s : MState) (name : String) (units : UnitArg) (init : Option Rat)
    (pub priv cmeta : Option String) (hu : units ≠ .name false) (hb : ∀ i ∈ s.live, i < s.heap.length) :
    (ModelState.addVariable name units init pub priv cmeta).run s
      = outcome s.heap.length (Model.addVariable s name cmeta init) := by
  have hn : nameHas s name = s.live.any (fun i => nameOfVar s i == name) := rfl
  unfold Model.addVariable
  rw [← hn]
  cases h1 : nameHas s name
  · have h1' : nameHas { s with heap := s.heap ++ [⟨name, s.nextOrder, cmeta, init, none⟩] } name = false := by
      rw [nameHas_heap_append s _ name hb]; exact h1
    cases cmeta with
    | none =>
      simp only [py_run, ModelState.addVariable, h1, run_getUnit units hu, run_nameSet _ _ _ h1']
      rfl
    | some c =>
      cases hc : hasCmetaId s c
      · simp only [py_run, ModelState.addVariable, h1, hasCmetaIdPy, hc, run_getUnit units hu,
          run_nameSet _ _ _ h1']
        simp only [cmetaTaken, hc, Bool.false_eq_true, if_false]
        rfl
      · simp only [py_run, ModelState.addVariable, h1, hasCmetaIdPy, hc]
        simp only [cmetaTaken, hc, if_true]
        rfl
  · simp only [py_run, ModelState.addVariable, h1]
    rfl

/-- outside the domain of `addVariable_tie`: a unit name the store does not know. The hand model has no units; the
    code raises KeyError after the two checks and before anything is changed. -/
theorem addVariable_unknown_unit (s : MState) (name : String) (init : Option Rat) (pub priv cmeta : Option String) :
    (ModelState.addVariable name (.name false) init pub priv cmeta).run s
      = (if nameHas s name || cmetaTaken s cmeta then .error ⟨"ValueError"⟩ else .error ⟨"KeyError"⟩, s) := by
  simp only [py_run, ModelState.addVariable, getUnit]
  by_cases h1 : nameHas s name = true
  · simp [h1]
  · cases cmeta with
    | none => simp [h1, isUnitObject, cmetaTaken]
    | some c => by_cases hc : hasCmetaId s c = true <;> simp [h1, hc, hasCmetaIdPy, isUnitObject, cmetaTaken]

/-! The property theorems of `Props/C08.lean` speak about `Model.step` / `Model.run`; the four editing calls of `step`
    are, by definition, the model functions tied above. -/

theorem step_addEquation_tie (s : MState) (e : Eqn) (sh : DerivShape)
    (hsh : ∀ st t o, e.lhs = .deriv st t o → sh.ok o) :
    (ModelState.addEquation sh e true).run s = outcome () (step s (.addEquation e)) :=
  addEquation_tie s e true sh hsh

theorem step_removeEquation_tie (s : MState) (e : Eqn) :
    (ModelState.removeEquation e).run s = outcome () (step s (.removeEquation e)) :=
  removeEquation_tie s e

theorem step_removeVariable_tie (s : MState) (v : Nat) (hlive : isLive s v = true)
    (hnames : (s.live.map (nameOfVar s)).Nodup) :
    (ModelState.removeVariable v).run s = outcome () (step s (.removeVariable v)) :=
  removeVariable_tie s v hlive hnames

theorem step_addVariable_tie (s : MState) (name : String) (units : UnitArg) (init : Option Rat)
    (pub priv cmeta : Option String) (hu : units ≠ .name false) (hb : ∀ i ∈ s.live, i < s.heap.length) :
    (ModelState.addVariable name units init pub priv cmeta).run s
      = outcome s.heap.length (step s (.addVariable name cmeta init)) :=
  addVariable_tie s name units init pub priv cmeta hu hb

/-- the two side conditions are consequences of the invariant of `Props/C08.lean` (`Inv`, which holds after every
    history: `inv_reachable`) -/
theorem removeVariable_tie_of_inv (s : MState) (h : Inv s) (v : Nat) (hlive : isLive s v = true) :
    (ModelState.removeVariable v).run s = outcome () (step s (.removeVariable v)) :=
  removeVariable_tie s v hlive h.reg.namesNodup

theorem addVariable_tie_of_inv (s : MState) (h : Inv s) (name : String) (units : UnitArg) (init : Option Rat)
    (pub priv cmeta : Option String) (hu : units ≠ .name false) :
    (ModelState.addVariable name units init pub priv cmeta).run s
      = outcome s.heap.length (step s (.addVariable name cmeta init)) :=
  addVariable_tie s name units init pub priv cmeta hu h.reg.liveBound

/-- `get_definition` is the `definition` observable of `Inv.lean` -/
theorem getDefinition_tie_obs (s : MState) (v : Nat) :
    (ModelState.getDefinition v).run s = (.ok ((obs s).definition v), s) := getDefinition_tie s v

end Cellml.Tie.PModelState
