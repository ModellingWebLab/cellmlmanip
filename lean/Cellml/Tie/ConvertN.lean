import Cellml.Tie.ConvertCases

/-! # Tie, n-ary branches of `convert_expression_recursively`: `Add`, `Mul`, `And`, `Or`, n-ary functions (`Max`, `Min`, …).

    SymPy's nodes are flat (`Add(a, b, c)`), the model's are left-nested (`add (add a b) c`). The view shows the python
    `for arg in expr.args` loops the FLAT operand list along the left spine (`addArgs` …). Here: the generated loop over
    the n flat operands = the model's nested recursion (`add_loop`, `mul_loop`, `and_loop`, `or_loop`, `fn_loop`, by
    induction along the spine, arbitrary start state, using `convert_target` and `convert_ident`). -/

-- an expression is called `e` throughout, which is also the name of the constructor `E.e`
set_option linter.constructorNameAsVariable false

namespace Cellml.Tie.PConvert
open Convert

/-! ### a `for` loop whose body never breaks is a monadic left fold -/

/-- the loop `for a in xs: s = step(a, s)` -/
def loopM {σ : Type} (step : E → σ → Except PyErr σ) (xs : List E) (s : σ) : Except PyErr σ :=
  xs.foldlM (fun s a => step a s) s

theorem forIn_eq_loopM {σ : Type} (step : E → σ → Except PyErr σ) (F : E → σ → Except PyErr (ForInStep σ))
    (hF : ∀ a s, F a s = (step a s).map ForInStep.yield) (xs : List E) (s : σ) :
    forIn xs s F = loopM step xs s :=
  List.forIn_eq_foldlM_of_yield (fun s a => step a s) F xs s fun a _ s => hF a s

theorem loopM_cons {σ : Type} (step : E → σ → Except PyErr σ) (a : E) (xs : List E) (s : σ) :
    loopM step (a :: xs) s = (step a s).bind (loopM step xs) := by
  simp only [loopM, List.foldlM_cons]; rfl

theorem loopM_append {σ : Type} (step : E → σ → Except PyErr σ) (xs ys : List E) (s : σ) :
    loopM step (xs ++ ys) s = (loopM step xs s).bind (loopM step ys) := by
  simp only [loopM, List.foldlM_append]; rfl

theorem loopM_one {σ : Type} (step : E → σ → Except PyErr σ) (a : E) (s : σ) : loopM step [a] s = step a s := by
  simp only [loopM, List.foldlM_cons, List.foldlM_nil]
  cases step a s <;> rfl

theorem loopM_snoc {σ : Type} (step : E → σ → Except PyErr σ) (xs : List E) (b : E) (s : σ) :
    loopM step (xs ++ [b]) s = (loopM step xs s).bind (step b) := by
  rw [loopM_append]; congr 1; funext s'; exact loopM_one step b s'

/-- what a loop lemma says: the model fails - the loop fails with the same class; the model succeeds with `r` - the loop
    ends in a state related to `r` -/
def LoopSpec {σ : Type} (res : Except UnitErr CR) (out : Except PyErr σ) (good : CR → σ → Prop) : Prop :=
  match res with
  | .error err => out = .error ⟨convCls err⟩
  | .ok r => ∃ s, out = .ok s ∧ good r s

theorem loopSpec_error {σ : Type} {err : UnitErr} {out : Except PyErr σ} {good : CR → σ → Prop} :
    LoopSpec (.error err) out good ↔ out = .error ⟨convCls err⟩ := Iff.rfl

theorem loopSpec_ok {σ : Type} {r : CR} {out : Except PyErr σ} {good : CR → σ → Prop} :
    LoopSpec (.ok r) out good ↔ ∃ s, out = .ok s ∧ good r s := Iff.rfl

section
variable (reg : Registry) (Γ : VarEnv)

/-- loop state of the Add branch: `(to_units, actual_units, was_converted, new_args)` -/
abbrev AddSt := PyUnit × PyUnit × Bool × List E

/-- one iteration of `for arg in expr.args` of the Add branch -/
def addStep (arg : E) (s : AddSt) : Except PyErr AddSt :=
  match modelRec reg Γ arg s.1 with
  | .error e => .error e
  | .ok x => .ok (if s.1.isNone then x.2.2 else s.1, x.2.2, x.2.1 || s.2.2.1, s.2.2.2 ++ [x.1])

/-- end state of the Add loop over the operands of a spine whose model result is `r` -/
def addGood (tu : PyUnit) (wc0 : Bool) (acc : List E) (r : CR) (s : AddSt) : Prop :=
  ∃ y ys, s = (some (tu.getD r.u), some r.u, r.wc || wc0, acc ++ y :: ys) ∧ ys.foldl E.add y = r.e

theorem add_leaf (e : E) (hl : addArgs e = [e]) (tu : PyUnit) (au0 : PyUnit) (wc0 : Bool) (acc : List E) :
    LoopSpec (Convert.convert reg Γ e tu) (loopM (addStep reg Γ) (addArgs e) ((tu, au0, wc0, acc) : AddSt))
      (addGood tu wc0 acc) := by
  rw [hl, loopM_one]
  cases h : Convert.convert reg Γ e tu with
  | error err => simp [loopSpec_error, addStep, modelRec_error h]
  | ok r =>
    refine loopSpec_ok.2 ⟨(if tu.isNone then some r.u else tu, some r.u, r.wc || wc0, acc ++ [r.e]), ?_, r.e, [], ?_, rfl⟩
    · simp only [addStep, modelRec_ok h]
    · cases tu <;> rfl

/-- the Add loop over the flat operands of the spine `e` (start state arbitrary) = `Convert.convert e` -/
theorem add_loop (e : E) : ∀ (tu : PyUnit) (au0 : PyUnit) (wc0 : Bool) (acc : List E),
    LoopSpec (Convert.convert reg Γ e tu) (loopM (addStep reg Γ) (addArgs e) ((tu, au0, wc0, acc) : AddSt))
      (addGood tu wc0 acc) := by
  induction e with
  | add a b iha _ =>
    intro tu au0 wc0 acc
    simp only [addArgs, loopM_snoc, Convert.convert]
    have IH := iha tu au0 wc0 acc
    cases ha : Convert.convert reg Γ a tu with
    | error err => rw [ha, loopSpec_error] at IH; simp [IH, Except.bind, bind, loopSpec_error]
    | ok ra =>
      rw [ha, loopSpec_ok] at IH
      obtain ⟨_, IH1, y, ys, rfl, IH2⟩ := IH
      simp only [bind, Except.bind]
      cases hb : Convert.convert reg Γ b (some (tu.getD ra.u)) with
      | error err => have := modelRec_error hb; simp [IH1, addStep, this, loopSpec_error]
      | ok rb =>
        have := modelRec_ok hb
        have hu : rb.u = tu.getD ra.u := Convert.convert_target b _ rb hb
        simp only [pure, Except.pure]
        refine loopSpec_ok.2 ⟨(some (tu.getD ra.u), some rb.u, rb.wc || (ra.wc || wc0), (acc ++ y :: ys) ++ [rb.e]),
          ?_, y, ys ++ [rb.e], ?_, ?_⟩
        · simp only [IH1, addStep, this, Option.isNone_some, Bool.false_eq_true, if_false]
        · simp [hu]
          exact ⟨by cases tu <;> rfl, by cases rb.wc <;> cases ra.wc <;> cases wc0 <;> rfl⟩
        · rw [List.foldl_append, IH2]
          exact (rebuild2 (convert_ident ha).2 (convert_ident hb).2).symm
  | _ => intros; apply add_leaf; rfl

/-- loop state of the Mul branch: `(was_converted, new_args, all_arg_units)` -/
abbrev MulSt := Bool × List E × List PyUnit

/-- one iteration of `for arg in expr.args` of the Mul branch -/
def mulStep (arg : E) (s : MulSt) : Except PyErr MulSt :=
  match modelRec reg Γ arg none with
  | .error e => .error e
  | .ok x => .ok (x.2.1 || s.1, s.2.1 ++ [x.1], s.2.2 ++ [x.2.2])

/-- end state of the Mul loop: flags or-ed, the new operands left-nest to the model's new expression, and
    `reduce(mul, all_arg_units)` is the model's unit -/
def mulGood (wc0 : Bool) (acc : List E) (accu : List PyUnit) (r : CR) (s : MulSt) : Prop :=
  ∃ y ys u us, s = (r.wc || wc0, acc ++ y :: ys, accu ++ u :: us) ∧ ys.foldl E.mul y = r.e ∧
    us.foldlM unitMul u = .ok (some r.u)

theorem mul_leaf (e : E) (hl : mulArgs e = [e]) (wc0 : Bool) (acc : List E) (accu : List PyUnit) :
    LoopSpec (Convert.convert reg Γ e none) (loopM (mulStep reg Γ) (mulArgs e) ((wc0, acc, accu) : MulSt))
      (mulGood wc0 acc accu) := by
  rw [hl, loopM_one]
  cases h : Convert.convert reg Γ e none with
  | error err => simp [loopSpec_error, mulStep, modelRec_error h]
  | ok r =>
    refine loopSpec_ok.2 ⟨(r.wc || wc0, acc ++ [r.e], accu ++ [some r.u]), ?_, r.e, [], some r.u, [], rfl, rfl, rfl⟩
    simp only [mulStep, modelRec_ok h]

/-- the Mul loop over the flat operands of the spine `e` = `Convert.convert e None` -/
theorem mul_loop (e : E) : ∀ (wc0 : Bool) (acc : List E) (accu : List PyUnit),
    LoopSpec (Convert.convert reg Γ e none) (loopM (mulStep reg Γ) (mulArgs e) ((wc0, acc, accu) : MulSt))
      (mulGood wc0 acc accu) := by
  induction e with
  | mul a b iha _ =>
    intro wc0 acc accu
    simp only [mulArgs, loopM_snoc, Convert.convert]
    have IH := iha wc0 acc accu
    cases ha : Convert.convert reg Γ a none with
    | error err => rw [ha, loopSpec_error] at IH; simp [IH, Except.bind, bind, loopSpec_error]
    | ok ra =>
      rw [ha, loopSpec_ok] at IH
      obtain ⟨_, IH1, y, ys, u, us, rfl, IH2, IH3⟩ := IH
      simp only [bind, Except.bind]
      cases hb : Convert.convert reg Γ b none with
      | error err => have := modelRec_error hb; simp [IH1, mulStep, this, loopSpec_error]
      | ok rb =>
        have := modelRec_ok hb
        simp only [maybeConv]
        refine loopSpec_ok.2 ⟨(rb.wc || (ra.wc || wc0), (acc ++ y :: ys) ++ [rb.e], (accu ++ u :: us) ++ [some rb.u]),
          ?_, y, ys ++ [rb.e], u, us ++ [some rb.u], ?_, ?_, ?_⟩
        · simp only [IH1, mulStep, this]
        · rw [List.append_assoc, List.append_assoc, Bool.or_left_comm, ← Bool.or_assoc]
          rfl
        · rw [List.foldl_append, IH2]
          exact (rebuild2 (convert_ident ha).2 (convert_ident hb).2).symm
        · simp [List.foldlM_append, IH3, unitMul, bind, Except.bind, pure, Except.pure]
  | _ => intros; apply mul_leaf; rfl

theorem convert_mul_split (a b : E) (tgt : PyUnit) :
    Convert.convert reg Γ (.mul a b) tgt
      = (Convert.convert reg Γ (.mul a b) none).bind (fun r0 => maybeConv reg r0.e r0.wc r0.u tgt r0.same) := by
  simp only [Convert.convert]
  cases Convert.convert reg Γ a none with
  | error err => rfl
  | ok ra =>
    cases Convert.convert reg Γ b none with
    | error err => rfl
    | ok rb => simp [bind, Except.bind, maybeConv]

/-- loop state of the Function branch: `(actual_units, was_converted, new_args)` -/
abbrev FnSt := PyUnit × Bool × List E

/-- one iteration of `for arg in expr.args` of the Function branch: each operand gets the `actual_units` returned
    for the previous one as target -/
def fnStep (arg : E) (s : FnSt) : Except PyErr FnSt :=
  match modelRec reg Γ arg s.1 with
  | .error e => .error e
  | .ok x => .ok (x.2.2, x.2.1 || s.2.1, s.2.2 ++ [x.1])

/-- end state of the Function loop; `mk` is the binary node of the class -/
def fnGood (mk : E → E → E) (wc0 : Bool) (acc : List E) (r : CR) (s : FnSt) : Prop :=
  ∃ y ys, s = (some r.u, r.wc || wc0, acc ++ y :: ys) ∧ ys.foldl mk y = r.e

theorem fn_leaf (mk : E → E → E) (e : E) (wc0 : Bool) (acc : List E) :
    LoopSpec (Convert.convert reg Γ e (some [])) (loopM (fnStep reg Γ) [e] ((some [], wc0, acc) : FnSt))
      (fnGood mk wc0 acc) := by
  rw [loopM_one]
  cases h : Convert.convert reg Γ e (some []) with
  | error err => simp [loopSpec_error, fnStep, modelRec_error h]
  | ok r =>
    refine loopSpec_ok.2 ⟨(some r.u, r.wc || wc0, acc ++ [r.e]), ?_, r.e, [], rfl, rfl⟩
    simp only [fnStep, modelRec_ok h]

/-- one more operand. The python loop gives `b` the unit returned for the previous operand as target: that is
    dimensionless by `convert_target`. -/
theorem fn_snoc (mk : E → E → E) (a b : E) (xs : List E) (wc0 : Bool) (acc : List E)
    (hmodel : Convert.convert reg Γ (mk a b) (some []) = (do
      let ra ← Convert.convert reg Γ a (some [])
      let rb ← Convert.convert reg Γ b (some [])
      pure ⟨if (ra.wc || rb.wc) then mk ra.e rb.e else mk a b, ra.wc || rb.wc, rb.u, !(ra.wc || rb.wc)⟩))
    (IH : LoopSpec (Convert.convert reg Γ a (some [])) (loopM (fnStep reg Γ) xs ((some [], wc0, acc) : FnSt))
      (fnGood mk wc0 acc)) :
    LoopSpec (Convert.convert reg Γ (mk a b) (some [])) (loopM (fnStep reg Γ) (xs ++ [b]) ((some [], wc0, acc) : FnSt))
      (fnGood mk wc0 acc) := by
  rw [hmodel, loopM_snoc]
  cases ha : Convert.convert reg Γ a (some []) with
  | error err => rw [ha, loopSpec_error] at IH; simp [IH, Except.bind, bind, loopSpec_error]
  | ok ra =>
    rw [ha, loopSpec_ok] at IH
    obtain ⟨_, IH1, y, ys, rfl, IH2⟩ := IH
    have hu : ra.u = [] := Convert.convert_target a [] ra ha
    simp only [bind, Except.bind]
    cases hb : Convert.convert reg Γ b (some []) with
    | error err => have := modelRec_error hb; simp [IH1, fnStep, this, hu, loopSpec_error]
    | ok rb =>
      have := modelRec_ok hb
      simp only [pure, Except.pure]
      refine loopSpec_ok.2 ⟨(some rb.u, rb.wc || (ra.wc || wc0), (acc ++ y :: ys) ++ [rb.e]), ?_, y, ys ++ [rb.e], ?_, ?_⟩
      · simp only [IH1, fnStep, hu, this]
      · rw [List.append_assoc, Bool.or_left_comm, ← Bool.or_assoc]
        rfl
      · rw [List.foldl_append, IH2]
        exact (rebuild2 (convert_ident ha).2 (convert_ident hb).2).symm

theorem and_loop (e : E) : ∀ (wc0 : Bool) (acc : List E),
    LoopSpec (Convert.convert reg Γ e (some [])) (loopM (fnStep reg Γ) (andArgs e) ((some [], wc0, acc) : FnSt))
      (fnGood E.and wc0 acc) := by
  induction e with
  | and a b iha _ =>
    intro wc0 acc
    exact fn_snoc reg Γ E.and a b _ wc0 acc (by simp [Convert.convert, dimlessTarget]) (iha wc0 acc)
  | _ => intros; apply fn_leaf

theorem or_loop (e : E) : ∀ (wc0 : Bool) (acc : List E),
    LoopSpec (Convert.convert reg Γ e (some [])) (loopM (fnStep reg Γ) (orArgs e) ((some [], wc0, acc) : FnSt))
      (fnGood E.or wc0 acc) := by
  induction e with
  | or a b iha _ =>
    intro wc0 acc
    exact fn_snoc reg Γ E.or a b _ wc0 acc (by simp [Convert.convert, dimlessTarget]) (iha wc0 acc)
  | _ => intros; apply fn_leaf

/-- n-ary function `f`: the spine of `fnN f` nodes. A `fnN g` node with another name (and any other node) is one
    operand. -/
theorem fn_loop (f : String) (e : E) : ∀ (wc0 : Bool) (acc : List E),
    LoopSpec (Convert.convert reg Γ e (some [])) (loopM (fnStep reg Γ) (fnArgs f e) ((some [], wc0, acc) : FnSt))
      (fnGood (E.fnN f) wc0 acc) := by
  induction e with
  | fnN g a b iha _ =>
    intro wc0 acc
    by_cases hfg : f = g
    · subst hfg
      simp only [fnArgs, if_true]
      exact fn_snoc reg Γ (E.fnN f) a b _ wc0 acc (by simp [Convert.convert, dimlessTarget]) (iha wc0 acc)
    · simp only [fnArgs, hfg, if_false]
      apply fn_leaf
  | _ => intros; apply fn_leaf

/-- the Function branch after its target check: the loop over the operands `xs` with first target `au`, then
    `expr.func(*new_args)` if anything was converted -/
def fnRun (ex : E) (xs : List E) (au : PyUnit) : Except PyErr ConvRes := do
  let s ← loopM (fnStep reg Γ) xs ((au, false, []) : FnSt)
  if (s.2.1 && Py.truthy s.2.2) = true then pure (rebuild ex s.2.2, s.2.1, s.1) else pure (ex, s.2.1, s.1)

theorem fn_finish (mk : E → E → E) (ex : E) (xs : List E)
    (hre : ∀ y ys, rebuild ex (y :: ys) = ys.foldl mk y)
    (L : LoopSpec (Convert.convert reg Γ ex (some [])) (loopM (fnStep reg Γ) xs ((some [], false, []) : FnSt))
      (fnGood mk false [])) :
    fnRun reg Γ ex xs (some []) = encConv (Convert.convert reg Γ ex (some [])) := by
  unfold fnRun
  cases h : Convert.convert reg Γ ex (some []) with
  | error err => rw [h, loopSpec_error] at L; rw [L]; rfl
  | ok r =>
    rw [h, loopSpec_ok] at L
    obtain ⟨_, L1, y, ys, rfl, L2⟩ := L
    rw [L1]
    simp only [Except.ok_bind, List.nil_append, hre, L2, Bool.or_false, encConv_ok]
    cases hw : r.wc with
    | false => rw [(Convert.convert_ident h).2 hw]; rfl
    | true => rfl

theorem unary_finish (ex a : E) (mk : E → E) (au : PyUnit) (hre : ∀ a', rebuild ex [a'] = mk a') :
    fnRun reg Γ ex [a] au
      = encConv (do
          let ra ← Convert.convert reg Γ a au
          pure ⟨if ra.wc then mk ra.e else ex, ra.wc, ra.u, !ra.wc⟩) := by
  rw [fnRun, loopM_one, fnStep]
  cases ha : Convert.convert reg Γ a au with
  | error err => rw [modelRec_error ha]; rfl
  | ok ra =>
    rw [modelRec_ok ha]
    cases hw : ra.wc <;> simp only [Except.ok_bind, Bool.or_false, List.nil_append, hre, hw] <;> rfl

theorem convert_dimless (ex : E) (tgt : PyUnit) (hf : isFunction ex = true)
    (hn : Py.isIn (funcName ex) ["floor", "ceiling", "Abs"] = false) :
    Convert.convert reg Γ ex tgt
      = if dimlessTarget tgt = true then Convert.convert reg Γ ex (some []) else .error .mustBeDimensionless := by
  cases ex with
  | fn1 _ _ | not _ | fnN _ _ _ | and _ _ | or _ _ =>
    simp only [Convert.convert]
    cases dimlessTarget tgt <;> rfl
  | abs _ | floor _ | ceil _ => simp [funcName, Py.isIn] at hn
  | _ => cases hf

end
end Cellml.Tie.PConvert
