import Cellml.Tie.PrinterClosed

/-! # The closing induction, rejection direction

    `gprint_pr` (Tie/PrinterClosed.lean): where the model prints, the generated printer returns the model's text. Here the
    other half: where the model rejects with `ValueError` (`(pr e).st = verr`: a construct without `_print_` method or a
    function outside the name table in a printed position, everything else in printed positions inside the modelled
    fragment), the generated printer raises `ValueError` — python evaluates the operands in order and the first failing
    one raises. `gprint_spec` has both halves. A rejected node is in `Dom (· ≠ .unsup)`; by the normal form of its method
    (Tie/Printer.lean) it is enough that its operands print or raise and that one of them raises. -/


namespace Cellml.Tie.PPrinter2
open C11 Cellml.Gen Cellml.Tie.PPrinter

theorem bracket_okOrVE (print : E → Except PyErr String) (e : E) (p : Nat) (h : OkOrVE (print e)) :
    OkOrVE (Printer.bracket print e p) := by
  rw [PPrinter.bracket_eq]
  rcases h with ⟨s, hs⟩ | he
  · left; rw [hs]; exact ⟨_, rfl⟩
  · right; rw [he]; rfl

theorem st_cases (a : Status) (h : a ≠ .unsup) : a = .ok ∨ a = .verr := by
  cases a <;> simp_all

/-- `print` does on `x` what the model says: the model's text when it prints, ValueError when it rejects -/
def Sp (print : E → Except PyErr String) (x : E) : Prop :=
  ∀ s, s ≠ Srt.P → Dom (· ≠ .unsup) s x → GQ x →
    ((pr x).st = .ok → print x = .ok (flatten (pr x).doc)) ∧ ((pr x).st = .verr → print x = .error VE)

theorem Pr_of_Sp (print : E → Except PyErr String) (x : E) (h : Sp print x) : Pr print x :=
  fun s hs hw hl hg ha hst => (h s hs ⟨hw, hl, by rw [hst]; decide⟩ ⟨hg, ha⟩).1 hst

def Op (print : E → Except PyErr String) (e : E) : Prop :=
  OkOrVE (print e) ∧ ((pr e).st = .verr → print e = .error VE)

theorem Sp.op {print : E → Except PyErr String} {x : E} (h : Sp print x) {s : Srt} (hs : s ≠ .P)
    (hd : Dom (· ≠ .unsup) s x) (hq : GQ x) : Op print x := by
  refine ⟨?_, (h s hs hd hq).2⟩
  rcases st_cases _ hd.ok with h1 | h1
  · exact Or.inl ⟨_, (h s hs hd hq).1 h1⟩
  · exact Or.inr ((h s hs hd hq).2 h1)

theorem args_rj (print : E → Except PyErr String) (N : Nat) (IH : ∀ x, height x < N → Sp print x) (a : E) (s : Srt)
    (hs : s ≠ .P) (hN : height a < N) (hq : GQ a) (hp : proper a = true)
    (hk : ∀ x ∈ C11.toList a, Dom (· ≠ .unsup) s x) (hv : (pr a).st = .verr) :
    (∀ y ∈ elems a, OkOrVE (print y)) ∧ ∃ y ∈ elems a, print y = .error VE := by
  have ops : ∀ y ∈ C11.toList a, Op print y := fun y hy =>
    (IH y (Nat.lt_of_le_of_lt (gq_elem hq hy).2 hN)).op hs (hk y hy) (gq_elem hq hy).1
  obtain ⟨y, hy, hyv⟩ := st_list_ex a hp hv
  rw [elems_eq_toList]
  exact ⟨fun y hy => (ops y hy).1, y, hy, (ops y hy).2 hyv⟩

theorem args_rj_bind (print : E → Except PyErr String) (N : Nat) (IH : ∀ x, height x < N → Sp print x) (a : E) (s : Srt)
    (hs : s ≠ .P) (hN : height a < N) (hq : GQ a) (hp : proper a = true)
    (hk : ∀ x ∈ C11.toList a, Dom (· ≠ .unsup) s x) (hv : (pr a).st = .verr) (k : List String → Except PyErr String) :
    ((elems a).mapM print).bind k = .error VE :=
  let ⟨hall, hex⟩ := args_rj print N IH a s hs hN hq hp hk hv
  nf_rj print _ k hall hex

theorem not_num_of_verr (x : E) (h : (pr x).st = .verr) :
    isHalf x = false ∧ negIsHalf x = false ∧ negIsOne x = false ∧ isNum x = false := by
  cases x <;> simp_all [isHalf, negIsHalf, negIsOne, isNum, pr, okDoc]
  -- a `Rational`, a `Float`: their status is `ok` or `unsup`
  all_goals (split_ifs at h)

theorem isTrue_eq (c : E) (h : PPrinter.isTrue c = true) : c = .tt := by
  cases c <;> first | rfl | cases h

theorem pwOps_rj (print : E → Except PyErr String) (N : Nat) (IH : ∀ x, height x < N → Sp print x) (l : List E)
    (hd : ∀ x ∈ l, wf .P x = true ∧ isList x = false ∧ GQ x ∧ height x < N)
    (hv : (pwInner (l.map mk)).1 = .verr) : (pwOps (l.map pairOf)).mapM print = .error VE := by
  induction l with
  | nil => cases hv
  | cons x t iht =>
    obtain ⟨hwx, hlx, hqx, hhx⟩ := hd x (by simp)
    have ht := iht (fun y hy => hd y (by simp [hy]))
    simp only [List.map_cons, pwInner_mk_st] at hv
    rcases wf_P_cases x hwx hlx with ⟨v, c, rfl⟩ | ⟨w, rfl⟩
    · obtain ⟨_, ⟨hwv, hlv⟩, hwc, hlc⟩ := wf_pair hwx
      obtain ⟨⟨qv, hhv⟩, qc, hhc⟩ := gq_pair hqx
      rw [isTruePair_pair, pr_pair] at hv
      have ov := fun hnu => (IH v (by omega)).op (s := .A) (by decide) ⟨hwv, hlv, hnu⟩ qv
      have oc := fun hnu => (IH c (by omega)).op (s := .B) (by decide) ⟨hwc, hlc, hnu⟩ qc
      simp only [List.map_cons, pairOf, pwOps]
      by_cases htc : isTrue c = true
      · rw [if_pos htc] at hv ⊢
        dsimp only at hv
        have hnu := inh_nu.join _ _ (by rw [hv]; decide : (pr v).st.join (pr c).st ≠ .unsup)
        refine mapM_cons_rj print v [] (ov hnu.1).1 (Or.inl ((ov hnu.1).2 ?_))
        rcases join_verr _ _ hv with h1 | h1
        · exact h1
        · rw [isTrue_eq c htc] at h1; cases h1
      · rw [if_neg htc] at hv ⊢
        dsimp only at hv
        have hnu := inh_nu.join _ _ (by rw [hv]; decide :
          ((pr v).st.join (pr c).st).join (pwInner (t.map mk)).1 ≠ .unsup)
        have hnu1 := inh_nu.join _ _ hnu.1
        refine mapM_cons_rj print v _ (ov hnu1.1).1 ?_
        rcases join_verr _ _ hv with h1 | h1
        · rcases join_verr _ _ h1 with h2 | h2
          · exact Or.inl ((ov hnu1.1).2 h2)
          · exact Or.inr (mapM_cons_rj print c _ (oc hnu1.2).1 (Or.inl ((oc hnu1.2).2 h2)))
        · exact Or.inr (mapM_cons_rj print c _ (oc hnu1.2).1 (Or.inr (ht h1)))
    · have := ((IH (.other w) (by simp only [height] at hhx ⊢; omega)).op (s := .A) (by decide)
        ⟨rfl, rfl, by simp [pr]⟩ ⟨rfl, trivial⟩)
      exact mapM_cons_rj print _ _ this.1 (Or.inl (this.2 rfl))

theorem classify_ve (print : E → Except PyErr String) (i : Item1)
    (hp : print i.e = .error VE) (hnn : isNum i.e = false)
    (hb : ∀ b x, i.e = .pow b x → x = .int (-1) → print b = .error VE)
    (hpow : ∀ b x, i.e = .pow b x → isNegRat x = true → print (.pow b (negNum x)) = .error VE) :
    (∃ j ∈ (classify i).1 ++ (classify i).2.1, print j.e = .error VE) := by
  have h := classify_inv i
  generalize classify i = r at h ⊢
  cases h with
  | recip b he => exact ⟨_, List.mem_singleton_self _, hb b _ he rfl⟩
  | negPow b x he hn => exact ⟨_, List.mem_singleton_self _, hpow b x he hn⟩
  | int n he => rw [he] at hnn; cases hnn
  | rat p q he => rw [he] at hnn; cases hnn
  | keep => exact ⟨i, List.mem_singleton_self _, hp⟩

theorem printMul_core_rj (print : E → Except PyErr String) (expr : E) (s : Bool) (fs : List Item1)
    (hs : isNegNum (asCoeffMul expr).1 = s)
    (hargs : makeArgs (if s then keepCoeff (negNum (asCoeffMul expr).1) (asCoeffMul expr).2 else expr) = fs.map (·.e))
    (hall : ∀ j ∈ mulNum fs ++ (partition fs).2.1, OkOrVE (print j.e))
    (hex : ∃ j ∈ mulNum fs ++ (partition fs).2.1, print j.e = .error VE)
    (hq : ∀ i ∈ fs, ∀ p q, i.e = .rat p q → q ≠ 1)
    (hm : ∀ i ∈ fs, ∀ bb x, i.e = .pow bb x → isMul bb = true → (argsOf bb).length ≠ 1) :
    PrinterMul2.printMul print expr = .error VE := by
  rw [printMul_head print expr s fs hs hargs hq hm]
  refine mapM2_rj _ _ _ _ (fun x hx => ?_) ?_
  · rw [← List.map_append] at hx
    obtain ⟨j, hj, rfl⟩ := List.mem_map.mp hx
    exact bracket_okOrVE _ _ _ (hall j hj)
  · obtain ⟨j, hj, hje⟩ := hex
    exact ⟨j.e, by rw [← List.map_append]; exact List.mem_map_of_mem hj, bracket_err _ _ _ _ hje⟩

/-- a rejected product has a rejected factor among those that reach `mulDoc`: a rejected factor is no number, so the
    sign extraction keeps it — of a flattened `-1 * Mul(…)` one of its rejected factors -/
theorem rejected_factor {s : Srt} {a : E} {sg : Bool} {fs : List Item1} (h : Dom (· ≠ .unsup) s (.mul a))
    (hmi : mulItems ((C11.toList a).map mk) = some (sg, fs)) (hv : (pr (.mul a)).st = .verr) :
    ∃ f ∈ fs, (pr f.e).st = .verr := by
  obtain ⟨_, hpa, _, _, hk⟩ := h.mul inh_nu
  have list_verr : ∀ l : E, (pr (.mul l)).st = .verr → (pr l).st = .verr := fun l hl => by
    simp only [pr] at hl; split at hl
    · cases hl
    · exact hl
  obtain ⟨g, hgm, hgv⟩ := st_list_ex a hpa (list_verr a hv)
  refine mulItems_keeps (fun f => (pr f.e).st = .verr)
    (fun f hn hv' => absurd hn (by rw [(not_num_of_verr f.e hv').2.2.2]; decide)) _ sg fs hmi
    ⟨mk g, List.mem_map_of_mem (f := mk) hgm, hgv, fun hmul => ?_⟩
  obtain ⟨l, rfl⟩ := isMul_cases g hmul
  obtain ⟨_, hpl, _, _, _⟩ := (hk _ hgm).1.mul inh_nu
  obtain ⟨g', hg', hgv'⟩ := st_list_ex l hpl (list_verr l hgv)
  exact ⟨(mk g').one, by rw [mk_mul_sub inh_nu (hk _ hgm).1]; exact List.mem_map_of_mem hg', hgv'⟩

theorem rejected_operand (print : E → Except PyErr String) {fs : List Item1} {f : Item1} (hf : f ∈ fs)
    (hfv : (pr f.e).st = .verr) (hfac : Fac (fun e _ => Op print e) f)
    (hneg : ∀ b x, f.e = .pow b x → isNegRat x = true → print (.pow b (negNum x)) = .error VE) :
    ∃ j ∈ mulNum fs ++ (partition fs).2.1, print j.e = .error VE := by
  obtain ⟨j, hj, hje⟩ := classify_ve print f (hfac.1.2 hfv) (not_num_of_verr f.e hfv).2.2.2
    (fun b x he hx1 => by
      refine (hfac.2 b x he).2 ?_
      subst hx1
      rw [he] at hfv
      have hje : (pr (.pow b (.int (-1)))).st = (pr b).st.join .ok := rfl
      rw [hje] at hfv
      revert hfv; cases (pr b).st <;> simp [Status.join])
    hneg
  refine ⟨j, ?_, hje⟩
  rcases List.mem_append.mp hj with hj | hj
  · exact List.mem_append_left _ (mulNum_of_mem (by rw [partition_flat]; exact List.mem_flatMap.mpr ⟨f, hf, hj⟩))
  · exact List.mem_append_right _ ((partition_mem fs).2.2 f hf j hj)

/-- a node with an argument list takes its status from the list -/
theorem nary_verr {items : List Item} {st : Status} (h : (if items.isEmpty then Status.unsup else st) = .verr) :
    st = .verr := by
  split at h
  · cases h
  · exact h

theorem reject_step (print : E → Except PyErr String) (e : E) (IH : ∀ x, height x < height e → Sp print x)
    (s : Srt) (hs : s ≠ .P) (h : Dom (· ≠ .unsup) s e) (hq : GQ e) (hv : (pr e).st = .verr) :
    dispatch print e = .error VE := by
  cases e with
  | sym _ _ | int _ | pi | e1 | tt | ff | deriv _ _ => simp [pr, okDoc] at hv
  | rat _ _ | flt _ _ => simp only [pr] at hv; split_ifs at hv
  | other w => rfl
  | pair v c => exact absurd (h.pair inh_nu).1 hs
  | nil | cons _ _ => exact (h.not_list rfl).elim
  | and a =>
    obtain ⟨rfl, hp, _, _, hk⟩ := h.and inh_nu
    simp only [pr] at hv
    show Printer.printAnd print (.and a) = _
    rw [printAnd_nf]
    exact args_rj_bind print _ IH a .B (by decide) (Nat.lt_succ_self _) hq hp (fun x hx => (hk x hx).1) (nary_verr hv) _
  | or a =>
    obtain ⟨rfl, hp, _, _, hk⟩ := h.or inh_nu
    simp only [pr] at hv
    show Printer.printOr print (.or a) = _
    rw [printOr_nf]
    exact args_rj_bind print _ IH a .B (by decide) (Nat.lt_succ_self _) hq hp (fun x hx => (hk x hx).1) (nary_verr hv) _
  | fn name a =>
    obtain ⟨rfl, hp, _, hk⟩ := h.fn inh_nu
    have rj : ∀ k, (pr a).st = .verr → ((elems a).mapM print).bind k = .error VE := fun k hsa =>
      args_rj_bind print _ IH a .A (by decide) (Nat.lt_succ_self _) hq hp (fun x hx => (hk x hx).1) hsa k
    show Printer.printFunction print (.fn name a) = _
    rw [printFunction_nf]
    simp only [pr] at hv
    cases hf : fnName name with
    | some f => simp only [hf] at hv; exact rj _ hv
    | none =>
      simp only [hf] at hv
      rcases st_cases _ (inh_nu.join _ _ (by rw [hv]; decide : (pr a).st.join .verr ≠ .unsup)).1 with hok | hve
      · -- every argument prints: the unknown name raises
        have hpr : ∀ y ∈ C11.toList a, print (id y) = .ok (flatten (pr y).doc) := fun y hy =>
          ((IH y (Nat.lt_succ_of_le (gq_elem (l := a) hq hy).2)) .A (by decide) (hk y hy).1
            (gq_elem (l := a) hq hy).1).1 (st_list a hp hok y hy)
        rw [elems_eq_toList, ← List.map_id (C11.toList a), nf_ok print _ id _ _ hpr]
      · exact rj _ hve
  | add a =>
    obtain ⟨rfl, hp, _, _, hk⟩ := h.add inh_nu
    simp only [pr] at hv
    obtain ⟨hall, x, hx, hxe⟩ := args_rj print _ IH a .A (by decide) (Nat.lt_succ_self _) ⟨hq.1, hq.2.2⟩ hp
      (fun x hx => (hk x hx).1) (nary_verr hv)
    show PrinterAdd.printAdd print (.add a) = _
    unfold PrinterAdd.printAdd
    simp only [argsOf, bind]
    rw [forIn_rj]
    · rfl
    · intro y hy st
      rcases hall y hy with ⟨t, ht⟩ | he
      · left
        simp only [ht, except_run, Py.truthy_bool]
        split_ifs <;> exact ⟨_, rfl⟩
      · right
        simp only [he, Except.bind]
    · exact ⟨x, hx, fun st => by simp only [hxe, Except.bind]⟩
  | pw ps =>
    obtain ⟨rfl, hp, _, _, _⟩ := h.pw
    have hw := h.w; simp only [wf, Bool.and_eq_true] at hw
    have hi := items_list ps hp
    simp only [pr, hi] at hv
    show Printer.printPiecewise print (.pw ps) = _
    rw [printPiecewise_nf, elems_eq_toList, pwOps_rj print _ IH (C11.toList ps) (fun x hx =>
      ⟨(wf_list .P ps hw.2 x hx).1, (wf_list .P ps hw.2 x hx).2, (gq_elem (l := ps) hq hx).1,
        Nat.lt_succ_of_le (gq_elem (l := ps) hq hx).2⟩) hv]
    rfl
  | rel r a b =>
    obtain ⟨rfl, hab⟩ := h.rel inh_nu
    obtain ⟨⟨qa, hha⟩, qb, hhb⟩ := gq_rel hq
    have ops : Op print a ∧ Op print b := by
      rcases hab with ⟨ha, hb⟩ | ⟨_, ha, hb⟩ <;> exact ⟨(IH a hha).op (by decide) ha qa, (IH b hhb).op (by decide) hb qb⟩
    show Printer.printRelational print (.rel r a b) = _
    rw [printRelational_nf]
    refine nf_rj print _ _ (by simpa using ⟨ops.1.1, ops.2.1⟩) ?_
    simp only [pr] at hv
    rcases join_verr _ _ hv with h1 | h1
    · exact ⟨a, by simp, ops.1.2 h1⟩
    · exact ⟨b, by simp, ops.2.2 h1⟩
  | pow b x =>
    obtain ⟨rfl, _, _, hb, hx⟩ := h.pow inh_nu
    obtain ⟨⟨qb, hhb⟩, qx, hhx⟩ := gq_pow hq
    have ob := (IH b hhb).op (by decide) hb qb
    have ox := (IH x hhx).op (by decide) hx qx
    show Printer.printPow print (.pow b x) = _
    rw [printPow_nf]
    refine nf_rj print _ _ (fun y hy => ?_) ?_
    · -- the operands are the base and, where `_print_Pow` prints it, the exponent
      unfold powOps at hy; split at hy <;> simp at hy <;> rcases hy with rfl | rfl <;> first | exact ob.1 | exact ox.1
    · simp only [pr] at hv
      split at hv
      · cases hv
      rcases join_verr _ _ hv with h1 | h1
      · exact ⟨b, by unfold powOps; split <;> simp, ob.2 h1⟩
      · -- a rejected exponent is none of the numbers `_print_Pow` tests for
        obtain ⟨h1', h2, h3, _⟩ := not_num_of_verr x h1
        simp only [isHalf, negIsHalf, negIsOne] at h1' h2 h3
        exact ⟨x, by simp [powOps, h1', h2, h3], ox.2 h1⟩
  | mul a =>
    obtain ⟨sg, fs, hmi, _, hf, h1, h2⟩ := mul_leaves inh_nu h hq
    have hnumP : ∀ k, numOK k = true → Op print k := fun k hk => by
      obtain ⟨d1, d2, _, d4⟩ := dom_num k hk
      exact (IH k (by rw [d4]; exact Nat.succ_pos _)).op (s := .A) (by decide) ⟨d1.w, d1.node, by rw [d1.ok]; decide⟩ d2
    have hfac : ∀ f ∈ fs, Fac (fun e _ => Op print e) f := fun f hf' =>
      (hf f hf').fac inh_nu her_height (fun g hg hdg hqg => (IH g hg).op (by decide) hdg hqg) hnumP
    have negpow : ∀ f ∈ fs, ∀ b x, f.e = .pow b x → isNegRat x = true →
        OkOrVE (print (.pow b (negNum x))) ∧ ((pr f.e).st = .verr → print (.pow b (negNum x)) = .error VE) := by
      intro f hf' b x hfe hneg
      obtain ⟨hd', hq', hn', _, hst', hje⟩ := Factor.negPow inh_nu (hf f hf') hfe hneg
      have := (IH _ hn').op (s := .A) (by decide) hd' hq'
      refine ⟨this.1, fun hv' => this.2 ?_⟩
      rw [hst']; rw [hje] at hv'
      revert hv'; split <;> simp
    have hR : ∀ f ∈ fs, Fac (fun e _ => OkOrVE (print e)) f := fun f hf' =>
      ⟨(hfac f hf').1.1, fun b x he => ((hfac f hf').2 b x he).1⟩
    have hall : ∀ j ∈ mulNum fs ++ (partition fs).2.1, OkOrVE (print j.e) :=
      List.forall_mem_append.mpr ⟨mulNum_fac fs hR fun n => (hnumP (.int n) rfl).1,
        (partition_fac fs hR fun n => (hnumP (.int n) rfl).1).2 fun f hf' b x he hn => (negpow f hf' b x he hn).1⟩
    obtain ⟨f, hf', hfv⟩ := rejected_factor h hmi hv
    exact printMul_core_rj print _ sg fs h1 h2 hall
      (rejected_operand print hf' hfv (hfac f hf') fun b x he hn => (negpow f hf' b x he hn).2 hfv)
      (fun f hf' => Factor.rat_den (hf f hf')) (fun f hf' => Factor.mul_base (hf f hf'))

/-- **the generated printer, closed by recursion, does what the model says**, in both directions -/
theorem gprint_spec (n : Nat) (e : E) (hn : height e < n) : Sp (gprint n) e := by
  induction n generalizing e with
  | zero => omega
  | succ n ih =>
    have IH : ∀ x, height x < height e → Sp (gprint n) x := fun x hx => ih x (by omega)
    exact fun s hs h hq =>
      ⟨dispatch_step _ e (fun x hx => Pr_of_Sp _ x (IH x hx)) s hs h.w h.node hq.1 hq.2, reject_step _ e IH s hs h hq⟩

/-- on the domain, an expression that the model rejects with ValueError makes the generated
    `_print` raise ValueError -/
theorem print_rejected (e : E) (s : Srt) (hs : s ≠ .P) (hw : wf s e = true) (hl : isList e = false)
    (hg : genOK e = true) (ha : AddOK e) (hv : (pr e).st = .verr) : genPrint e = .error VE :=
  (gprint_spec _ e (by omega) s hs ⟨hw, hl, by rw [hv]; decide⟩ ⟨hg, ha⟩).2 hv

/-- and conversely: when the generated `_print` returns a string on an expression inside the modelled fragment of SymPy,
    the model prints, and the string is the text of the model's tree -/
theorem print_returns (e : E) (s : Srt) (hs : s ≠ .P) (hw : wf s e = true) (hl : isList e = false)
    (hg : genOK e = true) (ha : AddOK e) (hnu : (pr e).st ≠ .unsup) (str : String) (h : genPrint e = .ok str) :
    ∃ d, printDoc e = some d ∧ str = flatten d := by
  rcases st_cases _ hnu with hok | hve
  · have := (gprint_spec _ e (by omega : height e < height e + 1) s hs ⟨hw, hl, hnu⟩ ⟨hg, ha⟩).1 hok
    refine ⟨(pr e).doc, printDoc_eq_some.mpr ⟨hok, rfl⟩, ?_⟩
    unfold genPrint at h
    rw [this] at h
    cases h; rfl
  · have := print_rejected e s hs hw hl hg ha hve
    rw [this] at h; cases h

end Cellml.Tie.PPrinter2
