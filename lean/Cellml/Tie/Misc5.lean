import Cellml.Generated.Code.Misc5
import Cellml.Tie.LoaderView
import Cellml.Tie.CmetaView
import Cellml.Tie.NumPipeView
import Cellml.Tie.ExceptRun
import Mathlib.Tactic.SplitIfs
/-! # Tie theorems of the `Misc5` group (harness/code_specs/misc5.py)

    Three pieces of decision logic that other groups bind as leaves, tied to those leaves: the three `_Component`
    methods, `get_display_name` (with `has_ontology_annotation`, which only it calls and which is unfolded inside
    `getDisplayName_spec`), `find_variables_and_derivatives`. -/

namespace Cellml.Tie.PMisc5
open Cellml.Gen

/-- the `_Component` object of name `c` that the loader state `st` stands for. `RelState` has no sibling sets
    (`_Component.siblings` is read nowhere but in `add_sibling`'s own assert): they are a parameter here. -/
def compOf (st : RelState) (sib : List String) (c : String) : Component :=
  { name := c, parent := st.par.lookup c, siblings := sib,
    encapsulated := (st.enc.filter (fun e => e.1 == c)).map (·.2) }

/-- `self.components[c].set_parent(p)` on an existing component: the leaf `Tie.setParent` does to component `c` of the
    loader state exactly what the generated method does to the component record, result and exception class -
    PROVIDED the present parent is not the empty string (python: `if self.parent:` is false for `''`, the parent is
    silently overwritten; the leaf and `Load.buildParents` raise ValueError for every present parent). -/
theorem setParent_tie (self : RelView) (st : RelState) (sib : List String) (c : String) (p : Option String)
    (hc : self.components.contains c = true) (hdom : st.par.lookup c ≠ some "") :
    (Tie.setParent self st c p).map (fun st' => compOf st' sib c) = Misc5.setParent (compOf st sib c) p := by
  unfold Tie.setParent Misc5.setParent compOf
  simp only [hc, Bool.not_true, Bool.false_eq_true, if_false, except_run, Py.truthy]
  cases h : st.par.lookup c with
  | none =>
    -- no parent: both go on; the leaf puts `(c, p)` in front of `par`, where `lookup c` finds `p`, and leaves `enc`
    cases p <;> simp [h, List.lookup]
  | some q =>
    -- a parent: the leaf raises; so does python, whose test is `q ≠ ""`
    have hq : q ≠ "" := by intro e; exact hdom (by rw [h, e])
    simp [hq]

/-- outside the domain of `setParent_tie`: the generated method overwrites an empty-string parent, the leaf raises -/
theorem setParent_emptyParent (self : RelView) (st : RelState) (sib : List String) (c : String) (p : Option String)
    (hc : self.components.contains c = true) (h : st.par.lookup c = some "") :
    Tie.setParent self st c p = .error ⟨"ValueError"⟩ ∧
    Misc5.setParent (compOf st sib c) p = .ok { compOf st sib c with parent := p } := by
  unfold Tie.setParent Misc5.setParent compOf
  simp only [hc, Bool.not_true, Bool.false_eq_true, if_false]
  simp [h, except_run, Py.truthy]

/-- the subscript `self.components[c]` of the call site (not part of the method): KeyError -/
theorem setParent_keyError (self : RelView) (st : RelState) (c : String) (p : Option String)
    (hc : self.components.contains c = false) : Tie.setParent self st c p = .error ⟨"KeyError"⟩ := by
  simp only [Tie.setParent, hc, Bool.not_false, if_true]

/-- frame: the leaf changes no other component -/
theorem setParent_frame (self : RelView) (st st' : RelState) (sib : List String) (c c' : String) (p : Option String)
    (h : Tie.setParent self st c p = .ok st') (hne : c' ≠ c) : compOf st' sib c' = compOf st sib c' := by
  unfold Tie.setParent at h
  split_ifs at h
  cases p with
  | none => simp only [Except.ok.injEq] at h; rw [← h]
  | some q =>
    simp only [Except.ok.injEq] at h; rw [← h]
    have : (c' == c) = false := by simpa using hne
    simp [compOf, List.lookup, this]

/-- `self.components[p].add_encapsulated(c)` (`p` a component name): leaf = generated method on component `p`,
    for all arguments -/
theorem addEncapsulated_tie (self : RelView) (st : RelState) (sib : List String) (p c : String)
    (hp : self.components.contains p = true) :
    (Tie.addEncapsulated self st (some p) c).map (fun st' => compOf st' sib p)
      = Misc5.addEncapsulated (compOf st sib p) c := by
  unfold Tie.addEncapsulated Misc5.addEncapsulated compOf
  simp only [hp, Bool.not_true, Bool.false_eq_true, if_false, except_run, Py.isIn]
  -- the leaf asks whether the pair is in `enc`, python whether `c` is in the `encapsulated` of `p`
  have hmem : (p, c) ∈ st.enc ↔ c ∈ (st.enc.filter (fun e => e.1 == p)).map (·.2) := by
    simp only [List.mem_map, List.mem_filter, beq_iff_eq]
    constructor
    · intro h; exact ⟨(p, c), ⟨h, rfl⟩, rfl⟩
    · rintro ⟨⟨a, b⟩, ⟨h, ha⟩, hb⟩
      simp only at ha hb; subst ha; subst hb; exact h
  -- `(p, c) :: enc` filtered by `p` is `c ::` the filtered list
  by_cases hm : (p, c) ∈ st.enc
  · have hm' := hmem.mp hm
    simp [hm, hm']
  · simp [hm]

/-- `self.components[None]` (python never gets here: the call is guarded by `if parent_component:`) and an unknown
    parent: KeyError of the subscript -/
theorem addEncapsulated_keyError (self : RelView) (st : RelState) (p : Option String) (c : String)
    (hp : ∀ q, p = some q → self.components.contains q = false) :
    Tie.addEncapsulated self st p c = .error ⟨"KeyError"⟩ := by
  cases p with
  | none => rfl
  | some q =>
    have h := hp q rfl
    simp only [Tie.addEncapsulated, h, Bool.not_false, if_true]

theorem addEncapsulated_frame (self : RelView) (st st' : RelState) (sib : List String) (p : Option String)
    (c c' : String) (h : Tie.addEncapsulated self st p c = .ok st') (hne : some c' ≠ p) :
    compOf st' sib c' = compOf st sib c' := by
  unfold Tie.addEncapsulated at h
  cases p with
  | none => simp at h
  | some q =>
    simp only at h
    split_ifs at h
    simp only [Except.ok.injEq] at h; rw [← h]
    have : (q == c') = false := by
      simp only [beq_eq_false_iff_ne, ne_eq]; intro e; exact hne (by rw [e])
    simp [compOf, this]

/-- `self.components[a].add_sibling(b)`: the leaf `noteSibling` is the identity on the loader state. The generated
    method agrees with it on what the loader state records (parent, encapsulated set) and only grows `siblings` -
    PROVIDED `b` is not yet a sibling; otherwise python raises AssertionError, which the leaf does not model. -/
theorem addSibling_tie (st : RelState) (sib : List String) (a b : String) (hdom : b ∉ sib) :
    Misc5.addSibling (compOf st sib a) b = .ok (compOf (noteSibling st a b) (b :: sib) a) := by
  simp [Misc5.addSibling, compOf, noteSibling, Py.isIn, hdom, except_run]

/-- outside the domain of `addSibling_tie` -/
theorem addSibling_assert (st : RelState) (sib : List String) (a b : String) (h : b ∈ sib) :
    Misc5.addSibling (compOf st sib a) b = .error ⟨"AssertionError"⟩ := by
  simp [Misc5.addSibling, compOf, Py.isIn, h, except_run]

section DisplayName
open Model

/-- `exclude_terms is None or term not in exclude_terms` -/
def accept (ex : Excl) (t : String) : Bool := ex.isNone || !(ex.val.getD []).contains t

/-- what `get_display_name` returns, read off the view: the LAST term (python walks `reversed(terms)`) that is not
    excluded; else the cmeta id unless it is `None` or `''`; else the name with `$` replaced -/
def displayNameSpec (self : NameView) (v : Nat) (ns : Option String) (ex : Excl) : String :=
  match (self.terms v ns).reverse.find? (accept ex) with
  | some t => t
  | none =>
    match self.cmetaId v with
    | some c => if c = "" then (self.name v).replace "$" "__" else c
    | none => (self.name v).replace "$" "__"

/-- a `for` that returns the first member satisfying `P` and otherwise passes on is `find?`, for ANY body with these two
    one-step facts -/
theorem firstLoop (P : String → Bool)
    (body : String → Option PyOptStr × Unit → Except PyErr (ForInStep (Option PyOptStr × Unit)))
    (hyes : ∀ t, P t = true → body t (none, ()) = .ok (.done (some ⟨some t⟩, ())))
    (hno : ∀ t, P t = false → body t (none, ()) = .ok (.yield (none, ()))) :
    ∀ l : List String, forIn l (none, ()) body = .ok ((l.find? P).map (fun t => PyOptStr.mk (some t)), ())
  | [] => rfl
  | x :: l => by
    rw [List.forIn_cons, List.find?_cons]
    cases h : P x
    · rw [hno x h]; exact firstLoop P body hyes hno l
    · rw [hyes x h]; rfl

/-- the generated `get_display_name` never raises and returns a `str` (never `None`): the name `displayNameSpec`
    reads off, for ALL arguments (any term order, any `exclude_terms`) -/
theorem getDisplayName_spec (self : NameView) (v : Nat) (ns : Option String) (ex : Excl) :
    Misc5.getDisplayName self v ns ex = .ok ⟨some (displayNameSpec self v ns ex)⟩ := by
  unfold Misc5.getDisplayName Misc5.hasOntologyAnnotation displayNameSpec
  simp only [except_run, Py.truthy_bool]
  have hfb : (if Py.truthy (PyOptStr.mk (self.cmetaId v)) = true then PyOptStr.mk (self.cmetaId v)
        else PyOptStr.mk (some ((self.name v).replace "$" "__")))
      = PyOptStr.mk (some (match self.cmetaId v with
          | some c => if c = "" then (self.name v).replace "$" "__" else c
          | none => (self.name v).replace "$" "__")) := by
    cases hc : self.cmetaId v with
    | none => simp [Py.truthy]
    | some c => by_cases h : c = "" <;> simp [Py.truthy, h]
  rw [hfb]
  by_cases hne : ((self.terms v ns).length != 0) = true
  · simp only [hne, if_true]
    rw [firstLoop (fun term => ex.isNone || !Py.isIn term (ex.val.getD [])) _
      (by exact fun t h => if_pos h) (by exact fun t h => if_neg (h ▸ Bool.false_ne_true))]
    have : (fun term => ex.isNone || !Py.isIn term (ex.val.getD [])) = accept ex := by
      funext t; simp [accept, Py.isIn]
    rw [this]
    cases (self.terms v ns).reverse.find? (accept ex) <;> simp
  · have : self.terms v ns = [] := by
      cases h : self.terms v ns with
      | nil => rfl
      | cons a l => simp [h] at hne
    simp [this]

/-- the view of the C13 hand model's state -/
def nameView (a : AState) : NameView where
  terms := fun v ns => termsOf a v ns
  cmetaId := fun v => cmetaOf a.m v
  name := fun v => nameOfVar a.m v

theorem find_true_reverse (l : List String) (ex : Excl) (h : ex.val = none) :
    l.reverse.find? (accept ex) = l.getLast? := by
  have : accept ex = fun _ => true := by funext t; simp [accept, Excl.isNone, h]
  rw [this, ← List.head?_reverse]
  cases l.reverse <;> simp

/-- **with nothing excluded and a cmeta id that is not the empty string, the generated function returns the LAST of the
    view's admissible names**: its terms if it has any, else the cmeta id, else the name with `$` replaced — the list
    `Model.displayNames` is, read off the view -/
theorem displayNameSpec_last (self : NameView) (v : Nat) (ns : Option String) (hdom : self.cmetaId v ≠ some "") :
    displayNameSpec self v ns ⟨none⟩ = (match self.terms v ns with
      | [] => [match self.cmetaId v with | some c => c | none => (self.name v).replace "$" "__"]
      | ts => ts).getLastD "" := by
  unfold displayNameSpec
  rw [find_true_reverse _ _ rfl]
  cases self.terms v ns with
  | nil =>
    cases hcm : self.cmetaId v with
    | none => simp
    | some c =>
      have : c ≠ "" := by intro e; exact hdom (by rw [hcm, e])
      simp [this]
  | cons x l =>
    simp only [List.getLastD_eq_getLast?]
    cases h : (x :: l).getLast? with
    | none => simp at h
    | some t => simp

/-- With no excluded terms, for ANY order in which rdflib yields the annotation triples (a view whose term list has
    the same members as the model's `termsOf`), the generated function returns a MEMBER of the model's list of
    admissible names `Model.displayNames`. Domain: the cmeta id is not the empty string (python's `if var.cmeta_id`
    is false for `''` and the name is returned; the model returns `''`). -/
theorem getDisplayName_mem (a : AState) (self : NameView) (v : Nat) (ns : Option String)
    (hterms : ∀ t, t ∈ self.terms v ns ↔ t ∈ termsOf a v ns)
    (hc : self.cmetaId v = cmetaOf a.m v) (hn : self.name v = nameOfVar a.m v)
    (hdom : cmetaOf a.m v ≠ some "") :
    ∃ s, Misc5.getDisplayName self v ns ⟨none⟩ = .ok ⟨some s⟩ ∧ s ∈ displayNames a v ns := by
  refine ⟨_, getDisplayName_spec self v ns ⟨none⟩, ?_⟩
  rw [displayNameSpec_last self v ns (hc ▸ hdom), hc, hn]
  unfold displayNames
  -- the two term lists are empty together; a last term of the view is a term of the model
  cases hs : self.terms v ns with
  | nil =>
    have hm : termsOf a v ns = [] :=
      List.eq_nil_iff_forall_not_mem.mpr fun t ht => by simpa [hs] using (hterms t).mpr ht
    rw [hm]; exact List.mem_singleton.mpr rfl
  | cons x l =>
    have hm := (hterms _).mp (by rw [hs]; exact List.getLast_mem (List.cons_ne_nil x l))
    rw [List.getLastD_eq_getLast?, List.getLast?_eq_some_getLast (List.cons_ne_nil x l)]
    cases ht : termsOf a v ns <;> rw [ht] at hm
    · cases hm
    · exact hm

/-- In the model's own order of the terms the answer is the LAST admissible name - which is exactly the leaf
    `PCmeta.displayName` that cmeta.py binds `self.get_display_name(variable)` to inside `add_cmeta_id` (default
    arguments: no ontology, nothing excluded). Same domain as above. -/
theorem getDisplayName_leaf (a : AState) (v : Nat) (hdom : cmetaOf a.m v ≠ some "") :
    ∃ s, Misc5.getDisplayName (nameView a) v none ⟨none⟩ = .ok ⟨some s⟩ ∧ PCmeta.displayName v a = (.ok s, a) :=
  ⟨_, getDisplayName_spec (nameView a) v none ⟨none⟩, by rw [displayNameSpec_last _ v none hdom]; rfl⟩

/-- no annotation: the single admissible name (what `Model.addCmetaId` of `Model/State.lean` uses when the variable
    has no cmeta id: the name with `$` replaced) -/
theorem getDisplayName_noAnnotation (a : AState) (v : Nat) (ns : Option String) (ex : Excl)
    (h : termsOf a v ns = []) (hc : cmetaOf a.m v = none) :
    Misc5.getDisplayName (nameView a) v ns ex = .ok ⟨some ((nameOfVar a.m v).replace "$" "__")⟩ := by
  rw [getDisplayName_spec]
  simp [displayNameSpec, nameView, h, hc]

end DisplayName

mutual
/-- the Variable and Derivative objects of an expression: the expression itself when it is one (a Derivative is NOT
    descended into), else those of its arguments, left to right -/
def refsT : ETree → List ETree
  | .node d v i args => if d || v then [.node d v i args] else refsL args
/-- the same for a sequence of expressions (python returns a set: order and repetitions carry no meaning) -/
def refsL : List ETree → List ETree
  | [] => []
  | t :: ts => refsT t ++ refsL ts
end

mutual
def depthT : ETree → Nat
  | .node _ _ _ args => depthL args + 1
def depthL : List ETree → Nat
  | [] => 0
  | t :: ts => max (depthT t) (depthL ts)
end

theorem refsT_eq (t : ETree) : refsT t = if t.is_Derivative || t.isVariable then [t] else refsL t.args := by
  cases t; simp [refsT, ETree.is_Derivative, ETree.isVariable, ETree.args]

theorem depthT_eq (t : ETree) : depthT t = depthL t.args + 1 := by
  cases t; simp [depthT, ETree.args]

/-- a `for` over expressions that appends the member itself when it is a Variable or a Derivative and otherwise what
    is found in its arguments computes `refsL`, for ANY body with these two one-step facts -/
theorem findLoop (body : ETree → List ETree → Except PyErr (ForInStep (List ETree))) : ∀ (l acc : List ETree),
    (∀ t ∈ l, ∀ r, body t r = .ok (.yield (r ++ refsT t))) → forIn l acc body = .ok (acc ++ refsL l)
  | [], acc, _ => by simp [refsL, except_run]
  | t :: ts, acc, h => by
    rw [List.forIn_cons, h t List.mem_cons_self]
    simp only [except_run]
    rw [findLoop body ts _ fun t' ht' => h t' (List.mem_cons_of_mem _ ht'), refsL, List.append_assoc]

/-- the body of the python function, given a `rec` that is right one level down, returns `refsL` -/
theorem find_step (rec : List ETree → Except PyErr (List ETree)) (l : List ETree)
    (h : ∀ t ∈ l, (t.is_Derivative || t.isVariable) = false → rec t.args = .ok (refsL t.args)) :
    Misc5.findVariablesAndDerivatives rec l = .ok (refsL l) := by
  unfold Misc5.findVariablesAndDerivatives
  simp only [bind, pure, Except.pure]
  rw [findLoop _ l [] fun t ht r => ?_]
  · simp [Except.bind]
  · rw [refsT_eq]; simp only [Py.truthy_bool]
    by_cases hb : (t.is_Derivative || t.isVariable) = true
    · rw [if_pos hb, if_pos hb]
    · rw [if_neg hb, if_neg hb, h t ht (Bool.eq_false_iff.mpr hb)]; rfl

/-- `refsL` is a fixpoint of the generated functional (a statement of its own; `find_closed` does not go through it) -/
theorem find_fix (l : List ETree) :
    Misc5.findVariablesAndDerivatives (fun xs => .ok (refsL xs)) l = .ok (refsL l) :=
  find_step _ l (fun _ _ _ => rfl)

/-- the python recursion, `n` calls deep (python: RecursionError) -/
def findFuel : Nat → List ETree → Except PyErr (List ETree)
  | 0 => fun _ => .error ⟨"RecursionError"⟩
  | n + 1 => Misc5.findVariablesAndDerivatives (findFuel n)

theorem mem_depth : ∀ (l : List ETree) (t : ETree), t ∈ l → depthT t ≤ depthL l := by
  intro l
  induction l with
  | nil => intro t h; simp at h
  | cons x xs ih =>
    intro t h
    rw [List.mem_cons] at h
    simp only [depthL]
    cases h with
    | inl h => subst h; exact Nat.le_max_left _ _
    | inr h => exact Nat.le_trans (ih t h) (Nat.le_max_right _ _)

/-- the open recursion closed: on every finite tree the python function, run with enough stack, returns exactly the
    Variable and Derivative objects `refsL` lists (derivatives not descended into) -/
theorem find_closed : ∀ (n : Nat) (l : List ETree), depthL l ≤ n → findFuel (n + 1) l = .ok (refsL l) := by
  intro n l h
  refine find_step _ l (fun t ht _ => ?_)
  have := mem_depth l t ht
  rw [depthT_eq] at this
  match n with
  | 0 => omega
  | m + 1 => exact find_closed m t.args (by omega)

mutual
/-- everything returned is a Variable or a Derivative -/
theorem refsT_flags : ∀ (t x : ETree), x ∈ refsT t → (x.is_Derivative || x.isVariable) = true
  | .node d v i args, x, h => by
    unfold refsT at h
    by_cases hb : (d || v) = true
    · simp only [hb, if_true, List.mem_singleton] at h
      subst h; simpa [ETree.is_Derivative, ETree.isVariable] using hb
    · simp only [hb, Bool.false_eq_true, if_false] at h
      exact refsL_flags args x h
theorem refsL_flags : ∀ (l : List ETree) (x : ETree), x ∈ refsL l → (x.is_Derivative || x.isVariable) = true
  | [], x, h => by simp [refsL] at h
  | t :: ts, x, h => by
    simp only [refsL, List.mem_append] at h
    cases h with
    | inl h => exact refsT_flags t x h
    | inr h => exact refsL_flags ts x h
end

/-! ### the leaves that stand for `find_variables_and_derivatives([rhs])`

    * graphbuild.py / graphnum.py: `self.refsOf equation` / `self.refsOfRhs rhs` are `Eqn.refs` / `Eqn.refsNum`, INPUTS of the
      C09 model (observed from sympy): no definition to tie against; what the property assumes of them is the
      docstring of `Eqn.refs`, which `refsL` makes precise.
    * numpipe.py: `PNumPipe.varRefs rhs` reads the flat leaf list of an `NExpr`, in which a Derivative IS one leaf. -/

open PNumPipe in
/-- an `NLeaf` as an expression object: a Derivative has the state variable among its `args` (the identity of a
    quantity or a number is never read: `0` for all of them) -/
def leafTree : NLeaf → ETree
  | .var v => .node false true v []
  | .deriv v => .node true false v [.node false true v []]
  | .qty _ => .node false false 0 []
  | .num _ => .node false false 0 []

open PNumPipe in
/-- an `NExpr` as an expression object (shape 0 with one leaf: the expression IS that leaf) -/
def treeOf : NExpr → ETree
  | ⟨0, [l]⟩ => leafTree l
  | ⟨s, ls⟩ => .node false false s (ls.map leafTree)

open PNumPipe in
theorem refsL_leaves : ∀ ls : List NLeaf, (refsL (ls.map leafTree)).map ETree.id
    = ls.filterMap fun l => match l with | .var v => some v | .deriv v => some v | _ => none := by
  intro ls
  induction ls with
  | nil => simp [refsL]
  | cons l ls ih =>
    simp only [List.map_cons, refsL, List.map_append, ih]
    cases l <;> simp [leafTree, refsT, refsL, ETree.id]

open PNumPipe in
theorem depth_leaves : ∀ ls : List NLeaf, depthL (ls.map leafTree) ≤ 2 := by
  intro ls
  induction ls with
  | nil => simp [depthL]
  | cons l ls ih =>
    simp only [List.map_cons, depthL]
    cases l <;> simp [leafTree, depthT, depthL] <;> omega

/-! Fuel 4 in the three statements below: a leaf is at most Derivative over Variable, the list of leaves has depth ≤ 2
    (`depth_leaves`), one node above them 3, and `find_closed` asks for one call more than the depth. -/

open PNumPipe in
theorem varRefs_leaf (l : NLeaf) : ∃ r, findFuel 4 [leafTree l] = .ok r ∧ r.map ETree.id = varRefs ⟨0, [l]⟩ := by
  refine ⟨_, find_closed 3 _ ?_, ?_⟩
  · have := depth_leaves [l]; simp only [List.map_cons, List.map_nil] at this; omega
  · exact refsL_leaves [l]

open PNumPipe in
theorem varRefs_node (s : Nat) (ls : List NLeaf) :
    ∃ r, findFuel 4 [.node false false s (ls.map leafTree)] = .ok r ∧ r.map ETree.id = varRefs ⟨s, ls⟩ := by
  refine ⟨_, find_closed 3 _ ?_, ?_⟩
  · have := depth_leaves ls; simp only [depthL, depthT, Nat.max_zero]; omega
  · simp only [refsL, refsT, Bool.or_false, Bool.false_eq_true, if_false, List.append_nil]
    exact refsL_leaves ls

open PNumPipe in
/-- the leaf `varRefs` of numpipe.py = the generated function (recursion closed by `findFuel`) on the expression
    object, as lists of identities: the variable INSIDE a Derivative leaf is not reported -/
theorem varRefs_tie (e : NExpr) : ∃ r, findFuel 4 [treeOf e] = .ok r ∧ r.map ETree.id = varRefs e := by
  obtain ⟨s, ls⟩ := e
  unfold treeOf
  split
  · rename_i l heq; cases heq; exact varRefs_leaf l
  · rename_i s' ls' _ heq; cases heq; exact varRefs_node _ _

end Cellml.Tie.PMisc5
