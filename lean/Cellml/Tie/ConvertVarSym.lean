import Cellml.Generated.Code.ConvertVarSym
import Cellml.Tie.ExceptRun

/-! # Tie: `Model.convert_variable` (generated from model.py, run on symbolic values) = `Units.convertVariable`,
    the hand model of C19 (`Props/C19.lean`: `cv_same_iff`, `cv_unit_error_iff`, `cv_uses_rule_factor`,
    `cv_alike_partial`, `cv_symbolic_input_initial_value_refused`) -/

namespace Cellml.Tie.CVSym
open Units Cellml.Gen

/-- the outcome of the hand model as what the python code returns or raises and has recorded -/
def enc : CVOutcome → Except PyErr (SymSt × SV)
  | .same => .ok ({}, .orig)
  | .converted fy sc eqs => .ok ({ log := eqs.map (fun e => (e, fy)), initScaled := sc }, .new)
  | .error (.units e) => .error ⟨uerrClass e⟩
  | .error .typeError => .error ⟨"TypeError"⟩

theorem ok_bind' {β γ : Type} (a : β) (k : β → Except PyErr γ) : (Except.ok a >>= k) = k a := rfl

theorem removeOde_eq (self : SymView) (st : SymSt) (l x : SV) :
    ConvertVarSym.removeOdeAndAssignRhsToNewVariable self st ⟨l, .odeRhs⟩ x = .ok (st, .rhsVar) := by
  unfold ConvertVarSym.removeOdeAndAssignRhsToNewVariable
  simp [except_run, SymSt.addVariable, SymSt.addEquation, classify]

theorem convertFree_eq (self : SymView) (st : SymSt) (c : Factor) :
    ConvertVarSym.convertFreeVariableDeriv self st ⟨.deriv .stateVar .orig, .odeRhs⟩ .new c =
      .ok ({ st with log := st.log ++ [(.odeWrtNew, c)] }, [()]) := by
  unfold ConvertVarSym.convertFreeVariableDeriv
  simp [except_run, removeOde_eq, SymSt.addEquation, classify, SV.arg0, HDiv.hDiv]

theorem convertState_eq (self : SymView) (st : SymSt) (c : Factor) :
    ConvertVarSym.convertStateVariableDeriv self st .orig .new c =
      .ok ({ st with log := st.log ++ [(.odeOfNew, c)] }, [()]) := by
  unfold ConvertVarSym.convertStateVariableDeriv
  simp [except_run, SymView.odeOf, removeOde_eq, SymSt.addEquation, classify, SV.arg1, HMul.hMul]

/-- the equations `_convert_variable_instance` adds -/
def instForms (dir : Dir) (kind : VarKind) : List EqForm :=
  match dir with
  | .output => [.newFromOrig]
  | .input => (if kind = .defined then [.newFromRhs] else []) ++ [.origFromNew]

theorem convertInstance_eq (self : SymView) (st : SymSt) (c : Factor) (dir : Dir) (move : Bool) :
    ConvertVarSym.convertVariableInstance self st .orig c dir move =
      if dir = .input ∧ self.hasInit = true ∧ c.2 ≠ [] then .error ⟨"TypeError"⟩
      else .ok ({ log := st.log ++ (instForms dir self.kind).map (fun e => (e, c)),
                  initScaled := st.initScaled || (decide (dir = .input) && self.hasInit) }, .new) := by
  unfold ConvertVarSym.convertVariableInstance
  obtain ⟨f, y⟩ := c
  -- `float(cf)` stands under `direction == INPUT and initial_value is not None`: with a symbolic `cf` (`y ≠ []`) these
  -- are the three conditions of the `TypeError`
  cases dir <;> cases hk : self.kind <;> cases hi : self.hasInit <;> by_cases hy : y = [] <;>
    simp [except_run, SymView.initOf, SymView.varDefOf, SymView.cmetaOf, hk, hi, hy, floatM,
        SymSt.addVariable, SymSt.addEquation, classify, instForms, eqArg1, AsSEq.asSEq, HMul.hMul, HDiv.hDiv]

/-- one turn of the loop over the ODEs when `original_variable` is the free variable -/
def freeTurn (c : Factor) (s : SymSt × List Unit) : SymSt × List Unit :=
  ({ s.1 with log := s.1.log ++ [(.odeWrtNew, c)] }, s.2 ++ [()])

theorem freeFold_eq (c : Factor) {α : Type} (a : α) : ∀ (n : Nat) (st : SymSt) (dr : List Unit),
    (List.replicate n a).foldl (fun s _ => freeTurn c s) (st, dr) =
      ({ st with log := st.log ++ List.replicate n (.odeWrtNew, c) }, dr ++ List.replicate n ())
  | 0, st, dr => by simp
  | n + 1, st, dr => by
    rw [List.replicate_succ, List.foldl_cons, freeTurn, freeFold_eq c a n]
    simp [List.replicate_succ, List.append_assoc]

/-- `try: free_symbol = self.get_free_variable() except ValueError: free_symbol = None` -/
theorem tryFree_eq (self : SymView) :
    (tryCatch self.getFreeVariable fun e__ => if (e__.cls == "ValueError") = true then pure none else throw e__) =
      .ok (if self.kind = .free then some SV.orig else if self.kind = .state then some SV.time else none) := by
  unfold SymView.getFreeVariable
  cases self.kind <;> rfl

theorem convertVariable_sym_tie (reg : Registry) (rules : List Rule) (a b : Container) (dir : Dir) (kind : VarKind)
    (hasInit : Bool) (nOdes : Nat) (cmeta : Option Unit) (move : Bool) :
    ConvertVarSym.convertVariable (symView reg rules a b kind hasInit nOdes cmeta) {} .orig dir move =
      enc (Units.convertVariable reg rules a b dir kind hasInit nOdes) := by
  unfold ConvertVarSym.convertVariable Units.convertVariable
  cases hc : conversionFactorR reg rules a b with
  | error e => simp [except_run, symView, hc, SymView.inModel, enc]
  | ok o =>
    cases o with
    | none => simp [except_run, symView, hc, SymView.inModel, enc, cfIsOne]
    | some fy =>
      obtain ⟨f, y⟩ := fy
      simp only [symView, hc, SymView.inModel, cfIsOne, Py.truthy_bool, Bool.not_true, Bool.false_eq_true, if_false,
        Option.isNone_some, Except.ok_bind, ite_self, convertInstance_eq, cfGet, Option.getD_some, tryFree_eq]
      by_cases hte : dir = Dir.input ∧ hasInit = true ∧ y ≠ []
      · rw [if_pos hte, if_pos hte]
        rfl
      · rw [if_neg hte, if_neg hte]
        simp only [Except.ok_bind]
        by_cases hfree : dir = Dir.input ∧ kind = VarKind.free
        · obtain ⟨rfl, rfl⟩ := hfree
          have h1 : (Dir.input == Dir.output) = false := rfl
          have h2 : Py.isIn SV.orig ([] : List SV) = false := rfl
          simp only [SymView.stateSymbols, SymView.sortedOdeItems, h1, h2, Bool.false_eq_true, if_false, if_true,
            reduceCtorEq, BEq.rfl]
          rw [List.forIn_eq_foldl_of_yield (fun s _ => freeTurn (f, y) s), freeFold_eq]
          · simp [except_run, enc, cvEquations, instForms]
          · intro a ha s
            obtain rfl := List.eq_of_mem_replicate ha
            simp [except_run, SV.arg1, convertFree_eq, freeTurn]
        · cases dir <;> cases kind <;>
            simp [except_run, SymView.stateSymbols, Py.isIn, convertState_eq, enc, cvEquations,
                instForms] at hfree ⊢

end Cellml.Tie.CVSym
