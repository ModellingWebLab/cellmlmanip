import Cellml.Tie.PrinterClosed

/-! # The sign condition of `_print_Add`, discharged

    `Printer._print_Add` peels the sign off the printed TEXT of a term (`t.startswith('-')`, `t[1:]`), the model peels it
    off the layout tree (`startsMinus`, `peelLeft`); `printAdd_tie` holds where the two agree (`MinusOK`), and the
    closing induction carries that as `AddOK`. Here: `AddOK e` holds for every expression of the domain in which no
    symbol name starts with `-` (`symOK`; `Symbol('-x')` is the input on which code and model really differ) — because
    the text of every tree the model builds starts with `-` only at a `neg` node: the leftmost token is a symbol name, a
    number, a name of the function / literal tables, `1`, `True`, `False`, `Derivative`, or an opening bracket (`signOK`; the induction is `signed`). -/

namespace Cellml.Tie.PPrinter2
open C11 Cellml.Tie.PPrinter

/-- no symbol name starts with `-` -/
def symOK : E → Bool
  | .sym n _ => !headMinus n
  | .add a | .mul a | .and a | .or a | .pw a | .fn _ a => symOK a
  | .pow b x | .rel _ b x | .pair b x | .cons b x => symOK b && symOK x
  | _ => true

theorem signOK_bracket (e : E) (d : Doc) (p : Nat) (h : signOK d = true) : signOK (bracket e d p) = true := by
  unfold bracket; split_ifs <;> simp [signOK, h]

theorem signOK_spliceProd (a d : Doc) : signOK (spliceProd a d) = signOK a := by
  induction d with
  | bin op x y ihx _ =>
    cases op
    case mul | div => exact ihx
    all_goals rfl
  | _ => rfl

theorem signOK_spliceSum (a : Doc) (m : Bool) (d : Doc) : signOK (spliceSum a m d) = signOK a := by
  induction d with
  | bin op x y ihx _ =>
    cases op
    case add | sub => exact ihx
    all_goals rfl
  | _ => rfl

theorem signOK_spliceAnd (a d : Doc) : signOK (spliceAnd a d) = signOK a := by
  induction d with
  | and x y ihx _ => exact ihx
  | _ => rfl

theorem signOK_spliceOr (a d : Doc) : signOK (spliceOr a d) = signOK a := by
  induction d with
  | or x y ihx _ => exact ihx
  | _ => rfl

theorem signOK_negFirst (d : Doc) : signOK (negFirst d) = true := by
  induction d with
  | bin op x y ihx _ =>
    cases op
    case mul | div => exact ihx
    all_goals rfl
  | _ => rfl

theorem signOK_foldl (f : Doc → Doc → Doc) (hf : ∀ a d, signOK (f a d) = signOK a) (ds : List Doc) (d : Doc) :
    signOK (ds.foldl f d) = signOK d :=
  List.foldl_inv f (fun x => signOK x = signOK d) ds d rfl fun b a _ h => (hf b a).trans h

theorem headMinus_nat (n : Nat) : headMinus (toString n) = false := by
  have h1 : (toString n).toList = Nat.toDigits 10 n := by
    rw [Nat.toString_eq_repr]; exact Nat.toList_repr
  unfold headMinus
  rw [h1]
  cases hd : Nat.toDigits 10 n with
  | nil => rfl
  | cons c cs =>
    by_cases hc : c = '-'
    · subst hc
      have : ('-' : Char) ∈ Nat.toDigits 10 n := by rw [hd]; simp
      have := Nat.isDigit_of_mem_toDigits (by decide) (by decide) this
      exact absurd this (by decide)
    · split
      · rename_i heq; simp at heq; exact absurd heq.1 hc
      · rfl

theorem signOK_natDoc (n : Nat) : signOK (natDoc n) = true := by
  show (!headMinus (toString n)) = true
  rw [headMinus_nat]; rfl

theorem signOK_intDoc (n : Int) : signOK (intDoc n) = true := by
  unfold intDoc; split_ifs <;> simp [signOK, signOK_natDoc]

theorem signOK_numDoc (k : E) (hk : numOK k = true) : signOK (numDoc k) = true := by
  cases k <;> simp_all [numOK, numDoc, signOK, signOK_intDoc]
  rename_i t neg
  cases neg <;> simp_all [fltOK, fltDoc, signOK]

theorem fn_table_sign : Cellml.Gen.printerFunctionNames.all (fun p => !headMinus p.2) = true := by decide +kernel

theorem fnName_sign (n f : String) (h : fnName n = some f) : headMinus f = false := by
  have := List.all_eq_true.mp fn_table_sign (n, f) (lookup_mem _ n f h)
  simpa using this

theorem sqrt_sign : headMinus sqrtName = false := by decide +kernel
theorem pi_sign : headMinus (litName "pi") = false := by decide +kernel
theorem e_sign : headMinus (litName "e") = false := by decide +kernel

theorem signOK_assemble (num : Doc) (D : List Doc) : signOK (assemble num D) = signOK num := by
  match D with
  | [] => rfl
  | [d] => rfl
  | d :: d' :: ds => rfl

theorem signOK_mulDoc (s : Bool) (fs : List Item1) (h : ∀ f ∈ fs, Fac (fun _ d => signOK d = true) f) :
    signOK (mulDoc s fs) = true := by
  rw [mulDoc_ops, signOK_assemble]
  cases s
  · simp only [Bool.false_eq_true, if_false]
    have hA := mulNum_fac fs h signOK_intDoc
    generalize mulNum fs = A at hA
    cases A with
    | nil => simp [prodChain, signOK]; rfl
    | cons x xs =>
      simp only [List.map_cons, prodChain]
      rw [signOK_foldl spliceProd signOK_spliceProd]
      exact signOK_bracket _ _ _ (hA x (by simp))
  · simp only [if_true]; exact signOK_negFirst _

theorem signOK_addFold (r : List Item) (a : Doc) (h : signOK a = true) :
    signOK ((r.foldl addStep (some a)).getD .nil) = true := by
  induction r generalizing a with
  | nil => simpa using h
  | cons i r ih =>
    rw [List.foldl_cons]
    simp only [addStep]
    exact ih _ (by rw [signOK_spliceSum]; exact h)

theorem signOK_addDoc (i : Item) (r : List Item) (h : signOK i.doc = true) : signOK (addDoc (i :: r)) = true := by
  unfold addDoc
  rw [List.foldl_cons]
  have : ∃ d, addStep none i = some d ∧ signOK d = true := by
    simp only [addStep]
    refine ⟨_, rfl, ?_⟩
    split_ifs <;> simp [signOK, h]
  obtain ⟨d, hd, hs⟩ := this
  rw [hd]
  exact signOK_addFold r d hs

theorem signOK_boolChain (f : Doc → Doc → Doc) (hf : ∀ a d, signOK (f a d) = signOK a) (p : Nat) (i : Item)
    (r : List Item) (h : signOK i.doc = true) : signOK (boolChain f p (i :: r)) = true := by
  simp only [boolChain]
  have := signOK_foldl f hf (r.map (fun j => bracket j.e j.doc p)) (bracket i.e i.doc p)
  rw [List.foldl_map] at this
  rw [this]
  exact signOK_bracket _ _ _ h

theorem symOK_elem (l x : E) (hg : symOK l = true) (h : x ∈ elems l) : symOK x = true :=
  elems_forall (symOK · = true) (fun a t h => by simpa [symOK] using h) l x hg h

theorem her_sym : Her (fun e => symOK e = true) sizeOf where
  arg l x hx hq := ⟨symOK_elem l x hq (by rwa [elems_eq_toList]), (her_size.arg l x hx trivial).2⟩
  base b x hq := ⟨by simp only [symOK, Bool.and_eq_true] at hq; exact hq.1, (her_size.base b x trivial).2⟩

theorem first_arg {a : E} {P : E → Prop} (hne : C11.toList a ≠ []) (hk : ∀ x ∈ C11.toList a, P x) :
    ∃ x t, (C11.toList a).map mk = mk x :: t ∧ P x := by
  cases h : C11.toList a with
  | nil => exact absurd h hne
  | cons x t => exact ⟨x, t.map mk, rfl, hk x (by rw [h]; simp)⟩

theorem signed : ∀ s e, Dom (· = .ok) s e → s ≠ .P → symOK e = true → signOK (pr e).doc = true := by
  refine Dom.induct fun s e h ih => ?_
  intro hs hy
  have arg : ∀ (a : E) (s' : Srt), s' ≠ .P → symOK a = true → ∀ x ∈ C11.toList a,
      Dom (· = .ok) s' x ∧ sizeOf x < sizeOf e → signOK (pr x).doc = true := fun a s' hs' hya x hx hd =>
    ih s' x hd.2 hd.1 hs' (symOK_elem a x hya (by rwa [elems_eq_toList]))
  cases e with
  | sym n c => simpa [pr, okDoc, signOK, symOK] using hy
  | int n => exact signOK_intDoc n
  | rat p q => simp [pr, numDoc, signOK, signOK_intDoc]
  | flt t neg => exact signOK_numDoc (.flt t neg) (wf_flt h.w)
  | pi => simpa [pr, okDoc, signOK] using pi_sign
  | e1 => simpa [pr, okDoc, signOK] using e_sign
  | tt => decide
  | ff => decide
  | deriv x t => show (!headMinus "Derivative") = true; decide
  | other w => exact h.not_other.elim
  | pair v c => exact absurd (h.pair inh_ok).1 hs
  | nil | cons _ _ => exact (h.not_list rfl).elim
  | add a =>
    obtain ⟨rfl, _, hd, hne, hk⟩ := h.add inh_ok
    obtain ⟨x, t, hit, hx⟩ := first_arg hne (fun x hx => arg a .A (by decide) hy x hx (hk x hx))
    rw [hd, hit]; exact signOK_addDoc _ _ hx
  | and a =>
    obtain ⟨rfl, _, hd, h2, hk⟩ := h.and inh_ok
    obtain ⟨x, t, hit, hx⟩ := first_arg (by obtain ⟨x, y, t, rfl⟩ := h2; simp [C11.toList])
      (fun x hx => arg a .B (by decide) hy x hx (hk x hx))
    rw [hd, hit]; exact signOK_boolChain _ signOK_spliceAnd _ _ _ hx
  | or a =>
    obtain ⟨rfl, _, hd, h2, hk⟩ := h.or inh_ok
    obtain ⟨x, t, hit, hx⟩ := first_arg (by obtain ⟨x, y, t, rfl⟩ := h2; simp [C11.toList])
      (fun x hx => arg a .B (by decide) hy x hx (hk x hx))
    rw [hd, hit]; exact signOK_boolChain _ signOK_spliceOr _ _ _ hx
  | fn name a =>
    obtain ⟨f, hf⟩ := fn_known h.ok
    rw [(h.fn inh_ok).2.2.1 f hf]
    simp [signOK, fnName_sign name f hf]
  | pw ps => simp [pr, signOK]
  | rel r a b =>
    obtain ⟨rfl, hab⟩ := h.rel inh_ok
    simp only [symOK, Bool.and_eq_true] at hy
    have hda : signOK (pr a).doc = true := by
      rcases hab with ⟨ha, _⟩ | ⟨_, ha, _⟩
      · exact ih .A a (by rw [E.rel.sizeOf_spec]; omega) ha (by decide) hy.1
      · exact ih .B a (by rw [E.rel.sizeOf_spec]; omega) ha (by decide) hy.1
    simp only [pr, signOK]
    exact signOK_bracket _ _ _ hda
  | pow b x =>
    obtain ⟨rfl, hd, _, hb, _⟩ := h.pow inh_ok
    simp only [symOK, Bool.and_eq_true] at hy
    have hdb := ih .A b (by rw [E.pow.sizeOf_spec]; omega) hb (by decide) hy.1
    rw [hd, powDoc]
    split_ifs
    · simp [signOK, sqrt_sign]
    · simp only [signOK]; decide
    · simp only [signOK]; decide
    · simp only [signOK]; exact signOK_bracket _ _ _ hdb
  | mul a =>
    obtain ⟨rfl, sg, fs, _, hd, hf⟩ := h.factors inh_ok her_sym hy
    rw [hd]
    exact signOK_mulDoc sg fs (fun f hf' => ((hf f hf').fac inh_ok her_sym (R := fun _ d => signOK d = true)
      (fun g hg hdg hqg => ih .A g hg hdg (by decide) hqg) signOK_numDoc))

theorem addOK_of_sym (e : E) : ∀ s, wf s e = true → symOK e = true → AddOK e := by
  induction e with
  | add a ih =>
    intro s hw hy
    simp only [wf, Bool.and_eq_true] at hw
    obtain ⟨⟨_, hla⟩, hwa⟩ := hw
    refine ⟨?_, ih .A hwa hy⟩
    intro hst x hx
    have hx' : x ∈ C11.toList a := by rwa [← elems_eq_toList]
    have h1 := wf_list .A _ hwa x hx'
    exact minusOK_of_signOK _ (signed .A x ⟨h1.1, h1.2, st_list _ (proper_of_wf .A _ hla hwa) hst x hx'⟩ (by decide)
      (symOK_elem a x hy hx))
  | mul a ih | fn name a ih =>
    intro s hw hy
    simp only [wf, Bool.and_eq_true] at hw
    exact ih .A hw.2 hy
  | and a ih | or a ih =>
    intro s hw hy
    simp only [wf, Bool.and_eq_true] at hw
    exact ih .B hw.1.2 hy
  | pw a ih =>
    intro s hw hy
    simp only [wf, Bool.and_eq_true] at hw
    exact ih .P hw.2 hy
  | pow b x ihb ihx =>
    intro s hw hy
    simp only [wf, Bool.and_eq_true] at hw
    simp only [symOK, Bool.and_eq_true] at hy
    exact ⟨ihb .A hw.1.2 hy.1, ihx .A hw.2 hy.2⟩
  | rel r a b iha ihb =>
    intro s hw hy
    simp only [wf, Bool.and_eq_true, Bool.or_eq_true] at hw
    simp only [symOK, Bool.and_eq_true] at hy
    rcases hw.2 with ⟨hwa, hwb⟩ | ⟨⟨_, hwa⟩, hwb⟩
    · exact ⟨iha .A hwa hy.1, ihb .A hwb hy.2⟩
    · exact ⟨iha .B hwa hy.1, ihb .B hwb hy.2⟩
  | pair v c ihv ihc =>
    intro s hw hy
    simp only [wf, Bool.and_eq_true] at hw
    simp only [symOK, Bool.and_eq_true] at hy
    exact ⟨ihv .A hw.1.2 hy.1, ihc .B hw.2 hy.2⟩
  | cons h t ihh iht =>
    intro s hw hy
    simp only [wf, Bool.and_eq_true] at hw
    simp only [symOK, Bool.and_eq_true] at hy
    exact ⟨ihh s hw.1.1.1 hy.1, iht s hw.2 hy.2⟩
  | _ => intros; trivial

theorem addOK_of_symOK (e : E) : ∀ s, wf s e = true → genOK e = true → symOK e = true → AddOK e :=
  fun s hw _ hy => addOK_of_sym e s hw hy

end Cellml.Tie.PPrinter2
