import Cellml.Tie.ConvertPw
import Cellml.Tie.ConvertAttr

/-! # Tie: `UnitCalculator.convert_expression_recursively` (generated from units.py) = `Convert.convert` (hand model)

    The python function is recursive; it is translated with open recursion (`rec`). The theorem says that the hand
    model is a fixpoint of the generated functional: with the model playing the recursive calls, one level of the
    generated code computes the model - result triple `(new_expr, was_converted, actual_units)` and exception class -
    for every expression in `wfTop` and every target (or `None`). -/

namespace Cellml.Tie.PConvert
open Convert

attribute [sympy_view] isMatrix isSymbol isDerivative isMul isPow isAdd isRelational isPiecewise isFunction isNumber
  isBoolean isVariable args Py.truthy_bool maybeConvertChild_eq Bool.false_eq_true if_false if_true

section
variable (reg : Registry) (Γ : VarEnv)

-- one level of the generated function with the model answering the recursive calls, and the model's result as the
-- python triple; a goal `GEN ex tgt = MODEL ex tgt` is `convert_tie` for one constructor
local notation "GEN" => Gen.Convert.convertExpressionRecursively (convView reg Γ) (modelRec reg Γ)
local notation "MODEL" => fun e t => encConv (Convert.convert reg Γ e t)

/-- a Symbol goes through `maybe_convert_expr` with its own unit -/
theorem gen_symbol (ex : E) (tgt : PyUnit) (hs : isSymbol ex = true) :
    GEN ex tgt = (do
      let u ← (convView reg Γ).unitsOf ex
      let x ← Gen.Convert.maybeConvertExpr (convView reg Γ) ex false u tgt
      pure (x.1, x.2.1, x.2.2)) := by
  have hm : isMatrix ex = false := by cases ex <;> first | rfl | cases hs
  unfold Gen.Convert.convertExpressionRecursively
  simp only [hm, hs, Py.truthy_bool, Bool.false_eq_true, if_false, if_true]

theorem tie_qty (v : Rat) (u : Container) (tgt : PyUnit) : GEN (.qty v u) tgt = MODEL (.qty v u) tgt := by
  rw [gen_symbol reg Γ _ _ rfl]; exact maybeConvertExpr_bind reg Γ _ false u tgt true

theorem tie_cf (s : Scale) (u : Container) (tgt : PyUnit) : GEN (.cf s u) tgt = MODEL (.cf s u) tgt := by
  rw [gen_symbol reg Γ _ _ rfl]; exact maybeConvertExpr_bind reg Γ _ false u tgt true

theorem tie_var (i : Nat) (tgt : PyUnit) : GEN (.var i) tgt = MODEL (.var i) tgt := by
  rw [gen_symbol reg Γ _ _ rfl]
  simp only [convView, Convert.convert]
  cases Γ[i]? with
  | some vi => exact maybeConvertExpr_bind reg Γ _ false vi.unit tgt true
  | none => rfl

theorem tie_numLeaf (ex : E) (tgt : PyUnit) (hl : isNumLeaf ex = true) : GEN ex tgt = MODEL ex tgt := by
  have hfl : isMatrix ex = false ∧ isSymbol ex = false ∧ isDerivative ex = false ∧ isMul ex = false ∧ isPow ex = false ∧
      isAdd ex = false ∧ isRelational ex = false ∧ isPiecewise ex = false ∧ isFunction ex = false ∧
      (isNumber ex || isBoolean ex) = true := by
    cases ex with
    | int _ | rat _ | flt _ | pi | e | oo | nan | tt | ff => exact ⟨rfl, rfl, rfl, rfl, rfl, rfl, rfl, rfl, rfl, rfl⟩
    | _ => cases hl
  obtain ⟨h1, h2, h3, h4, h5, h6, h7, h8, h9, h10⟩ := hfl
  unfold Gen.Convert.convertExpressionRecursively
  simp only [h1, h2, h3, h4, h5, h6, h7, h8, h9, h10, Py.truthy_bool, Bool.false_eq_true, if_false, if_true, dimless_eq,
    convert_numLeaf hl]
  cases dimlessTarget tgt <;> rfl

theorem tie_undef (tgt : PyUnit) : GEN .undef tgt = MODEL .undef tgt := by
  unfold Gen.Convert.convertExpressionRecursively
  simp only [sympy_view, Bool.or_self]
  rfl

theorem tie_other (n : String) (tgt : PyUnit) : GEN (.other n) tgt = MODEL (.other n) tgt := by
  unfold Gen.Convert.convertExpressionRecursively
  simp only [sympy_view, Bool.or_self, dNum, nargs, dOrder, Bool.not_false, Bool.true_or]
  cases n == "Matrix" with
  | true => rfl
  | false => cases n == "Derivative" <;> rfl

theorem tie_deriv (v t : Nat) (tgt : PyUnit) : GEN (.deriv v t) tgt = MODEL (.deriv v t) tgt := by
  unfold Gen.Convert.convertExpressionRecursively
  simp only [sympy_view, nargs, dNum, dWrt, dOrder, Convert.convert, Bool.not_true, Nat.lt_irrefl, gt_iff_lt, decide_false,
    Bool.or_self]
  cases hv : Γ[v]? with
  | none =>
    rw [rec_bind_error reg Γ (a := .var v) (err := .unsupported "unknown variable") (by simp only [Convert.convert, hv])]
    rfl
  | some vv =>
    rw [rec_bind_ok reg Γ (a := .var v) (r := ⟨.var v, false, vv.unit, true⟩) (by simp only [Convert.convert, hv]; rfl)]
    cases ht : Γ[t]? with
    | none =>
      rw [rec_bind_error reg Γ (a := .var t) (err := .unsupported "unknown variable")
        (by simp only [Convert.convert, ht])]
      rfl
    | some vt =>
      rw [rec_bind_ok reg Γ (a := .var t) (r := ⟨.var t, false, vt.unit, true⟩) (by simp only [Convert.convert, ht]; rfl)]
      exact maybeConvertExpr_bind reg Γ _ _ _ tgt true

theorem tie_pow (b x : E) (tgt : PyUnit) : GEN (.pow b x) tgt = MODEL (.pow b x) tgt := by
  unfold Gen.Convert.convertExpressionRecursively
  simp only [sympy_view, Convert.convert, unpack2, Except.ok_bind, pyFloat_try]
  cases hx : Convert.convert reg Γ x (some []) with
  | error err => rw [rec_bind_error reg Γ hx]; rfl
  | ok rx =>
    rw [rec_bind_ok reg Γ hx]
    simp only [Except.ok_bind]
    cases hq : evalClosed rx.e with
    | none => rfl
    | some o =>
      cases o with
      | none => rfl
      | some q =>
        simp only [Except.ok_bind, pure, Except.pure]
        cases hb : Convert.convert reg Γ b none with
        | error err => rw [rec_bind_error reg Γ hb]; rfl
        | ok rb =>
          rw [rec_bind_ok reg Γ hb]
          simp only [Except.ok_bind, unitPow, rebuild, Bool.or_false, Bool.or_comm rb.wc]
          cases rx.wc || rb.wc <;> exact maybeConvertExpr_bind reg Γ _ _ _ tgt _

theorem tie_rel (r : Rel) (a b : E) (tgt : PyUnit) : GEN (.rel r a b) tgt = MODEL (.rel r a b) tgt := by
  unfold Gen.Convert.convertExpressionRecursively
  simp only [sympy_view, Convert.convert, dimless_eq]
  cases hd : dimlessTarget tgt with
  | false => rfl
  | true =>
    simp only [Bool.not_true, Bool.false_eq_true, if_false, List.forIn_cons, List.forIn_nil]
    cases ha : Convert.convert reg Γ a none with
    | error err => rw [rec_bind_error reg Γ ha]; rfl
    | ok ra =>
      rw [rec_bind_ok reg Γ ha]
      simp only [Except.ok_bind, pure, Except.pure]
      cases hb : Convert.convert reg Γ b (some ra.u) with
      | error err => rw [rec_bind_error reg Γ hb]; rfl
      | ok rb =>
        rw [rec_bind_ok reg Γ hb]
        simp only [Except.ok_bind, Bool.or_false, Bool.or_comm rb.wc]
        cases ra.wc || rb.wc <;> rfl

/-! ### functions: `floor` / `ceiling` / `Abs` pass the target on, every other function wants it dimensionless -/

theorem gen_function (ex : E) (tgt : PyUnit) (hf : isFunction ex = true) :
    GEN ex tgt =
      if Py.isIn (funcName ex) ["floor", "ceiling", "Abs"] = true then fnRun reg Γ ex (args ex) tgt
      else if dimlessTarget tgt = true then fnRun reg Γ ex (args ex) (some [])
      else .error ⟨"InputArgumentsMustBeDimensionlessError"⟩ := by
  have hfl : isMatrix ex = false ∧ isSymbol ex = false ∧ isDerivative ex = false ∧ isMul ex = false ∧ isPow ex = false ∧
      isAdd ex = false ∧ isRelational ex = false ∧ isPiecewise ex = false := by
    cases ex with
    | abs _ | floor _ | ceil _ | fn1 _ _ | fnN _ _ _ | and _ _ | or _ _ | not _ => exact ⟨rfl, rfl, rfl, rfl, rfl, rfl, rfl, rfl⟩
    | _ => cases hf
  obtain ⟨h1, h2, h3, h4, h5, h6, h7, h8⟩ := hfl
  unfold Gen.Convert.convertExpressionRecursively
  simp only [h1, h2, h3, h4, h5, h6, h7, h8, hf, Py.truthy_bool, Bool.false_eq_true, if_false, if_true, dimless_eq,
    maybeConvertChild_eq]
  rw [forIn_eq_loopM (fnStep reg Γ) _ ?hF, forIn_eq_loopM (fnStep reg Γ) _ ?hF]
  case hF =>
    intro arg s
    simp only [fnStep]
    cases modelRec reg Γ arg s.1 <;> rfl
  cases dimlessTarget tgt <;> rfl

/-- one of those three, given what its loop and rebuild do for the target as it is -/
theorem tie_function_same (ex : E) (tgt : PyUnit) (hf : isFunction ex = true)
    (hp : Py.isIn (funcName ex) ["floor", "ceiling", "Abs"] = true)
    (hrun : fnRun reg Γ ex (args ex) tgt = encConv (Convert.convert reg Γ ex tgt)) : GEN ex tgt = MODEL ex tgt := by
  rw [gen_function reg Γ ex tgt hf, if_pos hp]; exact hrun

theorem tie_abs (a : E) (tgt : PyUnit) : GEN (.abs a) tgt = MODEL (.abs a) tgt :=
  tie_function_same reg Γ _ tgt rfl rfl (unary_finish reg Γ _ a E.abs tgt fun _ => rfl)

theorem tie_floor (a : E) (tgt : PyUnit) : GEN (.floor a) tgt = MODEL (.floor a) tgt :=
  tie_function_same reg Γ _ tgt rfl rfl (unary_finish reg Γ _ a E.floor tgt fun _ => rfl)

theorem tie_ceil (a : E) (tgt : PyUnit) : GEN (.ceil a) tgt = MODEL (.ceil a) tgt :=
  tie_function_same reg Γ _ tgt rfl rfl (unary_finish reg Γ _ a E.ceil tgt fun _ => rfl)

/-- a function other than those three, given what its loop and rebuild do for the dimensionless target -/
theorem tie_function (ex : E) (tgt : PyUnit) (hf : isFunction ex = true)
    (hn : Py.isIn (funcName ex) ["floor", "ceiling", "Abs"] = false)
    (hrun : fnRun reg Γ ex (args ex) (some []) = encConv (Convert.convert reg Γ ex (some []))) :
    GEN ex tgt = MODEL ex tgt := by
  rw [gen_function reg Γ ex tgt hf, if_neg (hn ▸ Bool.false_ne_true)]
  show _ = encConv (Convert.convert reg Γ ex tgt)
  rw [convert_dimless reg Γ ex tgt hf hn]
  cases dimlessTarget tgt with
  | false => rfl
  | true => exact hrun

theorem tie_fn1 (f : String) (a : E) (tgt : PyUnit) (hf : Py.isIn f ["floor", "ceiling", "Abs"] = false) :
    GEN (.fn1 f a) tgt = MODEL (.fn1 f a) tgt :=
  tie_function reg Γ _ tgt rfl hf (unary_finish reg Γ _ a (E.fn1 f) (some []) fun _ => rfl)

theorem tie_not (a : E) (tgt : PyUnit) : GEN (.not a) tgt = MODEL (.not a) tgt :=
  tie_function reg Γ _ tgt rfl rfl (unary_finish reg Γ _ a E.not (some []) fun _ => rfl)

theorem tie_and (a b : E) (tgt : PyUnit) : GEN (.and a b) tgt = MODEL (.and a b) tgt :=
  tie_function reg Γ _ tgt rfl rfl
    (fn_finish reg Γ E.and _ _ (fun _ _ => rfl) (and_loop reg Γ (.and a b) false []))

theorem tie_or (a b : E) (tgt : PyUnit) : GEN (.or a b) tgt = MODEL (.or a b) tgt :=
  tie_function reg Γ _ tgt rfl rfl
    (fn_finish reg Γ E.or _ _ (fun _ _ => rfl) (or_loop reg Γ (.or a b) false []))

/-- n-ary function (`Max(a, b, c)` is `fnN "Max" (fnN "Max" a b) c`): all operands along the spine of `fnN f` nodes -/
theorem tie_fnN (f : String) (a b : E) (tgt : PyUnit) (hf : Py.isIn f ["floor", "ceiling", "Abs"] = false) :
    GEN (.fnN f a b) tgt = MODEL (.fnN f a b) tgt :=
  tie_function reg Γ _ tgt rfl hf
    (fn_finish reg Γ (E.fnN f) _ _ (fun _ _ => rfl) (fn_loop reg Γ f (.fnN f a b) false []))

theorem tie_add (a b : E) (tgt : PyUnit) : GEN (.add a b) tgt = MODEL (.add a b) tgt := by
  unfold Gen.Convert.convertExpressionRecursively
  simp only [sympy_view]
  rw [forIn_eq_loopM (addStep reg Γ) _ ?hF]
  case hF =>
    intro arg s
    simp only [addStep]
    cases modelRec reg Γ arg s.1 with
    | error e => rfl
    | ok x => cases h : s.1 <;> rfl
  have L := add_loop reg Γ (.add a b) tgt none false []
  cases h : Convert.convert reg Γ (.add a b) tgt with
  | error err => rw [h, loopSpec_error] at L; rw [L]; rfl
  | ok r =>
    rw [h, loopSpec_ok] at L
    obtain ⟨_, L1, y, ys, rfl, L2⟩ := L
    rw [L1]
    simp only [Except.ok_bind, List.nil_append, Py.truthy_list, List.isEmpty_cons, Bool.not_false, Bool.and_true, Bool.or_false,
      rebuild, L2, encConv_ok]
    cases hw : r.wc with
    | false => rw [(convert_ident h).2 hw]; rfl
    | true => rfl

theorem tie_mul (a b : E) (tgt : PyUnit) : GEN (.mul a b) tgt = MODEL (.mul a b) tgt := by
  unfold Gen.Convert.convertExpressionRecursively
  simp only [sympy_view]
  rw [forIn_eq_loopM (mulStep reg Γ) _ ?hF]
  case hF =>
    intro arg s
    simp only [mulStep]
    cases modelRec reg Γ arg none <;> rfl
  have L := mul_loop reg Γ (.mul a b) false [] []
  rw [convert_mul_split]
  cases h : Convert.convert reg Γ (.mul a b) none with
  | error err => rw [h, loopSpec_error] at L; rw [L]; rfl
  | ok r =>
    rw [h, loopSpec_ok] at L
    obtain ⟨_, L1, y, ys, u, us, rfl, L2, L3⟩ := L
    have hred : reduceMul (u :: us) = .ok (some r.u) := L3
    rw [L1]
    simp only [Except.ok_bind, List.nil_append, hred, rebuild, L2, Bool.or_false]
    change _ = encConv (maybeConv reg r.e r.wc r.u tgt r.same)
    -- unchanged operands: the product that is passed on is the model's either way
    cases hw : r.wc with
    | true =>
      cases tgt with
      | none => rfl
      | some t =>
        simp only [if_true, Option.isSome_some]
        exact maybeConvertExpr_bind reg Γ _ _ _ _ r.same
    | false =>
      rw [← (convert_ident h).2 hw]
      cases tgt with
      | none => rfl
      | some t =>
        simp only [Bool.false_eq_true, if_false, if_true, Option.isSome_some]
        exact maybeConvertExpr_bind reg Γ _ _ _ _ r.same

theorem tie_ite (c t el : E) (tgt : PyUnit) (hch : isChain el = true) :
    GEN (.ite c t el) tgt = MODEL (.ite c t el) tgt := by
  unfold Gen.Convert.convertExpressionRecursively
  simp only [sympy_view]
  rw [forIn_eq_loopM (pwStep reg Γ) _ ?hF]
  case hF =>
    intro arg s
    simp only [pwStep]
    cases modelRec reg Γ (pairOf arg).1 s.1 with
    | error e => rfl
    | ok x =>
      cases modelRec reg Γ (pairOf arg).2 (some []) with
      | error e => rfl
      | ok x1 => cases h : s.1 <;> rfl
  have L := pw_loop reg Γ el hch c t tgt none false []
  cases h : Convert.convert reg Γ (.ite c t el) tgt with
  | error err => rw [h, loopSpec_error] at L; rw [L]; rfl
  | ok r =>
    rw [h, loopSpec_ok] at L
    obtain ⟨⟨s1, s2⟩, L1, p, ps, L2, L3⟩ := L
    cases L2
    rw [L1]
    simp only [bind, Except.bind, pure, Except.pure, List.nil_append, Py.truthy_list, List.isEmpty_cons, Bool.not_false,
      Bool.and_true, Bool.or_false, rebuild, L3, encConv_ok]
    cases hw : r.wc with
    | false => rw [(convert_ident h).2 hw]; rfl
    | true => rfl

end

/-- the expressions that are images of SymPy objects at the top node: a Piecewise is a chain ending in `undef`, and the
    class names `floor` / `ceiling` / `Abs` are the constructors `E.floor` / `E.ceil` / `E.abs`, never `fn1` / `fnN` -/
def wfTop : E → Bool
  | .ite _ _ el => isChain el
  | .fn1 f _ => !Py.isIn f ["floor", "ceiling", "Abs"]
  | .fnN f _ _ => !Py.isIn f ["floor", "ceiling", "Abs"]
  | _ => true

/-- **`UnitCalculator.convert_expression_recursively` = `Convert.convert`** (fixpoint form) -/
theorem convert_tie (reg : Registry) (Γ : VarEnv) (ex : E) (tgt : Option Container) (h : wfTop ex = true) :
    Gen.Convert.convertExpressionRecursively (convView reg Γ) (modelRec reg Γ) ex tgt
      = encConv (Convert.convert reg Γ ex tgt) := by
  cases ex with
  | qty v u => exact tie_qty reg Γ v u tgt
  | cf s u => exact tie_cf reg Γ s u tgt
  | var i => exact tie_var reg Γ i tgt
  | add a b => exact tie_add reg Γ a b tgt
  | mul a b => exact tie_mul reg Γ a b tgt
  | pow b x => exact tie_pow reg Γ b x tgt
  | abs a => exact tie_abs reg Γ a tgt
  | floor a => exact tie_floor reg Γ a tgt
  | ceil a => exact tie_ceil reg Γ a tgt
  | fn1 f a => exact tie_fn1 reg Γ f a tgt (by simpa [wfTop] using h)
  | fnN f a b => exact tie_fnN reg Γ f a b tgt (by simpa [wfTop] using h)
  | ite c t el => exact tie_ite reg Γ c t el tgt (by simpa [wfTop] using h)
  | undef => exact tie_undef reg Γ tgt
  | deriv v t => exact tie_deriv reg Γ v t tgt
  | rel r a b => exact tie_rel reg Γ r a b tgt
  | and a b => exact tie_and reg Γ a b tgt
  | or a b => exact tie_or reg Γ a b tgt
  | not a => exact tie_not reg Γ a tgt
  | other n => exact tie_other reg Γ n tgt
  | _ => exact tie_numLeaf reg Γ _ tgt rfl

/-- the same with the model's own result type: what the generated code returns determines `e`, `wc`, `u` of the model's
    result (the fourth field `same` is `!wc`, `Convert.convert_ident`) and the class of its error -/
theorem convert_tie_ok (reg : Registry) (Γ : VarEnv) (ex : E) (tgt : Option Container) (h : wfTop ex = true) (r : CR)
    (hr : Convert.convert reg Γ ex tgt = .ok r) :
    Gen.Convert.convertExpressionRecursively (convView reg Γ) (modelRec reg Γ) ex tgt = .ok (r.e, r.wc, some r.u) := by
  rw [convert_tie reg Γ ex tgt h, hr]; rfl

/-- `UnitStore.convert_expression_recursively(expr, to_units)`: the expression of the model's result -/
theorem storeConvert_tie (reg : Registry) (Γ : VarEnv) (ex : E) (tgt : Option Container) :
    Gen.Convert.storeConvertExpressionRecursively (modelRec reg Γ) ex tgt
      = (encConv (Convert.convert reg Γ ex tgt)).map (fun r => r.1) := by
  unfold Gen.Convert.storeConvertExpressionRecursively modelRec
  -- `try` around an assignment to mutable variables is elaborated through `StateT`, hence `StateT.pure` below
  cases encConv (Convert.convert reg Γ ex tgt) <;>
    simp [except_run, tryCatch, tryCatchThe, MonadExceptOf.tryCatch, Except.tryCatch, StateT.pure]

/-- `UnitStore.evaluate_units_and_fix(expr)`: `(actual_units, new_expr)` of the model's result for target `None` -/
theorem storeEvaluateUnitsAndFix_tie (reg : Registry) (Γ : VarEnv) (ex : E) :
    Gen.Convert.storeEvaluateUnitsAndFix (modelRec reg Γ) ex
      = (encConv (Convert.convert reg Γ ex none)).map (fun r => (r.2.2, r.1)) := by
  unfold Gen.Convert.storeEvaluateUnitsAndFix modelRec
  cases encConv (Convert.convert reg Γ ex none) <;>
    simp [except_run, tryCatch, tryCatchThe, MonadExceptOf.tryCatch, Except.tryCatch, StateT.pure]

-- an expression is called `e` here, which is also the name of the constructor `E.e`
set_option linter.constructorNameAsVariable false

/-- the sub-expressions on which the generated code makes its recursive calls: the FLAT operands of an n-ary node, all
    pieces and conditions of a Piecewise, the two Variables of a Derivative -/
def children : E → List E
  | .deriv v t => [.var v, .var t]
  | .ite c t el => (pwArgs (.ite c t el)).flatMap (fun p => [(pairOf p).1, (pairOf p).2])
  | e => args e

theorem args_children {e a : E} (hp : ¬ isPiecewise e = true) (ha : a ∈ args e) : a ∈ children e := by
  -- `children e` is `args e` by definition, except on a Piecewise (excluded) and a Derivative (whose `args` is empty)
  cases e <;> first | exact ha | exact absurd rfl hp | cases ha

theorem not_piecewise {e : E} (h : (isMul e || isPow e || isAdd e || isRelational e) = true) :
    ¬ isPiecewise e = true := by
  cases e <;> first | exact Bool.false_ne_true | cases h

theorem pair_children {e p : E} (hp : isPiecewise e = true) (hm : p ∈ args e) :
    (pairOf p).1 ∈ children e ∧ (pairOf p).2 ∈ children e := by
  cases e with
  | ite c t el => exact ⟨List.mem_flatMap.2 ⟨p, hm, .head _⟩, List.mem_flatMap.2 ⟨p, hm, .tail _ (.head _)⟩⟩
  | _ => cases hp

theorem deriv_children {e : E} (hd : isDerivative e = true) (hv : isVariable (dNum e) = true) :
    dNum e ∈ children e ∧ dWrt e ∈ children e := by
  cases e with
  | deriv v t => exact ⟨.head _, .tail _ (.head _)⟩
  | other n => cases hv
  | _ => cases hd

theorem unpack2_mem {xs : List E} {a b : E} (h : unpack2 xs = .ok (a, b)) : a ∈ xs ∧ b ∈ xs := by
  match xs, h with
  | [_, _], rfl => exact ⟨.head _, .tail _ (.head _)⟩

/-- **the generated functional calls `rec` only on the children of the node**: two `rec`s that agree there give the
    same result -/
theorem gen_congr (self : ConvView) (rec1 rec2 : E → PyUnit → Except PyErr ConvRes) (e : E) (t : PyUnit)
    (h : ∀ x ∈ children e, ∀ t', rec1 x t' = rec2 x t') :
    Gen.Convert.convertExpressionRecursively self rec1 e t = Gen.Convert.convertExpressionRecursively self rec2 e t := by
  unfold Gen.Convert.convertExpressionRecursively
  simp only [maybeConvertChild_eq, Py.truthy_bool]
  -- along the chain of class tests (Matrix, Symbol, Derivative, Mul, Pow, Add, Relational, Piecewise, Function,
  -- number or Boolean); a branch that does not call `rec` is the same on both sides
  refine ite_congr rfl (fun _ => rfl) fun _ => ?_
  refine ite_congr rfl (fun _ => rfl) fun _ => ?_
  refine ite_congr rfl (fun hd => ?_) fun _ => ?_
  -- a Derivative raises before the calls unless `args[0]` is a Variable
  · cases hv : isVariable (dNum e) with
    | false => rfl
    | true => obtain ⟨h1, h2⟩ := deriv_children hd hv; simp only [h _ h1, h _ h2]
  refine ite_congr rfl (fun hm => ?_) fun _ => ?_
  · have hp := not_piecewise (e := e) (by simp only [hm, Bool.true_or])
    exact congrArg (· >>= _) <| List.forIn_congr_mem _ _ fun a ha s => by simp only [h a (args_children hp ha)]
  refine ite_congr rfl (fun hm => ?_) fun _ => ?_
  · have hp := not_piecewise (e := e) (by simp only [hm, Bool.true_or, Bool.or_true])
    cases hu : unpack2 (args e) with
    | error err => rfl
    | ok p =>
      obtain ⟨h1, h2⟩ := unpack2_mem (a := p.1) (b := p.2) hu
      simp only [bind, Except.bind, h _ (args_children hp h1), h _ (args_children hp h2)]
  refine ite_congr rfl (fun hm => ?_) fun _ => ?_
  · have hp := not_piecewise (e := e) (by simp only [hm, Bool.true_or, Bool.or_true])
    exact congrArg (· >>= _) <| List.forIn_congr_mem _ _ fun a ha s => by simp only [h a (args_children hp ha)]
  refine ite_congr rfl (fun hm => ?_) fun _ => ?_
  · have hp := not_piecewise (e := e) (by simp only [hm, Bool.or_true])
    refine ite_congr rfl (fun _ => rfl) fun _ => ?_
    exact congrArg (· >>= _) <| List.forIn_congr_mem _ _ fun a ha s => by simp only [h a (args_children hp ha)]
  refine ite_congr rfl (fun hp => ?_) fun hp => ?_
  · exact congrArg (· >>= _) <| List.forIn_congr_mem _ _ fun p hm s => by
      simp only [h _ (pair_children hp hm).1, h _ (pair_children hp hm).2]
  refine ite_congr rfl (fun _ => ?_) fun _ => rfl
  refine ite_congr rfl (fun _ => ?_) fun _ => ite_congr rfl (fun _ => rfl) fun _ => ?_
  all_goals exact congrArg (· >>= _) <| List.forIn_congr_mem _ _ fun a ha s => by simp only [h a (args_children hp ha)]

end Cellml.Tie.PConvert
