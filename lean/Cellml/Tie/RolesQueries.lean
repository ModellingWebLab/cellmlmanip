import Cellml.Generated.Code.Roles
import Cellml.Model.Sort
import Cellml.Tie.ExceptRun
import Mathlib.Tactic.SplitIfs

/-! # Tie (Roles, part 1): the role queries of cellmlmanip/model.py (generated from the source) = the hand model `Model/Roles.lean`

    `get_free_variable` = `freeVar`, `get_state_variables` = `stateVars`, `get_derivatives` = `derivatives`,
    `get_derived_quantities` = `derivedQuantities`, `is_constant` = `isConstant` — the functions the theorems of
    `Props/C10.lean` are about. -/

namespace Cellml.Tie.PRoles
open Model

/-- `None` of the model side = the exception of the code side -/
def optErr {α} (cls : String) : Option α → Except PyErr α
  | some a => .ok a
  | none => .error ⟨cls⟩

theorem insertBy_map {α β} (f : α → β) (key : β → Nat) (x : α) (l : List α) :
    insertBy key (f x) (l.map f) = (insertBy (fun a => key (f a)) x l).map f := by
  induction l with
  | nil => rfl
  | cons y ys ih =>
    simp only [List.map, insertBy]
    split_ifs <;> simp [ih]

theorem sortBy_map {α β} (f : α → β) (key : β → Nat) (l : List α) :
    sortBy key (l.map f) = (sortBy (fun a => key (f a)) l).map f := by
  induction l with
  | nil => rfl
  | cons x xs ih => simp only [List.map, sortBy, ih, insertBy_map]

/-- every value of `_ode_definition_map` has a derivative on its left (what `add_equation` guarantees: `EqInvOn.odeDef`) -/
def odeLhsOk (M : RModel) : Bool :=
  M.st.odeDef.all (fun p => match p.2.lhs with | .deriv _ _ _ => true | _ => false)

theorem odeLhsOk_of_inv (M : RModel) (E : EqInv M.st) : odeLhsOk M = true := by
  unfold odeLhsOk
  rw [E.odeDef, List.all_eq_true]
  intro p hp
  simp only [deriveOdeDef, List.mem_filterMap] at hp
  obtain ⟨e, _, he⟩ := hp
  cases hl : e.lhs <;> simp [hl] at he
  subst he; simp [hl]

/-- `get_free_variable()` = `freeVar` (`None` ↦ ValueError). Outside `odeLhsOk` (a first entry of the ODE map whose
    left-hand side is no derivative — unreachable through `add_equation`) the code raises AttributeError where the model
    answers `none`. -/
theorem getFreeVariable_tie (M : RModel) (h : odeLhsOk M = true) :
    Gen.Roles.getFreeVariable M = optErr "ValueError" (freeVar M) := by
  unfold Gen.Roles.getFreeVariable freeVar Model.getFreeVariable odeValues odeLhsOk at *
  cases hd : M.st.odeDef with
  | nil => simp [optErr, except_run]
  | cons p rest =>
    obtain ⟨k, e⟩ := p
    rw [hd] at h
    cases hl : e.lhs <;> simp [hl] at h
    simp [hl, optErr, lhsVariables0, except_run]

/-- `get_state_variables(sort=True)` = `stateVars`; `sort=False`: the keys of the ODE map in insertion order -/
theorem getStateVariables_tie (M : RModel) (sort : Bool) :
    Gen.Roles.getStateVariables M sort = .ok (if sort then stateVars M else stateKeys M.st) := by
  unfold Gen.Roles.getStateVariables stateVars Model.getStateVariables odeKeys pySortBy orderAdded
  cases sort <;> simp [pure, Except.pure, sortBy_eq_sortByKey]

/-- a derivative of the model side as the graph node the code returns -/
def derivNode (p : Nat × Nat) : Node := .deriv p.1 p.2

theorem filter_isDerivative (ns : List GNode) :
    (ns.map (·.node)).filter (fun v => isDerivative v) = (derivNodesL ns).map derivNode := by
  induction ns with
  | nil => rfl
  | cons n ns ih =>
    obtain ⟨node, e, t⟩ := n
    cases node <;> simp [derivNodesL, isDerivative, derivNode] at ih ⊢ <;> exact ih

/-- `get_derivatives(sort=True)` = `derivatives` (the `Derivative` nodes of the graph, stable sort by the
    `order_added` of the state; the exception of the graph builder) -/
theorem getDerivatives_tie (M : RModel) :
    Gen.Roles.getDerivatives M true = (errClass gerrClass (derivatives M)).map (List.map derivNode) := by
  unfold Gen.Roles.getDerivatives derivatives graphOf
  cases hg : (queryGraph M.st).2 with
  | error e => simp [except_run]
  | ok g =>
    simp only [except_run, Py.truthy_bool, if_true, List.map_id', graphIter, derivNodes, pySortBy, filter_isDerivative]
    rw [sortBy_map]
    rfl

theorem getDerivatives_unsorted_tie (M : RModel) :
    Gen.Roles.getDerivatives M false =
      (errClass gerrClass (queryGraph M.st).2).map (fun g => (derivNodes g).map derivNode) := by
  unfold Gen.Roles.getDerivatives graphOf
  cases hg : (queryGraph M.st).2 with
  | error e => simp [except_run]
  | ok g =>
    simp [except_run, graphIter, derivNodes, filter_isDerivative]

theorem filter_derived (ns : List GNode) :
    ((ns.map (fun n => (n.node, n))).filter (fun (x : Node × GNode) =>
        (!(isDerivative x.1)) && (!(Py.isIn (getVariableType x.2 VariableType.UNKNOWN)
          [VariableType.FREE, VariableType.STATE, VariableType.PARAMETER])))).map (fun x => x.1)
      = (derivedNodesL ns).map Node.var := by
  induction ns with
  | nil => rfl
  | cons n ns ih =>
    obtain ⟨node, e, t⟩ := n
    cases node with
    | deriv s t' => simpa [derivedNodesL, isDerivative, List.filterMap_cons] using ih
    | var v =>
      simp only [derivedNodesL, List.filterMap_cons, List.map_cons, List.filter_cons] at ih ⊢
      rcases t with _ | t
      · simpa [isDerivative, getVariableType, Py.isIn] using ih
      · cases t <;> simpa [isDerivative, getVariableType, Py.isIn, ofVType] using ih

/-- `get_derived_quantities(sort=True)` = `derivedQuantities` -/
theorem getDerivedQuantities_tie (M : RModel) :
    Gen.Roles.getDerivedQuantities M true = (errClass gerrClass (derivedQuantities M)).map (List.map Node.var) := by
  unfold Gen.Roles.getDerivedQuantities derivedQuantities graphOf
  cases hg : (queryGraph M.st).2 with
  | error e => simp [except_run]
  | ok g =>
    simp only [except_run, Py.truthy_bool, if_true, graphItems, derivedNodes, pySortBy]
    rw [filter_derived, sortBy_map]
    rfl

theorem getDerivedQuantities_unsorted_tie (M : RModel) :
    Gen.Roles.getDerivedQuantities M false =
      (errClass gerrClass (queryGraph M.st).2).map (fun g => (derivedNodes g).map Node.var) := by
  unfold Gen.Roles.getDerivedQuantities graphOf
  cases hg : (queryGraph M.st).2 with
  | error e => simp [except_run]
  | ok g =>
    simp only [except_run, Py.truthy_bool, graphItems, derivedNodes]
    rw [filter_derived]
    rfl

/-- `is_constant(v)` = `isConstant` -/
theorem isConstant_tie (M : RModel) (v : Nat) : Gen.Roles.isConstant M v = .ok (Model.isConstant M v) := by
  unfold Gen.Roles.isConstant Model.isConstant varRhs varDefGet rhsAtomsVariable
  cases h : M.st.varDef.lookup v with
  | none => simp [pure, Except.pure]
  | some e =>
    simp only [pure, Except.pure, Option.isSome_some, Bool.true_and, Option.map_some]
    cases (M.rhs e.tok).vars <;> rfl

end Cellml.Tie.PRoles
