import Cellml.Generated.Code.Convert
import Cellml.Tie.ExceptRun
import Cellml.Expr.ConvertLemmas

/-! # Tie, part 1: the helpers of `UnitCalculator.convert_expression_recursively` (generated from units.py) -
    `maybe_convert_expr` = `Convert.maybeConv`, `maybe_convert_child` - and what a recursive call played by the model
    (`modelRec`) does in front of the rest of the generated code. -/

namespace Cellml.Tie.PConvert
open Units Convert

/-- `maybe_convert_expr` (generated) = `Convert.maybeConv`, for every expression, flag, source unit and target (or
    `None`); the model's `same` flag (object identity) has no counterpart in the returned triple. -/
theorem maybeConvertExpr_tie (reg : Registry) (Γ : VarEnv) (ex : E) (wc : Bool) (frm : Container)
    (tgt : Option Container) (same : Bool) :
    Gen.Convert.maybeConvertExpr (convView reg Γ) ex wc (some frm) tgt
      = encConv (maybeConv reg ex wc frm tgt same) := by
  unfold Gen.Convert.maybeConvertExpr maybeConv encConv convView
  cases tgt with
  | none => simp [errClass, Except.map, pure, Except.pure]
  | some t =>
    simp only [Option.isNone_some, Bool.false_eq_true, if_false]
    cases hf : conversionFactor reg frm t with
    | error e =>
      cases e <;> simp [except_run, tryCatch, tryCatchThe, MonadExceptOf.tryCatch, Except.tryCatch, convCls,
        UnitErr.name]
    | ok f =>
      cases f <;> simp [except_run, tryCatch, tryCatchThe, MonadExceptOf.tryCatch, Except.tryCatch, cfNotOne,
        mkQuantity, unitDiv]

theorem maybeConvertChild_eq (rec : E → PyUnit → Except PyErr ConvRes) (e : E) (wc : Bool) (t : PyUnit) :
    Gen.Convert.maybeConvertChild rec e wc t = (rec e t).map (fun r => (r.1, r.2.1 || wc, r.2.2)) := by
  unfold Gen.Convert.maybeConvertChild
  cases h : rec e t with
  | error err => simp [except_run, h]
  | ok r => obtain ⟨a, b, c⟩ := r; simp [except_run, h]

theorem encConv_ok (r : CR) : encConv (.ok r) = .ok (r.e, r.wc, some r.u) := rfl
theorem encConv_error (err : UnitErr) : encConv (.error err : Except UnitErr CR) = .error ⟨convCls err⟩ := rfl

theorem modelRec_ok {reg : Registry} {Γ : VarEnv} {e : E} {t : PyUnit} {r : CR} (h : Convert.convert reg Γ e t = .ok r) :
    modelRec reg Γ e t = .ok (r.e, r.wc, some r.u) := by
  rw [modelRec, h, encConv_ok]

theorem modelRec_error {reg : Registry} {Γ : VarEnv} {e : E} {t : PyUnit} {err : UnitErr}
    (h : Convert.convert reg Γ e t = .error err) : modelRec reg Γ e t = .error ⟨convCls err⟩ := by
  rw [modelRec, h, encConv_error]

section
variable (reg : Registry) (Γ : VarEnv)

/-- a recursive call (with the flag update of `maybe_convert_child`) in front of the rest of the code, when the model
    converts the operand -/
theorem rec_bind_ok {a : E} {t : PyUnit} {r : CR} (h : Convert.convert reg Γ a t = .ok r) {α β : Type} (f : ConvRes → α)
    (k : α → Except PyErr β) : ((modelRec reg Γ a t).map f >>= k) = k (f (r.e, r.wc, some r.u)) := by
  rw [modelRec_ok h]; rfl

theorem rec_bind_error {a : E} {t : PyUnit} {err : UnitErr} (h : Convert.convert reg Γ a t = .error err) {α β : Type}
    (f : ConvRes → α) (k : α → Except PyErr β) : ((modelRec reg Γ a t).map f >>= k) = .error ⟨convCls err⟩ := by
  rw [modelRec_error h]; rfl

/-- the end of the branches that go through `maybe_convert_expr` -/
theorem maybeConvertExpr_bind (ex : E) (wc : Bool) (frm : Container) (tgt : PyUnit) (same : Bool) :
    (do let x ← Gen.Convert.maybeConvertExpr (convView reg Γ) ex wc (some frm) tgt
        (pure (x.1, x.2.1, x.2.2) : Except PyErr ConvRes))
      = encConv (maybeConv reg ex wc frm tgt same) := by
  rw [maybeConvertExpr_tie reg Γ ex wc frm tgt same]
  cases maybeConv reg ex wc frm tgt same <;> rfl

/-- `float(exponent)` under its `except TypeError` -/
theorem pyFloat_try (x : E) :
    (tryCatch (pyFloat x) fun e__ =>
        if (e__.cls == "TypeError") = true then throw (PyErr.mk "InputArgumentMustBeNumberError") else throw e__)
      = match evalClosed x with
        | none => .error ⟨"InputArgumentMustBeNumberError"⟩
        | some none => .error ⟨"unsupported:exponent value not tracked"⟩
        | some (some q) => .ok q := by
  unfold pyFloat
  cases evalClosed x with
  | none => rfl
  | some o => cases o <;> rfl

theorem dimless_eq (tgt : PyUnit) : (tgt.isSome && (tgt != some ([] : Container))) = !dimlessTarget tgt := by
  cases tgt with
  | none => rfl
  | some t => cases t <;> simp [dimlessTarget]

end
end Cellml.Tie.PConvert
