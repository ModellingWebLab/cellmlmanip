import Cellml.Tie.ConvertN

/-! # Tie, Piecewise branch of `convert_expression_recursively`: the `for` loop over ALL `(piece, cond)` pairs (generated)
    = the model's recursion along the chain `ite c t rest` -/

namespace Cellml.Tie.PConvert
open Convert

section
variable (reg : Registry) (Γ : VarEnv)

/-- a well-formed Piecewise: a chain of pieces ending in `undef` -/
def isChain : E → Bool
  | .undef => true
  | .ite _ _ el => isChain el
  | _ => false

theorem mkPiecewise_pwArgs (x : E) (h : isChain x = true) : mkPiecewise (pwArgs x) = x := by
  induction x with
  | undef => rfl
  | ite c t el _ _ ih => exact congrArg (E.ite c t) (ih h)
  | _ => cases h

theorem mkPiecewise_cons (t c : E) (ps : List E) : mkPiecewise (mkPair t c :: ps) = .ite c t (mkPiecewise ps) := rfl

/-- loop state of the Piecewise branch: `(to_units, actual_units, was_converted, new_args)` -/
abbrev PwSt := PyUnit × PyUnit × Bool × List E

/-- one iteration of the `for arg in expr.args` loop of the Piecewise branch -/
def pwStep (arg : E) (s : PwSt) : Except PyErr PwSt :=
  match modelRec reg Γ (pairOf arg).1 s.1 with
  | .error e => .error e
  | .ok x =>
    match modelRec reg Γ (pairOf arg).2 (some []) with
    | .error e => .error e
    | .ok x1 =>
      .ok (if s.1.isNone then x.2.2 else s.1, x.2.2, x1.2.1 || (x.2.1 || s.2.2.1), s.2.2.2 ++ [mkPair x.1 x1.1])

/-- end state of the Piecewise loop over a chain whose model result is `r`: flags or-ed, and the new pairs are the
    chain of the model's new expression (the first component, `to_units`, is not read after the loop) -/
def pwGood (wc0 : Bool) (acc : List E) (r : CR) (s : PwSt) : Prop :=
  ∃ p ps, s.2 = (some r.u, r.wc || wc0, acc ++ p :: ps) ∧ mkPiecewise (p :: ps) = r.e

theorem pwStep_ok {t c : E} {tu : PyUnit} {rt rc : CR} (ht : Convert.convert reg Γ t tu = .ok rt)
    (hc : Convert.convert reg Γ c (some []) = .ok rc) (au : PyUnit) (wc : Bool) (acc : List E) :
    pwStep reg Γ (mkPair t c) (tu, au, wc, acc)
      = .ok (some (tu.getD rt.u), some rt.u, rt.wc || rc.wc || wc, acc ++ [mkPair rt.e rc.e]) := by
  simp only [pwStep, mkPair, pairOf, modelRec_ok ht, modelRec_ok hc]
  rw [Bool.or_assoc, Bool.or_left_comm]
  cases tu <;> rfl

/-- the first pair `(t, c)` of a chain, on both sides; `tail` is the rest of the loop -/
theorem pw_head (c t el : E) (tu au0 : PyUnit) (wc0 : Bool) (acc : List E) (tail : PwSt → Except PyErr PwSt)
    (good : CR → PwSt → Prop)
    (h : ∀ rt rc, Convert.convert reg Γ t tu = .ok rt → Convert.convert reg Γ c (some []) = .ok rc →
      LoopSpec
        (if el = .undef then
          .ok ⟨if (rt.wc || rc.wc) = true then .ite rc.e rt.e .undef else .ite c t .undef, rt.wc || rc.wc, rt.u,
            !(rt.wc || rc.wc)⟩
         else do
          let re ← Convert.convert reg Γ el (some (tu.getD rt.u))
          pure ⟨if (rt.wc || rc.wc || re.wc) = true then .ite rc.e rt.e re.e else .ite c t el,
            rt.wc || rc.wc || re.wc, re.u, !(rt.wc || rc.wc || re.wc)⟩)
        (tail (some (tu.getD rt.u), some rt.u, rt.wc || rc.wc || wc0, acc ++ [mkPair rt.e rc.e])) good) :
    LoopSpec (Convert.convert reg Γ (.ite c t el) tu) ((pwStep reg Γ (mkPair t c) (tu, au0, wc0, acc)).bind tail)
      good := by
  simp only [Convert.convert]
  cases ht : Convert.convert reg Γ t tu with
  | error err => simp only [pwStep, mkPair, pairOf, modelRec_error ht]; exact loopSpec_error.2 rfl
  | ok rt =>
    cases hc : Convert.convert reg Γ c (some []) with
    | error err => simp only [pwStep, mkPair, pairOf, modelRec_ok ht, modelRec_error hc]; exact loopSpec_error.2 rfl
    | ok rc => rw [pwStep_ok reg Γ ht hc]; exact h rt rc ht hc

/-- the loop over all pairs of the chain `ite c t el` (start state arbitrary) = `Convert.convert (ite c t el)`: after
    the first pair the target is `to_units`, or the unit of the first piece, on both sides -/
theorem pw_loop (el : E) : isChain el = true → ∀ (c t : E) (tu au0 : PyUnit) (wc0 : Bool) (acc : List E),
    LoopSpec (Convert.convert reg Γ (.ite c t el) tu)
      (loopM (pwStep reg Γ) (pwArgs (.ite c t el)) ((tu, au0, wc0, acc) : PwSt)) (pwGood wc0 acc) := by
  induction el with
  | undef =>
    intro _ c t tu au0 wc0 acc
    rw [pwArgs, loopM_cons]
    refine pw_head reg Γ c t _ tu au0 wc0 acc _ _ fun rt rc ht hc => ?_
    rw [if_pos rfl, rebuild2 (mk := fun t' c' => E.ite c' t' .undef) (convert_ident ht).2 (convert_ident hc).2]
    exact loopSpec_ok.2 ⟨_, rfl, mkPair rt.e rc.e, [], rfl, rfl⟩
  | ite c' t' el' _ _ ih =>
    intro hch c t tu au0 wc0 acc
    rw [pwArgs, loopM_cons]
    refine pw_head reg Γ c t _ tu au0 wc0 acc _ _ fun rt rc ht hc => ?_
    have IH := ih hch c' t' (some (tu.getD rt.u)) (some rt.u) (rt.wc || rc.wc || wc0) (acc ++ [mkPair rt.e rc.e])
    rw [if_neg E.noConfusion]
    cases hre : Convert.convert reg Γ (.ite c' t' el') (some (tu.getD rt.u)) with
    | error err => rw [hre] at IH; exact IH
    | ok re =>
      rw [hre] at IH
      obtain ⟨s, hs, p, ps, hs2, hmk⟩ := IH
      refine loopSpec_ok.2 ⟨s, hs, mkPair rt.e rc.e, p :: ps, ?_, ?_⟩
      · rw [hs2, List.append_assoc, Bool.or_left_comm, ← Bool.or_assoc]; rfl
      · rw [mkPiecewise_cons, hmk]
        exact (rebuild3 (mk := fun t' c' e' => E.ite c' t' e') (convert_ident ht).2 (convert_ident hc).2
          (convert_ident hre).2).symm
  | _ => intro h; cases h

end
end Cellml.Tie.PConvert
