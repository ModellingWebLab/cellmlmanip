import Cellml.Tie.SingFix

/-! # Tie of the `Add` branch of `_fix_expr_parts`, and the full tie

    Python (generated text in `Cellml/Generated/Code/SingFix.lean`): the terms are analysed one by one; with
    `range` the flat list of the bounds `(Vmin, Vmax)` of all the terms,
    `len(parts) > 1 and len(set(str(sp) …)) == 1 and all(isinstance(b, Quantity) for b in range)` decides between ONE
    window `(min(range), max(range), parts[0].sp)` around the original sum and a term-by-term wrap.
    Model (`C12.fixBody`, `add` case): `C12.sameSp` — at least two terms, the first has a window, every other term has
    a window with the same singular point — and then `C12.mergeAll` (a left fold of `mergeWide`, i.e. nested
    `min2`/`max2` that re-read the running minimum and maximum at every step). -/

namespace Cellml.Tie.Sing
open C12 C12.Expr Cellml.Gen

section
variable {α : Type} [BEq α] [LawfulBEq α]

theorem mem_pySet (l : List α) : ∀ a : α, a ∈ pySet l ↔ a ∈ l := by
  induction l with
  | nil => intro a; simp [pySet]
  | cons b bs ih =>
    intro a
    unfold pySet
    by_cases h : (pySet bs).contains b = true
    · rw [if_pos h]
      have hb : b ∈ bs := (ih b).mp (by simpa using h)
      constructor
      · intro ha; exact List.mem_cons_of_mem _ ((ih a).mp ha)
      · intro ha
        rcases List.mem_cons.mp ha with rfl | ha
        · exact (ih _).mpr hb
        · exact (ih a).mpr ha
    · rw [if_neg h]
      simp only [List.mem_cons, ih]

theorem nodup_pySet (l : List α) : (pySet l).Nodup := by
  induction l with
  | nil => simp [pySet]
  | cons b bs ih =>
    unfold pySet
    by_cases h : (pySet bs).contains b = true
    · rw [if_pos h]; exact ih
    · rw [if_neg h]
      refine List.nodup_cons.mpr ⟨?_, ih⟩
      simpa using h

/-- `len(set(xs)) == 1` for a non-empty list: every element equals the first -/
theorem pySet_length_one (a : α) (as : List α) : ((pySet (a :: as)).length == 1) = as.all (· == a) := by
  have hmem := mem_pySet (a :: as)
  have hnd := nodup_pySet (a :: as)
  rw [Bool.eq_iff_iff]
  simp only [beq_iff_eq, List.all_eq_true]
  constructor
  · intro h1 b hb
    match hs : pySet (a :: as), h1 with
    | [c], _ =>
      rw [hs] at hmem
      have ha : a = c := by simpa using (hmem a).mpr List.mem_cons_self
      have hb' : b = c := by simpa using (hmem b).mpr (List.mem_cons_of_mem _ hb)
      rw [ha, hb']
  · intro hall
    have hall' : ∀ x ∈ pySet (a :: as), x = a := by
      intro x hx
      rcases List.mem_cons.mp ((hmem x).mp hx) with h | h
      · exact h
      · exact hall x h
    match hs : pySet (a :: as) with
    | [] =>
      have : a ∈ pySet (a :: as) := (hmem a).mpr List.mem_cons_self
      rw [hs] at this; cases this
    | [c] => rfl
    | c :: d :: rest =>
      rw [hs] at hall' hnd
      have hc : c = a := hall' c List.mem_cons_self
      have hd : d = a := hall' d (List.mem_cons_of_mem _ List.mem_cons_self)
      rw [hc, hd] at hnd
      simp at hnd

end

/-- the bounds of a list of windows in python's order: `Vmin₁, Vmax₁, Vmin₂, Vmax₂, …` -/
def flatB (ws : List (Win Rat)) : List Rat := ws.flatMap (fun w => [w.vmin, w.vmax])

/-- the model's fold of `mergeWide` re-reads the running `(min, max)` pair at every step (`min2 (min2 m M) …`);
    because `m ≤ M` from the first step on, it is the flat left fold python's `min` / `max` perform -/
theorem mergeAll_flat (s : Win Rat) (ts : List (Win Rat)) :
    mergeAll s ts = ⟨(flatB ts).foldl min2 (min2 s.vmin s.vmax), (flatB ts).foldl max2 (max2 s.vmin s.vmax), s.sp⟩ := by
  induction ts generalizing s with
  | nil => rfl
  | cons t ts ih =>
    rw [mergeAll, ih]
    have hle : (mergeWide s t).vmin ≤ (mergeWide s t).vmax := by
      simp only [mergeWide, min2_eq, max2_eq, min_le_iff, le_max_iff, le_refl, true_or]
    have h1 : min2 (mergeWide s t).vmin (mergeWide s t).vmax = (mergeWide s t).vmin := by
      rw [min2_eq]; exact min_eq_left hle
    have h2 : max2 (mergeWide s t).vmin (mergeWide s t).vmax = (mergeWide s t).vmax := by
      rw [max2_eq]; exact max_eq_right hle
    rw [h1, h2]
    simp [flatB, mergeWide]

theorem bounds5_enc (rs : List Res) :
    bounds5 (rs.map enc) = (rs.map (·.win)).flatMap (fun o => [o.map (·.vmin), o.map (·.vmax)]) := by
  simp [bounds5, enc, List.flatMap_map]

theorem spStrs_enc (rs : List Res) : spStrs (rs.map enc) = (rs.map (·.win)).map (fun o => o.map (·.sp)) := by
  simp [spStrs, enc, List.map_map, Function.comp_def]

theorem all_some_bounds (os : List (Option (Win Rat))) :
    (os.flatMap (fun o => [o.map (·.vmin), o.map (·.vmax)])).all (fun b => b.isSome) = os.all (·.isSome) := by
  induction os with
  | nil => rfl
  | cons o os ih => cases o <;> simp [ih]

theorem filterMap_bounds (ws : List (Win Rat)) :
    (((ws.map some).flatMap (fun o => [o.map (·.vmin), o.map (·.vmax)])).filterMap id) = flatB ws := by
  induction ws with
  | nil => rfl
  | cons w ws ih => simp [flatB] at ih ⊢; exact ih

theorem exists_wins (os : List (Option (Win Rat))) (h : os.all (·.isSome) = true) :
    ∃ ws : List (Win Rat), os = ws.map some := by
  induction os with
  | nil => exact ⟨[], rfl⟩
  | cons o os ih =>
    simp only [List.all_cons, Bool.and_eq_true] at h
    obtain ⟨ws, rfl⟩ := ih h.2
    cases o with
    | none => simp at h
    | some w => exact ⟨w :: ws, rfl⟩

theorem all_wins (f : Res → Bool) (g : Win Rat → Bool) (hf : ∀ x w', x.win = some w' → f x = g w') :
    ∀ (l : List Res) (vs : List (Win Rat)), l.map (·.win) = vs.map some → l.all f = vs.all g := by
  intro l
  induction l with
  | nil => intro vs h; cases vs with
    | nil => rfl
    | cons v vs => simp at h
  | cons x l ih =>
    intro vs h
    cases vs with
    | nil => simp at h
    | cons v vs =>
      have h' := List.cons.inj h
      simp only [List.all_cons]
      rw [hf x v h'.1, ih vs h'.2]

/-- `sameSp` reads the windows only -/
theorem sameSp_wins (r : Res) (tl : List Res) (w : Win Rat) (ws : List (Win Rat)) (hw : r.win = some w)
    (hne : tl ≠ []) (hws : tl.map (·.win) = ws.map some) :
    sameSp (r :: tl) = if ws.all (fun w' => w'.sp == w.sp) then some (mergeAll w ws) else none := by
  obtain ⟨t, tl', rfl⟩ := List.exists_cons_of_ne_nil hne
  have h2 : (t :: tl').filterMap (·.win) = ws := by
    have : (t :: tl').filterMap (·.win) = ((t :: tl').map (·.win)).filterMap id := by rw [List.filterMap_map]; rfl
    rw [this, hws, List.filterMap_map]; simp
  simp only [sameSp, hw]
  rw [h2]
  congr 2
  apply all_wins _ _ ?_ _ _ hws
  intro x w' hx
  simp [hx]

/-- **the `if` of the `Add` branch.** On the python spelling of any list of model results: the condition
    `len(parts) > 1 and len(set(str(sp) …)) == 1 and all(isinstance(b, Quantity) for b in range)` holds exactly when
    `C12.sameSp` finds a common window, and then `min(range)`, `max(range)`, `parts[0][2]` are its `vmin`, `vmax`,
    `sp` (`C12.mergeAll`) -/
theorem sameSp_py (rs : List Res) :
    (decide ((rs.map enc).length > 1) && ((pySet (spStrs (rs.map enc))).length == 1)
        && (bounds5 (rs.map enc)).all (fun b => b.isSome)) = (sameSp rs).isSome ∧
    ∀ w, sameSp rs = some w →
      pyMin (bounds5 (rs.map enc)) = some w.vmin ∧ pyMax (bounds5 (rs.map enc)) = some w.vmax ∧
      ((rs.map enc).headD pyResDefault).2.2.1 = some w.sp := by
  match rs with
  | [] => simp [sameSp]
  | [r] => simp [sameSp]
  | r :: r' :: rs' =>
    rw [bounds5_enc, spStrs_enc, all_some_bounds]
    by_cases hall : ((r :: r' :: rs').map (·.win)).all (·.isSome) = true
    · obtain ⟨ws0, hws0⟩ := exists_wins _ hall
      match ws0, hws0 with
      | w :: ws, hws0 =>
        have hw : r.win = some w := (List.cons.inj hws0).1
        have hws : (r' :: rs').map (·.win) = ws.map some := (List.cons.inj hws0).2
        have hs := sameSp_wins r (r' :: rs') w ws hw (by simp) hws
        rw [hs, hall]
        have hset : ((pySet (((r :: r' :: rs').map (·.win)).map (fun o => o.map (·.sp)))).length == 1)
            = ws.all (fun w' => w'.sp == w.sp) := by
          have : ((r :: r' :: rs').map (·.win)).map (fun o => o.map (·.sp))
              = some w.sp :: ws.map (fun w' => some w'.sp) := by
            rw [List.map_cons, hw, hws]
            simp [List.map_map, Function.comp_def]
          rw [this, pySet_length_one, List.all_map]
          congr 1
        rw [hset]
        refine ⟨by cases h : ws.all (fun w' => w'.sp == w.sp) <;> simp [], ?_⟩
        intro m hm
        split at hm
        · have hm' := Option.some.inj hm
          have hb : ((r :: r' :: rs').map (·.win)) = (w :: ws).map some := by
            rw [List.map_cons, hw, hws]; rfl
          rw [hb]
          unfold pyMin pyMax
          rw [filterMap_bounds, ← hm', mergeAll_flat]
          simp [flatB, enc, hw]
        · cases hm
    · have hnone : sameSp (r :: r' :: rs') = none := by
        cases hw : r.win with
        | none => simp [sameSp, hw]
        | some w =>
          simp only [sameSp, hw]
          rw [if_neg]
          intro hc
          apply hall
          rw [List.map_cons, List.all_cons, hw]
          simp only [Option.isSome_some, Bool.true_and]
          rw [List.all_map]
          rw [List.all_eq_true] at hc ⊢
          intro x hx
          have := hc x hx
          cases hx' : x.win with
          | none => simp [hx'] at this
          | some _ => simp [hx']
      rw [hnone]
      simp only [Bool.not_eq_true] at hall
      rw [hall]
      simp

theorem foldl_append_map {α β : Type} (l : List α) (f : α → β) (acc : List β) :
    l.foldl (fun s a => s ++ [f a]) acc = acc ++ l.map f := by
  induction l generalizing acc with
  | nil => simp
  | cons a as ih => rw [List.foldl_cons, ih]; simp

theorem dropOnes_of_not_mul (e : Expr) (h : isMul e = false) : dropOnes e = e := by
  cases e <;> first | rfl | simp [isMul] at h

theorem dropOnes_of_mul (e : Expr) (h : isMul e = true) :
    mkMul (List.map (fun a => a) (List.filter (fun a => !(a.isOne && unitless a)) (args e))) = dropOnes e := by
  cases e <;> first | exact dropOnes_filter _ | simp [isMul] at h

/-- **Tie of `_fix_expr_parts` (open recursion), every branch.**
    For every detector `det` (`_get_singularity`), every value `rec` of the recursive calls and every expression `e`,
    the definition generated from `_fix_expr_parts` never raises and returns the python spelling of the hand model's
    `if !e.hasExp then ⟨none, e, false⟩ else fixBody det rec (dropOnes e)` — the body of `C12.fixParts`.
    The hypothesis `hcanon` (when the ones-free form is a product it has at least two factors) is
    needed: SymPy never holds a `Mul` with fewer arguments, python's `Mul(*[x])` IS `x`, the model's
    `mul [x]` is a node (`example` at the end of `Tie/SingFix.lean` gives the input on which they differ). -/
theorem fixExprParts_tie (det : List Expr → List (Win Rat)) (rec : Expr → Res) (e : Expr)
    (hcanon : ∀ as, dropOnes e = mul as → 2 ≤ as.length) :
    SingFix.fixExprParts det (fun x => enc (rec x)) e
      = .ok (enc (if e.hasExp then fixBody det rec (dropOnes e) else ⟨none, e, false⟩)) := by
  unfold SingFix.fixExprParts
  by_cases h : e.hasExp = true
  swap
  · simp [h, pure, Except.pure, enc]
  simp only [except_run, Py.truthy_bool, h, Bool.not_true, Bool.false_eq_true, if_false,
    if_true]
  -- both branches of `if isinstance(expr, Mul)` run the same code on a variable `x`: the hole is that code, filled in by
  -- unification at the first use, so the analysis of `x` below is written and checked once
  suffices key : (fun B : Expr → Except PyErr PyRes =>
      ∀ x, (∀ as, x = mul as → 2 ≤ as.length) → B x = .ok (enc (fixBody det rec x))) _ by
    by_cases hm : isMul e = true
    · simp only [hm, if_true, dropOnes_of_mul e hm]
      generalize hx : dropOnes e = x
      exact key x (hx ▸ hcanon)
    · have he := dropOnes_of_not_mul e (by simpa using hm)
      rw [he, if_neg hm]
      exact key e (he ▸ hcanon)
  clear hcanon
  intro x hx
  beta_reduce
  cases x with
  | add bs =>
    simp only [isAdd, args_add, if_true, forIn_ok_yield, foldl_append_map, List.nil_append]
    rw [show List.map (fun a => enc (rec a)) bs = (bs.map rec).map enc by simp [List.map_map]]
    simp only [fixBody]
    generalize bs.map rec = rs
    obtain ⟨hc, hv⟩ := sameSp_py rs
    rw [hc]
    cases hs : sameSp rs with
    | some w =>
      obtain ⟨h1, h2, h3⟩ := hv w hs
      rw [if_pos (by rfl), h1, h2, h3]
      rfl
    | none =>
      simp only [Option.isSome_none, Bool.false_eq_true, if_false]
      rw [foldl_parts]
      simp only [List.nil_append, Bool.false_or, List.map_map, List.any_map, Function.comp_def, genPw_enc,
        touched_enc]
      rfl
  | mul bs =>
    have hb : 2 ≤ bs.length := hx bs rfl
    simp only [isAdd, isPow, isMul_mul, args_mul, Bool.false_eq_true, if_false, Bool.false_and, if_true]
    simp only [fixBody]
    obtain ⟨l, hl⟩ : ∃ l, det bs = l := ⟨_, rfl⟩
    simp only [hl]
    match l with
    | [] =>
      simp only [List.map_nil, List.length_nil, forIn_ok_yield, foldl_parts, genPw_enc, touched_enc]
      simp [enc, mkMul_two, hb, Function.comp_def, List.any_map]
    | [w] => simp [winTuple, enc]
    | w :: w' :: ws =>
      -- python's `for … in singularities[1:]: expr = _generate_piecewise(expr, …)` is the model's `ws.foldl wrapWin`
      simp [forIn_ok_yield, enc, List.foldl_map, genPw_winTuple]
      simp [winTuple]
  | pow b k =>
    by_cases hk : k = -1
    · subst hk
      simp [isAdd, isPow, args, arg0, powExp, fixBody, enc, genPw_res, Res.touched]
    · simp [isAdd, isPow, isMul, args, powExp, fixBody, hk, enc]
  | _ => simp [isAdd, isPow, isMul, fixBody, enc]

/-- the hand model `fixParts` is a fixpoint of the functional generated from the source of `_fix_expr_parts` -/
theorem fixParts_fixpoint (det : List Expr → List (Win Rat)) (n : Nat) (e : Expr)
    (hcanon : ∀ as, dropOnes e = mul as → 2 ≤ as.length) :
    SingFix.fixExprParts det (fun x => enc (fixParts det n x)) e = .ok (enc (fixParts det (n + 1) e)) := by
  rw [fixExprParts_tie det _ e hcanon]
  unfold fixParts
  by_cases h : e.hasExp = true <;> simp [h]

set_option linter.unusedVariables false in
/-- the tie on the expressions whose ones-free form is not a sum -/
theorem fixExprParts_tie_partial (det : List Expr → List (Win Rat)) (rec : Expr → Res) (e : Expr)
    (hna : isAdd (dropOnes e) = false) (hcanon : ∀ as, dropOnes e = mul as → 2 ≤ as.length) :
    SingFix.fixExprParts det (fun x => enc (rec x)) e
      = .ok (enc (if e.hasExp then fixBody det rec (dropOnes e) else ⟨none, e, false⟩)) :=
  fixExprParts_tie det rec e hcanon

set_option linter.unusedVariables false in
theorem fixParts_fixpoint_partial (det : List Expr → List (Win Rat)) (n : Nat) (e : Expr)
    (hna : isAdd (dropOnes e) = false) (hcanon : ∀ as, dropOnes e = mul as → 2 ≤ as.length) :
    SingFix.fixExprParts det (fun x => enc (fixParts det n x)) e = .ok (enc (fixParts det (n + 1) e)) :=
  fixParts_fixpoint det n e hcanon

end Cellml.Tie.Sing
