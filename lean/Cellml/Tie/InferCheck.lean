import Cellml.Generated.Code.Infer

/-! # Tie: `UnitCalculator._is_dimensionless` and `UnitCalculator._check_unit_of_quantities_equal` (generated from
    units.py) = `Infer.isDimless` and the comparison `Infer.sameUnits` of `Infer.finish` (hand model, Expr/Infer.lean;
    the functions `sameUnits_iff_sem`, `isDimless_iff_dims`, `infer_*` of Props/C04.lean speak about) -/

namespace Cellml.Tie.PInfer
open Units

/-- `_is_dimensionless(q)` is the model's `isDimless` of the units of `q`, for every registry and quantity
    (it never raises). -/
theorem isDimensionless_tie (v : TravView) (q : Q) :
    Gen.Infer.isDimensionless v q = .ok (_root_.Infer.isDimless v.reg q.2) := by
  unfold Gen.Infer.isDimensionless _root_.Infer.isDimless TravView.dimensionality Py.noDimension
  simp only [pure, Except.pure, BEq.beq, PMap.beq, PMap.isZero, PMap.norm]
  congr

/-- the model's reading of `_check_unit_of_quantities_equal`: every later quantity has units `is_equivalent` to those
    of the first (this is the condition of `Infer.finish`) -/
def checkModel (reg : Registry) : List Q → Bool
  | [] => true
  | q :: rest => rest.all (fun r => _root_.Infer.sameUnits reg q.2 r.2)

/-- `_check_unit_of_quantities_equal(qs)` is `checkModel`, for every registry and list (it never raises). -/
theorem checkUnit_tie (v : TravView) (qs : List Q) :
    Gen.Infer.checkUnitOfQuantitiesEqual v qs = .ok (checkModel v.reg qs) := by
  unfold Gen.Infer.checkUnitOfQuantitiesEqual checkModel
  cases qs with
  | nil => simp [Py.nextOrTrue, pure, Except.pure]
  | cons q rest =>
    simp only [Py.nextOrTrue, pure, Except.pure, Py.unitsOfFirst, TravView.baseUnits, Py.isclose, Py.truthy_bool,
      _root_.Infer.sameUnits, isEquivalent, BEq.beq]
    congr 1
    congr 1
    funext r
    exact Bool.and_comm _ _

/-- `Infer.finish` (the check of `Add` / `Piecewise` in the model) is: the first quantity if the generated check
    accepts the list, `InputArgumentsInvalidUnitsError` otherwise. -/
theorem finish_eq_check (reg : Registry) (q : Q) (rest : List Q) :
    _root_.Infer.finish reg (q :: rest) =
      if checkModel reg (q :: rest) then .ok q else .error .argsInvalidUnits := by
  simp only [_root_.Infer.finish, checkModel]
  congr

end Cellml.Tie.PInfer
