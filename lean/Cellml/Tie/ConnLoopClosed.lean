import Cellml.Tie.ConnLoop
import Cellml.C17.Worklist
import Cellml.Tie.ExceptRun

/-! # The CLOSED `while connections_to_process:` loop of `Parser._add_connections` over the GENERATED body

    `while <generated test>: <generated body>` as a total function, by well-founded recursion on the termination measure
    of the hand model, `(|deque|, |deque| + 1 − unchanged_loop_count)`: that the generated body decreases it whenever it
    returns is proved THROUGH the body tie of `Tie/ConnLoop.lean`. The closed loop is `Load.connectLoop` (results and
    exception classes), and the translator's own rendering of a `while` (`Py.whileUpTo`) reaches its result within
    `C17.stepBound |deque| unch` iterations.

    `genConnect` starts at `unchanged_loop_count = 0` on `Load.initState vt`, a LEAF: what `Model.add_variable` leaves
    (a variable without an `in` interface is its own `assigned_to`). The other start values come from the generated
    set-up part: `genAddConnections_eq` (Tie/LoaderGen.lean). -/

namespace Cellml.Tie.GenA
open Load Cellml.Gen Cellml.Tie

theorem test_cons (c : VRef × VRef) (rest : List (VRef × VRef)) : ConnLoop.addConnectionsBody_test (c :: rest) = true := rfl
theorem test_nil : ConnLoop.addConnectionsBody_test ([] : List (VRef × VRef)) = false := rfl

theorem body_ok_shape {reg : Registry} {vt : VarTable} {dq dq' : List (VRef × VRef)} {unch unch' : Nat}
    {st st' : CState}
    (h : ConnLoop.addConnectionsBody (connLoopView reg vt) dq unch st = .ok (dq', unch', st')) :
    (dq'.length + 1 = dq.length ∧ unch' = 0) ∨ (dq'.length = dq.length ∧ unch' = unch + 1 ∧ unch' ≤ dq'.length) := by
  rw [connLoop_body_tie] at h
  unfold modelIter at h
  cases dq with
  | nil => cases h
  | cons c rest =>
    simp only at h
    cases hs : stepConn reg vt st c with
    | error e => rw [hs] at h; cases h
    | ok o =>
      rw [hs] at h
      cases o with
      | none =>
        simp only at h
        split at h
        · rename_i hlt
          simp only [Except.ok.injEq, Prod.mk.injEq] at h
          obtain ⟨rfl, rfl, rfl⟩ := h
          right
          exact ⟨by simp, rfl, hlt⟩
        · cases h
      | some s' =>
        simp only [Except.ok.injEq, Prod.mk.injEq] at h
        obtain ⟨rfl, rfl, rfl⟩ := h
        left; simp

/-- the `assert` at the end of the generated body re-establishes the invariant of the model loop -/
theorem body_ok_inv {reg : Registry} {vt : VarTable} {dq dq' : List (VRef × VRef)} {unch unch' : Nat}
    {st st' : CState}
    (h : ConnLoop.addConnectionsBody (connLoopView reg vt) dq unch st = .ok (dq', unch', st')) :
    unch' ≤ dq'.length := by
  rcases body_ok_shape h with ⟨_, h0⟩ | ⟨_, _, h1⟩
  · omega
  · exact h1

/-- TERMINATION of the python loop, on the generated body: the measure of `Load.connectLoop` decreases -/
theorem body_decreases {reg : Registry} {vt : VarTable} {dq dq' : List (VRef × VRef)} {unch unch' : Nat}
    {st st' : CState}
    (h : ConnLoop.addConnectionsBody (connLoopView reg vt) dq unch st = .ok (dq', unch', st')) :
    Prod.Lex (· < ·) (· < ·) (dq'.length, dq'.length + 1 - unch') (dq.length, dq.length + 1 - unch) := by
  rcases body_ok_shape h with ⟨h1, _⟩ | ⟨h1, h2, h3⟩
  · apply Prod.Lex.left; omega
  · apply Prod.Lex.right'
    · omega
    · omega

/-- **the `while connections_to_process:` loop over the generated test and the generated body** -/
def genConnectLoop (reg : Registry) (vt : VarTable) (dq : List (VRef × VRef)) (unch : Nat) (st : CState) :
    Except PyErr CState :=
  if ConnLoop.addConnectionsBody_test dq = true then
    match hb : ConnLoop.addConnectionsBody (connLoopView reg vt) dq unch st with
    | .error e => .error e
    | .ok (dq', unch', st') => genConnectLoop reg vt dq' unch' st'
  else .ok st
termination_by (dq.length, dq.length + 1 - unch)
decreasing_by exact body_decreases hb

/-- `_add_connections` from the statement `unchanged_loop_count = 0` on, given the directed connections -/
def genConnect (reg : Registry) (vt : VarTable) (l : List (VRef × VRef)) : Except PyErr CState :=
  genConnectLoop reg vt l 0 (initState vt)

theorem genConnectLoop_eq (reg : Registry) (vt : VarTable) (dq : List (VRef × VRef)) (unch : Nat) (st : CState) :
    ∀ h : unch ≤ dq.length,
      genConnectLoop reg vt dq unch st = errClass Err.className (connectLoop reg vt dq unch h st) := by
  intro h
  fun_induction genConnectLoop reg vt dq unch st
  -- the body raises
  case case1 dq unch st ht e hb =>
    cases dq with
    | nil => cases ht
    | cons c rest => rw [connectLoop_cons, hb]
  -- the body returns: its `assert` has kept the counter within the deque
  case case2 dq unch st ht dq' unch' st' hb ih =>
    cases dq with
    | nil => cases ht
    | cons c rest =>
      rw [connectLoop_cons, hb]
      simp only [dif_pos (body_ok_inv hb)]
      exact ih _
  -- the deque is empty
  case case3 dq unch st ht =>
    cases dq with
    | nil => rw [Cellml.Tie.connectLoop_nil]; rfl
    | cons c rest => exact absurd (test_cons c rest) ht

theorem genConnect_eq (reg : Registry) (vt : VarTable) (l : List (VRef × VRef)) :
    genConnect reg vt l = errClass Err.className (connect reg vt l) :=
  genConnectLoop_eq reg vt l 0 (initState vt) (Nat.zero_le _)

theorem errClass_isOk_iff {ε α : Type} (cls : ε → String) (x : Except ε α) :
    (∃ a, errClass cls x = .ok a) ↔ ∃ a, x = .ok a :=
  exists_congr (errClass_eq_ok cls x)

theorem errClass_isErr_iff {ε α : Type} (cls : ε → String) (x : Except ε α) :
    (∃ e, errClass cls x = .error e) ↔ ∃ e, x = .error e := by
  cases x <;> simp [errClass]

theorem genConnect_ok_iff (reg : Registry) (vt : VarTable) (l : List (VRef × VRef)) (st : CState) :
    genConnect reg vt l = .ok st ↔ connect reg vt l = .ok st := by
  rw [genConnect_eq, errClass_eq_ok]

/-- the loop state of the python `while` as one value -/
abbrev LoopSt := List (VRef × VRef) × Nat × CState

/-- the python `while` over the generated test and body, cut off after `fuel` iterations -/
def genConnectWhile (reg : Registry) (vt : VarTable) (fuel : Nat) (s : LoopSt) : Except PyErr LoopSt :=
  Py.whileUpTo fuel (fun s : LoopSt => ConnLoop.addConnectionsBody_test s.1)
    (fun s : LoopSt => ConnLoop.addConnectionsBody (connLoopView reg vt) s.1 s.2.1 s.2.2) s

/-- with `stepBound |deque| unch` iterations the fuelled loop has FINISHED (its result is the one of the closed loop, on
    an empty deque — so the test is false and more fuel changes nothing) -/
theorem whileUpTo_genConnectLoop (reg : Registry) (vt : VarTable) : ∀ (fuel : Nat) (dq : List (VRef × VRef)) (unch : Nat)
    (st : CState), unch ≤ dq.length → C17.stepBound dq.length unch ≤ fuel →
    ∃ u, genConnectWhile reg vt fuel (dq, unch, st) =
      (genConnectLoop reg vt dq unch st).map (fun st' => (([] : List (VRef × VRef)), u, st')) := by
  intro fuel
  induction fuel with
  | zero => intro dq unch st hu hf; simp [C17.stepBound] at hf
  | succ fuel ih =>
    intro dq unch st hu hf
    cases dq with
    | nil =>
      refine ⟨unch, ?_⟩
      rw [genConnectLoop, if_neg (by simp [test_nil])]
      simp [genConnectWhile, Py.whileUpTo, test_nil, Except.map]
    | cons c rest =>
      rw [genConnectLoop, if_pos (test_cons c rest)]
      simp only [genConnectWhile, Py.whileUpTo, test_cons, if_true]
      cases hb : ConnLoop.addConnectionsBody (connLoopView reg vt) (c :: rest) unch st with
      | error e =>
        refine ⟨0, ?_⟩
        split <;> rename_i heq
        · cases heq; simp [except_run]
        · cases heq
      | ok r =>
        obtain ⟨dq', unch', st'⟩ := r
        have hinv := body_ok_inv hb
        have hfuel : C17.stepBound dq'.length unch' ≤ fuel := by
          rcases body_ok_shape hb with ⟨h1, h2⟩ | ⟨h1, h2, h3⟩
          · have hl : rest.length = dq'.length := by simp only [List.length_cons] at h1; omega
            subst h2
            simp only [C17.stepBound, List.length_cons, C17.tri, hl] at hf hu ⊢
            omega
          · simp only [C17.stepBound] at hf hu ⊢
            rw [h1, h2]
            omega
        obtain ⟨u, hu'⟩ := ih dq' unch' st' hinv hfuel
        refine ⟨u, ?_⟩
        split <;> rename_i heq
        · cases heq
        · simp only [Except.ok.injEq, Prod.mk.injEq] at heq
          obtain ⟨rfl, rfl, rfl⟩ := heq
          simp only [except_run]
          exact hu'

end Cellml.Tie.GenA
