import Cellml.Generated.Code.NumPipe
import Cellml.Tie.ExceptRun

/-! # Tie: the number pipeline after the parser (generated from cellmlmanip/model.py, parser.py, printer.py)
      = the stage functions of `C14/Pipeline.lean`

    | python                              | generated                    | model stage (`C14.…`)            | theorem |
    |-------------------------------------|------------------------------|----------------------------------|---------|
    | `Quantity.__new__`                  | `quantityNew`                | (the name; no stage reads it)    | `quantityNew_tie` |
    | `Quantity.__init__`                 | `quantityInit`               | `quantityValue` (the stored `_value`) | `quantityInit_tie` |
    | `Quantity(value, units)`            | `construct quantityNew quantityInit` | `quantityValue`          | `construct_tie` |
    | `Quantity.__float__`                | `quantityFloat`              | `quantityValue` / `initialValue` | `quantityFloat_tie`, `quantityFloat_str_tie` |
    | `Quantity._eval_evalf`              | `quantityEvalEvalf`          | first rounding of `evalfStage`   | `quantityEvalEvalf_tie` |
    | `q.evalf(FLOAT_PRECISION)`, `float` | `sympyEvalf (quantityEvalEvalf q) floatPrecision` | `strippedValue` | `evalf_float_tie`, `stripped_tie` |
    | `Model.create_quantity`             | `createQuantity`             | `quantityValue`                  | `createQuantity_tie`, `createQuantity_value` |
    | `Variable.__init__`                 | `variableInit`               | `initialValue`                   | `variableInit_tie`, `variableInit_initial` |
    | `Parser.transform_constants`        | `transformConstants`         | `quantityValue` of the constant  | `transformConstants_tie`, `tcStep_constant` |
    | `Model._get_value`                  | `getValueRec`, `getValue`    | `getValue`                       | `getValueRec_state_tie`, `getValueRec_quantity_tie`, `getValue_tie` |
    | `Model.graph_with_sympy_numbers`    | `graphWithSympyNumbers`      | `strippedValue` of every Quantity| `graphNum_cached`; `graphNum_all`, `graphNum_single` in `Tie/NumPipeAll.lean` |
    | `Printer._print_float/_Float/_int`  | `printFloat`, `printFloatS`, `printInt` | `Emits`, `renderInt`    | `printFloat_tie`, `printFloatS_tie`, `printInt_tie` |
    | `FLOAT_PRECISION`                   | `Cellml.Gen.floatPrecision`  | the precisions of the header of `C14/Pipeline.lean` (60 / 216 bits) | `floatPrecision_tie` |

    Each tie holds for all arguments of the path it names and for every reading `v : PView` of the leaves without a
    model. `_get_value` is tied on two paths only: a state variable (`getValueRec_state_tie`) and a variable defined by
    a bare Quantity (`getValueRec_quantity_tie`); `expand_derivatives` only on expressions without derivatives.

    `transform_constants`, `graph_with_sympy_numbers` and `_get_value` are translated a second time with the numbers
    abstracted away: `Tie/LoaderConsts.lean` (C17; its own `tcStep`, `transformConstants_tie`), `Tie/GraphNum.lean`
    (C09; its own `graphNum_cached`), `Tie/RolesValue.lean` (C10). -/

namespace Cellml.Tie.PNumPipe
open C14 Cellml.Gen Cellml.Gen.NumPipe

/-- **`Quantity.__new__`**: the new Dummy is named `'_' + '{:g}'.format(value)` for a float, `'_' + value` for a str —
    result for ALL values. No stage of the pipeline reads the name. -/
theorem quantityNew_tie (v : PView) (x : PyVal) :
    quantityNew v x = .ok (newDummy v ("_" ++ (match x with | .flt b => v.fmtG b | .str s => s)) true) := by
  cases x <;> rfl

/-- **`Quantity.__init__`**: stores the value OBJECT (`C14.quantityValue` is the identity) and the units; nothing else,
    and never raises. -/
theorem quantityInit_tie (q : QObj) (x : PyVal) (u : UArg) :
    quantityInit q x u = .ok { q with _value := some x, units := some u } := rfl

/-- python's `Quantity(value, units)` over the two generated methods -/
theorem construct_tie (v : PView) (x : PyVal) (u : UArg) :
    construct (quantityNew v) quantityInit x u
      = .ok { newDummy v ("_" ++ (match x with | .flt b => v.fmtG b | .str s => s)) true with
              _value := some x, units := some u } := by
  unfold construct; rw [quantityNew_tie]; rfl

/-- **`Quantity.__float__`** on a stored float = `C14.quantityValue` -/
theorem quantityFloat_tie (q : QObj) (b : Nat) (h : q._value = some (.flt b)) :
    quantityFloat q = .ok (quantityValue b) := by
  unfold quantityFloat attrValue; rw [h]; rfl

/-- `Quantity.__float__` on a stored text = ONE parse, `C14.initialValue` (python: `create_quantity('1.5', u)`) -/
theorem quantityFloat_str_tie (q : QObj) (s : String) (h : q._value = some (.str s)) :
    quantityFloat q = (match initialValue s.toList with | some b => .ok b | none => .error ⟨"ValueError"⟩) := by
  unfold quantityFloat attrValue; rw [h]
  simp only [except_run, pyFloat, initialValue]
  cases decToBitsL s.toList <;> rfl

/-- `Quantity.__float__` before `__init__`: AttributeError -/
theorem quantityFloat_unset (q : QObj) (h : q._value = none) : quantityFloat q = .error ⟨"AttributeError"⟩ := by
  unfold quantityFloat attrValue; rw [h]; rfl

/-- **`Quantity._eval_evalf(prec)`** = `sympy.Float(self._value, prec)`: for ALL objects and precisions -/
theorem quantityEvalEvalf_tie (q : QObj) (prec : Nat) :
    quantityEvalEvalf q prec = (match q._value with
      | some x => sympyFloat x prec
      | none => .error ⟨"AttributeError"⟩) := by
  unfold quantityEvalEvalf attrValue
  cases q._value with
  | none => rfl
  | some x =>
    simp only [except_run]

/-- **`float(q.evalf(fp))`** — the generated `_eval_evalf` inside sympy's `evalf`, then `Float.__float__` — is
    `C14.evalfStage fp` of the stored double, for EVERY precision `fp` and every bit pattern -/
theorem evalf_float_tie (q : QObj) (b fp : Nat) (h : q._value = some (.flt b)) :
    ∃ s, sympyEvalf (quantityEvalEvalf q) fp = .ok s ∧ floatOfSNum s = evalfStage fp b := by
  unfold sympyEvalf
  rw [quantityEvalEvalf_tie, h]
  unfold sympyFloat evalfStage
  by_cases hf : isFiniteBits b = true
  · simp only [hf, Bool.not_true, Bool.false_eq_true, if_false]
    by_cases hz : (decodeScaled (magOf b)).1 = 0
    · simp only [hz, if_true]; refine ⟨_, rfl, ?_⟩; rfl
    · simp only [hz, if_false]
      refine ⟨_, rfl, ?_⟩; rfl
  · have hf' : isFiniteBits b = false := by simpa using hf
    simp only [hf', Bool.not_false, if_true]
    refine ⟨_, rfl, ?_⟩; rfl

/-- at the generated constant: `C14.strippedValue` of `C14.quantityValue` -/
theorem stripped_tie (q : QObj) (b : Nat) (h : q._value = some (.flt b)) :
    ∃ s, sympyEvalf (quantityEvalEvalf q) Cellml.Gen.floatPrecision = .ok s ∧
      floatOfSNum s = strippedValue (quantityValue b) :=
  evalf_float_tie q b _ h

/-- **`FLOAT_PRECISION`** gives the binary precisions the model's header documents for sympy 1.14: `evalf` asks for 60
    bits, the `Float` inside `_eval_evalf` holds 216. With `FLOAT_PRECISION = 15` the figures would be 53 / 193,
    which still hold every double: only this theorem depends on the literal 17. -/
theorem floatPrecision_tie : evalfPrec Cellml.Gen.floatPrecision = 60 ∧ innerPrec Cellml.Gen.floatPrecision = 216 := by
  decide +kernel

/-- **`Model.create_quantity`** for ALL arguments: the unit look-up for a name (its exception propagates), then the
    constructor -/
theorem createQuantity_tie (v : PView) (x : PyVal) (u : UArg) :
    createQuantity v x u = (match u with
      | .unit _ => construct (quantityNew v) quantityInit x u
      | .name s => match v.getUnit s with
        | .ok u' => construct (quantityNew v) quantityInit x (.unit u')
        | .error e => .error e) := by
  unfold createQuantity
  cases u with
  | unit s =>
    simp only [UArg.isUnit, Py.truthy_bool, Bool.not_true, Bool.false_eq_true, if_false, except_run]
  | name s =>
    simp only [UArg.isUnit, Py.truthy_bool, Bool.not_false, if_true, except_run, getUnitArg]
    cases v.getUnit s with
    | error e => rfl
    | ok u' => simp only [construct_tie]

/-- whatever `create_quantity` returns holds the value object it was given: no `float()`, no rounding, no snapping -/
theorem createQuantity_value (v : PView) (x : PyVal) (u : UArg) (q : QObj) (h : createQuantity v x u = .ok q) :
    q._value = some x := by
  rw [createQuantity_tie] at h
  cases u with
  | unit s => simp only [construct_tie] at h; injection h with h; rw [← h]
  | name s =>
    simp only at h
    cases hg : v.getUnit s with
    | error e => rw [hg] at h; cases h
    | ok u' => rw [hg] at h; simp only [construct_tie] at h; injection h with h; rw [← h]

/-- `create_quantity` only fails in the unit look-up -/
theorem createQuantity_unit_ok (v : PView) (x : PyVal) (s : String) : ∃ q, createQuantity v x (.unit s) = .ok q := by
  rw [createQuantity_tie]; simp only [construct_tie]; exact ⟨_, rfl⟩

/-- **`Variable.__init__`** for ALL arguments: `initial_value` is `None`, or ONE `float()` of what was given (the text of
    the attribute ↦ `C14.initialValue`; ValueError for a text that is no number, and then no object) -/
theorem variableInit_tie (x : VObj) (name : Option String) (units : Option UArg) (model : Option Nat)
    (iv : Option PyVal) (pub priv : Option String) (order : Option Nat) (cm : Option String) :
    variableInit x name units model iv pub priv order cm =
      (match iv with
        | none => (Except.ok none : Except PyErr (Option PyVal))
        | some t => (match pyFloat t with | .ok b => Except.ok (someFlt b) | .error e => Except.error e)).bind fun ivv =>
      Except.ok { x with
        _model := model, name := name, units := units, initial_value := ivv, public_interface := pub
        private_interface := priv
        assigned_to := (if !(priv == some "in" || pub == some "in") then some x.id else none)
        order_added := order, _cmeta_id := cm, _rdf_identity := none, type := none } := by
  unfold variableInit
  cases iv with
  | none =>
    simp only [Option.isNone_none, if_true, except_run, Py.truthy_bool]
    split <;> rfl
  | some t =>
    simp only [Option.isNone_some, Bool.false_eq_true, if_false, except_run, pyFloatOpt,
      Py.truthy_bool]
    cases pyFloat t with
    | error e => rfl
    | ok b => simp only []; split <;> rfl

/-- the `initial_value` ATTRIBUTE TEXT: the variable holds `C14.initialValue text` -/
theorem variableInit_initial (x : VObj) (name : Option String) (units : Option UArg) (model : Option Nat)
    (text : String) (pub priv : Option String) (order : Option Nat) (cm : Option String) :
    (variableInit x name units model (some (.str text)) pub priv order cm).map (·.initial_value)
      = (match initialValue text.toList with
          | some b => .ok (some (.flt b))
          | none => .error ⟨"ValueError"⟩) := by
  rw [variableInit_tie]
  simp only [pyFloat, initialValue]
  cases decToBitsL text.toList <;> rfl

/-- one round of the loop of `transform_constants` (what the generated body does to the model for one variable) -/
def tcStep (v : PView) (sv : List VObj) (m : NModel) (x : VObj) : Except PyErr NModel :=
  if sv.contains x then
    (if x.initial_value.isSome then .ok m else .error ⟨"AssertionError"⟩)
  else if x.initial_value.isSome then
    (optVal x.initial_value).bind fun iv => (optVal x.units).bind fun u =>
      (createQuantity (viewAt v m) iv u).bind fun q => (addEquationQ m x q).bind fun m' => .ok (clearInit m' x)
  else .ok m

/-- **`Parser.transform_constants`** for ALL models: the loop over a snapshot of the variables is the fold of `tcStep`
    (states are only checked; every other variable with an initial value becomes an equation `var = Quantity`) -/
theorem transformConstants_tie (v : PView) (m : NModel) :
    transformConstants v m = m.vars.foldlM (tcStep v (stateVars m)) m := by
  unfold transformConstants
  simp only [except_run]
  rw [List.forIn_eq_foldlM_of_yield (tcStep v (stateVars m))]
  · cases List.foldlM (tcStep v (stateVars m)) m m.vars <;> rfl
  · intro x _ s
    unfold tcStep
    simp only [Py.isIn, except_run]
    by_cases h1 : (stateVars m).contains x = true
    · simp only [h1, if_true]
      cases x.initial_value <;> rfl
    · simp only [h1, Bool.false_eq_true, if_false]
      cases hiv : x.initial_value with
      | none => rfl
      | some iv =>
        simp only [Option.isSome_some, if_true, optVal]
        cases hu : x.units with
        | none => rfl
        | some u =>
          simp only []
          cases createQuantity (viewAt v s) iv u with
          | error e => rfl
          | ok q =>
            simp only []
            cases addEquationQ s x q <;> rfl

/-- one round for a CONSTANT (not a state, not defined yet): it becomes the equation `x = q`, `q` a new Quantity holding
    the float -/
theorem tcStep_constant (v : PView) (sv : List VObj) (m : NModel) (x : VObj) (b : Nat) (u : String)
    (hs : sv.contains x = false) (hiv : x.initial_value = some (.flt b)) (hu : x.units = some (.unit u))
    (hd : ((m.defs.any fun p => p.1 == x.id) || (m.odes.any fun p => p.1 == x.id)) = false) :
    ∃ q m', tcStep v sv m x = .ok m' ∧ q._value = some (.flt b) ∧
      m'.defs = m.defs ++ [(x.id, ⟨0, [.qty q]⟩)] ∧ m'.odes = m.odes := by
  obtain ⟨q, hq⟩ := createQuantity_unit_ok (viewAt v m) (.flt b) u
  refine ⟨q, clearInit { m with defs := m.defs ++ [(x.id, ⟨0, [.qty q]⟩)], count := m.count + 1 } x, ?_,
    createQuantity_value _ _ _ _ hq, rfl, rfl⟩
  unfold tcStep
  simp only [hs, Bool.false_eq_true, if_false, hiv, hu, Option.isSome_some, if_true, optVal, Except.bind, hq,
    addEquationQ, hd]

/-- `transform_constants` on a model whose only variable is a constant: the model gains exactly `x = q` -/
theorem transformConstants_single (v : PView) (x : VObj) (b : Nat) (u : String)
    (hiv : x.initial_value = some (.flt b)) (hu : x.units = some (.unit u)) :
    ∃ m q, transformConstants v { vars := [x] } = .ok m ∧ m.defs = [(x.id, ⟨0, [.qty q]⟩)] ∧ m.odes = [] ∧
      q._value = some (.flt b) := by
  rw [transformConstants_tie]
  simp only [List.foldlM_cons, List.foldlM_nil, except_run]
  obtain ⟨q, m', hstep, hq, hdefs, hodes⟩ := tcStep_constant v
    (stateVars { vars := [x] }) { vars := [x] } x b u (by simp [stateVars]) hiv hu (by simp)
  rw [hstep]
  exact ⟨m', q, rfl, by simpa using hdefs, hodes, hq⟩

/-- **`_get_value`, state variable**: `float(variable.initial_value)` and nothing else — for ALL models, every
    `expand_derivatives`, every recursive call, every memo -/
theorem getValueRec_state_tie (m : NModel) (ed : NExpr → Except PyErr NExpr)
    (rec : Nat → NMemo → Except PyErr (Nat × NMemo)) (x : Nat) (ev : NMemo) (hx : x ∈ odeKeys m) :
    getValueRec m ed rec x ev = (pyFloatOpt (initialValueOf m x)).bind fun b => .ok (b, ev) := by
  unfold getValueRec
  have : Py.isIn x (odeKeys m) = true := by simpa [Py.isIn] using hx
  simp only [this, if_true, except_run]

theorem expandDerivatives_none (m : NModel) (r : NExpr → Except PyErr NExpr) (e : NExpr) (h : derivAtoms e = []) :
    expandDerivatives m r e = .ok e := by
  unfold expandDerivatives
  simp [h, pure, Except.pure]

/-- **`_get_value`, a variable defined by a bare Quantity** (`v = <cn>`; a constant after `transform_constants`): the
    final `float(expr)` is the generated `Quantity.__float__` of that Quantity — for every recursive call and memo -/
theorem getValueRec_quantity_tie (m : NModel) (r1 : NExpr → Except PyErr NExpr)
    (rec : Nat → NMemo → Except PyErr (Nat × NMemo)) (x : Nat) (ev : NMemo) (q : QObj)
    (hx : x ∉ odeKeys m) (hd : varDefItem m x = .ok ⟨0, [.qty q]⟩) :
    getValueRec m (expandDerivatives m r1) rec x ev = (quantityFloat q).bind fun b => .ok (b, ev) := by
  unfold getValueRec
  have : Py.isIn x (odeKeys m) = false := by simpa [Py.isIn] using hx
  have hde : derivAtoms ⟨0, [.qty q]⟩ = [] := rfl
  have hva : varAtoms ⟨0, [.qty q]⟩ = [] := rfl
  -- the `try` / early `return` plumbing of the generated body, then the two facts about the expression
  simp [this, except_run, hd, tryCatch, tryCatchThe, MonadExceptOf.tryCatch,
    Except.tryCatch, EarlyReturn.runK, ExceptT.pure, ExceptT.run, ExceptT.mk, expandDerivatives_none m r1 _ hde, hva,
    floatExpr]

/-- **`get_value`** over the generated `_get_value` (closed with any continuation for the recursive calls, which these
    two paths never make) = `C14.getValue` of the stored double:
    a state returns its `initial_value`, a variable defined by a Quantity the Quantity's float -/
theorem getValue_tie (m : NModel) (r1 : NExpr → Except PyErr NExpr) (rec : Nat → NMemo → Except PyErr (Nat × NMemo))
    (x b : Nat) :
    (x ∈ odeKeys m → initialValueOf m x = some (.flt b) →
      NumPipe.getValue m (getValueRec m (expandDerivatives m r1) rec) x = .ok (C14.getValue b)) ∧
    (∀ q, x ∉ odeKeys m → varDefItem m x = .ok ⟨0, [.qty q]⟩ → q._value = some (.flt b) →
      NumPipe.getValue m (getValueRec m (expandDerivatives m r1) rec) x = .ok (C14.getValue (quantityValue b))) := by
  constructor
  · intro hx hiv
    unfold NumPipe.getValue
    rw [getValueRec_state_tie m _ rec x none hx, hiv]; rfl
  · intro q hx hd hq
    unfold NumPipe.getValue
    rw [getValueRec_quantity_tie m r1 rec x none q hx hd, quantityFloat_tie q b hq]; rfl

theorem graphNum_cached (m : NModel) (c : NGraph) : graphWithSympyNumbers m (some c) = .ok (c, some c) := by
  unfold graphWithSympyNumbers
  simp [pure, Except.pure, theGraph]

/-- **`Printer._print_float`**: `str(x)` of the float, nothing else -/
theorem printFloat_tie (v : PView) (b : Nat) : printFloat v b = .ok (v.reprF b) := rfl

/-- **`Printer._print_Float`**: `float()` of the sympy number (`C14.toFloat`), then `_print_float` -/
theorem printFloatS_tie (v : PView) (s : SNum) : printFloatS v s = .ok (v.reprF (floatOfSNum s)) := rfl

/-- **`Printer._print_int`**: python's `'%d'` (`C14.renderInt`) -/
theorem printInt_tie (v : PView) (z : Int) : printInt v z = .ok (String.ofList (renderInt z)) := rfl

/-- the text the generated printer emits for a finite double is a text of that double (`C14.Emits`), for every reading
    of `str(float)` that `float()` reads back -/
theorem printFloat_emits (v : PView) (hv : ReprOK v) (b : Nat) (hf : isFiniteBits b = true) (hb : b < 2 ^ 64) :
    ∃ t, printFloat v b = .ok t ∧ Emits b t.toList := ⟨_, rfl, hv b hf hb⟩

end Cellml.Tie.PNumPipe
