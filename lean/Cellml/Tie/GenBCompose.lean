import Cellml.Tie.UnitDefs
import Cellml.Tie.GenBIso

/-! # GenB: the two tie packages meet — the leaf `add_unit` of the generated `_add_units` IS the generated
    `UnitStore.add_unit`, on the work list's own domain

    The body of the `while` loop of `Parser._add_units` (`Gen.UnitDefs.addUnitsBody`) calls
    `self.model.units.add_unit(name, definition)`; the spec of that group binds the call to the leaf
    `PUnitDefs.addUnitLeaf`. `UnitStore.add_unit` itself is translated in the group `Units` (`Gen.Units.addUnit`) and tied
    to the same hand model by `addUnit_tie`, with the domain hypotheses `hdef`, `hsup`. This file composes the two:
    the leaf returns exactly what the generated method does to the store object (with no condition on the references:
    an unknown name is an `UndefinedUnitError` of the leaf and of the generated method alike, whatever its exponent).
    What remains of the domain is `hdef` (the definition has a value in the hand model: no bad number, no bad offset
    (`defMeaning_ok_offset`), and — where the hand model abstains, `unsupported` — no multiplier ≤ 0) and `hsup` (no
    `dimensionless` mixed with dimensional units: the hand model abstains again); the leaf is defined by the hand model
    and abstains with it. -/

namespace Cellml.Tie.PGenB
open Units PMap Cellml.Tie.PUnits

theorem addErrClass_agree (reg : Registry) (st : Store) (name : String) (elems : List UnitElem) (k : Scale)
    (c : Container) (md : Bool) (hdef : defMeaning st.id elems = .ok (k, c, md))
    (hsup : ¬ (norm c ≠ [] ∧ md = true)) (e : AddErr) (h : Units.addUnit reg st name elems = .error e) :
    PUnitDefs.addErrClass e = PUnits.addErrClass e := by
  rw [addUnit_noOffset (defMeaning_ok_offset hdef)] at h
  unfold Units.addUnitWith at h
  rw [hdef] at h
  -- the two classifications differ on `unsupported` only; `h` unfolded shows `addUnitWith` answers it only where
  -- `norm c ≠ []` and `md` hold together, which `hsup` excludes
  cases e with
  | unsupported w => grind
  | _ => rfl

theorem addUnitLeaf_model (reg : Registry) (st : Store) (d : UDef) (hoff : d.elems.any elemOffsetBad = false) :
    PUnitDefs.addUnitLeaf (reg, st) d.name ⟨d.elems.map PUnitDefs.elemExpr⟩ =
      errClass PUnitDefs.addErrClass (Units.addUnit reg st d.name d.elems) := by
  have h5 : ((d.elems.map PUnitDefs.elemExpr).all
      fun e => e.names.all fun n => allKnown reg (nameContainer (mangle st.id n))) = refsKnown reg st.id d.elems := by
    simp [refsKnown, List.all_map, Function.comp_def, PUnitDefs.elemExpr_names]
  unfold PUnitDefs.addUnitLeaf
  simp only [h5]
  rw [PUnitDefs.denAll_map _ _ hoff, PUnitDefs.addUnit_eq_with _ _ _ _ hoff]

/-- **composition of the ties**: the leaf the generated work list calls = the generated `UnitStore.add_unit` run on
    the store object, read back (`registry definitions, model store`) — same result, same exception class; no
    hypothesis on the references of the definition -/
theorem addUnitLeaf_generated (reg : Registry) (st : Store) (d : UDef) (k : Scale) (c : Container) (md : Bool)
    (hdef : defMeaning st.id d.elems = .ok (k, c, md)) (hsup : ¬ (norm c ≠ [] ∧ md = true)) :
    PUnitDefs.addUnitLeaf (reg, st) d.name ⟨d.elems.map PUnitDefs.elemExpr⟩ =
      (Gen.Units.addUnit (storeObj st reg []) d.name ⟨d.elems, id⟩).map
        (fun r => (r.1._registry.defs, storeOfObj r.1)) := by
  rw [addUnit_tie st reg [] d.name d.elems k c md hdef hsup, addUnitLeaf_model reg st d (defMeaning_ok_offset hdef)]
  cases hr : Units.addUnit reg st d.name d.elems with
  | ok r =>
    obtain ⟨reg', st'⟩ := r
    simp [errClass, Except.map, added, storeObj, storeOfObj, userNames_append]
  | error e =>
    simp only [errClass, Except.map, addErrClass_agree reg st d.name d.elems k c md hdef hsup e hr]

/-- **the property's own hypothesis implies the tie domain**: whenever an `add_now` step of the work list SUCCEEDS
    (as every step does under the hypothesis `… = .ok (reg, st)` of `worklist_sound_partial` / `worklist_perm_partial`),
    the call `add_unit(name, definition)` it makes is inside the domain of `addUnit_tie` (`hdef`, `hsup` both hold),
    and the new unit store is exactly what the GENERATED `UnitStore.add_unit` produces from the store object -/
theorem addNow_ok_generated (reg : Registry) (st : Store) (d : UDef) (r : Registry × Store)
    (h : addNow reg st d = .ok r) :
    (Gen.Units.addUnit (storeObj st reg []) d.name ⟨d.elems, id⟩).map
      (fun o => (o.1._registry.defs, storeOfObj o.1)) = .ok r := by
  obtain ⟨hoff, _, _, _, hadd⟩ := addNow_ok h
  obtain ⟨k, c, md, hdef, _, _, _, _, hmd, _⟩ := Units.addUnit_ok hadd
  have hsup : ¬ (norm c ≠ [] ∧ md = true) := fun hh => hh.1 (hmd hh.2)
  rw [← addUnitLeaf_generated reg st d k c md hdef hsup]
  have hn := PUnitDefs.addNow_tie reg st d
  rw [h, PUnitDefs.makeDef_tie, hoff] at hn
  have hdup : PUnitDefs.isDefined (reg, st) d.name = false := by
    cases hx : PUnitDefs.isDefined (reg, st) d.name with
    | false => rfl
    | true => simp [hx, except_run] at hn
  simpa [hdup, except_run] using hn

end Cellml.Tie.PGenB
