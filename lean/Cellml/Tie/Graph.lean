import Cellml.Tie.GraphEqs
import Cellml.Tie.GraphNum
import Cellml.Tie.GraphBuild

/-! # Ties of package Graph (C09, also C15): cellmlmanip/model.py `Model.graph`, `Model.graph_with_sympy_numbers`,
    `Model.get_equations_for` = the hand model `Cellml/C09/Model.lean`

    `Model.graph` is tied in `GraphBuild.lean`, `graph_with_sympy_numbers` in `GraphNum.lean`, `get_equations_for` in
    `GraphEqs.lean`. The theorems here connect the three: what the generated `graph` / `graph_with_sympy_numbers` return
    is what the view of `get_equations_for` reads as `self.graph` / `self.graph_with_sympy_numbers`. -/

namespace Cellml.Tie.PGraph
open C09 Cellml.Gen

/-- `Model.graph` never raises the errors whose python class depends on the recursion mode -/
theorem buildGraph_errName (key : Node → String) (eqs : List Eqn) (x : Err) (recurse : Bool)
    (h : buildGraph key eqs = .error x) : errName recurse x = "AssertionError" := by
  rcases buildGraph_error h with rfl | rfl <;> rfl

/-- what the generated `graph` returns (or raises) is what the view of `get_equations_for` reads as `self.graph` -/
theorem graph_feeds_eqsView (key : Node → String) (eqs : List Eqn) (vars : List Node) (rq : Eqn → Bool)
    (ty0 : TyMap) (recurse : Bool) :
    (GraphBuild.graph (buildView key eqs vars rq) none ty0).map (·.1) = (eqsView key eqs recurse).graph := by
  rw [graph_tie_types]
  show _ = errClass (errName recurse) (buildGraph key eqs)
  cases hb : buildGraph key eqs with
  | ok g => rfl
  | error x => simp only [Except.map, errClass, buildGraph_errName key eqs x _ hb]

/-- the same closed statement for the graph with sympy numbers (no domain condition: `graphNum_tie_built`) -/
theorem graphNum_feeds_eqsView (key : Node → String) (eqs : List Eqn) (g : Graph)
    (recurse : Bool) (hb : buildGraph key eqs = .ok g) :
    (GraphNum.graphWithSympyNumbers (numView eqs (.ok g)) none).map (·.1)
      = (eqsView key eqs recurse).graphNum := by
  rw [graphNum_tie_built key eqs g hb]
  simp [eqsView, hb, errClass, Except.map]

end Cellml.Tie.PGraph
