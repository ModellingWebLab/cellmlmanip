import Cellml.Tie.Prelude
import Cellml.Expr.Infer

/-! # What `UnitCalculator.traverse`, `_check_unit_of_quantities_equal`, `_is_dimensionless` (units.py) see

    The generated code (`Cellml/Generated/Code/Infer.lean`) refers to python leaves: flags and attributes of SymPy
    objects (`expr.is_Add`, `expr.args`, `expr.func`, `expr.units` …), pint quantity arithmetic (`q1 * q2`, `b ** x`,
    `abs(q)`, `math.floor(m)` …) and pint registry queries (`get_base_units`, `.dimensionality`). The pattern table of
    harness/code_specs/infer.py binds each of them to one accessor below; the accessors read the hand model's data
    (`E`, `VarEnv`, `Registry`, `Infer.M`, containers). No decision of the translated functions is made here: no
    accessor looks at more than the one python leaf it stands for. Core Lean only. -/

namespace Cellml.Tie.PInfer
open Units Infer

/-- a pint `Quantity` as `traverse` handles it: the (abstract) magnitude and the pint units container -/
abbrev Q := M × Container

/-- model-side error classes as python class names: `otherException w` IS the python exception `w`; `unsupported w`
    (the exact model abstains) is kept apart under its own name -/
def errName : UnitErr → String
  | .otherException w => w
  | e => e.name

/-- a model computation seen from the generated code: same value, error identified by its class name -/
abbrev liftE {α} (x : Except UnitErr α) : Except PyErr α := errClass errName x

/-! ## python objects reaching `traverse` -/

/-- A python object as `traverse` meets it: a SymPy expression (the hand model's tree `E`), or a tuple of expressions
    (`ExprCondPair (e, c)` of a Piecewise; `(t, 1)` in `Derivative(x, (t, 1))`). -/
inductive Obj where
  | ex (e : E)
  | tup (l : List E)
deriving DecidableEq, Repr

/-- what `traverse` sees of its surroundings: the pint registry (`self._registry`, `self._store`) and the model's
    variables (the attributes of `model.Variable` objects) -/
structure TravView where
  reg : Registry
  Γ : VarEnv

namespace Sym

/-- operands of an n-ary node along the left spine (SymPy's `Add` / `Mul` / `Max` are n-ary and flat; the wire
    format nests them to the left: `Add(a, b, c)` is `add (add a b) c`) -/
def addArgs : E → List E
  | .add a b => addArgs a ++ [b]
  | e => [e]

def mulArgs : E → List E
  | .mul a b => mulArgs a ++ [b]
  | e => [e]

def fnArgs (f : String) : E → List E
  | .fnN g a b => if f = g then fnArgs f a ++ [b] else [.fnN g a b]
  | e => [e]

/-- operands of SymPy's flat n-ary `And` / `Or` (the wire format nests them to the left like `Add`) -/
def andArgs : E → List E
  | .and a b => andArgs a ++ [b]
  | e => [e]

def orArgs : E → List E
  | .or a b => orArgs a ++ [b]
  | e => [e]

/-- the `(expr, cond)` pairs of a Piecewise chain -/
def pieces : E → List Obj
  | .ite c t el => .tup [t, c] :: pieces el
  | _ => []

/-- a well-formed Piecewise chain ends in `undef` -/
def isChain : E → Bool
  | .undef => true
  | .ite _ _ el => isChain el
  | _ => false

/-- `expr.args` -/
def args : Obj → List Obj
  | .ex (.add a b) => (addArgs (.add a b)).map .ex
  | .ex (.mul a b) => (mulArgs (.mul a b)).map .ex
  | .ex (.pow b x) => [.ex b, .ex x]
  | .ex (.abs a) | .ex (.floor a) | .ex (.ceil a) | .ex (.fn1 _ a) | .ex (.not a) => [.ex a]
  | .ex (.fnN f a b) => (fnArgs f (.fnN f a b)).map .ex
  | .ex (.ite c t el) => pieces (.ite c t el)
  | .ex (.deriv v t) => [.ex (.var v), .tup [.var t, .int 1]]
  | .ex (.rel _ a b) => [.ex a, .ex b]
  | .ex (.and a b) => (andArgs (.and a b)).map .ex
  | .ex (.or a b) => (orArgs (.or a b)).map .ex
  | _ => []

/-- `expr.args[1][1]`: the count of the first differentiation variable (the model's `deriv v t` is first order) -/
def derivCount : Obj → Nat
  | .ex (.deriv _ _) => 1
  | _ => 0

/-- `x[i]` on a tuple of expressions -/
def item (o : Obj) (i : Nat) : Except PyErr Obj :=
  match o with
  | .tup l => match l[i]? with
    | some e => .ok (.ex e)
    | none => .error ⟨"IndexError"⟩
  | .ex _ => .error ⟨"TypeError"⟩

/-- `expr.is_Matrix` (a Matrix reaches the model as `other "Matrix"`) -/
def isMatrix : Obj → Bool
  | .ex (.other n) => n == "Matrix"
  | _ => false
def isPiecewise : Obj → Bool
  | .ex (.ite _ _ _) | .ex .undef => true
  | _ => false
def isDerivative : Obj → Bool
  | .ex (.deriv _ _) => true
  | _ => false
/-- `expr.is_Symbol`: `model.Quantity` and `model.Variable` are SymPy Dummy symbols -/
def isSymbol : Obj → Bool
  | .ex (.qty _ _) | .ex (.cf _ _) | .ex (.var _) => true
  | _ => false
/-- `isinstance(expr, model.Quantity)` -/
def isQuantity : Obj → Bool
  | .ex (.qty _ _) | .ex (.cf _ _) => true
  | _ => false
/-- `isinstance(expr, model.Variable)` -/
def isVariable : Obj → Bool
  | .ex (.var _) => true
  | _ => false
/-- `expr.is_Number` (SymPy: Integer, Rational, Float; `pi` and `E` are NumberSymbols, not Numbers) -/
def isNumber : Obj → Bool
  | .ex (.int _) | .ex (.rat _) | .ex (.flt _) => true
  | _ => false
def isInteger : Obj → Bool
  | .ex (.int _) => true
  | _ => false
/-- `expr.is_Rational` (an Integer is a Rational) -/
def isRational : Obj → Bool
  | .ex (.int _) | .ex (.rat _) => true
  | _ => false
def isMul : Obj → Bool
  | .ex (.mul _ _) => true
  | _ => false
def isPow : Obj → Bool
  | .ex (.pow _ _) => true
  | _ => false
def isAdd : Obj → Bool
  | .ex (.add _ _) => true
  | _ => false
def isRelational : Obj → Bool
  | .ex (.rel _ _ _) => true
  | _ => false
/-- `expr.is_Boolean` (a Relational is a Boolean too) -/
def isBoolean : Obj → Bool
  | .ex (.rel _ _ _) | .ex (.and _ _) | .ex (.or _ _) | .ex (.not _) | .ex .tt | .ex .ff => true
  | _ => false
def isFunction : Obj → Bool
  | .ex (.abs _) | .ex (.floor _) | .ex (.ceil _) | .ex (.fn1 _ _) | .ex (.fnN _ _ _) => true
  | _ => false

/-- `expr.func`, a SymPy class, represented by its name (`sympy.Abs` is `"Abs"`, `str(expr.func)` the same string) -/
def func : Obj → String
  | .ex (.abs _) => "Abs"
  | .ex (.floor _) => "floor"
  | .ex (.ceil _) => "ceiling"
  | .ex (.fn1 f _) => f
  | .ex (.fnN f _ _) => f
  | _ => ""

/-- `expr.units` of a `model.Quantity` / `model.Variable` -/
def units (self : TravView) : Obj → Container
  | .ex (.qty _ u) | .ex (.cf _ u) => u
  | .ex (.var i) => match self.Γ[i]? with
    | some vi => vi.unit
    | none => []
  | _ => []

/-- `expr.initial_value` of a `model.Variable`: `None` or a float. Python truthiness: `None` and `0.0` are false. -/
structure InitVal where
  v : Option Rat
deriving DecidableEq

instance : Py.Truthy InitVal := ⟨fun x => match x.v with | some q => !(q == 0) | none => false⟩

def initialValue (self : TravView) : Obj → InitVal
  | .ex (.var i) => match self.Γ[i]? with
    | some vi => ⟨vi.init⟩
    | none => ⟨none⟩
  | _ => ⟨none⟩

end Sym

namespace Py

/-- `float(x)`: of a `model.Quantity` (its value; a conversion factor's value is not tracked exactly unless it is 1),
    of a SymPy number, of an initial value -/
class ToFloat (α : Type) where
  toFloat : α → M
export ToFloat (toFloat)

instance : ToFloat Obj := ⟨fun
  | .ex (.qty v _) => .num v true
  | .ex (.cf s _) => if s = [] then .num 1 true else .anynum
  | .ex (.int n) => .num n true
  | .ex (.rat q) => .num q true
  | .ex (.flt q) => .num q true
  | _ => .weird⟩

instance : ToFloat Sym.InitVal := ⟨fun x => match x.v with | some q => .num q true | none => .weird⟩

/-- `int(x)` of a SymPy Integer -/
def toInt : Obj → M
  | .ex (.int n) => .num n false
  | _ => .weird

/-- the magnitude handed to `registry.Quantity(magnitude, units)`: a number already computed, or a SymPy object -/
class ToMag (α : Type) where
  toMag : α → M
instance : ToMag M := ⟨id⟩
instance : ToMag Obj := ⟨fun _ => .sym⟩

/-- `self._registry.Quantity(m, u)` -/
def mkQuantity {α} [ToMag α] (m : α) (u : Container) : Q := (ToMag.toMag m, u)

/-- `magnitude * unit` -/
instance : HMul M Container Q := ⟨fun m u => (m, u)⟩

/-- `1 * unit` -/
def oneTimes (u : Container) : Q := (.num 1 false, u)

/-- `self._store.get_unit('dimensionless')`: the empty units container -/
def dimensionless : Container := []

/-- `xs[i]` on a python list -/
def getItem {α} (xs : List α) (i : Nat) : Except PyErr α :=
  match xs[i]? with
  | some a => .ok a
  | none => .error ⟨"IndexError"⟩

/-- `operator.mul` on quantities -/
def mulQ (a b : Q) : Q := (mulM a.1 b.1, mulC a.2 b.2)

/-- `functools.reduce(f, xs)` (no initial value: TypeError on the empty list) -/
def reduce {α} (f : α → α → α) : List α → Except PyErr α
  | [] => .error ⟨"TypeError"⟩
  | a :: l => .ok (l.foldl f a)

/-- `a ** b` on magnitudes and on quantities -/
class Pow (α : Type) where
  pow : α → α → Except PyErr α

instance : Pow M := ⟨fun a b => liftE (powM a b)⟩

/-- pint `Quantity.__pow__` with a dimensionless exponent quantity: the magnitude is raised, and the units to the
    exponent's value (a value the exact model does not track: the model abstains) -/
instance : Pow Q := ⟨fun b x => do
  let m ← liftE (powM b.1 x.1)
  match x.1 with
  | .num q _ => pure (m, powC b.2 q)
  | _ => throw ⟨errName (.unsupported "exponent value not tracked")⟩⟩

/-- `a / b` on quantities -/
def divQ (a b : Q) : Except PyErr Q := do
  let m ← liftE (divM a.1 b.1)
  pure (m, divC a.2 b.2)

/-- `abs(q)` -/
def absQ (q : Q) : Q := (absM q.1, q.2)

/-- `isinstance(m, (sympy.Number, numbers.Number))` -/
def isNumberMag (m : M) : Bool := m.isNumber
/-- `isinstance(m, sympy.Expr)` -/
def isExprMag (m : M) : Bool := m == .sym
/-- `isinstance(m, float)`: a number of unknown value (`anynum`: an irrational result; `weird`: inf / nan) is a
    float in the model's reading -/
def isFloatMag : M → Bool
  | .num _ f => f
  | .anynum | .weird => true
  | .sym => false

/-- `math.floor(m)` / `math.ceil(m)` on a magnitude that is not a SymPy expression -/
def mathFloor (m : M) : Except PyErr M :=
  match m with
  | .sym => .error ⟨"TypeError"⟩
  | m => liftE (floorM false m)
def mathCeil (m : M) : Except PyErr M :=
  match m with
  | .sym => .error ⟨"TypeError"⟩
  | m => liftE (floorM true m)

/-- `math.exp(m)` on a float magnitude as the model has it: OverflowError beyond 709 (python's `math.exp` overflows only
    beyond 709.78…: between the two the binding is coarser than the leaf); the value is not tracked -/
def mathExp : M → Except PyErr M
  | .num q _ => if q > 709 then .error ⟨"OverflowError"⟩ else .ok .anynum
  | .anynum | .weird => .ok .anynum
  | .sym => .error ⟨"TypeError"⟩

/-- a pint `UnitsContainer` (of root units, or of dimensions) compared as pint compares them: by content -/
structure UC where
  c : PMap String
instance : BEq UC := ⟨fun a b => PMap.beq a.c b.c⟩

/-- the multiplicative factor returned by `get_base_units` (a float in python; here the exact scale). -/
structure Factor where
  s : Scale
/-- `math.isclose(f1, f2)` on two such factors: equality of the exact scales -/
def isclose (a b : Factor) : Bool := PMap.beq a.s b.s

/-- `next(it, True)`: the next element and the advanced iterator; `none` stands for the default `True` -/
def nextOrTrue {α} : List α → Option α × List α
  | [] => (none, [])
  | a :: l => (some a, l)

/-- `.units` of what `next(it, True)` returned (python's `True` has none: the generator is then empty and `_is_equal`
    is never called) -/
def unitsOfFirst : Option Q → Container
  | some q => q.2
  | none => []

end Py

/-- `self._registry.get_base_units(1 * u)`: (factor, root units) -/
def TravView.baseUnits (self : TravView) (u : Container) : Py.Factor × Py.UC :=
  (⟨(toRoot self.reg u).1⟩, ⟨(toRoot self.reg u).2⟩)

/-- `u.dimensionality` -/
def TravView.dimensionality (self : TravView) (u : Container) : Py.UC := ⟨dimsOf self.reg u⟩

/-- `self._registry.dimensionless.dimensionality` -/
def Py.noDimension : Py.UC := ⟨[]⟩

end Cellml.Tie.PInfer
