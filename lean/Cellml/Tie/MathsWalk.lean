import Cellml.Generated.Code.MathsWalk
import Cellml.Tie.ModelState
import Cellml.Tie.LoaderStagesD
import Cellml.Tie.ExceptRun

/-! # Tie: `Parser._add_maths` (generated from the source, WHOLE function) = `Load.checkMaths` / `Load.mathsOf`, and at a
      bad left-hand side the class of `C17.badEqErr`

    The generated function is first described on ARBITRARY input (`addMaths_spec`): per component with at least one
    `<math>` one transpiler (generated closure, translated lambda); per `<math>` element `parse_tree` transpiles ALL its
    equations, then the GENERATED `Model.add_equation` takes each in order. On the `<component>` elements of a
    `C17.FaultDoc` (`mathsElems`: one `<math>` per equation, the first bad equation of `fd.badEqs` at its place) that walk
    simulates `genAddMaths` (= `Load.checkMaths`, `genAddMaths_eq`) and raises the class of `C17.badEqOwn` at the bad
    equation. `genMathsWalkStage_eq` asks for `BadWF`: the first bad equation is what `C17.BadLhs` says it is. -/

namespace Cellml.Tie.PMathsWalk
open Load Cellml.Gen Cellml.Tie.PModelState Cellml.Tie.LoaderClose

/-- `for expr in sympy_exprs: self.model.add_equation(expr)` -/
def addAll : List TrEq → MathsSt → Except PyErr MathsSt
  | [], st => .ok st
  | q :: r, st => match addEquation st q with
    | .error e => .error e
    | .ok st' => addAll r st'

/-- `for math_element in math_elements:` transpile the element, then add its equations -/
def mathElemsSpec (T : TranspilerObj) : List MathElem → MathsSt → Except PyErr MathsSt
  | [], st => .ok st
  | m :: r, st => match parseTree T m with
    | .error e => .error e
    | .ok qs => match addAll qs st with
      | .error e => .error e
      | .ok st' => mathElemsSpec T r st'

/-- the transpiler `_add_maths` constructs for a component: the generated closure over the names it captures, and the
    translated lambda -/
def theTranspiler (self : MathsView) (cname : String) (v2s : VRef → Option VRef) (m : VMap) : TranspilerObj :=
  mkTranspiler (LoaderSym.symbolGenerator ⟨cname⟩ v2s m (whileBound m))
    (fun x y => do let c ← self.getUnit y; pure (createQuantity x c))

/-- `for element, variable_to_symbol in component_variables:` (on no `<math>` element `mathElemsSpec` does nothing,
    which is all the guard `if math_elements:` is for) -/
def compsSpec (self : MathsView) (m : VMap) :
    List (MCompElem × (VRef → Option VRef)) → MathsSt → Except PyErr MathsSt
  | [], st => .ok st
  | (c, v2s) :: r, st => match mathElemsSpec (theTranspiler self c.name v2s m) c.maths st with
    | .error e => .error e
    | .ok st' => compsSpec self m r st'

theorem addAll_loop : ∀ (qs : List TrEq) (st : MathsSt),
    forIn qs st (fun expr __s => do
      let st ← addEquation __s expr
      pure (ForInStep.yield st)) = addAll qs st
  | [], st => rfl
  | q :: r, st => by
    rw [List.forIn_cons]
    simp only [addAll, except_run]
    cases addEquation st q with
    | error e => rfl
    | ok st' => exact addAll_loop r st'

theorem mathElems_loop (T : TranspilerObj) : ∀ (ms : List MathElem) (st : MathsSt),
    forIn ms st (fun math_element __s => do
      let sympy_exprs ← parseTree T math_element
      let __s ← addAll sympy_exprs __s
      pure (ForInStep.yield __s)) = mathElemsSpec T ms st
  | [], st => rfl
  | m :: r, st => by
    rw [List.forIn_cons]
    simp only [mathElems_loop T r]
    simp only [mathElemsSpec, except_run]
    cases parseTree T m with
    | error e => rfl
    | ok qs =>
      simp only
      cases addAll qs st with
      | error e => rfl
      | ok st' => rfl

theorem comps_loop (self : MathsView) (m : VMap) :
    ∀ (cvs : List (MCompElem × (VRef → Option VRef))) (st : MathsSt),
    forIn cvs st (fun x __s =>
      if Py.truthy x.fst.maths = true then do
        let st ← mathElemsSpec (theTranspiler self x.fst.name x.snd m) x.fst.maths __s
        pure (ForInStep.yield st)
      else pure (ForInStep.yield __s)) = compsSpec self m cvs st
  | [], st => rfl
  | (c, v2s) :: r, st => by
    rw [List.forIn_cons]
    simp only [comps_loop self m r]
    simp only [compsSpec, Py.truthy_list, except_run]
    cases hm : c.maths with
    | nil => rfl
    | cons a l =>
      simp only [List.isEmpty_cons, Bool.not_false, if_true]
      cases mathElemsSpec (theTranspiler self c.name v2s m) (a :: l) st with
      | error e => rfl
      | ok st' => rfl

/-- **`Parser._add_maths`, generated, on ANY input**: the three nested loops, the guard, the transpiler per component -/
theorem addMaths_spec (self : MathsView) (m : VMap) (cvs : List (MCompElem × (VRef → Option VRef))) (st : MathsSt) :
    MathsWalk.addMaths self cvs m st = compsSpec self m cvs st := by
  unfold MathsWalk.addMaths
  simp only [addAll_loop]
  simp only [mathElems_loop]
  have := comps_loop self m cvs st
  simp only [theTranspiler] at this
  simp only [except_run] at this ⊢
  rw [this]
  cases compsSpec self m cvs st <;> rfl

theorem compsSpec_append (self : MathsView) (m : VMap) : ∀ (a b : List (MCompElem × (VRef → Option VRef)))
    (st : MathsSt), compsSpec self m (a ++ b) st = match compsSpec self m a st with
      | .error e => .error e
      | .ok st' => compsSpec self m b st'
  | [], b, st => rfl
  | (c, v2s) :: a, b, st => by
    simp only [List.cons_append, compsSpec]
    cases mathElemsSpec (theTranspiler self c.name v2s m) c.maths st with
    | error e => rfl
    | ok st' => exact compsSpec_append self m a b st'

/-- the definition maps of the model object hold exactly the variables the loader's record lists -/
def Inv (st : MathsSt) : Prop := ∀ v : VRef, Model.isDefined st.ms (encV v) = st.defined.contains v

theorem firstDeriv_ok : firstDeriv.ok 1 := ⟨Nat.le_refl _, Nat.le_refl _, Nat.le_refl _, fun _ => rfl⟩

/-- the expression a good left-hand side is transpiled to -/
def lhsExpr {α υ : Type} : Lhs α → Expr α υ
  | .var a => .var a
  | .diff x t => .diff x t

theorem encV_beq (v w : VRef) : (encV v == encV w) = (v == w) := by
  by_cases h : v = w
  · subst h
    rw [beq_self_eq_true, beq_self_eq_true]
  · have : encV v ≠ encV w := fun e => h (encV_inj e)
    rw [beq_eq_false_iff_ne.mpr this, beq_eq_false_iff_ne.mpr h]

theorem addEquation_run (st : MathsSt) (l : Lhs VRef) (rhs : Expr VRef FUnit) :
    (ModelState.addEquation firstDeriv (encEq ⟨lhsExpr l, rhs⟩) true).run st.ms =
      outcome () (Model.addEquationCore st.ms (encEq ⟨lhsExpr l, rhs⟩) true) := by
  apply addEquation_tie
  intro s t o h
  cases l with
  | var a => simp [encEq, lhsExpr, encLhs] at h
  | diff x t' =>
    simp only [encEq, lhsExpr, encLhs, Model.Lhs.deriv.injEq] at h
    rw [← h.2.2]; exact firstDeriv_ok

/-- **the generated `add_equation` on a Variable / first-derivative left-hand side, the variable has a definition**:
    ValueError -/
theorem addEquation_dup (st : MathsSt) (hI : Inv st) (l : Lhs VRef) (rhs : Expr VRef FUnit)
    (hc : st.defined.contains l.defines = true) : addEquation st ⟨lhsExpr l, rhs⟩ = .error ⟨"ValueError"⟩ := by
  have hd := hI l.defines
  rw [hc] at hd
  unfold addEquation
  rw [addEquation_run]
  cases l with
  | var a =>
    simp only [Lhs.defines] at hd
    simp only [Model.addEquationCore, encEq, lhsExpr, encLhs, hd, Bool.and_self, if_true, outcome, errName]
  | diff x t =>
    simp only [Lhs.defines] at hd
    simp [Model.addEquationCore, encEq, lhsExpr, encLhs, hd, outcome, errName]

theorem addEquation_new (st : MathsSt) (hI : Inv st) (l : Lhs VRef) (rhs : Expr VRef FUnit)
    (hc : st.defined.contains l.defines = false) :
    ∃ st', addEquation st ⟨lhsExpr l, rhs⟩ = .ok st' ∧ st'.defined = l.defines :: st.defined ∧
      st'.eqs = st.eqs ++ [⟨l, rhs⟩] ∧ Inv st' := by
  have hd := hI l.defines
  rw [hc] at hd
  unfold addEquation
  rw [addEquation_run]
  -- a variable goes into `varDef`, a derivative into `odeDef`; `isDefined` reads both
  cases l
  all_goals
    simp only [Lhs.defines] at hd ⊢
    simp only [Bool.false_eq_true, if_false, Model.addEquationCore, encEq, lhsExpr, encLhs, hd, Bool.and_false,
      outcome, flatLhs, gt_iff_lt, Nat.lt_irrefl]
    refine ⟨_, rfl, rfl, rfl, fun w => ?_⟩
    have := hI w
    simp only [Model.isDefined, Model.invalidate, Model.hasKey_insertKey, List.contains_cons, encV_beq] at this ⊢
    rw [← this]
    ac_rfl

theorem addEquation_other (st : MathsSt) (q : TrEq) (h : encLhs q.lhs = .other) :
    addEquation st q = .error ⟨"ValueError"⟩ := by
  unfold addEquation
  rw [addEquation_tie st.ms (encEq q) true firstDeriv (by intro s t o h'; simp [encEq, h] at h')]
  simp [Model.addEquationCore, encEq, h, outcome, errName]

/-- the transpiler of component `cname` on the loader's state -/
abbrev docTranspiler (ust : Units.Store) (vt : VarTable) (cst : CState) (cname : String) : TranspilerObj :=
  theTranspiler ⟨ust⟩ cname (varToSymbol vt) ⟨cst.mapping⟩

theorem ci_eq (ust : Units.Store) (vt : VarTable) (cst : CState) (cname a : String) :
    (docTranspiler ust vt cst cname).ci a = genSym vt cst cname a := rfl

theorem walkExpr_eq (ust : Units.Store) (vt : VarTable) (cst : CState) (cname : String) :
    ∀ (x : Expr String String), walkExpr (docTranspiler ust vt cst cname) x = trExpr ust (genSym vt cst cname) x
  | .num q u => by
    simp only [walkExpr, trExpr, docTranspiler, theTranspiler, mkTranspiler, MathsView.getUnit, unitF,
      createQuantity, except_run]
    cases Units.getUnit ust u <;> rfl
  | .var a => by
    simp only [walkExpr, trExpr, ci_eq]
    cases genSym vt cst cname a <;> rfl
  | .diff x t => by
    simp only [walkExpr, trExpr, ci_eq]
    cases genSym vt cst cname t with
    | error e => rfl
    | ok t' => cases genSym vt cst cname x <;> rfl
  | .add a b | .sub a b | .mul a b | .div a b => by
    simp only [walkExpr, trExpr, walkExpr_eq ust vt cst cname a, walkExpr_eq ust vt cst cname b]
    cases trExpr ust (genSym vt cst cname) a with
    | error e => rfl
    | ok a' => cases trExpr ust (genSym vt cst cname) b <;> rfl
  | .neg a | .powi a n => by
    simp only [walkExpr, trExpr, walkExpr_eq ust vt cst cname a]
    cases trExpr ust (genSym vt cst cname) a <;> rfl

def goodSide : Lhs String → MSide
  | .var a => .e (.var a)
  | .diff x t => .e (.diff x t)

/-- a well-shaped equation of the document as MathML -/
def goodEq (q : Eqn String String) : MEq := ⟨goodSide q.lhs, q.rhs⟩

def badSide : C17.BadLhs → MSide
  | .higher x t n => .higher x t n
  | .nonvar e => .e e

def badMEq (b : C17.BadEq) : MEq := ⟨badSide b.lhs, b.rhs⟩

/-- one `<math>` element per equation (`Load.Doc` has no grouping of the equations of a component into `<math>`
    elements; with several equations in ONE `<math>` python transpiles them all before it adds the first — see
    `mathElemsSpec`) -/
def single (q : MEq) : MathElem := ⟨[q]⟩

/-- a component without a bad equation -/
def plainElem (c : Comp) : MCompElem := ⟨c.name, (c.eqs.map goodEq).map single⟩

/-- the component that holds the bad equation `b`, after `b.pos` well-shaped ones -/
def badElem (b : C17.BadEq) (c : Comp) : MCompElem :=
  ⟨c.name, ((c.eqs.take b.pos).map goodEq).map single ++ single (badMEq b) :: ((c.eqs.drop b.pos).map goodEq).map single⟩

/-- the `<component>` elements of the document: `fd.doc.comps`, with the FIRST bad equation of `fd.badEqs` at its place
    (`fd.badEqs` lists them in the order `_add_maths` meets them; neither the code nor `C17.loadFull` gets past the
    first) -/
def mathsElems (fd : C17.FaultDoc) : List MCompElem :=
  match fd.badEqs.head? with
  | none => fd.doc.comps.map plainElem
  | some b => (fd.doc.comps.take b.comp).map plainElem ++
      (match fd.doc.comps[b.comp]? with
        | some c => [badElem b c]
        | none => []) ++ (fd.doc.comps.drop (b.comp + 1)).map plainElem

/-- `component_variables`: every element with its `variable_to_symbol` -/
def withSyms (vt : VarTable) (es : List MCompElem) : List (MCompElem × (VRef → Option VRef)) :=
  es.map (fun c => (c, varToSymbol vt))

/-- a `nonvar` left-hand side is neither a variable nor a derivative of one (python ACCEPTS `nonvar (.var x)`: it is
    the equation `x = …`; `C17.badEqErr` says ValueError) -/
def properLhs : C17.BadLhs → Bool
  | .higher _ _ _ => true
  | .nonvar (.var _) => false
  | .nonvar (.diff _ _) => false
  | .nonvar _ => true

/-- the first bad equation is what `C17.BadLhs` documents: it sits in a component of the document and its left-hand
    side is `properLhs` -/
def BadWF (fd : C17.FaultDoc) : Bool :=
  match fd.badEqs.head? with
  | none => true
  | some b => decide (b.comp < fd.doc.comps.length) && properLhs b.lhs

theorem BadWF_of_nil {fd : C17.FaultDoc} (h : fd.badEqs = []) : BadWF fd = true := by
  unfold BadWF; rw [h]; rfl

/-- the model object and the loader's record agree -/
def Rel (st : MathsSt) (d : List VRef) (e : List FlatEq) : Prop := st.defined = d ∧ st.eqs = e ∧ Inv st

section
variable (ust : Units.Store) (vt : VarTable) (cst : CState)

theorem walkSide_good (cname : String) (l : Lhs String) :
    walkSide (docTranspiler ust vt cst cname) (goodSide l) = (trLhs (genSym vt cst cname) l).map lhsExpr := by
  cases l with
  | var a =>
    simp only [goodSide, walkSide, walkExpr, ci_eq, trLhs]
    cases genSym vt cst cname a <;> rfl
  | diff x t =>
    simp only [goodSide, walkSide, walkExpr, ci_eq, trLhs]
    cases genSym vt cst cname t with
    | error e => rfl
    | ok t' => cases genSym vt cst cname x <;> rfl

theorem eqs_sim (cname : String) : ∀ (es : List (Eqn String String)) (rest : List MathElem) (st : MathsSt)
    (d : List VRef) (e : List FlatEq), Rel st d e →
    match genAddEqs ust vt cst cname es (d, e) with
    | .error x => mathElemsSpec (docTranspiler ust vt cst cname) ((es.map goodEq).map single ++ rest) st = .error x
    | .ok (d', e') => ∃ st', Rel st' d' e' ∧
        mathElemsSpec (docTranspiler ust vt cst cname) ((es.map goodEq).map single ++ rest) st =
          mathElemsSpec (docTranspiler ust vt cst cname) rest st'
  | [], rest, st, d, e, h => ⟨st, h, rfl⟩
  | q :: r, rest, st, d, e, h => by
    obtain ⟨h1, h2, h3⟩ := h
    simp only [genAddEqs, List.map_cons, List.cons_append, mathElemsSpec, single, parseTree, parseEqs, goodEq,
      walkSide_good, walkExpr_eq]
    cases hl : trLhs (genSym vt cst cname) q.lhs with
    | error x => rfl
    | ok l =>
      simp only [Except.map]
      cases hr : trExpr ust (genSym vt cst cname) q.rhs with
      | error x => rfl
      | ok rhs =>
        simp only [addAll]
        by_cases hc : d.contains l.defines = true
        · rw [if_pos hc, addEquation_dup st h3 l rhs (by rw [h1]; exact hc)]
        · rw [if_neg hc]
          obtain ⟨st', hs, hd, he, hi⟩ := addEquation_new st h3 l rhs (by rw [h1]; simpa using hc)
          rw [hs]
          simp only
          exact eqs_sim cname r rest st' _ _ ⟨by rw [hd, h1], by rw [he, h2], hi⟩

theorem comps_sim : ∀ (comps : List Comp) (rest : List (MCompElem × (VRef → Option VRef))) (st : MathsSt)
    (d : List VRef) (e : List FlatEq), Rel st d e →
    match genAddMaths ust vt cst comps (d, e) with
    | .error x => compsSpec ⟨ust⟩ ⟨cst.mapping⟩ (withSyms vt (comps.map plainElem) ++ rest) st = .error x
    | .ok (d', e') => ∃ st', Rel st' d' e' ∧
        compsSpec ⟨ust⟩ ⟨cst.mapping⟩ (withSyms vt (comps.map plainElem) ++ rest) st =
          compsSpec ⟨ust⟩ ⟨cst.mapping⟩ rest st'
  | [], rest, st, d, e, h => ⟨st, h, rfl⟩
  | c :: r, rest, st, d, e, h => by
    simp only [genAddMaths, withSyms, List.map_cons, List.cons_append, compsSpec, plainElem]
    have hq := eqs_sim ust vt cst c.name c.eqs [] st d e h
    simp only [List.append_nil] at hq
    cases hg : genAddEqs ust vt cst c.name c.eqs (d, e) with
    | error x =>
      rw [hg] at hq
      simp only at hq ⊢
      rw [hq]
    | ok acc =>
      obtain ⟨d', e'⟩ := acc
      rw [hg] at hq
      obtain ⟨st', hr, hs⟩ := hq
      simp only [mathElemsSpec] at hs
      simp only
      rw [hs]
      exact comps_sim r rest st' d' e' hr

theorem genAddMaths_append : ∀ (a b : List Comp) (acc : List VRef × List FlatEq),
    genAddMaths ust vt cst (a ++ b) acc = match genAddMaths ust vt cst a acc with
      | .error x => .error x
      | .ok acc' => genAddMaths ust vt cst b acc'
  | [], b, acc => rfl
  | c :: a, b, acc => by
    simp only [List.cons_append, genAddMaths]
    cases genAddEqs ust vt cst c.name c.eqs acc with
    | error x => rfl
    | ok acc' => exact genAddMaths_append a b acc'

theorem bad_own (L : Loaded) (cname : String) (b : C17.BadEq) (hp : properLhs b.lhs = true)
    (rest : List MathElem) (st : MathsSt) :
    mathElemsSpec (docTranspiler L.ust L.vt L.st cname) (single (badMEq b) :: rest) st =
      .error ⟨C17.className (C17.badEqOwn L cname b)⟩ := by
  obtain ⟨ci, pos, lhs, rhs⟩ := b
  simp only [mathElemsSpec, single, parseTree, parseEqs, badMEq, C17.badEqOwn]
  cases lhs with
  | higher x t n =>
    simp only [badSide, walkSide, ci_eq, genSym_eq]
    cases ht : checkIdent L.vt cname t with
    | error err => simp [checkIdent_err_class ht]
    | ok u =>
      cases hx : checkIdent L.vt cname x with
      | error err => simp [checkIdent_err_class hx]
      | ok u' =>
        simp only
        have : C17.className (.unsupported "TypeError: The degree of a derivative must be an int") = "TypeError" := by
          decide +kernel
        rw [this]
  | nonvar e =>
    simp only [badSide, walkSide, walkExpr_eq, trExpr_eq]
    cases he : checkExpr L.ust L.vt cname e with
    | error err => simp [checkExpr_err_class _ _ _ _ _ he]
    | ok u =>
      simp only
      cases hr : checkExpr L.ust L.vt cname rhs with
      | error err => simp [checkExpr_err_class _ _ _ _ _ hr]
      | ok u' =>
        simp only [addAll]
        rw [addEquation_other]
        · rfl
        -- a variable or a derivative on the left is what `properLhs` excludes; every other expression is `.other`
        · cases e with
          | var a => simp [properLhs] at hp
          | diff x t => simp [properLhs] at hp
          | _ => rfl

theorem bad_comp (L : Loaded) (A : List Comp) (c : Comp) (b : C17.BadEq) (hp : properLhs b.lhs = true)
    (rest : List (MCompElem × (VRef → Option VRef))) (st : MathsSt) (d : List VRef) (e : List FlatEq)
    (h : Rel st d e) :
    compsSpec ⟨L.ust⟩ ⟨L.st.mapping⟩ (withSyms L.vt (A.map plainElem) ++ (withSyms L.vt [badElem b c] ++ rest)) st =
      match genAddMaths L.ust L.vt L.st (A ++ [{ c with eqs := c.eqs.take b.pos }]) (d, e) with
      | .error x => .error x
      | .ok _ => .error ⟨C17.className (C17.badEqOwn L c.name b)⟩ := by
  have hs := comps_sim L.ust L.vt L.st A (withSyms L.vt [badElem b c] ++ rest) st d e h
  rw [genAddMaths_append]
  cases hg : genAddMaths L.ust L.vt L.st A (d, e) with
  | error x =>
    rw [hg] at hs
    exact hs
  | ok acc =>
    obtain ⟨d', e'⟩ := acc
    rw [hg] at hs
    obtain ⟨st', hr, hs⟩ := hs
    rw [hs]
    simp only [withSyms, List.map_cons, List.map_nil, List.cons_append, List.nil_append, compsSpec, badElem, genAddMaths]
    have hq := eqs_sim L.ust L.vt L.st c.name (c.eqs.take b.pos)
      (single (badMEq b) :: ((c.eqs.drop b.pos).map goodEq).map single) st' d' e' hr
    cases hq' : genAddEqs L.ust L.vt L.st c.name (c.eqs.take b.pos) (d', e') with
    | error x =>
      rw [hq'] at hq
      simp only at hq ⊢
      rw [hq]
    | ok acc' =>
      obtain ⟨d'', e''⟩ := acc'
      rw [hq'] at hq
      obtain ⟨st'', _, hq⟩ := hq
      simp only
      rw [hq, bad_own L c.name b hp]

end

/-- the `Model` object as `_add_connections` leaves it, as far as `add_equation` reads it: every conversion equation
    `target = source · factor` is the definition of its target. NOT the object that `PAddVarRef.R` (Tie/AddVarRef.lean)
    relates to the loader's record: there a Variable is its position on the heap `add_variable` built, here it is the
    number `encV (component, name)` in a `varDef` over an empty heap; no theorem relates the two. -/
def msOf (defined : List VRef) : Model.MState :=
  { varDef := defined.map (fun v => (encV v, ⟨0, .var (encV v), [], [], false⟩)) }

theorem msOf_inv (defined : List VRef) : Inv ⟨msOf defined, defined, []⟩ := by
  intro w
  simp only [Model.isDefined, msOf, Model.hasKey, List.any_nil, Bool.false_or]
  induction defined with
  | nil => rfl
  | cons a l ih =>
    simp only [List.map_cons, List.any_cons, List.contains_cons]
    rw [ih]
    rw [← Bool.beq_eq_decide_eq, encV_beq, BEq.comm]

/-- **the stage `self._add_maths(component_variables, connected_variable_mapping)`**: the GENERATED `_add_maths` on the
    `<component>` elements of the document, the mapping of the connection stage and the model object it left -/
def genMathsWalkStage (fd : C17.FaultDoc) (st : ParseState) : Except PyErr ParseState :=
  match st.loaded with
  | none => notReady
  | some L =>
    match MathsWalk.addMaths ⟨L.ust⟩ (withSyms L.vt (mathsElems fd)) ⟨L.st.mapping⟩
        ⟨msOf (L.st.convs.map (·.target)), L.st.convs.map (·.target), []⟩ with
    | .error e => .error e
    | .ok s => .ok { st with defined := some s.defined, maths := some s.eqs }

theorem withSyms_append (vt : VarTable) (a b : List MCompElem) : withSyms vt (a ++ b) = withSyms vt a ++ withSyms vt b :=
  List.map_append

/-- **the generated `_add_maths` IS the maths stage of the hand model** (`Load.checkMaths`; at a bad equation
    `C17.badEqErr`), and it has added exactly `Load.mathsOf` -/
theorem genMathsWalkStage_eq (fd : C17.FaultDoc) (hb : BadWF fd = true) (st : ParseState) :
    genMathsWalkStage fd st = match (parseView fd).addMaths st with
      | .error e => .error e
      | .ok st' => .ok { st' with maths := st.loaded.map (fun L => L.maths fd.doc) } := by
  simp only [genMathsWalkStage, parseView, addMaths_spec]
  cases st.loaded with
  | none => rfl
  | some L =>
    simp only
    have hR : Rel ⟨msOf (L.st.convs.map (·.target)), L.st.convs.map (·.target), []⟩ (L.st.convs.map (·.target)) [] :=
      ⟨rfl, rfl, msOf_inv _⟩
    unfold BadWF at hb
    unfold mathsElems
    cases hbe : fd.badEqs.head? with
    | none =>
      simp only [Option.map_some]
      have hs := comps_sim L.ust L.vt L.st fd.doc.comps [] _ _ _ hR
      simp only [List.append_nil] at hs
      rw [genAddMaths_eq] at hs
      cases hm : checkMaths L.ust L.vt L.st fd.doc.comps (L.st.convs.map (·.target)) with
      | error e =>
        rw [hm] at hs
        simp only at hs
        rw [hs]
        simp [stageErr, checkMaths_err_class _ _ _ _ _ _ hm]
      | ok d =>
        rw [hm] at hs
        obtain ⟨st', ⟨h1, h2, _⟩, hs⟩ := hs
        rw [hs]
        simp [compsSpec, h1, h2, Loaded.maths]
    | some b =>
      rw [hbe] at hb
      simp only [Bool.and_eq_true, decide_eq_true_eq] at hb
      obtain ⟨hlt, hp⟩ := hb
      have hget : fd.doc.comps[b.comp]? = some fd.doc.comps[b.comp] := List.getElem?_eq_getElem hlt
      simp only [hget, withSyms_append, List.append_assoc, stageErr, C17.badEqErr, C17.truncComps, Option.map_some,
        Option.getD_some]
      generalize fd.doc.comps[b.comp] = c
      rw [bad_comp L _ c b hp _ _ _ _ hR, genAddMaths_eq]
      cases hm : checkMaths L.ust L.vt L.st (fd.doc.comps.take b.comp ++ [{ c with eqs := c.eqs.take b.pos }])
          (L.st.convs.map (·.target)) with
      | error e => simp [checkMaths_err_class _ _ _ _ _ _ hm]
      | ok d => rfl

end Cellml.Tie.PMathsWalk
