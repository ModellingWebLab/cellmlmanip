import Cellml.Tie.ConnDir
import Cellml.Tie.ConnLoop
import Cellml.Tie.LoaderConsts
import Cellml.Tie.LoaderSym
import Cellml.Tie.LoaderRel
import Cellml.Tie.LoaderComps
import Cellml.Tie.LoaderParse

/-! # The ties of parser.py function by function (one file per python function, named after it), collected under one
    import. -/
