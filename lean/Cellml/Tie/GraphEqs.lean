import Cellml.Generated.Code.GraphEqs
import Cellml.C09.Build

/-! # Tie: `Model.get_equations_for` (generated from cellmlmanip/model.py) = `C09.getEquationsFor` (hand model, the
    function the theorems of `Props/C09.lean` are about)

    The generated function returns the list of `graph.nodes[v]['equation']` attributes (`Option Eqn`, every entry
    `some`); the hand model returns the list of their left-hand sides. -/

namespace Cellml.Tie.PGraph
open C09 Cellml.Gen

theorem hasEq_eq_isSome (eqs : List Eqn) (v : Node) : hasEq eqs v = (eqnOf eqs v).isSome :=
  (isSome_eqnOf eqs v).symm

/-- the loop that collects the required set: any body that does, per request, what the generated body does. Python
    raises for a request that is no node from inside this loop, before the sort is consumed: hence the model's test
    `vars.all (· ∈ nodes)` ahead of `lexTopo`. -/
theorem reqLoop (g : Graph) (recurse : Bool) (f : Node → List Node → Except PyErr (ForInStep (List Node)))
    (hf : ∀ v acc, f v acc =
      if v ∈ g.nodes then .ok (.yield (acc ++ v :: (if recurse then ancestors g v else preds g v)))
      else .error ⟨if recurse then "NetworkXError" else "KeyError"⟩) : ∀ (vars acc : List Node),
    forIn vars acc f
    = if vars.all (fun v => decide (v ∈ g.nodes)) then
        Except.ok (acc ++ vars.flatMap (fun v => v :: (if recurse then ancestors g v else preds g v)))
      else Except.error ⟨if recurse then "NetworkXError" else "KeyError"⟩
  | [], acc => by simp [pure, Except.pure]
  | v :: vs, acc => by
    rw [List.forIn_cons, hf]
    by_cases hv : v ∈ g.nodes
    · simp only [hv, if_true, bind, Except.bind, reqLoop g recurse f hf vs, List.all_cons, decide_true, Bool.true_and,
        List.flatMap_cons, List.append_assoc, List.cons_append]
    · simp [hv, bind, Except.bind]

theorem filterLoop (eqs : List Eqn) (req : List Node)
    (f : Node → List (Option Eqn) → Except PyErr (ForInStep (List (Option Eqn))))
    (hf : ∀ v acc, f v acc = .ok (.yield (acc ++ (if req.contains v && hasEq eqs v then [eqnOf eqs v] else [])))) :
    ∀ (l : List Node) (acc : List (Option Eqn)),
    forIn l acc f = Except.ok (acc ++ (l.filter (fun v => req.contains v && hasEq eqs v)).map (eqnOf eqs))
  | [], acc => by simp [pure, Except.pure]
  | v :: vs, acc => by
    rw [List.forIn_cons, hf]
    simp only [bind, Except.bind, filterLoop eqs req f hf vs, List.filter_cons]
    cases (req.contains v && hasEq eqs v) <;> simp

/-- **Tie of `Model.get_equations_for`.** For every equation system, request list, recursion mode and number
    representation, the definition generated from model.py returns the equations of exactly the nodes (in the same
    order) that `C09.getEquationsFor` returns, and raises the python class of the model's error otherwise
    (`errName`: `notInGraph` is `NetworkXError` when recursing and `KeyError` otherwise). -/
theorem getEquationsFor_tie (key : Node → String) (eqs : List Eqn) (vars : List Node) (recurse strip : Bool) :
    GraphEqs.getEquationsFor (eqsView key eqs recurse) vars recurse strip
      = errClass (errName recurse) ((getEquationsFor key eqs vars recurse strip).map (·.map (eqnOf eqs))) := by
  unfold GraphEqs.getEquationsFor getEquationsFor eqsView
  simp only [bind, Except.bind, pure, Except.pure, Py.truthy_bool]
  cases hb : buildGraph key eqs with
  | error e => cases strip <;> simp [errClass, Except.map]
  | ok g0 =>
    have hG : (if strip = true then errClass (errName recurse) (Except.map (stripGraph eqs) (Except.ok g0))
      else errClass (errName recurse) (Except.ok g0)) = Except.ok (graphFor eqs strip g0) := by
      cases strip <;> simp [errClass, Except.map, graphFor]
    rw [hG]
    simp only []
    generalize graphFor eqs strip g0 = G
    rw [reqLoop G recurse _ (fun v acc => by
      cases recurse <;> by_cases hv : v ∈ G.nodes <;> simp [nxAncestors, nxPred, hv])]
    by_cases hall : (vars.all fun x => decide (x ∈ G.nodes)) = true
    · simp only [hall, if_true, not_true_eq_false, if_false, nxLexTopo]
      cases hs : lexTopo key G with
      | error e =>
        cases lexTopo_error hs
        simp [errClass, Except.map, errName]
      | ok sorted =>
        simp only []
        generalize hreq : ([] ++ List.flatMap _ vars) = req
        -- the two `continue`s of the loop body are the `&&` of the model's filter
        rw [filterLoop eqs req _ (fun v acc => by
          rw [hasEq_eq_isSome]
          simp only [Py.isIn]
          by_cases h1 : req.contains v = true <;> by_cases h2 : (eqnOf eqs v).isNone = true <;> simp_all)]
        subst hreq
        simp only [errClass, Except.map, List.nil_append]
        congr 2
        apply List.filter_congr
        intro v _
        congr 1
        simp only [required, List.contains_eq_mem, List.mem_flatMap, List.mem_cons, List.mem_append, decide_eq_decide]
        constructor
        · rintro ⟨a, ha, h | h⟩
          · subst h; exact Or.inl ha
          · exact Or.inr ⟨a, ha, by cases recurse <;> simpa using h⟩
        · rintro (h | ⟨a, ha, h⟩)
          · exact ⟨v, h, Or.inl rfl⟩
          · exact ⟨a, ha, Or.inr (by cases recurse <;> simpa using h)⟩
    · simp [hall, errClass, Except.map, errName]

end Cellml.Tie.PGraph
