import Cellml.Tie.Prelude

/-! # Method bodies that MUTATE the object they run on, and fuelled `while` loops — for the cmeta ties (`Tie/Cmeta*`)

    `Except PyErr` (Prelude) is enough for a function that only reads. A python method such as `Model.remove_variable`
    changes `self` step by step and may raise half-way; what the caller then holds is the state AT THE RAISE. `PyM σ α`
    keeps it: a computation takes the object graph `σ` and answers with a value or an exception class AND the state it
    left behind. The generated definitions are ordinary `do` blocks in this monad; the leaves that read or write a
    field are the `rd` / `rdE` / `upd` / `updE` primitives below (the pattern tables wrap them). Only `CmetaView`
    imports this file, hence the namespace; the `ModelState` ties have a monad of the same type of their own
    (`Tie/ModelStateView.lean`). Core Lean only. -/

namespace Cellml.Tie.PCmeta

/-- a python method body over the mutable state `σ`: value or exception class, and the state left behind either way -/
def PyM (σ α : Type) : Type := σ → Except PyErr α × σ

namespace PyM
variable {σ α β : Type}

@[inline] protected def pure (a : α) : PyM σ α := fun s => (.ok a, s)

@[inline] protected def bind (x : PyM σ α) (f : α → PyM σ β) : PyM σ β := fun s =>
  match x s with
  | (.ok a, s') => f a s'
  | (.error e, s') => (.error e, s')

instance : Monad (PyM σ) where
  pure := PyM.pure
  bind := PyM.bind

/-- `raise` -/
@[inline] protected def throw (e : PyErr) : PyM σ α := fun s => (.error e, s)

/-- `try … except`: the handler runs on the state the body left behind -/
@[inline] protected def tryCatch (x : PyM σ α) (h : PyErr → PyM σ α) : PyM σ α := fun s =>
  match x s with
  | (.error e, s') => h e s'
  | (.ok a, s') => (.ok a, s')

instance : MonadExceptOf PyErr (PyM σ) where
  throw := PyM.throw
  tryCatch := PyM.tryCatch

@[inline] def rd (f : σ → α) : PyM σ α := fun s => (.ok (f s), s)

/-- a read that may raise (a call of a function that does not mutate) -/
@[inline] def rdE (f : σ → Except PyErr α) : PyM σ α := fun s => (f s, s)

@[inline] def upd (f : σ → σ) : PyM σ Unit := fun s => (.ok (), f s)

/-- a write that may raise, leaving a state behind either way -/
@[inline] def updE (f : σ → Except PyErr Unit × σ) : PyM σ Unit := f

@[simp] theorem pure_run (a : α) (s : σ) : (pure a : PyM σ α) s = (.ok a, s) := rfl
@[simp] theorem throw_run (e : PyErr) (s : σ) : (throw e : PyM σ α) s = (.error e, s) := rfl
@[simp] theorem rd_run (f : σ → α) (s : σ) : rd f s = (.ok (f s), s) := rfl
@[simp] theorem rdE_run (f : σ → Except PyErr α) (s : σ) : rdE f s = (f s, s) := rfl
@[simp] theorem upd_run (f : σ → σ) (s : σ) : upd f s = (.ok (), f s) := rfl
@[simp] theorem updE_run (f : σ → Except PyErr Unit × σ) (s : σ) : updE f s = f s := rfl

theorem bind_run (x : PyM σ α) (f : α → PyM σ β) (s : σ) :
    (x >>= f) s = match x s with
      | (.ok a, s') => f a s'
      | (.error e, s') => (.error e, s') := rfl

@[simp] theorem bind_run_ok (x : PyM σ α) (f : α → PyM σ β) (s s' : σ) (a : α) (h : x s = (.ok a, s')) :
    (x >>= f) s = f a s' := by simp [bind_run, h]

@[simp] theorem bind_run_error (x : PyM σ α) (f : α → PyM σ β) (s s' : σ) (e : PyErr) (h : x s = (.error e, s')) :
    (x >>= f) s = (.error e, s') := by simp [bind_run, h]

theorem ite_run (c : Prop) [Decidable c] (x y : PyM σ α) (s : σ) :
    (if c then x else y) s = if c then x s else y s := by split <;> rfl

theorem bind_apply (x : PyM σ α) (f : α → PyM σ β) (s : σ) :
    PyM.bind x f s = match x s with
      | (.ok a, s') => f a s'
      | (.error e, s') => (.error e, s') := rfl

end PyM

namespace Py

/-- `while test: body` over the loop variables `σ`, at most `fuel` tests; out of fuel: `FuelExhausted` (a convention
    of the translation: python has no such exception — a tie theorem says on which inputs it cannot happen) -/
def whileFuel {m : Type → Type} [Monad m] [MonadExceptOf PyErr m] {σ : Type} :
    Nat → σ → (σ → m Bool) → (σ → m σ) → m σ
  | 0, _, _, _ => throw (PyErr.mk "FuelExhausted")
  | fuel + 1, s, test, body => do
    if (← test s) then
      let s' ← body s
      whileFuel fuel s' test body
    else
      return s

/-- python `str + str` -/
instance : Add String := ⟨String.append⟩

@[simp] theorem str_add (a b : String) : a + b = a ++ b := rfl

end Py

end Cellml.Tie.PCmeta
