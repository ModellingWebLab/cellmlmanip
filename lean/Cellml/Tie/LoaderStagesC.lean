import Cellml.C17.Stages
import Cellml.Generated.Code.ConnSetup
import Cellml.Tie.ConnDir
import Cellml.Tie.ExceptRun

/-! # Closed GENERATED stages of `Parser.parse`, part C: the SET-UP part of `_add_connections` (the stage that runs it,
    `GenA.genConnStage`, is in Tie/LoaderGen.lean)

    `Gen.ConnSetup.addConnectionsSetup` is every statement of `Parser._add_connections` that precedes
    `while connections_to_process:` (spec key `before_while`): `connected_variable_mapping = {}`, the two nested `for`
    loops over `<connection>` / `<map_variables>` (existence of the two components, `_determine_connection_direction` —
    the GENERATED one), and `unchanged_loop_count = 0`.

    `connSetup_tie`: on the `<connection>` elements of a `Load.Doc` it is `Load.directAll` (same deque, same exception
    class), the counter it returns is `0` and the mapping it leaves is empty — the start values of the closed loop
    `genConnectLoop` (`genConnect` starts it from exactly these values).

    A `Load.Doc` keeps one entry per `<map_variables>` (`Doc.conns`); `connElems` writes them back as XML, one
    `<connection>` per entry (the code tests the two components once per `<connection>`, the model once per entry: the
    same tests, repeated). -/

namespace Cellml.Tie.LoaderClose
open Load Cellml.Gen Cellml.Tie.PLoaderClose

/-- the `<connection>` elements of a `Load.Doc`: one per `<map_variables>` -/
def connElems (conns : List Conn) : List ConnElem := conns.map (fun c => ⟨c.c1, c.c2, [⟨c.v1, c.v2⟩]⟩)

/-- the loop over the `<connection>` elements is `Load.directAll`, for ANY body that on the element of a connection
    raises `ValueError` for an unknown component, else the class of what `Load.direction` raises, else appends the pair
    `Load.direction` gives -/
theorem csLoop (comps : List String) (par : ParentMap) (vt : VarTable)
    (body : ConnElem → List (VRef × VRef) → Except PyErr (ForInStep (List (VRef × VRef))))
    (hb : ∀ (c : Conn) dq, body ⟨c.c1, c.c2, [⟨c.v1, c.v2⟩]⟩ dq =
      if (!comps.contains c.c1 || !comps.contains c.c2) = true then .error ⟨"ValueError"⟩
      else (errClass Err.className (direction par vt c)).map fun d => ForInStep.yield (dq ++ [d])) :
    ∀ (conns : List Conn) (dq : List (VRef × VRef)),
    forIn (connElems conns) dq body =
      match directAll comps par vt conns with
      | .error e => .error ⟨e.className⟩
      | .ok ds => .ok (dq ++ ds)
  | [], dq => by simp [connElems, directAll]; rfl
  | c :: r, dq => by
    have ih := csLoop comps par vt body hb r
    simp only [connElems, List.map_cons] at ih ⊢
    rw [List.forIn_cons, hb]
    simp only [directAll]
    cases h1 : comps.contains c.c1
    · rfl
    cases h2 : comps.contains c.c2
    · rfl
    simp only [Bool.not_true, Bool.or_self, Bool.false_eq_true, if_false, except_run]
    cases direction par vt c with
    | error e => rfl
    | ok d =>
      simp only [ih]
      cases directAll comps par vt r <;> simp

/-- **the set-up part of `Parser._add_connections`** (generated from the source, `_determine_connection_direction` the
    generated one): for every set of component names, encapsulation map, variable table, list of connections and
    work-list state it raises exactly when `Load.directAll` does (same class) and otherwise returns `directAll`'s deque,
    `unchanged_loop_count = 0` and the state with an empty `connected_variable_mapping` -/
theorem connSetup_tie (comps : List String) (par : ParentMap) (vt : VarTable) (conns : List Conn) (st : CState) :
    ConnSetup.addConnectionsSetup ⟨comps, loaderView par vt⟩ ⟨connElems conns⟩ st =
      match directAll comps par vt conns with
      | .error e => .error ⟨e.className⟩
      | .ok dl => .ok (dl, 0, { st with mapping := [] }) := by
  unfold ConnSetup.addConnectionsSetup
  simp only [except_run]
  -- the hole is the generated body of `for connection in connection_elements`; `hb` says what one iteration of it does
  rw [csLoop comps par vt _ ?hb conns []]
  case hb =>
    intro c dq
    simp only [Py.isIn, List.forIn_cons, List.forIn_nil, bind, Except.bind, pure, Except.pure]
    cases comps.contains c.c1 <;> cases comps.contains c.c2 <;>
      simp only [Bool.not_true, Bool.not_false, Bool.or_self, Bool.or_true, Bool.true_or, Bool.false_eq_true, if_true,
        if_false]
    rw [← connDir_tie]
    cases ConnDir.determineConnectionDirection (loaderView par vt) c.c1 c.v1 c.c2 c.v2 <;> rfl
  cases directAll comps par vt conns <;> simp

theorem directAll_err_class (comps : List String) (par : ParentMap) (vt : VarTable) : ∀ (conns : List Conn) (e : Err),
    directAll comps par vt conns = .error e → C17.className e = e.className :=
  fun _ _ h => C17.directAll_err_class h

end Cellml.Tie.LoaderClose
