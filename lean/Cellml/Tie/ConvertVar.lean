import Cellml.Tie.ConvertVarHelpers
import Cellml.Tie.ConvertVarDriver
import Cellml.Tie.ConvertVarWF
import Cellml.Tie.ConvertVarSym

/-! # Tie of the `convert_variable` family (cellmlmanip/model.py) to the hand model `Cellml/Model/ConvertVar.lean`

    Generated code: `Cellml/Generated/Code/ConvertVar.lean` (spec `harness/code_specs/convertvar.py`, view
    `Cellml/Tie/ConvertVarView.lean`), tied to the flag model `Model.CV` by a relation (`Tied`: `<name>_tie`).

    A SECOND chain, in files this one does not import: the same functions generated with exceptions that carry their
    class and the state left behind (`Cellml/Generated/Code/ConvertVarE.lean`, view `ConvertVarEView.lean`) EQUAL the
    stopping model `Model.CVE` (`ConvertVarE.lean`, `<name>_tieE`), which refines the flag model
    (`ConvertVarERefine.lean`, `ref_<name>`). It gives what the first chain gives from two of its four domain
    hypotheses, and the class and the state at a raise besides; `Props/C06Gen.lean` rests on the first chain,
    `Props/C06GenE.lean` on the second, and no theorem relates the two generated definitions. A change of one of the six
    python functions is repaired in both: `<name>_tie`, `<name>_tieE`, `ref_<name>`. -/

/-! The same python functions, run on symbolic values (`Cellml/Generated/Code/ConvertVarSym.lean`, spec
    `convertvarsym.py`, view `ConvertVarSymView.lean`), are tied to the hand model of C19 `Units.convertVariable` by
    `Cellml.Tie.CVSym.convertVariable_sym_tie`. -/

/-- info: 'Cellml.Tie.CVSym.convertVariable_sym_tie' depends on axioms: [propext, Classical.choice, Quot.sound] -/
#guard_msgs in
#print axioms Cellml.Tie.CVSym.convertVariable_sym_tie

namespace Cellml.Tie.CV

/-- info: 'Cellml.Tie.CV.convertVariable_tie' depends on axioms: [propext, Classical.choice, Quot.sound] -/
#guard_msgs in
#print axioms convertVariable_tie

/-- info: 'Cellml.Tie.CV.convertVariable_tie_wf' depends on axioms: [propext, Classical.choice, Quot.sound] -/
#guard_msgs in
#print axioms convertVariable_tie_wf

end Cellml.Tie.CV
