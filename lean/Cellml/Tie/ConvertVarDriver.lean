import Cellml.Tie.ConvertVarHelpers

/-! # Tie: the driver `Model.convert_variable` (generated from model.py) = `Model.CV.convertVariable` -/

namespace Cellml.Tie.CV
open Model Model.CV Cellml.Gen

/-- every entry of `_ode_definition_map` has a derivative on the left (what `add_equation` files there) -/
def DerivOdes (s : CState) : Prop := ∀ p ∈ s.odeDef, ∃ x t, p.2.lhs = CLhs.deriv x t

theorem DerivOdes.addVariable {s : CState} (h : DerivOdes s) (n : String) (u : U) (i : Option Rat) :
    DerivOdes (CV.addVariable s n u i).1 := by
  unfold CV.addVariable; split <;> exact h

theorem kept_derivOdes : KeptAll DerivOdes :=
  keptAll_of_odeDef (fun m => ∀ p ∈ m, ∃ x t, p.2.lhs = CLhs.deriv x t)
    (fun m e x t hl h p hp => by
      rcases mem_insertKey_weak _ _ _ _ hp with rfl | hp
      · exact ⟨x, t, hl⟩
      · exact h p hp)
    (fun m x h p hp => h p ((mem_eraseKey _ _ _).mp hp).1)

theorem DerivOdes.convertInstance {s : CState} (h : DerivOdes s) (v : Nat) (cf : Rat) (u : U) (dir : Dir) (move : Bool) :
    DerivOdes (convertInstance s v cf u dir move).1 :=
  kept_derivOdes.convertInstance h v cf u dir move

theorem DerivOdes.convertStateDeriv {s : CState} (h : DerivOdes s) (v nv : Nat) (cfq : X) :
    DerivOdes (convertStateDeriv s v nv cfq).1 :=
  kept_derivOdes.convertStateDeriv h v nv cfq

theorem map_fst_pyInsert {β : Type} (x : Nat × β) (l : List (Nat × β)) :
    (pyInsert (fun p : Nat × β => p.1) x l).map (·.1) = insertSorted id x.1 (l.map (·.1)) := by
  induction l with
  | nil => rfl
  | cons y ys ih =>
    simp only [pyInsert, List.map_cons, insertSorted, id]
    split
    · rfl
    · simp only [List.map_cons, ih]

theorem map_fst_pySorted {β : Type} (l : List (Nat × β)) :
    (pySorted (fun p : Nat × β => p.1) l).map (·.1) = sortByKey id (l.map (·.1)) := by
  induction l with
  | nil => rfl
  | cons x xs ih => simp only [pySorted, List.map_cons, sortByKey, map_fst_pyInsert, ih]

theorem mem_pyInsert {α : Type} (key : α → Nat) (x : α) (l : List α) (p : α) (h : p ∈ pyInsert key x l) :
    p = x ∨ p ∈ l := by
  induction l with
  | nil => simp only [pyInsert, List.mem_singleton] at h; exact Or.inl h
  | cons y ys ih =>
    simp only [pyInsert] at h
    split at h
    · rcases List.mem_cons.mp h with h | h
      · exact Or.inl h
      · exact Or.inr h
    · rcases List.mem_cons.mp h with h | h
      · exact Or.inr (h ▸ List.mem_cons_self ..)
      · rcases ih h with h | h
        · exact Or.inl h
        · exact Or.inr (List.mem_cons_of_mem _ h)

theorem mem_pySorted {α : Type} (key : α → Nat) (l : List α) (p : α) (h : p ∈ pySorted key l) : p ∈ l := by
  induction l with
  | nil => exact h
  | cons x xs ih =>
    rcases mem_pyInsert key x _ p h with h | h
    · exact h ▸ List.mem_cons_self ..
    · exact List.mem_cons_of_mem _ (ih h)

theorem map_snd_eq_filterMap_lookup {β : Type} (l m : List (Nat × β)) (h : ∀ p ∈ m, l.lookup p.1 = some p.2) :
    m.map (·.2) = (m.map (·.1)).filterMap (fun x => l.lookup x) := by
  induction m with
  | nil => rfl
  | cons p m ih =>
    simp only [List.map_cons, List.filterMap_cons, h p (List.mem_cons_self ..)]
    rw [ih (fun q hq => h q (List.mem_cons_of_mem _ hq))]

/-- python's `sorted(self._ode_definition_map.items(), key=lambda v_eq: v_eq[0].order_added)`, read for its equations,
    is the hand model's `sortedOdes` (the keys of a dict are distinct) -/
theorem sortedOdes_eq (s : CState) (hk : (s.odeDef.map (·.1)).Nodup) :
    sortedOdes s = (pySorted (fun v_eq : Nat × CEqn => orderAdded s v_eq.1) (odeItems s)).map (·.2) := by
  unfold sortedOdes odeItems orderAdded
  rw [← map_fst_pySorted]
  refine (map_snd_eq_filterMap_lookup _ _ fun p hp => ?_).symm
  have hm := mem_pySorted _ _ _ hp
  exact (List.lookup_eq_some_iff_mem hk).mpr hm

/-- `_ode_definition_map` is a dict -/
def KeysNodup (s : CState) : Prop := (s.odeDef.map (·.1)).Nodup

theorem KeysNodup.addVariable {s : CState} (h : KeysNodup s) (n : String) (u : U) (i : Option Rat) :
    KeysNodup (CV.addVariable s n u i).1 := by
  unfold CV.addVariable; split <;> exact h

theorem kept_keysNodup : KeptAll KeysNodup :=
  keptAll_of_odeDef (fun m => (m.map Prod.fst).Nodup) (fun m e x _ _ h => nodup_keys_insertKey x e m h)
    (fun m x h => List.Nodup.sublist (keys_eraseKey_sublist x m) h)

theorem KeysNodup.convertInstance {s : CState} (h : KeysNodup s) (v : Nat) (cf : Rat) (u : U) (dir : Dir) (move : Bool) :
    KeysNodup (convertInstance s v cf u dir move).1 :=
  kept_keysNodup.convertInstance h v cf u dir move

theorem KeysNodup.convertStateDeriv {s : CState} (h : KeysNodup s) (v nv : Nat) (cfq : X) :
    KeysNodup (convertStateDeriv s v nv cfq).1 :=
  kept_keysNodup.convertStateDeriv h v nv cfq

theorem freeStep_sticky (v nv : Nat) (cfq : X) (acc : CState × Rep) (ode : CEqn) (h : acc.1.raised = true) :
    (freeStep v nv cfq acc ode).1.raised = true :=
  kept_raised.freeStep h v nv cfq ode

theorem freePhase_sticky (c : Bool) (acc : CState × Rep) (v nv : Nat) (cfq : X) (h : acc.1.raised = true) :
    (freePhase c acc v nv cfq).1.raised = true :=
  kept_raised.freePhase h c v nv cfq

theorem replacePhase_sticky (acc : CState × Rep) (h : acc.1.raised = true) : (replacePhase acc).raised = true :=
  kept_raised.replacePhase h

/-- `{}.update(d)` for the dict `_convert_state_variable_deriv` answers is that dict -/
theorem dictUpdate_nil_convertStateDeriv (s : CState) (v nv : Nat) (cfq : X) :
    dictUpdate [] (convertStateDeriv s v nv cfq).2 = (convertStateDeriv s v nv cfq).2 := by
  unfold CV.convertStateDeriv
  split
  · split <;> rfl
  · rfl

theorem nameOfV_mem (s : CState) (v : Nat) (hv : v < s.vars.length) : nameOfV s v ∈ names s := by
  unfold CV.nameOfV CV.names
  rw [List.getElem?_eq_getElem hv]
  exact List.mem_map.mpr ⟨_, List.getElem_mem hv, rfl⟩

theorem num_beq_one (cf : Rat) : ((CfVal.num cf) == (1 : CfVal)) = decide (cf = 1) := by
  by_cases h : cf = 1
  · subst h; simp; rfl
  · simp only [h, decide_false]
    exact beq_eq_false_iff_ne.mpr (fun hh => h (CfVal.num.inj hh))

theorem ok_bind {β γ : Type} (a : β) (k : β → Except PyErr γ) : (Except.ok a >>= k) = k a := Except.ok_bind a k

/-- the model's result for a factor other than 1, phase by phase. The INPUT arm has the shape `F (if c then m' else s1)`
    that `tied_optionalG` takes for python's `if original_variable in state_symbols: …` followed by the rest. -/
theorem convertVariable_ne_one (s : CState) (v : Nat) (u : U) (cf : Rat) (dir : Dir) (move : Bool) (h : cf ≠ 1) :
    ((convertVariable s v u cf dir move).1, (convertVariable s v u cf dir move).2.1) =
      match dir with
      | .output => convertInstance s v cf u .output move
      | .input =>
        (fun acc : CState × Rep =>
          (replacePhase (freePhase (getFree s == some v) (acc.1, dictUpdate [] acc.2) v
            (convertInstance s v cf u .input move).2 (.lit cf (u.div (unitOfV s v)))),
           (convertInstance s v cf u .input move).2))
          (if hasKey v s.odeDef = true then
            convertStateDeriv (convertInstance s v cf u .input move).1 v (convertInstance s v cf u .input move).2
              (.lit cf (u.div (unitOfV s v)))
           else ((convertInstance s v cf u .input move).1, [])) := by
  unfold CV.convertVariable
  simp only [if_neg h]
  cases dir with
  | output => rfl
  | input =>
    simp only [statePhase]
    split
    · simp only [dictUpdate_nil_convertStateDeriv]
    · rfl

/-- **`convert_variable` as generated from model.py against the flag model**: when the units module answers the factor
    `cf`, python returns exactly the model's state and variable with the flag down, or raises with the flag up. Domain:
    the flag is down on entry, the variable is in the model, `_ode_definition_map` files derivatives under distinct
    keys (all of which `Inv0` gives: `convertVariable_tie_inv0`). The flag must be down on entry because the view's
    mutating calls (`guardRaised`) test the flag of the state they RETURN. -/
theorem convertVariable_tie (view : CVView) (s : CState) (v : Nat) (u : U) (dir : Dir) (move : Bool) (cf : Rat)
    (hs : s.raised = false) (hv : v < s.vars.length) (hd : DerivOdes s) (hk : KeysNodup s)
    (hcf : view.getConversionFactor (unitOfV s v) u = .ok cf) :
    Tied (ConvertVar.convertVariable view s v u dir move)
      ((convertVariable s v u cf dir move).1, (convertVariable s v u cf dir move).2.1) := by
  unfold ConvertVar.convertVariable
  have hin : Py.isIn (nameOfV s v) (CV.names s) = true := by
    simpa [Py.isIn] using nameOfV_mem s v hv
  have hget : view.getCf (unitOfV s v) u = .ok (.num cf) := by simp [CVView.getCf, hcf]
  simp only [hin, hget, Bool.not_true, Bool.false_eq_true, if_false, ok_bind, num_beq_one]
  by_cases h1 : cf = 1
  · subst h1
    simp only [decide_true, if_true]
    exact ⟨by simp [CV.convertVariable], by simpa [CV.convertVariable] using hs⟩
  · simp only [h1, decide_false, Bool.false_eq_true, if_false]
    rw [convertVariable_ne_one s v u cf dir move h1]
    rw [if_pos (show Py.truthy (CfVal.num cf).isNumber = true from rfl)]
    have hq : (createQuantity (CfVal.num cf) (u / unitOfV s v)).toX = X.lit cf (u.div (unitOfV s v)) := rfl
    simp only [hq]
    refine tied_bind_eq (a := getFree s) ?_ ?_
    · -- `try: free_symbol = self.get_free_variable() except ValueError: free_symbol = None`
      cases hf : getFree s <;>
        simp [getFreeVariableM, hf, tryCatch, tryCatchThe, MonadExceptOf.tryCatch, Except.tryCatch, pure] <;> rfl
    · cases dir with
      | output =>
        refine TiedG.bind (convertInstance_tie s v cf u .output move) (fun h => h) fun h => ?_
        exact ⟨rfl, h⟩
      | input =>
        have hF : ∀ (nv : Nat) (b : CState × Rep), b.1.raised = true →
            (replacePhase (freePhase (getFree s == some v) (b.1, dictUpdate [] b.2) v nv
              (X.lit cf (u.div (unitOfV s v))))).raised = true :=
          fun nv b hb => replacePhase_sticky _ (freePhase_sticky _ _ _ _ _ hb)
        refine TiedG.bind (convertInstance_tie s v cf u .input move) (fun h => ?_) fun hci => ?_
        · refine hF _ _ ?_
          split
          · exact convertStateDeriv_sticky _ _ _ _ h
          · exact h
        · simp only [show (Dir.input == Dir.output) = false from rfl, Bool.false_eq_true, if_false]
          have hc : Py.isIn v (stateVariables s) = hasKey v s.odeDef := contains_keys_eq_hasKey v s.odeDef
          have hc2 : (some v == getFree s) = (getFree s == some v) := BEq.comm
          rw [hc, hc2]
          have hDci := hd.convertInstance v cf u .input move
          have hKci := hk.convertInstance v cf u .input move
          -- from here on the result of `_convert_variable_instance` is just a state: the unifier must not look inside
          generalize convertInstance s v cf u .input move = ci at hci hDci hKci ⊢
          refine tied_optionalG (rb := fun r : CState × Rep => r.1.raised)
            (fun acc : CState × Rep => DerivOdes acc.1 ∧ KeysNodup acc.1) _ _ _ (ci.1, []) _
            (fun acc : CState × Rep =>
              (replacePhase (freePhase (getFree s == some v) (acc.1, dictUpdate [] acc.2) v ci.2
                (X.lit cf (u.div (unitOfV s v)))), ci.2))
            (fun _ => convertStateDeriv_tie _ _ _ _ (fun e he => hDci _ (List.mem_of_lookup _ _ _ he)))
            (hF ci.2) (fun _ => ⟨hDci.convertStateDeriv _ _ _, hKci.convertStateDeriv _ _ _⟩) ⟨hDci, hKci⟩
            (fun b hDb hb => ?_) hci
          unfold freePhase
          refine tied_optionalG (rb := fun r : CState × Rep => r.1.raised) (fun _ => True) _ _ _
            (b.1, dictUpdate [] b.2) _ (fun acc : CState × Rep => (replacePhase acc, ci.2))
            (fun _ => ?_) (fun b2 hb2 => replacePhase_sticky _ hb2) (fun _ => trivial) trivial (fun b2 _ hb2 => ?_) hb
          · -- the loop over the ODEs in model order is the hand model's `foldl` of `freeStep`
            dsimp only
            rw [sortedOdes_eq _ hDb.2, List.foldl_map]
            refine tiedG_forIn_mem (fun r : CState × Rep => r.1.raised) _ _
              (fun a p ha => freeStep_sticky v _ _ a p.2 ha) _ _ (fun p hp st hst => ?_) hb
            obtain ⟨x, t, hl⟩ := hDb.1 _ (mem_pySorted _ _ _ hp)
            simp only [odeBoundVar, hl, derivArg1, ok_bind, freeStep]
            by_cases htv : t = v
            · subst htv
              simp only [beq_self_eq_true, Bool.not_true, Bool.false_eq_true, if_false, if_true]
              refine TiedG.bind (convertFreeDeriv_tie _ _ _ _ x t hl) (fun h => h) fun h => ?_
              exact ⟨rfl, h⟩
            · have : (t == v) = false := beq_eq_false_iff_ne.mpr htv
              simp only [this, Bool.not_false, if_true, if_neg htv]
              exact ⟨rfl, by decide⟩
          · -- `if derivative_replacements: self._replace_references_to_derivatives(…)`, then `return`
            unfold replacePhase
            cases hb2' : b2.2 with
            | nil => exact ⟨rfl, hb2⟩
            | cons p r =>
              simp only [Py.truthy_list, List.isEmpty_cons, Bool.not_false, if_true, Bool.false_eq_true, if_false]
              rw [← hb2']
              refine TiedG.bind (replaceRefs_tie _ _ hb2) (fun h => h) fun h => ?_
              exact ⟨rfl, h⟩

/-- the units module refuses the conversion (`DimensionalityError`, …): `convert_variable` raises the same exception
    (the hand model takes the factor as an input, so this case is outside it). That the model is untouched:
    `genE_cf_error` of `Props/C06GenE.lean` (an `Except PyErr` carries no state). -/
theorem convertVariable_cf_error (view : CVView) (s : CState) (v : Nat) (u : U) (dir : Dir) (move : Bool) (e : PyErr)
    (hv : v < s.vars.length) (hcf : view.getConversionFactor (unitOfV s v) u = .error e) :
    ConvertVar.convertVariable view s v u dir move = .error e := by
  unfold ConvertVar.convertVariable
  have hin : Py.isIn (nameOfV s v) (CV.names s) = true := by
    simpa [Py.isIn] using nameOfV_mem s v hv
  have hget : view.getCf (unitOfV s v) u = .error e := by simp [CVView.getCf, hcf]
  simp only [hin, hget, Bool.not_true, Bool.false_eq_true, if_false]
  rfl

/-- a variable whose name is not in `_name_to_variable`: python's first `assert` fails. The hand model has no such
    check (its theorems assume `v < s.vars.length`), so this case is outside it. -/
theorem convertVariable_not_in_model (view : CVView) (s : CState) (v : Nat) (u : U) (dir : Dir) (move : Bool)
    (hv : nameOfV s v ∉ CV.names s) :
    ConvertVar.convertVariable view s v u dir move = .error ⟨"AssertionError"⟩ := by
  unfold ConvertVar.convertVariable
  have hin : Py.isIn (nameOfV s v) (CV.names s) = false := by
    simpa [Py.isIn] using hv
  simp only [hin, Bool.not_false, if_true]
  rfl

theorem derivOdes_of_inv0 {s : CState} (h : Inv0 s) : DerivOdes s := by
  intro p hp
  obtain ⟨_, t, ht⟩ := (h.od p.1 p.2).mp hp
  exact ⟨p.1, t, ht⟩

/-- the hypotheses of `convertVariable_tie` follow from the invariant `Inv0` the C06 theorems work with -/
theorem convertVariable_tie_inv0 (view : CVView) (s : CState) (v : Nat) (u : U) (dir : Dir) (move : Bool) (cf : Rat)
    (h : Inv0 s) (hv : v < s.vars.length) (hcf : view.getConversionFactor (unitOfV s v) u = .ok cf) :
    Tied (ConvertVar.convertVariable view s v u dir move)
      ((convertVariable s v u cf dir move).1, (convertVariable s v u cf dir move).2.1) :=
  convertVariable_tie view s v u dir move cf h.notRaised hv (derivOdes_of_inv0 h) h.odKeys hcf

end Cellml.Tie.CV
