import Cellml.Generated.Code.Units
import Cellml.Tie.UnitsLemmas
import Cellml.Units.WorklistComplete

/-! # Tie: the methods of `cellmlmanip.units.UnitStore` (generated from the source) = the hand models of
    `Units/Define.lean`, `Core`, `Rules`, `Conv` and `Iso.formatName` — the functions the theorems of Props/C07, C16, C19
    are about; each `…_tie` names its pair. -/


namespace Cellml.Tie.PUnits
open Units PMap

theorem prefixName_tie (st : Store) (reg : Registry) (rules : List Rule) (name : String) :
    Id.run (Gen.Units.prefixName (storeObj st reg rules) name) = Units.prefixName st.id name := by
  unfold Gen.Units.prefixName Units.prefixName storeObj
  by_cases h : Cellml.Gen.cellmlUnits.contains name = true <;> simp [Py.isIn] <;> rfl

/-- `UnitStore._prefix_expression` (the callback of `_WORD.sub`) = `Units.prefixName` of the matched word -/
theorem prefixExpression_tie (st : Store) (reg : Registry) (rules : List Rule) (word : String) :
    Id.run (Gen.Units.prefixExpression (storeObj st reg rules) word) = Units.prefixName st.id word := by
  unfold Gen.Units.prefixExpression
  exact prefixName_tie st reg rules word

/-- `_WORD.sub(self._prefix_expression, ·)` on a unit name = `Units.mangle` -/
theorem wordSub_tie (st : Store) (reg : Registry) (rules : List Rule) (elems : List UnitElem) :
    wordSub (fun m => Id.run (Gen.Units.prefixExpression (storeObj st reg rules) m)) ⟨elems, id⟩ =
      ⟨elems, mangle st.id⟩ := by
  have : (fun m => Id.run (Gen.Units.prefixExpression (storeObj st reg rules) m)) = Units.prefixName st.id :=
    funext (prefixExpression_tie st reg rules)
  rw [this]
  rfl

theorem isDefined_tie (st : Store) (reg : Registry) (rules : List Rule) (name : String) :
    Id.run (Gen.Units.isDefined (storeObj st reg rules) name) = st.isDefined name := by
  exact isIn_known_units st reg rules name

/-- `UnitStore.get_unit` = `Units.getUnit` (all errors of the model function are `KeyError`s: it carries them in
    `AddErr.valueError "KeyError …"`) -/
theorem getUnit_tie (st : Store) (reg : Registry) (rules : List Rule) (name : String) :
    Gen.Units.getUnit (storeObj st reg rules) name =
      (errClass (fun _ => "KeyError") (Units.getUnit st name)).map UnitObj.mk := by
  have hp := prefixName_tie st reg rules name
  unfold Gen.Units.getUnit Units.getUnit
  simp only [hp, isIn_known_units]
  by_cases h1 : Py.isIn name Cellml.Gen.unsupportedUnits = true <;>
    by_cases h2 : st.isDefined name = true <;>
    simp [except_run, Py.isIn, pintUnit] at h1 ⊢ <;> simp [h1, h2]

/-- what the python method returns besides the mutated store: the new `Unit` -/
def added (st : Store) (rules : List Rule) (name : String) (p : Registry × Store) : StoreObj × UnitObj :=
  (storeObj p.2 p.1 rules, ⟨nameContainer (Units.prefixName st.id name)⟩)

theorem addBaseUnit_tie (st : Store) (reg : Registry) (rules : List Rule) (name : String) :
    Gen.Units.addBaseUnit (storeObj st reg rules) name =
      (errClass addErrClass (Units.addBaseUnit reg st name)).map (added st rules name) := by
  have hp := prefixName_tie st reg rules name
  unfold Gen.Units.addBaseUnit Units.addBaseUnit
  simp only [hp, isIn_known_units]
  unfold Store.isDefined
  by_cases h1 : Cellml.Gen.cellmlUnits.contains name = true <;>
    by_cases h2 : st.known.contains name = true <;>
    simp [except_run, Py.isIn, pintUnit, addErrClass, added, pintDefine, storeObj, setAdd] at h1 h2 ⊢ <;> simp [h1, h2]

/-- `UnitStore.add_unit` = `Units.addUnit`, for every store, registry, name and definition whose text
    `Parser._make_pint_unit_definition` could build and pint could read (`hdef`: the model's error `offset` is raised by
    the parser BEFORE `add_unit` is called; `badNumber` / `unsupported` are number texts outside the model's fragment,
    see `addUnit_tie_name` for what is tied there).
    Outside (`hsup`): a definition that mentions `dimensionless` next to dimensional units, where the hand model
    abstains (`AddErr.unsupported`; finding `unit-unusable:dimensionless-times-dimensional` of findings/C03.json).
    A name with a total exponent of zero needs no hypothesis: the model, like pint, looks every identifier of the expression up in the registry
    (`refsKnown`; `add_unit('x', '((nosuch)**0)')` is an `UndefinedUnitError` on both sides), and it tests the name
    before it evaluates anything, in the order of the source. -/
theorem addUnit_tie (st : Store) (reg : Registry) (rules : List Rule) (name : String) (elems : List UnitElem)
    (k : Scale) (c : Container) (d : Bool) (hdef : defMeaning st.id elems = .ok (k, c, d))
    (hsup : ¬ (PMap.norm c ≠ [] ∧ d = true)) :
    Gen.Units.addUnit (storeObj st reg rules) name ⟨elems, id⟩ =
      (errClass addErrClass (Units.addUnit reg st name elems)).map (added st rules name) := by
  have hp := prefixName_tie st reg rules name
  have hw := wordSub_tie st reg rules elems
  have hrefs : refsKnown reg st.id elems = allKnown reg c := refsKnown_eq_allKnown elems k c d hdef
  rw [addUnit_noOffset (defMeaning_ok_offset hdef)]
  unfold Gen.Units.addUnit Units.addUnitWith
  simp only [hp, hw, hdef, isIn_known_units, hrefs]
  unfold Store.isDefined
  have hm : defMeaningG (mangle st.id) elems = .ok (k, c, d) := by rw [defMeaningG_mangle, hdef]
  -- the three tests on the name, in the order of the source
  by_cases h1 : name ∈ Cellml.Gen.cellmlUnits
  · simp [except_run, Py.isIn, h1, addErrClass]
  by_cases h2 : name ∈ st.known
  · simp [except_run, Py.isIn, h1, h2, addErrClass]
  by_cases h3 : name ∈ Cellml.Gen.unsupportedUnits
  · simp [except_run, Py.isIn, h1, h2, h3, addErrClass]
  -- pint evaluates the expression: every name known, or `UndefinedUnitError`
  by_cases h4 : allKnown reg c = true
  · by_cases h5 : PMap.norm c = []
    · simp [except_run, Py.isIn, h1, h2, h3, h4, h5, hm, pintParse, storeObj, unitObj_beq,
          PMap.beq, RegObj.dimensionless, norm, pintTo, convertWithRules_nil, pintDefine, added, setAdd,
          pintUnit, HMul.hMul, Mul.mul, PMap.add]
    · have h6 : d = false := by
        cases d with
        | false => rfl
        | true => exact absurd ⟨h5, rfl⟩ hsup
      subst h6
      simp [except_run, Py.isIn, h1, h2, h3, h4, h5, hm, pintParse, storeObj, unitObj_beq,
          PMap.beq, RegObj.dimensionless, norm, norm_idem, pintDefine, added, setAdd, pintUnit]
  · have h4' : allKnown reg c = false := by simpa using h4
    simp [except_run, Py.isIn, h1, h2, h3, h4', hm, addErrClass, pintParse, storeObj]

/-- The three tests on the NAME come first on both sides, whatever the expression is (no hypothesis on the definition
    besides that the parser could build its text): a built-in name, a name this store already knows, an unsupported
    name are `ValueError`s of the generated method and of the hand model alike — also where the expression could not be
    evaluated (`add_unit('metre', '((second)**x)')`). -/
theorem addUnit_tie_name (st : Store) (reg : Registry) (rules : List Rule) (name : String) (elems : List UnitElem)
    (hoff : elems.any elemOffsetBad = false)
    (hname : name ∈ Cellml.Gen.cellmlUnits ∨ name ∈ st.known ∨ name ∈ Cellml.Gen.unsupportedUnits) :
    Gen.Units.addUnit (storeObj st reg rules) name ⟨elems, id⟩ = .error ⟨"ValueError"⟩ ∧
      errClass addErrClass (Units.addUnit reg st name elems) = .error ⟨"ValueError"⟩ := by
  rw [addUnit_noOffset hoff]
  unfold Gen.Units.addUnit Units.addUnitWith
  simp only [isIn_known_units]
  unfold Store.isDefined
  by_cases h1 : name ∈ Cellml.Gen.cellmlUnits
  · simp [except_run, Py.isIn, h1, addErrClass]
  by_cases h2 : name ∈ st.known
  · simp [except_run, Py.isIn, h1, h2, addErrClass]
  have h3 : name ∈ Cellml.Gen.unsupportedUnits := by
    rcases hname with h | h | h
    · exact absurd h h1
    · exact absurd h h2
    · exact h
  simp [except_run, Py.isIn, h1, h2, h3, addErrClass]

theorem isEquivalent_tie (st : Store) (reg : Registry) (rules : List Rule) (a b : Container) :
    Id.run (Gen.Units.isEquivalent (storeObj st reg rules) ⟨a⟩ ⟨b⟩) = Units.isEquivalent reg a b := by
  rfl

/-- the result of `convert` for a quantity of magnitude `m`, from the model's multiplier -/
def converted (m : MagObj) (b : Container) (p : Scale × Syms) : QuantityObj := ⟨m * ⟨p.1, p.2⟩, ⟨b⟩⟩

/-- `UnitStore.convert` = `Units.convertQ` (C19: pint's conversion with the enabled rules, and the special case for the
    unit `dimensionless`), for every quantity (any magnitude `m`, any unit `a`) and every target unit -/
theorem convert_tie (st : Store) (reg : Registry) (rules : List Rule) (m : MagObj) (a b : Container) :
    Gen.Units.convert (storeObj st reg rules) ⟨m, ⟨a⟩⟩ ⟨b⟩ =
      (errClass uErrClass (convertQ reg rules a b)).map (converted m b) := by
  unfold Gen.Units.convert convertQ
  by_cases h1 : PMap.norm a = []
  · have ha0 : a ≃ ([] : Container) := by intro p; rw [← get_norm a p, h1]
    have hda : dimsOf reg a = [] := by rw [dimsOf_congr reg ha0, dimsOf_nil]
    by_cases h2 : dimsOf reg b = []
    · simp only [storeObj, unitObj_beq, PMap.beq, RegObj.dimensionless, norm, h1, pintDims, hda, h2]
      cases hc : convertWithRules reg rules b a with
      | error e =>
        simp [except_run, hc, pintTo, unitQuantity]
      | ok p =>
        obtain ⟨f, y⟩ := p
        simp [except_run, hc, pintTo, unitQuantity, converted, magInv, MagObj.one, HMul.hMul, Mul.mul, PMap.add]
    · simp only [storeObj, unitObj_beq, PMap.beq, RegObj.dimensionless, norm, h1, pintDims, hda, h2]
      cases hc : convertWithRules reg rules a b with
      | error e =>
        simp [except_run, hc, h2, pintTo]
      | ok p =>
        obtain ⟨f, y⟩ := p
        simp [except_run, hc, h2, pintTo, converted]
  · simp only [storeObj, unitObj_beq, PMap.beq, RegObj.dimensionless, norm, h1, pintDims]
    cases hc : convertWithRules reg rules a b with
    | error e =>
      simp [except_run, hc, pintTo]
    | ok p =>
      obtain ⟨f, y⟩ := p
      simp [except_run, hc, pintTo, converted]

/-- … hence (C19 `convert_special_case_invisible`) pint's conversion with the rules, and with no rule enabled the
    C07 model `Units.convert` (the ordinary factor) -/
theorem convert_tie_C07 (st : Store) (reg : Registry) (m : MagObj) (a b : Container) :
    Gen.Units.convert (storeObj st reg []) ⟨m, ⟨a⟩⟩ ⟨b⟩ =
      (errClass uErrClass (Units.convert reg a b)).map (fun p => ⟨m * ⟨p.1, []⟩, ⟨p.2⟩⟩) := by
  rw [convert_tie, convertQ_eq, convertWithRules_no_rules]
  unfold Units.convert
  cases factor reg a b <;> simp [except_run, converted]

/-- the generated `get_conversion_factor` opened once: the int `1` when `convert(1 * a, b)` is the number one, else
    the magnitude of the result -/
theorem getConversionFactor_eq (st : Store) (reg : Registry) (rules : List Rule) (a b : Container) :
    Gen.Units.getConversionFactor (storeObj st reg rules) ⟨a⟩ ⟨b⟩ =
      match convertQ reg rules a b with
      | .ok (f, y) => .ok (if f = [] ∧ y = [] then CFObj.one else CFObj.mag ⟨f, y⟩)
      | .error e => .error ⟨uErrClass e⟩ := by
  unfold Gen.Units.getConversionFactor
  rw [show unitQuantity ⟨a⟩ = ⟨MagObj.one, ⟨a⟩⟩ from rfl, convert_tie]
  cases hc : convertQ reg rules a b with
  | error e => simp [except_run]
  | ok p =>
    obtain ⟨f, y⟩ := p
    by_cases hy : y = [] <;> by_cases hf : f = [] <;>
      simp [except_run, converted, MagObj.one, HMul.hMul, Mul.mul, PMap.add, isNumber, pyFloat, isCloseOne,
          isSympyMul, hasFloatOneArg, dropFloatOneArgs, hy, hf]
    rfl

/-- `UnitStore.get_conversion_factor` = `Units.conversionFactorR` (`none` is the int `1`) -/
theorem getConversionFactor_tie (st : Store) (reg : Registry) (rules : List Rule) (a b : Container) :
    (Gen.Units.getConversionFactor (storeObj st reg rules) ⟨a⟩ ⟨b⟩).map CFObj.toModel =
      errClass uErrClass (conversionFactorR reg rules a b) := by
  rw [getConversionFactor_eq, conversionFactorR]
  cases convertQ reg rules a b with
  | error e => rfl
  | ok p => by_cases h : p.1 = [] ∧ p.2 = [] <;> simp [h, errClass, Except.map, CFObj.toModel]

/-- … and with no rule enabled the C07 model `Units.conversionFactor` -/
theorem getConversionFactor_tie_C07 (st : Store) (reg : Registry) (a b : Container) :
    (Gen.Units.getConversionFactor (storeObj st reg []) ⟨a⟩ ⟨b⟩).map (fun r => r.toModel.map Prod.fst) =
      errClass uErrClass (conversionFactor reg a b) := by
  rw [getConversionFactor_eq, convertQ_eq, convertWithRules_no_rules]
  unfold conversionFactor
  cases factor reg a b with
  | error e => rfl
  | ok f => by_cases hf : f = [] <;> simp [except_run, hf, CFObj.toModel]

theorem strip_dimensionless : Iso.strip "dimensionless" = "dimensionless" := by decide +kernel

/-- `store.format(store.get_unit(name))` = `Iso.formatName` (the text C16's `strip_roundtrip*` theorems are about) -/
theorem format_tie (st : Store) (reg : Registry) (rules : List Rule) (name : String) :
    Id.run (Gen.Units.format (storeObj st reg rules) ⟨nameContainer (Units.prefixName st.id name)⟩ false) =
      Iso.formatName st.id name := by
  unfold Gen.Units.format Iso.formatName nameContainer
  by_cases h : (Units.prefixName st.id name == "dimensionless") = true
  · simp [h, PyStr.str, strip_dimensionless]
  · simp [h, PyStr.str]

/-- `format(unit, base_units=True)`: the prefix-stripped text of `get_base_units(unit)`, i.e. of the root form
    `Units.toRoot` that `Iso.obsUnit` observes (scale and root units) -/
theorem format_base_tie (st : Store) (reg : Registry) (rules : List Rule) (c : Container) :
    Id.run (Gen.Units.format (storeObj st reg rules) ⟨c⟩ true) =
      Iso.strip (PyStr.str (toRoot reg c).1 ++ " " ++ PyStr.str (UnitObj.mk (toRoot reg c).2)) := by
  rfl

end Cellml.Tie.PUnits
