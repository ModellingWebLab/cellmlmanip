import Cellml.Tie.Loader
import Cellml.Tie.GenBUnitDefs
import Cellml.C17.Stages

/-! # Closed GENERATED stages of `Parser.parse`, part A: `_add_units`, `_add_components`, `transform_constants`

    `Tie/LoaderParse.lean` runs the generated `Parser.parse` over the stage functions of the hand model
    (`parseView fd`). Here three of those stage functions are replaced by the code generated from the python source of
    the stage itself, run on the XML of the document, and each replacement is proved equal to the stage it replaces. -/

namespace Cellml.Tie.LoaderClose
open Load Cellml.Gen

/-- **`checkComps ⇒ Nodup`**: after a successful `_add_components` (`Model.add_variable` has refused every second
    variable of the same name) the identities of the variable table are pairwise distinct — the domain hypothesis `hnd`
    of `transformConstants_tie` holds wherever `Parser.parse` calls `transform_constants` -/
theorem checkComps_nodup {ust : Units.Store} {comps : List Comp} {ids : List String} {acc' : List VRef × List String}
    (h : checkComps ust comps [] ([], ids) = .ok acc') : ((varTable ust comps).map (·.1)).Nodup := by
  obtain ⟨-, -, -, h1, h2⟩ := Load.checkComps_ok comps [] [] ids acc' h
  have := h2 List.nodup_nil
  rw [h1, List.append_nil] at this
  exact (List.reverse_perm _).nodup_iff.mp this

/-- the exception class the generated `_add_units` raises for an error of the work list (C03's classes) -/
abbrev unitsClass : Units.AddErr → String := PUnitDefs.addErrClass

/-- the stage `self._add_units(model_xml)`: the closed generated function on the `<units>` children of `<model>`, on
    the fresh unit store of the model just created (`Model.__init__`) -/
def genUnitsStage (d : C17.FaultDoc) (st : ParseState) : Except PyErr ParseState :=
  match PGenB.genAddUnits 0 d.udefs with
  | .error e => .error e
  | .ok u => .ok { st with units := some u }

theorem genUnitsStage_eq (d : C17.FaultDoc) (st : ParseState) :
    genUnitsStage d st = match Units.addUnits 0 d.udefs with
      | .error e => .error ⟨unitsClass e⟩
      | .ok u => .ok { st with units := some u } := by
  unfold genUnitsStage
  rw [PGenB.genAddUnits_eq]
  cases Units.addUnits 0 d.udefs <;> rfl

/-- the `<component>` elements: `Doc.comps` in file order, the `i`-th with a `<reaction>` child iff `i` is listed.
    `FaultDoc.reactions` marks them by the INDEX of their component, a `CompElem` carries them itself: hence the index
    arithmetic below. -/
def compElemsFrom (reactions : List Nat) : Nat → List Comp → List CompElem
  | _, [] => []
  | i, c :: cs => ⟨c, if reactions.contains i then [()] else []⟩ :: compElemsFrom reactions (i + 1) cs

def compElems (fd : C17.FaultDoc) : List CompElem := compElemsFrom fd.reactions 0 fd.doc.comps

theorem compElemsFrom_comps (r : List Nat) : ∀ (cs : List Comp) (i : Nat), (compElemsFrom r i cs).map (·.comp) = cs
  | [], _ => rfl
  | c :: cs, i => by simp [compElemsFrom, compElemsFrom_comps r cs (i + 1)]

theorem compElemsFrom_none (r : List Nat) : ∀ (cs : List Comp) (i : Nat),
    (∀ k, i ≤ k → k < i + cs.length → r.contains k = false) → ∀ e ∈ compElemsFrom r i cs, e.reactions = []
  | [], _, _, e, he => by cases he
  | c :: cs, i, h, e, he => by
    simp only [compElemsFrom, List.mem_cons] at he
    rcases he with rfl | he
    · have hc : r.contains i = false := h i (Nat.le_refl _) (by simp)
      simp only [hc]; rfl
    · exact compElemsFrom_none r cs (i + 1) (fun k h1 h2 => h k (by omega) (by simp only [List.length_cons]; omega)) e he

theorem compElemsFrom_first (r : List Nat) : ∀ (cs : List Comp) (i k : Nat), i ≤ k → k < i + cs.length →
    r.contains k = true → (∀ j, i ≤ j → j < k → r.contains j = false) →
    ∃ pre e post, compElemsFrom r i cs = pre ++ e :: post ∧ (∀ x ∈ pre, x.reactions = []) ∧ e.reactions ≠ [] ∧
      (pre ++ [e]).map (·.comp) = cs.take (k - i + 1)
  | [], i, k, h1, h2, _, _ => by simp at h2; omega
  | c :: cs, i, k, h1, h2, hk, hmin => by
    by_cases hik : i = k
    · subst hik
      refine ⟨[], ⟨c, if r.contains i then [()] else []⟩, compElemsFrom r (i + 1) cs, rfl, by simp, ?_, ?_⟩
      · simp only [hk, if_true]; exact List.cons_ne_nil _ _
      · simp
    · have hlt : i < k := by omega
      obtain ⟨pre, e, post, h3, h4, h5, h6⟩ := compElemsFrom_first r cs (i + 1) k (by omega)
        (by simp only [List.length_cons] at h2; omega) hk (fun j hj1 hj2 => hmin j (by omega) hj2)
      refine ⟨⟨c, if r.contains i then [()] else []⟩ :: pre, e, post, by simp [compElemsFrom, h3], ?_, h5, ?_⟩
      · intro x hx
        simp only [List.mem_cons] at hx
        rcases hx with rfl | hx
        · have hc : r.contains i = false := hmin i (Nat.le_refl _) hlt
          simp only [hc]; rfl
        · exact h4 x hx
      · have : k - i + 1 = (k - (i + 1) + 1) + 1 := by omega
        rw [this, List.take_succ_cons, ← h6]
        simp

/-- the stage `component_variables = self._add_components(model_xml)`: the generated function on the `<component>`
    elements, from the parser state `Parser.__init__` / `Model.__init__` leave (`self.components = {}`, no variables,
    the cmeta id of `<model>` registered) -/
def genCompsStage (d : C17.FaultDoc) (st : ParseState) : Except PyErr ParseState :=
  match st.units with
  | none => notReady
  | some (_, ust) =>
    match LoaderComps.addComponents ⟨ust⟩ ⟨compElems d⟩ ⟨[], ([], d.doc.cmeta.toList), []⟩ with
    | .error e => .error e
    | .ok _ => .ok st

theorem genCompsStage_eq (fd : C17.FaultDoc) : genCompsStage = (parseView fd).addComponents := by
  funext d st
  simp only [genCompsStage, parseView]
  cases st.units with
  | none => rfl
  | some u =>
    obtain ⟨reg, ust⟩ := u
    simp only
    unfold C17.reactionErr
    cases hf : C17.firstIdx d.reactions d.doc.comps.length with
    | none =>
      -- no `<reaction>` anywhere
      have hnone := C17.firstIdx_none hf
      have hno : ∀ e ∈ compElems d, e.reactions = [] :=
        compElemsFrom_none _ _ 0 (fun k _ hk => hnone k (by omega))
      rw [addComponents_tie ust _ _ hno]
      simp only [compElems, compElemsFrom_comps]
      cases hc : checkComps ust d.doc.comps [] ([], d.doc.cmeta.toList) with
      | error e => simp [stageErr, C17.checkComps_err_class hc]
      | ok acc => rfl
    | some k =>
      -- the first one is in component `k`
      obtain ⟨hk1, hk2, hk3⟩ := C17.firstIdx_some hf
      obtain ⟨pre, e, post, h1, h2, h3, h4⟩ := compElemsFrom_first d.reactions d.doc.comps 0 k (Nat.zero_le _)
        (by omega) hk2 (fun j _ hj => hk3 j hj)
      simp only [compElems, h1]
      rw [addComponents_reaction ust pre e post _ h2 h3, h4]
      simp only [Nat.sub_zero]
      cases hcc : checkComps ust (d.doc.comps.take (k + 1)) [] ([], d.doc.cmeta.toList) with
      | error x => simp only [stageErr, C17.checkComps_err_class hcc]
      | ok acc => rfl

/-- `transform_constants` on the state the generated-symbol `_add_maths` leaves: the equations of the finished model
    are the conversion equations of the work list, the equations `_add_maths` ADDED (`st.maths`) and the constant
    equations the generated `transform_constants` added -/
def flatOf' (L : Loaded) (maths : List FlatEq) (tc : TCState) : Flat :=
  { reg := L.reg
    vars := L.vt.map (fun (v, i) => ⟨v, i.units, if tc.cleared.contains v then none else i.init, cmetaOf L.st v⟩)
    eqs := L.st.convs.map ConvEq.toEq ++ maths ++ tc.added }

/-- the stage `self.transform_constants()`: the generated function on the model's variables and state variables,
    from the definitions `_add_maths` has recorded -/
def genConstsStage (fd : C17.FaultDoc) (st : ParseState) : Except PyErr ParseState :=
  match st.loaded, st.defined with
  | some L, some defined =>
    match LoaderConsts.transformConstants (constsView (L.states fd.doc) L.vt) ⟨defined, [], []⟩ with
    | .error e => .error e
    | .ok tc => .ok { st with flat := some (flatOf' L (L.maths fd.doc) tc) }
  | _, _ => notReady

theorem genConstsStage_eq (fd : C17.FaultDoc) (st : ParseState) (L : Loaded) (defined : List VRef)
    (hL : st.loaded = some L) (hd : st.defined = some defined) (hnd : (L.vt.map (·.1)).Nodup) :
    genConstsStage fd st = (parseView fd).transformConstants st := by
  simp only [genConstsStage, parseView, hL, hd]
  rw [transformConstants_tie _ _ _ hnd]
  cases hc : checkConstants (L.states fd.doc) defined L.vt with
  | error e => simp [stageErr, C17.checkConstants_err_class hc]
  | ok u =>
    simp only [List.nil_append]
    congr 3
    unfold flatOf' Loaded.flat flatVars
    congr 1
    apply List.map_congr_left
    rintro ⟨v, i⟩ hm
    simp only
    rw [transformConstants_inits _ _ v i hm]

end Cellml.Tie.LoaderClose
