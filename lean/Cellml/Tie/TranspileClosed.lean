import Cellml.Tie.Transpile

/-! # The CLOSED transpiler over the generated code

    `Tie/Transpile.lean` ties every handler of `cellmlmanip.parser.Transpiler` to the hand model one level at a time:
    the generated container handlers are stated for an arbitrary `self.transpile` (`TView`), the generated loop of
    `Transpiler.transpile` for an arbitrary `self.handlers` (`DView`). Here the knot is tied, by fuel: the closure is
    stated for ANY way `run` of running a method by name that asks `self` only for `self.transpile` of its own node
    (`closeFuel`, `Local`), and fuel independence (`closeFuel_indep`) and the fixpoint equation without fuel
    (`close_fix`) are proved once, for this file and for the walk of `Tie/WalkGen.lean`; every other proof is at the
    fixpoint equation, by recursion on the tree.

    `genTranspile_eq`: on every tree that is the image of an XML tree where the transpiler looks at it (`wfV`),
    `genTranspile t = syE (C02.transpile t)` — result and exception class. `Props/C02Gen.lean` transfers the property
    theorems along it; for its closed trees `wfV` comes from the shape check `xmlOk` (`wfV_of_xmlOk`). What is NOT
    generated inside `runMethod` (bound by hand, as in `Tie/Transpile.lean`):
    `_ci_handler` (two leaves), that the six `_x_handler(node)` return their closure (`.wrapped m`; what the closure
    DOES is generated: `call_tie`), and the `'math'` key (the model abstains; excluded by `wfV`). -/

namespace Cellml.Tie.PGenE
open C02 Cellml.Gen Cellml.Tie.PTranspile

/-- the seven handler methods that transpile the children of their element -/
def containerHandlers : List String :=
  ["_apply_handler", "_piecewise_handler", "_piece_handler", "_otherwise_handler", "_degree_handler", "_bvar_handler",
   "_logbase_handler"]

/-- `self.handlers[tag]` by the NAME of the bound method (GENERATED tables `handlerKeys`, `mathmlOps` give the name):
    the definition generated from the source of that method. -/
def runMethod (m : String) (self : TView) (node : Mml) : Except PyErr Sy :=
  if m = "_apply_handler" then Transpile.applyHandler self node
  else if m = "_piecewise_handler" then Transpile.piecewiseHandler self node
  else if m = "_piece_handler" then Transpile.pieceHandler self node
  else if m = "_otherwise_handler" then Transpile.otherwiseHandler self node
  else if m = "_degree_handler" then Transpile.degreeHandler self node
  else if m = "_bvar_handler" then Transpile.bvarHandler self node
  else if m = "_logbase_handler" then Transpile.logbaseHandler self node
  else if m = "_simple_operator_handler" then Transpile.simpleOperatorHandler node
  else if m = "_cn_handler" then
    (match node with
      | .cn ty text kids => Transpile.cnHandler cnViewC02 ⟨ty, text, kids, none⟩
      | _ => .error ⟨"outside: <cn> not in its own encoding"⟩)
  else if m = "_ci_handler" then
    -- `self.symbol_generator(node.text.strip())`: two leaves, not translated
    (match node with
      | .ci n => .ok (.sym n)
      | _ => .error ⟨"outside: <ci> not in its own encoding"⟩)
  else if m ∈ wrappedHandlers then
    -- `def _wrapped_x(…): …; return _wrapped_x`: the closure as a value (its body is generated: `call_tie`)
    .ok (.wrapped m)
  else .error ⟨"outside: handler not modelled: " ++ m⟩

/-- `tag in self.handlers` -/
def hasH (tag : String) : Bool := (handlerOf tag).isSome

/-- `self.handlers[tag](child)`, recursion depth at most `n`. Stated as its own recursion: `genTranspile` and the
    theorems of `Props/C02Gen.lean` unfold to it. It is `closeFuel runMethod` (`genHandlerFuel_eq_close`), and every proof
    goes through `closeFuel`; `PWalkGen.genWalkFuel` is the same recursion for the runner with callbacks, stated in
    the same way and identified by `genWalkFuel_eq_close`. -/
def genHandlerFuel : Nat → String → Mml → Except PyErr Sy
  | 0, _, _ => .error ⟨"RecursionError"⟩
  | n + 1, tag, child =>
    match handlerOf tag with
    | none => .error ⟨"KeyError"⟩
    | some m => runMethod m ⟨fun node => Transpile.transpileChildren ⟨hasH, genHandlerFuel n⟩ node⟩ child

/-- the `self` the generated loop of `Transpiler.transpile` sees -/
def dvFuel (n : Nat) : DView := ⟨hasH, genHandlerFuel n⟩

/-- **python's `Transpiler().transpile(element)`**: the loop generated from the source over the children of `element`;
    fuel = the size `C02.Mml.size` of the element -/
def genTranspileDoc (element : Mml) : Except PyErr (List Sy) :=
  Transpile.transpileChildren (dvFuel element.size) element

/-- **the closed generated transpiler**, shaped like the model function `C02.transpile`: a child chain ↦ the list of
    results of `transpile(<math>chain</math>)`; an element ↦ the only result of `transpile(<math>element</math>)` -/
def genTranspile : Mml → Except PyErr Sy
  | .nil => (genTranspileDoc (.el "math" .nil)).map Sy.ofList
  | .cons h t => (genTranspileDoc (.el "math" (.cons h t))).map Sy.ofList
  | t => (genTranspileDoc (.el "math" (.cons t .nil))).bind fun l => PyItem.item l 0

def isChain : Mml → Bool
  | .nil | .cons _ _ => true
  | _ => false

/-- **visited well-formedness.** The children of an element a container handler transpiles are a proper `nil`-ended
    chain of ELEMENTS (`ci` / `cn` / `el`), recursively; the children of an operator leaf, of an explicit-handler
    operator (`<minus/>` …) and of an element without handler are never read and are arbitrary. Excluded besides the
    list cells in element position: an `.el` whose registered handler is none of the tied ones — `.el "ci"` / `.el "cn"`
    (these elements have their own constructors) and `.el "math"` (nested `<math>`: the model abstains). -/
def wfV : Mml → Bool
  | .nil => true
  | .cons h t => isElement h && wfV h && isChain t && wfV t
  | .ci _ => true
  | .cn _ _ _ => true
  | .el tag kids =>
    match handlerOf tag with
    | none => true
    | some m =>
      if m ∈ containerHandlers then isChain kids && wfV kids
      else m == "_simple_operator_handler" || wrappedHandlers.contains m

theorem chain_ofList : ∀ (t : Mml), isChain t = true → wfV t = true →
    ∃ ks : List Mml, t = Mml.ofList ks ∧ ∀ k ∈ ks, isElement k = true ∧ wfV k = true
  | .nil, _, _ => ⟨[], rfl, by simp⟩
  | .cons h t, _, hw => by
    simp only [wfV, Bool.and_eq_true] at hw
    obtain ⟨ks, rfl, hks⟩ := chain_ofList t hw.1.2 hw.2
    refine ⟨h :: ks, rfl, ?_⟩
    intro k hk
    rcases List.mem_cons.1 hk with rfl | hk
    · exact ⟨hw.1.1.1, hw.1.1.2⟩
    · exact hks k hk
  | .ci _, h, _ => by simp [isChain] at h
  | .cn _ _ _, h, _ => by simp [isChain] at h
  | .el _ _, h, _ => by simp [isChain] at h

theorem wfV_ofList (ks : List Mml) (h : ∀ k ∈ ks, isElement k = true ∧ wfV k = true) :
    isChain (Mml.ofList ks) = true ∧ wfV (Mml.ofList ks) = true := by
  induction ks with
  | nil => exact ⟨rfl, rfl⟩
  | cons k ks ih =>
    have hk := h k (by simp)
    have := ih (fun x hx => h x (by simp [hx]))
    refine ⟨rfl, ?_⟩
    simp [Mml.ofList, wfV, hk.1, hk.2, this.1, this.2]

theorem handlerOf_simple {tag c : String} (hc : Gen.mathmlOps.lookup tag = some c) :
    handlerOf tag = some "_simple_operator_handler" := by simp [handlerOf, hc]

/-- an operator leaf of the table: its children are never read -/
theorem wfV_simple {tag c : String} (opk : Mml) (hc : Gen.mathmlOps.lookup tag = some c) :
    wfV (.el tag opk) = true := by
  simp [wfV, handlerOf_simple hc, containerHandlers]

theorem container_flags (m : String) (hm : m ∈ containerHandlers) :
    (m == "_simple_operator_handler") = false ∧ m ∉ wrappedHandlers ∧ (m == "transpile") = false := by
  simp only [containerHandlers, List.mem_cons, List.mem_nil_iff, or_false] at hm
  rcases hm with rfl | rfl | rfl | rfl | rfl | rfl | rfl <;> simp [wrappedHandlers]

/-- an explicit-handler operator (`<minus/>` …): its children are never read -/
theorem wfV_wrapped {tag m : String} (opk : Mml) (h : handlerOf tag = some m) (hm : m ∈ wrappedHandlers) :
    wfV (.el tag opk) = true := by
  have hnc : m ∉ containerHandlers := fun hc => (container_flags m hc).2.1 hm
  simp [wfV, h, hnc, hm]

theorem wfV_container {tag m : String} (ks : List Mml) (h : handlerOf tag = some m) (hm : m ∈ containerHandlers)
    (hks : ∀ k ∈ ks, isElement k = true ∧ wfV k = true) : wfV (.el tag (Mml.ofList ks)) = true := by
  have := wfV_ofList ks hks
  simp [wfV, h, hm, this.1, this.2]

theorem wfV_apply (f : Mml) (ks : List Mml) (hf : isElement f = true ∧ wfV f = true)
    (hks : ∀ k ∈ ks, isElement k = true ∧ wfV k = true) : wfV (.el "apply" (.cons f (Mml.ofList ks))) = true := by
  have := wfV_container (tag := "apply") (f :: ks) handlerOf_apply (by decide) (by
    intro k hk
    rcases List.mem_cons.1 hk with rfl | hk
    · exact hf
    · exact hks k hk)
  simpa [Mml.ofList] using this

/-- image of an XML tree: every child list a proper chain of elements, no `.el` standing for `<ci>`, `<cn>`, `<math>`.
    Implies `wfV` (`wfV_of_xmlOk`) and looks no tag up in the handler tables: `wfV` itself is slow to evaluate on closed trees. -/
def xmlOk : Mml → Bool
  | .nil => true
  | .cons h t => isElement h && xmlOk h && isChain t && xmlOk t
  | .ci _ => true
  | .cn _ _ _ => true
  | .el tag kids => !(tag == "ci" || tag == "cn" || tag == "math") && isChain kids && xmlOk kids

/-- every explicit handler is a container, a closure, or one of `ci`, `cn`, `math` -/
theorem handlerKeys_kinds : (Gen.handlerKeys.all fun p =>
    p.1 == "ci" || p.1 == "cn" || p.1 == "math" || containerHandlers.contains p.2 || wrappedHandlers.contains p.2) = true := by
  decide +kernel

theorem handlerOf_kinds {tag m : String} (h : handlerOf tag = some m) :
    (tag == "ci" || tag == "cn" || tag == "math") = true ∨ m ∈ containerHandlers ∨ m = "_simple_operator_handler" ∨
      m ∈ wrappedHandlers := by
  unfold handlerOf at h
  split at h
  · cases h; exact .inr (.inr (.inl rfl))
  · have := List.all_eq_true.1 handlerKeys_kinds _ (List.mem_of_lookup _ _ _ h)
    simp only [Bool.or_eq_true, List.contains_iff_mem] at this ⊢
    rcases this with (h | h) | h
    · exact .inl h
    · exact .inr (.inl h)
    · exact .inr (.inr (.inr h))

theorem wfV_of_xmlOk : ∀ t, xmlOk t = true → wfV t = true
  | .nil, _ => rfl
  | .cons h t, hx => by
    simp only [xmlOk, Bool.and_eq_true] at hx
    simp only [wfV, hx.1.1.1, wfV_of_xmlOk h hx.1.1.2, hx.1.2, wfV_of_xmlOk t hx.2, Bool.and_self]
  | .ci _, _ => rfl
  | .cn _ _ _, _ => rfl
  | .el tag kids, hx => by
    simp only [xmlOk, Bool.and_eq_true, Bool.not_eq_true'] at hx
    cases hm : handlerOf tag with
    | none => simp only [wfV, hm]
    | some m =>
      rcases handlerOf_kinds hm with h | h | h | h
      · rw [hx.1.1] at h; cases h
      · simp only [wfV, hm, h, if_true, hx.1.2, wfV_of_xmlOk kids hx.2, Bool.and_self]
      · subst h; simp [wfV, hm, containerHandlers]
      · exact wfV_wrapped kids hm h

theorem size_pos (t : Mml) : 0 < t.size := by
  cases t <;> simp [Mml.size] <;> omega

theorem toList_size : ∀ (kids k : Mml), k ∈ kids.toList → k.size < kids.size
  | .cons h t, k, hk => by
    simp only [Mml.toList, List.mem_cons] at hk
    simp only [Mml.size]
    rcases hk with rfl | hk
    · omega
    · have := toList_size t k hk; omega
  | .nil, _, hk => by simp [Mml.toList] at hk
  | .ci _, _, hk => by simp [Mml.toList] at hk
  | .cn _ _ _, _, hk => by simp [Mml.toList] at hk
  | .el _ _, _, hk => by simp [Mml.toList] at hk

theorem children_size (node k : Mml) (hk : k ∈ mmlChildren node) : k.size < node.size := by
  cases node with
  | el tag kids =>
    have := toList_size kids k (by simpa [mmlChildren] using hk)
    simp only [Mml.size]; omega
  | _ => simp [mmlChildren] at hk

/-! ## closing by fuel, for any method runner: fuel independence and the fixpoint equation -/

/-- the generated loop only asks `self` about the children of its element -/
theorem transpileChildren_congr (d1 d2 : DView) (element : Mml)
    (h : ∀ k ∈ mmlChildren element, d1.step k = d2.step k) :
    Transpile.transpileChildren d1 element = Transpile.transpileChildren d2 element := by
  rw [transpileChildren_mapM, transpileChildren_mapM, List.mapM_congr_mem _ h]

/-- `self.handlers[tag](child)` with recursion depth at most `n`, for any way `run` of running a method by its name with a
    `self` whose `transpile` is the GENERATED loop over the handlers one level down -/
def closeFuel (run : String → TView → Mml → Except PyErr Sy) : Nat → String → Mml → Except PyErr Sy
  | 0, _, _ => .error ⟨"RecursionError"⟩
  | n + 1, tag, child =>
    match handlerOf tag with
    | none => .error ⟨"KeyError"⟩
    | some m => run m ⟨fun node => Transpile.transpileChildren ⟨hasH, closeFuel run n⟩ node⟩ child

def close (run : String → TView → Mml → Except PyErr Sy) (child : Mml) : Except PyErr Sy :=
  closeFuel run child.size (mmlTag child) child

/-- a method asks `self` only for `self.transpile(node)` of its own node -/
def Local (run : String → TView → Mml → Except PyErr Sy) : Prop :=
  ∀ m (s1 s2 : TView) node, s1.transpile node = s2.transpile node → run m s1 node = run m s2 node

theorem step_congr (f g : String → Mml → Except PyErr Sy) (k : Mml)
    (h : hasH (mmlTag k) = true → f (mmlTag k) k = g (mmlTag k) k) : DView.step ⟨hasH, f⟩ k = DView.step ⟨hasH, g⟩ k := by
  unfold DView.step
  split
  · exact h ‹_›
  · rfl

section
variable {run : String → TView → Mml → Except PyErr Sy}

/-- a child needs no more fuel than its size: its children are smaller (`children_size`) -/
theorem closeFuel_indep (hrun : Local run) : ∀ (n m : Nat) (tag : String) (child : Mml), child.size ≤ n → child.size ≤ m →
    closeFuel run n tag child = closeFuel run m tag child
  | 0, _, _, child, h, _ => absurd (size_pos child) (by omega)
  | _ + 1, 0, _, child, _, h => absurd (size_pos child) (by omega)
  | n + 1, m + 1, tag, child, hn, hm => by
    unfold closeFuel
    cases handlerOf tag with
    | none => rfl
    | some meth =>
      refine hrun _ _ _ _ (transpileChildren_congr _ _ _ fun k hk => step_congr _ _ _ fun _ => ?_)
      have := children_size child k hk
      exact closeFuel_indep hrun n m (mmlTag k) k (by omega) (by omega)

theorem transpileChildren_close (hrun : Local run) (n : Nat) (element : Mml) (h : element.size ≤ n + 1) :
    Transpile.transpileChildren ⟨hasH, closeFuel run n⟩ element =
      Transpile.transpileChildren ⟨hasH, fun _ c => close run c⟩ element :=
  transpileChildren_congr _ _ _ fun k hk => step_congr _ _ _ fun _ => by
    have := children_size element k hk
    exact closeFuel_indep hrun n k.size (mmlTag k) k (by omega) (Nat.le_refl _)

/-- **the fixpoint equation, for every tree, without fuel**: the closure is the handler of the child's tag, run with a
    `self` whose `transpile` is the GENERATED loop over the closure itself -/
theorem close_fix (hrun : Local run) (child : Mml) :
    close run child =
      match handlerOf (mmlTag child) with
      | none => .error ⟨"KeyError"⟩
      | some m => run m ⟨fun node => Transpile.transpileChildren ⟨hasH, fun _ c => close run c⟩ node⟩ child := by
  unfold close
  obtain ⟨n, hn⟩ : ∃ n, child.size = n + 1 := ⟨child.size - 1, by have := size_pos child; omega⟩
  rw [hn, closeFuel]
  cases handlerOf (mmlTag child) with
  | none => rfl
  | some m => exact hrun _ _ _ _ (transpileChildren_close hrun n child (by omega))

end

theorem runMethod_container (m : String) (hm : m ∈ containerHandlers) (self : TView) (node : Mml) :
    runMethod m self node = modelContainer m self node := by
  simp only [containerHandlers, List.mem_cons, List.mem_nil_iff, or_false] at hm
  rcases hm with rfl | rfl | rfl | rfl | rfl | rfl | rfl
  · simp [runMethod, applyHandler_tie]
  · simp [runMethod, piecewiseHandler_tie]
  · simp [runMethod, pieceHandler_tie]
  · simp [runMethod, otherwiseHandler_tie]
  · simp [runMethod, degreeHandler_tie]
  · simp [runMethod, bvarHandler_tie]
  · simp [runMethod, logbaseHandler_tie]

theorem handlerOf_ci' : handlerOf "ci" = some "_ci_handler" := handlerOf_ci
theorem handlerOf_cn' : handlerOf "cn" = some "_cn_handler" := handlerOf_cn

theorem runMethod_local : Local runMethod := by
  intro m s1 s2 node h
  by_cases hm : m ∈ containerHandlers
  · rw [runMethod_container m hm, runMethod_container m hm]
    unfold modelContainer
    rw [h]
  · simp only [containerHandlers, List.mem_cons, List.mem_nil_iff, or_false, not_or] at hm
    obtain ⟨a1, a2, a3, a4, a5, a6, a7⟩ := hm
    simp [runMethod, a1, a2, a3, a4, a5, a6, a7]

theorem genHandlerFuel_eq_close : ∀ n, genHandlerFuel n = closeFuel runMethod n
  | 0 => rfl
  | n + 1 => by
    funext tag child
    simp only [genHandlerFuel, closeFuel, genHandlerFuel_eq_close n]

/-- `self.handlers[tag(child)](child)` over the generated code -/
def genHandler (child : Mml) : Except PyErr Sy := genHandlerFuel child.size (mmlTag child) child

theorem genHandler_eq_close : genHandler = close runMethod := by
  funext c; rw [genHandler, genHandlerFuel_eq_close]; rfl

/-- **the fixpoint equation, for every tree**: `genHandler` is the handler registered for the child's tag (GENERATED
    tables), run with a `self` whose `transpile` is the GENERATED loop over `genHandler` itself. No fuel, no hand model. -/
theorem genHandler_fix (child : Mml) :
    genHandler child =
      match handlerOf (mmlTag child) with
      | none => .error ⟨"KeyError"⟩
      | some m => runMethod m ⟨fun node => Transpile.transpileChildren ⟨hasH, fun _ c => genHandler c⟩ node⟩ child := by
  rw [genHandler_eq_close]; exact close_fix runMethod_local child

/-- `Transpiler().transpile(element)` is the generated loop over `genHandler` -/
theorem genTranspileDoc_fix (element : Mml) :
    genTranspileDoc element = Transpile.transpileChildren ⟨hasH, fun _ c => genHandler c⟩ element := by
  rw [genTranspileDoc, dvFuel, genHandlerFuel_eq_close, genHandler_eq_close]
  exact transpileChildren_close runMethod_local _ element (by omega)

/-- on the domain, `genHandler` is the model -/
theorem genHandler_eq (child : Mml) (he : isElement child = true) (hw : wfV child = true)
    (hb : hasH (mmlTag child) = true) : genHandler child = syE (C02.transpile child) := by
  rw [genHandler_fix]
  cases child with
  | nil => simp [isElement] at he
  | cons _ _ => simp [isElement] at he
  | ci x => simp [mmlTag, handlerOf_ci, runMethod, C02.transpile, syE, errClass]
  | cn ty text kids =>
    simp only [mmlTag, handlerOf_cn, C02.transpile]
    rw [← cnHandler_tie ty text kids none]
    simp [runMethod]
  | el tag kids =>
    simp only [mmlTag, hasH] at hb ⊢
    cases hh : handlerOf tag with
    | none => simp [hh] at hb
    | some m =>
      simp only [wfV, hh] at hw
      dsimp only  -- the `match` on `some m`
      by_cases hm : m ∈ containerHandlers
      · simp only [hm, if_true, Bool.and_eq_true] at hw
        obtain ⟨ks, rfl, hks⟩ := chain_ofList kids hw.1 hw.2
        obtain ⟨f1, f2, f3⟩ := container_flags m hm
        rw [runMethod_container m hm, container_model tag m ks hh f1 f2 f3, modelContainer, modelContainer,
          modelTView_transpile_tie tag ks fun k hk => (hks k hk).1]
        congr 1
        refine transpileChildren_congr _ _ _ fun k hk => step_congr _ _ k fun hk' => ?_
        have hk2 : k ∈ ks := by rwa [mmlChildren, mml_toList_ofList] at hk
        exact genHandler_eq k (hks k hk2).1 (hks k hk2).2 hk'
      · simp only [hm, if_false, Bool.or_eq_true, beq_iff_eq, List.contains_iff_mem] at hw
        rcases hw with rfl | hw
        · have : C02.transpile (.el tag kids) = simpleOperator tag := by simp [C02.transpile, hh]
          rw [this, ← simpleOperatorHandler_tie tag kids]
          simp [runMethod]
        · rw [transpile_wrapped tag m kids hh hw]
          simp only [wrappedHandlers, List.mem_cons, List.mem_nil_iff, or_false] at hw
          rcases hw with rfl | rfl | rfl | rfl | rfl | rfl <;> simp [runMethod, wrappedHandlers, syE, errClass]
termination_by child.size
decreasing_by
  subst_vars
  exact children_size _ k hk

theorem genTranspileDoc_eq (tag : String) (ks : List Mml) (h : ∀ k ∈ ks, isElement k = true ∧ wfV k = true) :
    genTranspileDoc (.el tag (Mml.ofList ks)) = (syE (C02.transpile (Mml.ofList ks))).map Sy.toList := by
  rw [genTranspileDoc_fix, ← transpileChildren_tie tag ks fun k hk => (h k hk).1]
  refine transpileChildren_congr _ _ _ fun k hk => step_congr _ _ k fun hk' => ?_
  rw [mmlChildren, mml_toList_ofList] at hk
  exact genHandler_eq k (h k hk).1 (h k hk).2 hk'

/-- **The closed generated transpiler is the model function of `Props/C02.lean`** on every visited-well-formed tree:
    same result, same exception class. -/
theorem genTranspile_eq (t : Mml) (hw : wfV t = true) : genTranspile t = syE (C02.transpile t) := by
  by_cases he : isElement t = true
  · -- an element: the only result of transpiling `<math>t</math>`
    have hd := genTranspileDoc_eq "math" [t] (by simpa using ⟨he, hw⟩)
    have hg : genTranspile t = (genTranspileDoc (.el "math" (.cons t .nil))).bind fun l => PyItem.item l 0 := by
      cases t <;> first | exact absurd he Bool.false_ne_true | rfl
    simp only [Mml.ofList] at hd
    rw [hg, hd]
    simp only [C02.transpile]
    cases C02.transpile t <;> rfl
  · -- a child chain: the list of results
    obtain ⟨ks, rfl, hall⟩ := chain_ofList t (by cases t <;> first | rfl | exact absurd rfl he) hw
    have hg : genTranspile (Mml.ofList ks) = (genTranspileDoc (.el "math" (Mml.ofList ks))).map Sy.ofList := by
      cases ks <;> rfl
    rw [hg, genTranspileDoc_eq "math" ks hall]
    cases hr : C02.transpile (Mml.ofList ks) with
    | error e => rfl
    | ok r => simp [syE, errClass, Except.map, transpile_ofList_proper ks r hr]

/-- **the hypothesis `wfV` cannot be dropped**: on trees that are not images of XML trees the hand model and the
    generated code differ. (1) a `<piecewise>` whose child chain ends in `.ci "z"` instead of `nil`: the generated loop
    iterates over the ONE child element, the model's `assemble` keeps the improper tail; (2) `<degree>` over the chain
    `cons a b` with `b` not a chain: one child for the generated code (accepted), "not exactly one" for the model. -/
theorem wfV_needed :
    let t1 : Mml := .el "piecewise" (.cons (.el "piece" (Mml.ofList [.ci "x", .el "true" .nil])) (.ci "z"))
    let t2 : Mml := .el "degree" (.cons (.ci "a") (.ci "b"))
    (wfV t1 = false ∧
      genTranspile t1 = .ok (.app "Piecewise" (.cons (.tuple (.sym "x") (.const "true")) .nil)) ∧
      C02.transpile t1 = .ok (.app "Piecewise" (.cons (.tuple (.sym "x") (.const "true")) (.sym "z")))) ∧
    (wfV t2 = false ∧ genTranspile t2 = .ok (.sym "a") ∧ C02.transpile t2 = .error .value) := by
  refine ⟨⟨?_, ?_, ?_⟩, ?_, ?_, ?_⟩ <;> decide +kernel

theorem syE_ok_iff {α} (r : Except C02.Err α) (a : α) : syE r = .ok a ↔ r = .ok a :=
  errClass_eq_ok _ r a

theorem syE_error {α} (r : Except C02.Err α) (e : C02.Err) (h : r = .error e) : syE r = .error ⟨syErrName e⟩ := by
  subst h; rfl

theorem pyCall_eq_genCall (f : Sy) (l : List Sy) : pyCall f l = genCall f l := call_tie f l

/-- **`<apply>` over the generated code, unrolled one level**: the operator child and the operands are transpiled by
    the closed generated transpiler, then the operator VALUE is called through the generated callbacks -/
theorem genTranspile_apply (f : Mml) (ks : List Mml) (hf : isElement f = true ∧ wfV f = true)
    (hks : ∀ k ∈ ks, isElement k = true ∧ wfV k = true) (hne : ks ≠ []) (fv : Sy) (l : List Sy)
    (hfv : genTranspile f = .ok fv) (hl : genTranspile (Mml.ofList ks) = .ok (Sy.ofList l)) :
    genTranspile (.el "apply" (.cons f (Mml.ofList ks))) = genCall fv l := by
  have hwk := wfV_ofList ks hks
  rw [genTranspile_eq f hf.2, syE_ok_iff] at hfv
  rw [genTranspile_eq _ hwk.2, syE_ok_iff] at hl
  rw [genTranspile_eq _ (wfV_apply f ks hf hks), ← pyCall_eq_genCall, transpile_apply, transpile_cons_of_ok hfv hl]
  -- at least one operand: `_apply_handler` calls
  obtain ⟨k, ks', rfl⟩ := List.exists_cons_of_ne_nil hne
  obtain ⟨a, r, hr, _, _⟩ := transpile_cons_ok hl
  cases l with
  | nil => cases hr
  | cons _ _ => simp only [assemble_apply, Sy.ofList, pyCall]

end Cellml.Tie.PGenE
