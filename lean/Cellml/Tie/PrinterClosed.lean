import Cellml.Tie.PrinterMul2

/-! # The closing induction: the GENERATED printer, with its `print` parameter closed by recursion, prints the model

    Every generated method takes the recursive call `self._print(x)` as a parameter `print`. Here the recursion is
    closed: `dispatch print e` is SymPy's `Printer._print` (the `_print_<Class>` method of the class of `e`, found
    through the MRO; `emptyPrinter` when there is none) over the generated methods, and `gprint n` is `dispatch` iterated
    `n` times (python's recursion depth). `gprint_pr`: for every expression of the model's domain that the model prints,
    `gprint n e` returns `flatten (C11.pr e).doc` as soon as `n` exceeds the height of `e`; by induction on the height,
    one `dispatch_step` per node, using the per-method ties. `genDoprint` is the generated `doprint` over it. -/

namespace Cellml.Tie.PPrinter2
open C11 Cellml.Gen Cellml.Tie.PPrinter

/-- SymPy's `Printer._print(expr)`: the method `_print_<C>` for the first class `C` in the MRO of `expr` that has one
    (`Integer` before `Rational`, `Piecewise` before `Function`, every relation is a `Relational`, every applied
    function a `Function`, `Half` a `Rational`, `One` an `Integer`, …), else `emptyPrinter`. Trusted (SymPy code). -/
def dispatch (print : E → Except PyErr String) (e : E) : Except PyErr String :=
  match e with
  | .sym _ _ => Printer.printSymbol print e
  | .int _ => Printer.printInteger print e
  | .rat _ _ => Printer.printRational print e
  | .flt _ _ => Printer.printFloatS print e
  | .pi => Printer.printPi print e
  | .e1 => Printer.printExp1 print e
  | .tt => Printer.printBooleanTrue print e
  | .ff => Printer.printBooleanFalse print e
  | .add _ => PrinterAdd.printAdd print e
  | .mul _ => PrinterMul2.printMul print e
  | .pow _ _ => Printer.printPow print e
  | .fn _ _ => Printer.printFunction print e
  | .rel _ _ _ => Printer.printRelational print e
  | .and _ => Printer.printAnd print e
  | .or _ => Printer.printOr print e
  | .pw _ => Printer.printPiecewise print e
  | .deriv _ _ => PrinterMul2.printDerivative print e
  | .other _ | .pair _ _ | .nil | .cons _ _ => Printer.emptyPrinter print e

/-- the generated printer with the recursion closed: at most `n` nested calls of `_print` -/
def gprint : Nat → E → Except PyErr String
  | 0, _ => .error ⟨"RecursionError"⟩
  | n + 1, e => dispatch (gprint n) e

/-- nesting depth of the `_print` calls on `e` -/
def height : E → Nat
  | .add a | .mul a | .and a | .or a | .pw a | .fn _ a => height a + 1
  | .pow b x | .rel _ b x => max (height b) (height x) + 1
  | .pair v c | .cons v c => max (height v) (height c)
  | _ => 0

/-- SymPy's arity invariant that the model does not look at: a product has at least two factors -/
def genOK : E → Bool
  | .mul a => twoPlus a && genOK a
  | .add a | .and a | .or a | .pw a | .fn _ a => genOK a
  | .pow b x | .rel _ b x | .pair b x | .cons b x => genOK b && genOK x
  | _ => true

/-- in every sum inside `e` whose terms the model prints, the model's tree of each term starts with `-` exactly when its
    text does (the domain of `printAdd_tie`); `addOK_of_sym` in Tie/PrinterSign.lean derives it from: no symbol name
    starts with `-` -/
def AddOK : E → Prop
  | .add a => ((pr a).st = .ok → ∀ x ∈ elems a, MinusOK (pr x).doc) ∧ AddOK a
  | .mul a | .and a | .or a | .pw a | .fn _ a => AddOK a
  | .pow b x | .rel _ b x | .pair b x | .cons b x => AddOK b ∧ AddOK x
  | _ => True

theorem elems_eq_toList (l : E) : elems l = C11.toList l := by
  induction l <;> simp_all [elems, C11.toList]

theorem properList_eq (l : E) : properList l = proper l := by
  induction l <;> simp_all [properList, proper]

theorem elems_forall (P : E → Prop) (hc : ∀ a t, P (.cons a t) → P a ∧ P t) (l x : E) (hl : P l)
    (h : x ∈ elems l) : P x := by
  induction l with
  | cons a t _ iht =>
    rcases List.mem_cons.mp h with rfl | h
    · exact (hc _ _ hl).1
    · exact iht (hc _ _ hl).2 h
  | _ => cases h

theorem height_elem (l x : E) (h : x ∈ elems l) : height x ≤ height l :=
  elems_forall (height · ≤ height l) (fun a t h => by simp only [height] at h; omega) l x (Nat.le_refl _) h

theorem genOK_elem (l x : E) (hg : genOK l = true) (h : x ∈ elems l) : genOK x = true :=
  elems_forall (genOK · = true) (fun a t h => by simpa [genOK] using h) l x hg h

theorem AddOK_elem (l x : E) (hg : AddOK l) (h : x ∈ elems l) : AddOK x :=
  elems_forall AddOK (fun _ _ h => h) l x hg h

/-- `print` returns the model's text for `x`, whenever `x` is in the domain and the model prints it -/
def Pr (print : E → Except PyErr String) (x : E) : Prop :=
  ∀ s, s ≠ Srt.P → wf s x = true → isList x = false → genOK x = true → AddOK x → (pr x).st = .ok →
    print x = .ok (flatten (pr x).doc)

theorem list_Pr (print : E → Except PyErr String) (l : E) (s : Srt) (hs : s ≠ .P)
    (IH : ∀ x, height x ≤ height l → Pr print x) (hl : isList l = true) (hw : wf s l = true)
    (hg : genOK l = true) (ha : AddOK l) (hst : (pr l).st = .ok) :
    ∀ x ∈ elems l, print x = .ok (flatten (pr x).doc) := by
  intro x hx
  have hx' : x ∈ C11.toList l := by rwa [← elems_eq_toList]
  have h1 := wf_list s l hw x hx'
  exact IH x (height_elem l x hx) s hs h1.1 h1.2 (genOK_elem l x hg hx) (AddOK_elem l x ha hx)
    (st_list l (proper_of_wf s l hl hw) hst x hx')

theorem isList_cases (l : E) (h : isList l = true) : l = .nil ∨ ∃ a t, l = .cons a t := by
  cases l <;> simp_all [isList]

theorem negNum_parts (x : E) (hn : isNegRat x = true) (hw : wf .A x = true) :
    wf .A (negNum x) = true ∧ isList (negNum x) = false ∧ genOK (negNum x) = true ∧ AddOK (negNum x) ∧
    (pr (negNum x)).st = .ok ∧ (pr (negNum x)).doc = numDoc (negNum x) ∧ height (negNum x) = 0 ∧ height x = 0 ∧
    constCompound (negNum x) = false ∧ (pr x).st = .ok := by
  cases x <;> simp_all [isNegRat, negNum, wf, isList, genOK, AddOK, pr, okDoc, numDoc, height, constCompound]

theorem mul_items (l : E) : (pr (.mul l)).items = (pr l).items := items_mul l

theorem st_list_T (T : Status → Prop) (hT : ∀ a b, T (a.join b) → T a ∧ T b) (l : E) (hl : proper l = true)
    (h : T (pr l).st) : ∀ x ∈ C11.toList l, T (pr x).st :=
  C11.st_list_T hT l hl h

theorem mk_one (g : E) : (mk g).one = ⟨g, (pr g).doc, (pr g).base⟩ := rfl

theorem twoPlus_cases (a : E) (h : twoPlus a = true) : ∃ c r t, a = .cons c (.cons r t) :=
  two_of_twoPlus a h

theorem twoPlus_length (l : E) (h : twoPlus l = true) : (elems l).length ≠ 1 := by
  obtain ⟨c, r, t, rfl⟩ := twoPlus_cases l h
  simp [elems]

/-! ## one step: SymPy's dispatch over the generated methods, given the model's text for everything below -/

/-- the side conditions of the generated printer -/
def GQ (e : E) : Prop := genOK e = true ∧ AddOK e

theorem gq_elem {l x : E} (h : GQ l) (hx : x ∈ C11.toList l) : GQ x ∧ height x ≤ height l := by
  rw [← elems_eq_toList] at hx
  exact ⟨⟨genOK_elem l x h.1 hx, AddOK_elem l x h.2 hx⟩, height_elem l x hx⟩

theorem gq_pow {b x : E} (h : GQ (.pow b x)) :
    (GQ b ∧ height b < height (.pow b x)) ∧ GQ x ∧ height x < height (.pow b x) := by
  have hg := h.1; simp only [genOK, Bool.and_eq_true] at hg
  exact ⟨⟨⟨hg.1, h.2.1⟩, by simp only [height]; omega⟩, ⟨hg.2, h.2.2⟩, by simp only [height]; omega⟩

theorem gq_rel {r : Rel} {a b : E} (h : GQ (.rel r a b)) :
    (GQ a ∧ height a < height (.rel r a b)) ∧ GQ b ∧ height b < height (.rel r a b) :=
  gq_pow (b := a) (x := b) h

theorem gq_pair {v c : E} (h : GQ (.pair v c)) :
    (GQ v ∧ height v ≤ height (.pair v c)) ∧ GQ c ∧ height c ≤ height (.pair v c) := by
  have hg := h.1; simp only [genOK, Bool.and_eq_true] at hg
  exact ⟨⟨⟨hg.1, h.2.1⟩, by simp only [height]; omega⟩, ⟨hg.2, h.2.2⟩, by simp only [height]; omega⟩

theorem her_height : Her GQ height where
  arg l x hx hq := by
    have := gq_elem (l := l) ⟨by have := hq.1; simp only [genOK, Bool.and_eq_true] at this; exact this.2, hq.2⟩ hx
    exact ⟨this.1, Nat.lt_succ_of_le this.2⟩
  base _ _ hq := (gq_pow hq).1

theorem Pr.dom {print : E → Except PyErr String} {x : E} (h : Pr print x) {s : Srt} (hs : s ≠ .P)
    (hd : Dom (· = .ok) s x) (hq : GQ x) : print x = .ok (flatten (pr x).doc) :=
  h s hs hd.w hd.node hq.1 hq.2 hd.ok

theorem dom_num (k : E) (hk : numOK k = true) :
    Dom (· = .ok) .A k ∧ GQ k ∧ (pr k).doc = numDoc k ∧ height k = 0 := by
  cases k <;> simp_all [numOK]
  · exact ⟨⟨rfl, rfl, rfl⟩, ⟨rfl, trivial⟩, rfl, rfl⟩
  · exact ⟨⟨by simp [wf, hk], rfl, by simp [pr, hk]⟩, ⟨rfl, trivial⟩, rfl, rfl⟩
  · exact ⟨⟨by simp [wf, hk], rfl, by simp [pr, hk]⟩, ⟨rfl, trivial⟩, rfl, rfl⟩

theorem num_Pr (print : E → Except PyErr String) (k : E) (hk : numOK k = true) (h : Pr print k) :
    print k = .ok (flatten (numDoc k)) := by
  obtain ⟨hd, hq, hdoc, _⟩ := dom_num k hk
  rw [← hdoc]; exact h.dom (by decide) hd hq

theorem numOK_height (k : E) (hk : numOK k = true) : height k = 0 :=
  (dom_num k hk).2.2.2

theorem Factor.rat_den {T : Status → Prop} {n : Nat} {f : Item1} (h : Factor T GQ height n f) (p : Int) (q : Nat)
    (hfe : f.e = .rat p q) : q ≠ 1 := by
  cases h with
  | node g hd =>
    obtain rfl : g = .rat p q := hfe
    have := hd.w; simp only [wf, Bool.and_eq_true, decide_eq_true_eq] at this; omega
  | num k hk =>
    obtain rfl : k = .rat p q := hfe
    simp only [numOK, decide_eq_true_eq] at hk; omega

theorem Factor.mul_base {T : Status → Prop} {n : Nat} {f : Item1} (h : Factor T GQ height n f) (bb x : E)
    (hfe : f.e = .pow bb x) (hmul : isMul bb = true) : (argsOf bb).length ≠ 1 := by
  cases h with
  | node g hd hq =>
    obtain rfl : g = .pow bb x := hfe
    cases bb with
    | mul l =>
      have := hq.1; simp only [genOK, Bool.and_eq_true] at this
      simpa [argsOf] using twoPlus_length l this.1.1
    | _ => cases hmul
  | num k hk => obtain rfl : k = .pow bb x := hfe; cases hk

/-- the power `b**(-x)` that the loop of `_print_Mul` builds for a factor `b**x` with a negative rational exponent -/
theorem Factor.negPow {T : Status → Prop} (hT : Inh T) {n : Nat} {f : Item1} (h : Factor T GQ height n f) {b x : E}
    (hfe : f.e = .pow b x) (hneg : isNegRat x = true) :
    Dom T .A (.pow b (negNum x)) ∧ GQ (.pow b (negNum x)) ∧ height (.pow b (negNum x)) < n ∧
      (pr (.pow b (negNum x))).doc = powDoc b (negNum x) f.base (numDoc (negNum x)) ∧
      (pr (.pow b (negNum x))).st = (pr b).st ∧ (pr f.e).st = if constCompound x then .unsup else (pr b).st := by
  cases h with
  | node g hdg hqg hn =>
    obtain rfl : g = .pow b x := hfe
    obtain ⟨_, _, _, hdb, hdx⟩ := hdg.pow hT
    obtain ⟨hwn, hln, hgn, han, hsn, hdn, hhn, hhx, hcn, hxok⟩ := negNum_parts x hneg hdx.w
    have hqb := her_height.base b x hqg
    have hst' : (pr (.pow b (negNum x))).st = (pr b).st := by
      have : (pr (.pow b (negNum x))).st =
          if constCompound (negNum x) then .unsup else (pr b).st.join (pr (negNum x)).st := rfl
      rw [this, hcn, hsn]; cases (pr b).st <;> rfl
    have hje : (pr (.pow b x)).st = if constCompound x then .unsup else (pr b).st.join (pr x).st := rfl
    refine ⟨⟨by simp [wf, hdb.w, hdb.node, hwn, hln], rfl, by rw [hst']; exact hdb.ok⟩,
      ⟨by simp [genOK, hqb.1.1, hgn], hqb.1.2, han⟩, by simp only [height, hhn, hhx] at hn ⊢; exact hn,
      by simp [pr, mk, Item.one, hdn], hst', ?_⟩
    show (pr (.pow b x)).st = _
    rw [hje, hxok]; cases (pr b).st <;> rfl
  | num k hk => obtain rfl : k = .pow b x := hfe; cases hk

/-- **the product case of both directions**: the sign and the factors `fs` that the model hands to `mulDoc` are what
    SymPy's `as_coeff_Mul`, `_keep_coeff` and `Mul.make_args` give the generated method, and every factor is a node
    below the product or a number -/
theorem mul_leaves {T : Status → Prop} (hT : Inh T) {s : Srt} {a : E} (h : Dom T s (.mul a)) (hq : GQ (.mul a)) :
    ∃ sg fs, mulItems ((C11.toList a).map mk) = some (sg, fs) ∧ (pr (.mul a)).doc = mulDoc sg fs ∧
      (∀ f ∈ fs, Factor T GQ height (height (.mul a)) f) ∧ isNegNum (asCoeffMul (.mul a)).1 = sg ∧
      makeArgs (if sg then keepCoeff (negNum (asCoeffMul (.mul a)).1) (asCoeffMul (.mul a)).2 else .mul a) =
        fs.map (·.e) := by
  obtain ⟨_, sg, fs, hmi, hd, hf⟩ := h.factors hT her_height hq
  obtain ⟨_, _, _, _, hk⟩ := h.mul hT
  have hg := hq.1; simp only [genOK, Bool.and_eq_true] at hg
  obtain ⟨c, r1, t, rfl⟩ := twoPlus_cases a hg.1
  obtain ⟨h1, h2⟩ := mulItems_leaves c r1 t (mk c) (mk r1) ((C11.toList t).map mk) sg fs rfl rfl
    (by rw [elems_eq_toList, map_mk_e])
    (by
      intro l hl; subst hl
      rw [mk_mul_sub hT (hk _ (by simp [C11.toList])).1, elems_eq_toList]
      simp [List.map_map, Function.comp_def, mk, Item.one]) hmi
  exact ⟨sg, fs, hmi, hd, hf, h1, h2⟩

/-! ## `_print_Piecewise`: the pairs up to the first `True` condition -/

theorem pw_printed (print : E → Except PyErr String) (N : Nat) (IH : ∀ x, height x < N → Pr print x) (l : List E)
    (hdl : ∀ x ∈ l, (pr x).st = .ok → Dom (· = .ok) .P x) (hql : ∀ x ∈ l, GQ x ∧ height x < N)
    (hstl : (pwInner (l.map mk)).1 = .ok) : PwPrinted print (l.map mk) := by
  induction l with
  | nil => trivial
  | cons x t iht =>
    have hx := hql x (by simp)
    simp only [List.map_cons, pwInner_mk_st] at hstl ⊢
    have key : ∀ v c, x = .pair v c → (pr x).st = .ok → print v = .ok (flatten (pr v).doc) ∧
        print c = .ok (flatten (pr c).doc) := fun v c hxe hsx => by
      subst hxe
      obtain ⟨_, hv, hc⟩ := (hdl _ (by simp) hsx).pair inh_ok
      obtain ⟨⟨qv, hhv⟩, qc, hhc⟩ := gq_pair hx.1
      exact ⟨(IH v (by omega)).dom (by decide) hv qv, (IH c (by omega)).dom (by decide) hc qc⟩
    by_cases htp : isTruePair x = true
    · rw [if_pos htp] at hstl
      obtain ⟨v, c, rfl⟩ := (hdl x (by simp) hstl).isPair
      refine ⟨v, c, rfl, by simpa [mk, pr] using (key v c rfl hstl).1, Or.inl (by rwa [isTruePair_pair] at htp)⟩
    · rw [if_neg htp, join_ok] at hstl
      obtain ⟨v, c, rfl⟩ := (hdl x (by simp) hstl.1).isPair
      refine ⟨v, c, rfl, by simpa [mk, pr] using (key v c rfl hstl.1).1, Or.inr ⟨?_, ?_, ?_⟩⟩
      · rw [isTruePair_pair] at htp; simpa using htp
      · simpa [mk, pr] using (key v c rfl hstl.1).2
      · exact iht (fun y hy => hdl y (by simp [hy])) (fun y hy => hql y (by simp [hy])) hstl.2

theorem dispatch_step (print : E → Except PyErr String) (e : E) (IH : ∀ x, height x < height e → Pr print x) :
    Pr (dispatch print) e := by
  intro s hs hw hl hg ha hst
  have h : Dom (· = .ok) s e := ⟨hw, hl, hst⟩
  have hq : GQ e := ⟨hg, ha⟩
  have IH' : ∀ x, height x < height e → ∀ s', s' ≠ Srt.P → Dom (· = .ok) s' x → GQ x →
      print x = .ok (flatten (pr x).doc) := fun x hx s' hs' hd hq' => (IH x hx).dom hs' hd hq'
  have kids : ∀ (a : E) (s' : Srt), s' ≠ .P → height a < height e → GQ a → (∀ x ∈ C11.toList a, Dom (· = .ok) s' x) →
      ∀ x ∈ elems a, print x = .ok (flatten (pr x).doc) := fun a s' hs' ha hqa hk x hx => by
    rw [elems_eq_toList] at hx
    exact IH' x (Nat.lt_of_le_of_lt (gq_elem hqa hx).2 ha) s' hs' (hk x hx) (gq_elem hqa hx).1
  cases e with
  | sym n c => exact printSymbol_tie print n c
  | int n => exact printInteger_tie print n
  | rat p q => exact printRational_tie print p q
  | flt t neg => exact printFloat_tie print t neg (wf_flt h.w)
  | pi => exact printPi_tie print .pi
  | e1 => exact printExp1_tie print .e1
  | tt => exact printBooleanTrue_tie print .tt
  | ff => exact printBooleanFalse_tie print .ff
  | deriv x t => exact printDerivative_tie print x t
  | other w => exact h.not_other.elim
  | pair v c => exact absurd (h.pair inh_ok).1 hs
  | nil | cons _ _ => exact (h.not_list rfl).elim
  | add a =>
    obtain ⟨rfl, hp, _, hne, hk⟩ := h.add inh_ok
    have hsa : (pr a).st = .ok := by
      have := h.ok; simp only [pr] at this; split at this
      · cases this
      · exact this
    have hkids := kids a .A (by decide) (Nat.lt_succ_self _) ⟨hq.1, hq.2.2⟩ (fun x hx => (hk x hx).1)
    cases a with
    | nil => exact absurd rfl hne
    | cons x t => exact printAdd_pr' print x t (by rw [properList_eq]; exact hp) hkids (hq.2.1 hsa)
    | _ => cases hp
  | and a =>
    obtain ⟨rfl, hp, _, _, hk⟩ := h.and inh_ok
    exact printAnd_pr print a (by rw [properList_eq]; exact hp)
      (kids a .B (by decide) (Nat.lt_succ_self _) hq (fun x hx => (hk x hx).1))
  | or a =>
    obtain ⟨rfl, hp, _, _, hk⟩ := h.or inh_ok
    exact printOr_pr print a (by rw [properList_eq]; exact hp)
      (kids a .B (by decide) (Nat.lt_succ_self _) hq (fun x hx => (hk x hx).1))
  | fn name a =>
    obtain ⟨rfl, hp, _, hk⟩ := h.fn inh_ok
    obtain ⟨f, hf⟩ := fn_known h.ok
    have := printFunction_pr print name a (by rw [properList_eq]; exact hp)
      (kids a .A (by decide) (Nat.lt_succ_self _) hq (fun x hx => (hk x hx).1))
    simpa [hf, dispatch] using this
  | pw ps =>
    obtain ⟨rfl, _, hd, hst, hk⟩ := h.pw
    have := printPiecewise_tie print ps ((C11.toList ps).map mk) (by rw [elems_eq_toList, map_mk_e])
      (pw_printed print _ IH _ (fun x hx hsx => (hk x hx hsx).1)
        (fun x hx => ⟨(gq_elem (l := ps) hq hx).1, Nat.lt_succ_of_le (gq_elem (l := ps) hq hx).2⟩) hst)
    show Printer.printPiecewise print (.pw ps) = _
    rw [this, hd]
  | rel r a b =>
    obtain ⟨rfl, hab⟩ := h.rel inh_ok
    obtain ⟨⟨qa, hha⟩, qb, hhb⟩ := gq_rel hq
    rcases hab with ⟨ha, hb⟩ | ⟨_, ha, hb⟩
    · exact printRelational_pr print r a b (IH' a hha .A (by decide) ha qa) (IH' b hhb .A (by decide) hb qb)
    · exact printRelational_pr print r a b (IH' a hha .B (by decide) ha qa) (IH' b hhb .B (by decide) hb qb)
  | pow b x =>
    obtain ⟨rfl, _, _, hb, hx⟩ := h.pow inh_ok
    obtain ⟨⟨qb, hhb⟩, qx, hhx⟩ := gq_pow hq
    exact printPow_pr print b x (IH' b hhb .A (by decide) hb qb) (IH' x hhx .A (by decide) hx qx)
  | mul a =>
    obtain ⟨sg, fs, _, hd, hf, h1, h2⟩ := mul_leaves inh_ok h hq
    have hnumP : ∀ k, numOK k = true → print k = .ok (flatten (numDoc k)) := fun k hk =>
      num_Pr print k hk (IH k (by rw [numOK_height k hk]; exact Nat.succ_pos _))
    have hfac : ∀ f ∈ fs, Fac (fun e d => print e = .ok (flatten d)) f := fun f hf' =>
      (hf f hf').fac inh_ok her_height (fun g hg hdg hqg => IH' g hg .A (by decide) hdg hqg) hnumP
    rw [hd]
    exact printMul_core print _ sg fs h1 h2 (fun f hf' => (hfac f hf').1) (fun f hf' => (hfac f hf').2)
      (fun n => hnumP (.int n) rfl)
      (by
        intro f hf' b x hfe hneg
        obtain ⟨hd', hq', hn', hdoc, _⟩ := Factor.negPow inh_ok (hf f hf') hfe hneg
        rw [← hdoc]; exact IH' _ hn' .A (by decide) hd' hq')
      (fun f hf' => Factor.rat_den (hf f hf')) (fun f hf' => Factor.mul_base (hf f hf'))

/-- **the generated printer, closed by recursion, prints the model**: for every expression `e` of the domain
    (`C11.wf`; products have at least two factors; `AddOK`) that the model prints (`(pr e).st = ok`), with recursion depth
    above the height of `e`. -/
theorem gprint_pr (n : Nat) (e : E) (hn : height e < n) : Pr (gprint n) e := by
  induction n generalizing e with
  | zero => omega
  | succ n ih =>
    show Pr (dispatch (gprint n)) e
    exact dispatch_step (gprint n) e (fun x hx => ih x (by omega))

/-- the generated printer: `Printer()._print(e)` -/
def genPrint (e : E) : Except PyErr String := gprint (height e + 1) e

/-- the generated `Printer().doprint(e)`: `optimize` (SymPy, with the table `_optims`) is the model's `rewriteTrig`.
    Trusted, like `dispatch`. `"unmodelled"` is no python class: where `rewriteTrig` has no answer nothing is claimed. -/
def genDoprint (e : E) : Except PyErr String :=
  Printer.doprint (fun x => match rewriteTrig x with | some y => .ok y | none => .error ⟨"unmodelled"⟩)
    (fun x => genPrint x) e

/-- the generated `_print`, closed by recursion, returns the model's `printStr` -/
theorem print_closed (e : E) (s : Srt) (hs : s ≠ .P) (hw : wf s e = true) (hl : isList e = false)
    (hg : genOK e = true) (ha : AddOK e) (d : Doc) (h : printDoc e = some d) :
    genPrint e = .ok (flatten d) ∧ printStr e = some (flatten d) := by
  obtain ⟨hst, rfl⟩ := printDoc_eq_some.mp h
  exact ⟨gprint_pr _ e (by omega) s hs hw hl hg ha hst, by simp [printStr, h]⟩

/-- the generated `doprint` (rewrite the secondary trigonometric functions, then print) returns the
    model's text of the rewritten expression -/
theorem doprint_closed (e e' : E) (hE : isExpr e = true) (hr : rewriteTrig e = some e') (hw : wf .A e' = true)
    (hl : isList e' = false) (hg : genOK e' = true) (ha : AddOK e') (d : Doc) (h : printDoc e' = some d) :
    genDoprint e = .ok (flatten d) := by
  unfold genDoprint
  rw [doprint_tie _ _ e e' hE hr (by simp [hr])]
  exact (print_closed e' .A (by decide) hw hl hg ha d h).1

end Cellml.Tie.PPrinter2
