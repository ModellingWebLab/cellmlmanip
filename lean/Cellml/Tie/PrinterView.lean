import Cellml.Tie.Prelude
import Cellml.C11.Rewrite

/-! # What the translated methods of printer.py see of a SymPy expression

    The generated code (`Cellml/Generated/Code/Printer*.lean`) works on python strings and on SymPy objects. A SymPy
    object is a tree `C11.E` of the hand-written model; the accessors below, and `C11.prec`, `C11.comm`, `C11.headMinus`
    of the model, stand for the SymPy / python leaves the methods call (`precedence(e)`, `e.is_commutative`, `e.exp`,
    `-x is S.Half`, `str(n)`, `s.startswith('-')` …).
    The recursive call `self._print(x)` is NOT bound here: the generated definitions take it as a parameter
    `print : E → Except PyErr String` (open recursion). Core Lean only. -/

namespace Cellml.Tie.PPrinter
open C11

/-- python `+` on strings -/
instance : Add String := ⟨String.append⟩
@[simp] theorem str_add (a b : String) : a + b = a ++ b := rfl

/-- python `s * n` on a string -/
instance : HMul String Nat String := ⟨fun s n => String.join (List.replicate n s)⟩
theorem str_mul (s : String) (n : Nat) : s * n = String.join (List.replicate n s) := rfl

/-- python `str(x)` -/
class PyStr (α : Type) where
  str : α → String

/-- `str(n)` of a python int -/
instance : PyStr Int := ⟨fun n => toString n⟩
instance : PyStr Nat := ⟨fun n => toString n⟩
/-- a python float is represented by its `repr` (this is what `E.flt` stores) -/
instance : PyStr String := ⟨id⟩

/-- a python list `xs[0]` -/
def idx0 {α} : List α → Except PyErr α
  | [] => .error ⟨"IndexError"⟩
  | a :: _ => .ok a

/-- the elements of a `cons`-list -/
def elems : E → List E
  | .cons h t => h :: elems t
  | _ => []

/-- `expr.args` of an n-ary node (`Add`, `Mul`, `And`, `Or`, a function application) -/
def argsOf : E → List E
  | .add a | .mul a | .and a | .or a | .fn _ a => elems a
  | _ => []

/-- `expr.args` of a `Piecewise`: its `(value, condition)` pairs -/
def pairOf : E → E × E
  | .pair v c => (v, c)
  | e => (e, .nil)
def pairsOf : E → List (E × E)
  | .pw a => (elems a).map pairOf
  | _ => []

/-- `isinstance(c, BooleanTrue)` -/
def isTrue : E → Bool
  | .tt => true
  | _ => false

/-- `isinstance(expr, sympy.Pow)` -/
def isPow : E → Bool
  | .pow _ _ => true
  | _ => false

/-- `expr.exp` / `expr.base` of a `Pow` -/
def expOf : E → E
  | .pow _ x => x
  | _ => .nil
def baseOf : E → E
  | .pow b _ => b
  | _ => .nil

/-- `x is sympy.S.Half` -/
def isHalf (x : E) : Bool := x == .rat 1 2
/-- `-x is sympy.S.Half`: SymPy evaluates the negation; for every exponent that is a number or an opaque term this is
    `x = -1/2` (held compound exponents that evaluate to a constant are outside the model: `C11.constCompound`) -/
def negIsHalf (x : E) : Bool := x == .rat (-1) 2
/-- `-x is sympy.S.One` (same remark) -/
def negIsOne (x : E) : Bool := x == .int (-1)

/-- `expr.lhs`, `expr.rhs`, `expr.rel_op` of a `Relational` -/
def lhsOf : E → E
  | .rel _ a _ => a
  | _ => .nil
def rhsOf : E → E
  | .rel _ _ b => b
  | _ => .nil
def relOp : E → String
  | .rel r _ _ => r.text
  | _ => ""

/-- `expr.func.__name__` -/
def funcName : E → String
  | .fn n _ => n
  | _ => ""

/-- `expr.p`, `expr.q` of an `Integer` / `Rational` -/
def pOf : E → Int
  | .int n => n
  | .rat p _ => p
  | _ => 0
def qOf : E → Nat
  | .rat _ q => q
  | _ => 1

/-- `float(expr)` of a `Float`: the python float, represented by its `repr` -/
def floatOf : E → String
  | .flt t _ => t
  | _ => ""

/-- `self._function_names[k]` (KeyError) and `self._function_names.get(k, None)`: the generated table -/
def fnNamesIdx (k : String) : Except PyErr String :=
  match fnName k with
  | some v => .ok v
  | none => .error ⟨"KeyError"⟩
def fnNamesGet (k : String) : Option String := fnName k

/-- `self._literal_names[k]` -/
def litNamesIdx (k : String) : Except PyErr String :=
  match lookup Cellml.Gen.printerLiteralNames k with
  | some v => .ok v
  | none => .error ⟨"KeyError"⟩

/-- `self._symbol_function(expr)` with the default `str` -/
def symbolFunction : E → String
  | .sym n _ => n
  | _ => ""

/-- `isinstance(expr, sympy.Expr)`: arithmetic expressions (not relations, `And`/`Or`, `true`/`false`) -/
def isExpr : E → Bool
  | .rel _ _ _ | .and _ | .or _ | .tt | .ff | .pair _ _ | .nil | .cons _ _ => false
  | _ => true

/-- `x.is_Rational` (an `Integer` is a `Rational`) -/
def isRational : E → Bool
  | .int _ | .rat _ _ => true
  | _ => false

/-- SymPy's evaluated `Pow(b, x)` where `x` is the negation of a negative rational: `Pow(b, 1)` is `b` -/
def powEval (b x : E) : E := if x == .int 1 then b else .pow b x

/-- `item.args[0]` of a `Pow`: its base -/
def arg0 : E → E
  | .pow b _ => b
  | _ => .nil

end Cellml.Tie.PPrinter
