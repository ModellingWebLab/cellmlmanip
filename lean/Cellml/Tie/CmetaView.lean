import Cellml.Tie.PyM
import Cellml.Model.Cmeta

/-! # What the translated cmeta / RDF functions of model.py see of a `Model` object

    The generated code (`Cellml/Generated/Code/CmetaQ.lean`: the functions that only read; `…/Cmeta.lean`: the ones that
    mutate) refers to python attribute paths (`self._cmeta_id_to_variable[k]`, `variable._cmeta_id`, `self.rdf.triples(…)`
    …). The pattern tables of `harness/code_specs/cmetaq.py` / `cmeta.py` bind each of them to one accessor below, which
    reads or writes ONE field of the hand-written state (`Model.AState` = C08's `MState` + the triples). No accessor
    contains a decision of a translated function. One binding is not to an accessor below: python's
    `sorted(…, key=lambda sym: sym.order_added)` in `get_variables_by_rdf` is bound to the hand model's own
    `Model.sortByKey` / `Model.orderOf` (Model/State.lean), so that python's `sorted` is a stable sort by the key is
    trusted, not tied. Core Lean only.

    A `Variable` object is its identity number (position on `heap`), as in the hand model. -/

namespace Cellml.Tie.PCmeta
open Model

-- ------------------------------------------------------------------------------------------------ outcomes
/-- exception class of a model-side error. `notInModel` and `cmetaFuel` are conventions of the hand model
    (State.lean: a foreign variable is refused without a python counterpart; the id loop on fuel) -/
def mErrCls : Model.Err → String
  | .valueError => "ValueError"
  | .keyError => "KeyError"
  | .graphError _ => "GraphError"
  | .notInModel => "NotInModel"
  | .cmetaFuel => "FuelExhausted"

def lErrCls : LErr → String
  | .keyError => "KeyError"
  | .valueError => "ValueError"

/-- `ok` / `raised e` of the hand model as a python result without value -/
def ofOutcome : Outcome → Except PyErr Unit
  | .ok => .ok ()
  | .raised e => .error ⟨mErrCls e⟩

/-- the result of a model operation on the `MState` part, as a `PyM` result on the annotated state -/
def liftM (a : AState) (r : MState × Outcome) : Except PyErr Unit × AState := (ofOutcome r.2, { a with m := r.1 })

-- ------------------------------------------------------------------------------------------------ python values
/-- what callers pass as `cmeta_id` to `get_variable_by_cmeta_id`: a `str`, an `rdflib.URIRef`, or another
    `rdflib.term.Node` (a Literal or BNode); the payload is `str(x)` -/
inductive IdArg
  | str (s : String)
  | uriRef (s : String)
  | otherNode (s : String)
deriving DecidableEq, Repr

namespace IdArg
def text : IdArg → String
  | .str s => s
  | .uriRef s => s
  | .otherNode s => s

/-- `isinstance(x, rdflib.term.Node)` -/
def isNode : IdArg → Bool
  | .str _ => false
  | _ => true

/-- `isinstance(x, rdflib.URIRef)` -/
def isURIRef : IdArg → Bool
  | .uriRef _ => true
  | _ => false

/-- `str(x)`: a plain `str` -/
def toStr (x : IdArg) : IdArg := .str x.text

/-- `x[i]` on a python string (`URIRef` is a `str`): the one-character string; IndexError outside -/
def charAt (x : IdArg) (i : Nat) : Except PyErr String :=
  match x.text.toList[i]? with
  | some c => .ok (String.singleton c)
  | none => .error ⟨"IndexError"⟩

/-- `x[i:]`: a plain `str` -/
def dropFront (x : IdArg) (i : Nat) : IdArg := .str (String.ofList (x.text.toList.drop i))
end IdArg

/-- an argument of the RDF queries, before / after `create_rdf_node`: `None` (the wildcard), an `rdflib` node, a
    `(namespace_uri, local_name)` pair, a plain string -/
inductive RdfArg
  | none
  | node (n : RNode)
  | pair (ns loc : String)
  | str (s : String)
deriving DecidableEq, Repr

instance : Coe (String × String) RdfArg := ⟨fun p => .pair p.1 p.2⟩

/-- the last character of a string is `c` (`s.endswith(c)`) -/
def endsWithChar (s : String) (c : Char) : Bool := s.toList.getLast? == some c

/-- `cellmlmanip.rdf.create_rdf_node` (rdf.py; a callee, bound as a leaf in group CmetaQ; group RdfQ translates it and
    `PRdfQ.createRdfNode_tie`, Tie/RdfQ.lean, proves the translation equal to this function):
    `None` and nodes are returned as they are, a pair becomes the URI `ns[#]local`, a string a local URI if it starts
    with `#` and a literal otherwise -/
def createRdfNode : RdfArg → RdfArg
  | .none => .none
  | .node n => .node n
  | .pair ns loc =>
    if !(endsWithChar ns '#') && !(endsWithChar ns '/') then .node (.uri (ns ++ "#" ++ loc)) else .node (.uri (ns ++ loc))
  | .str s => if s.toList.head? == some '#' then .node (.uri s) else .node (.lit s)

/-- an rdflib pattern position: `None` matches everything, a node matches itself; anything else is not a node and
    matches nothing -/
def nodeMatches (pat : RdfArg) (n : RNode) : Bool :=
  match pat with
  | .none => true
  | .node x => n == x
  | _ => false

-- ------------------------------------------------------------------------------------------------ reading (self : AState)
/-- `self._cmeta_id_to_variable` where python asks `k in d`: the keys (`None` is never one) -/
def cmetaKeys (self : AState) : List (Option String) := self.m.cmetaMap.map (fun p => some p.1)

/-- `self._cmeta_id_to_variable[k]`; KeyError when absent (only a `str` is ever a key) -/
def cmetaMapGet (self : AState) (k : IdArg) : Except PyErr Nat :=
  match k with
  | .str c => (match self.m.cmetaMap.lookup c with
    | some v => .ok v
    | none => .error ⟨"KeyError"⟩)
  | _ => .error ⟨"KeyError"⟩

/-- `self.rdf.subjects(p, o)`: the subject `URIRef('#id')` of every matching triple, one per triple -/
def rdfSubjects (self : AState) (p o : RdfArg) : List IdArg :=
  (self.rdf.filter (fun t => nodeMatches p (.uri t.pred) && nodeMatches o t.obj)).map (fun t => .uriRef ("#" ++ t.subj))

/-- `l[i]` on a python list; IndexError outside -/
def listGet {α} (l : List α) (i : Nat) : Except PyErr α :=
  match l[i]? with
  | some x => .ok x
  | none => .error ⟨"IndexError"⟩

-- ------------------------------------------------------------------------------------------------ mutating (PyM AState)
abbrev M := PyM AState

/-- a call of a translated function that only reads -/
def callQ {α} (f : AState → Except PyErr α) : M α := PyM.rdE f

/-- `v._cmeta_id` -/
def varCmeta (v : Nat) : M (Option String) := PyM.rd (fun a => cmetaOf a.m v)

/-- `v.rdf_identity`: `URIRef('#' + id)` or `None` (`Variable._set_cmeta_id` keeps it in step with `_cmeta_id`);
    named by the id, as `Triple.subj` is -/
def varRdfIdentity (v : Nat) : M (Option String) := PyM.rd (fun a => cmetaOf a.m v)

/-- `v.name` -/
def varName (v : Nat) : M String := PyM.rd (fun a => nameOfVar a.m v)

/-- `v._set_cmeta_id(c)` -/
def setCmeta (v : Nat) (c : Option String) : M Unit :=
  PyM.upd (fun a => { a with m := { a.m with heap := setVar a.m.heap v (fun x => { x with cmeta := c }) } })

/-- `self._cmeta_id_to_variable[k] = v`. The registry of the hand model has string keys; a `None` key (python would
    store it) is answered `NoneKey`: the tie theorems are equalities with a model that has no such class, so it is
    never reached where they hold. -/
def cmetaMapSet (k : Option String) (v : Nat) : M Unit := PyM.updE fun a =>
  match k with
  | some c => (.ok (), { a with m := { a.m with cmetaMap := insertKey c v a.m.cmetaMap } })
  | none => (.error ⟨"NoneKey"⟩, a)

/-- `del self._cmeta_id_to_variable[k]` -/
def cmetaMapDel (k : Option String) : M Unit := PyM.updE fun a =>
  match k with
  | some c =>
    if hasKey c a.m.cmetaMap then (.ok (), { a with m := { a.m with cmetaMap := eraseKey c a.m.cmetaMap } })
    else (.error ⟨"KeyError"⟩, a)
  | none => (.error ⟨"KeyError"⟩, a)

/-- `self._name_to_variable` where python asks `k in d`: the keys -/
def nameKeys : M (List String) := PyM.rd (fun a => a.m.live.map (nameOfVar a.m))

/-- `self._name_to_variable[k] = v`: in place when the key exists, at the end otherwise -/
def nameDictSet (k : String) (v : Nat) : M Unit := PyM.upd fun a =>
  let live' : List Nat :=
    if (a.m.live.any (fun i => nameOfVar a.m i == k)) then
      a.m.live.map (fun i => if nameOfVar a.m i == k then v else i)
    else a.m.live ++ [v]
  { a with m := { a.m with live := live' } }

/-- `del self._name_to_variable[k]` -/
def nameDictDel (k : String) : M Unit := PyM.updE fun a =>
  if (a.m.live.any (fun i => nameOfVar a.m i == k))
  then (.ok (), { a with m := { a.m with live := a.m.live.filter (fun i => !(nameOfVar a.m i == k)) } })
  else (.error ⟨"KeyError"⟩, a)

/-- `self._variables_added` -/
def variablesAdded : M Nat := PyM.rd (fun a => a.m.nextOrder)

/-- `self._variables_added += k` -/
def variablesAddedIncr (k : Nat) : M Unit := PyM.upd (fun a => { a with m := { a.m with nextOrder := a.m.nextOrder + k } })

/-- `Variable(name=…, order_added=…, cmeta_id=…, initial_value=…)`: a new object (units, interfaces, `model` are not
    part of the hand model's state) -/
def newVariable (name : String) (order : Nat) (cmeta : Option String) (init : Option Rat) : M Nat := fun a =>
  (.ok a.m.heap.length, { a with m := { a.m with heap := a.m.heap ++ [⟨name, order, cmeta, init, none⟩] } })

/-- `self._invalidate_cache()` -/
def invalidateCache : M Unit := PyM.upd (fun a => { a with m := invalidate a.m })

/-- the `units` argument of `add_variable`: a unit object or a name (units are not modelled in this state) -/
inductive UnitArg
  | obj
  | name (n : String)
deriving DecidableEq, Repr

/-- `isinstance(units, self.units.Unit)` -/
def UnitArg.isUnit : UnitArg → Bool
  | .obj => true
  | .name _ => false

/-- `self.units.get_unit(name)`: the hand model has no unit store; the lookup is taken to succeed (a KeyError for an
    unknown unit name is outside the tie) -/
def getUnit (_u : UnitArg) : M UnitArg := pure .obj

/-- `self.get_definition(v)` (C08's `getDefinition`) -/
def getDefinitionM (v : Nat) : M (Option Eqn) := PyM.rd (fun a => getDefinition a.m v)

/-- `self.remove_equation(e)` (C08's `removeEquation`: state and outcome); `None` is never passed (`NoneArg`) -/
def removeEquationM (e : Option Eqn) : M Unit := PyM.updE fun a =>
  match e with
  | some e => liftM a (removeEquation a.m e)
  | none => (.error ⟨"NoneArg"⟩, a)

/-- `self.rdf.triples((s, None, None))`, as a list taken before the loop body runs; `None` is rdflib's wildcard -/
def rdfTriplesOf (s : Option String) : M (List Triple) := PyM.rd fun a =>
  match s with
  | some c => a.rdf.filter (fun t => t.subj == c)
  | none => a.rdf

/-- `self.rdf.remove(t)` -/
def rdfRemove (t : Triple) : M Unit := PyM.upd (fun a => { a with rdf := a.rdf.filter (fun x => x != t) })

/-- `self.get_display_name(v)` with the default arguments: a callee, bound as a leaf here to the hand model's
    `displayNames` (the admissible answers; the last one stands for "whatever rdflib yields last"). Group Misc5
    translates `get_display_name` and ties it against this leaf (`getDisplayName_leaf`, Tie/Misc5.lean). For a variable
    without cmeta id there is exactly one admissible answer. -/
def displayName (v : Nat) : M String := PyM.rd (fun a => (displayNames a v none).getLastD "")

end Cellml.Tie.PCmeta
