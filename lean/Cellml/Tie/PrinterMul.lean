import Cellml.Generated.Code.PrinterMul
import Cellml.C11.Wf
import Cellml.Tie.ExceptRun

/-! # Tie: the classification loop of `Printer._print_Mul` (generated from the source) = `C11.classify`

    One iteration of `for item in sympy.Mul.make_args(expr):` appends to the numerator list `a`, the denominator list
    `b` and `pow_brackets` exactly what the model's `classify` returns for that factor (`C11.partition` is the
    concatenation of `classify` over the factors). The sign extraction before the loop and the assembly of the strings
    after it are tied in Tie/PrinterMul2.lean. -/


namespace Cellml.Tie.PPrinter
open C11 Cellml.Gen

/-- the model records the BASE of a factor that needs the `pow_brackets` fix-up, python the factor itself -/
theorem classify_marks (i : Item1) : ∀ m ∈ (classify i).2.2, m = baseOf i.e := by
  have h := classify_inv i
  generalize classify i = r at h ⊢
  cases h with
  | recip b he =>
    intro m hm
    split at hm
    · rw [List.mem_singleton.mp hm, he]; rfl
    · cases hm
  | negPow | int | rat | keep => exact fun _ hm => nomatch hm

theorem isNegRat_eq (x : E) : (isRational x && isNegNum x) = isNegRat x := by cases x <;> rfl

/-- **the body of the loop of `Printer._print_Mul` = `C11.classify`**: for every factor and every state of the three
    lists. Domain: a `Rational` factor has denominator ≠ 1 (SymPy's invariant; the model does not look at `q`), and a
    `Mul` base of a reciprocal does not have exactly one argument (the model does not look at the length). -/
theorem mulClassify_tie (i : Item1) (a b pb : List E)
    (hq : ∀ p q, i.e = .rat p q → q ≠ 1)
    (hm : ∀ bb x, i.e = .pow bb x → isMul bb = true → (argsOf bb).length ≠ 1) :
    PrinterMul.mulClassify i.e a b pb =
      .ok (a ++ (classify i).1.map (·.e), b ++ (classify i).2.1.map (·.e),
           pb ++ (classify i).2.2.map (fun _ => i.e)) := by
  rcases i with ⟨e, d, bs⟩
  unfold PrinterMul.mulClassify
  cases e with
  | pow bb x =>
    have hm' := hm bb x rfl
    -- python's `negative_power` is the model's test
    have hcond : (comm (.pow bb x) && isPow (.pow bb x) && isRational x && isNegNum x) =
        (comm bb && comm x && isNegRat x) := by
      rw [Bool.and_assoc _ (isRational x), isNegRat_eq]; simp [comm, isPow]
    simp only [classify, expOf, baseOf, arg0, Py.truthy_bool, hcond, except_run]
    by_cases hc : (comm bb && comm x && isNegRat x) = true
    · by_cases hx : x = .int (-1)
      · subst hx
        by_cases hmul : isMul bb = true
        · simp [hc, negNum, powEval, hmul, hm' hmul]
        · simp [hc, negNum, powEval, hmul]
      · simp [hc, hx]
    · simp [hc, isRational]
  | int n => by_cases h1 : n = 1 <;> simp [classify, comm, isPow, isRational, pOf, qOf, num1, h1, except_run]
  | rat p q =>
    have := hq p q rfl
    by_cases h1 : p = 1 <;> simp [classify, comm, isPow, isRational, pOf, qOf, num1, h1, this, except_run]
  | _ => simp [classify, comm, isPow, isRational, except_run]

/-- the model's `C11.partition` IS the `for` loop over the generated body, started from any three lists -/
theorem mulLoop_tie (fs : List Item1) (a b pb : List E)
    (hq : ∀ i ∈ fs, ∀ p q, i.e = .rat p q → q ≠ 1)
    (hm : ∀ i ∈ fs, ∀ bb x, i.e = .pow bb x → isMul bb = true → (argsOf bb).length ≠ 1) :
    fs.foldlM (fun (s : List E × List E × List E) i => PrinterMul.mulClassify i.e s.1 s.2.1 s.2.2) (a, b, pb) =
      .ok (a ++ (partition fs).1.map (·.e), b ++ (partition fs).2.1.map (·.e),
           pb ++ (fs.flatMap fun i => (classify i).2.2.map fun _ => i.e)) := by
  induction fs generalizing a b pb with
  | nil => simp [partition, except_run]
  | cons i r ih =>
    rw [List.foldlM_cons, mulClassify_tie i a b pb (hq i (by simp)) (hm i (by simp))]
    simp only [except_run]
    rw [ih _ _ _ (fun j hj => hq j (by simp [hj])) (fun j hj => hm j (by simp [hj]))]
    simp [partition, List.append_assoc]

/-- and the bases of the collected `pow_brackets` are the model's marks -/
theorem partition_marks (fs : List Item1) :
    (fs.flatMap fun i => (classify i).2.2.map fun _ => i.e).map baseOf = (partition fs).2.2 := by
  induction fs with
  | nil => simp [partition]
  | cons i r ih =>
    simp only [List.flatMap_cons, List.map_append, ih, partition, List.map_map]
    congr 1
    have := classify_marks i
    generalize (classify i).2.2 = l at this
    induction l with
    | nil => rfl
    | cons m l ihl => simp [this m (by simp)]; exact ihl (fun x hx => this x (by simp [hx]))

end Cellml.Tie.PPrinter
