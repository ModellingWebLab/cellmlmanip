import Cellml.Generated.Code.Cmeta
import Cellml.Tie.CmetaQ
import Cellml.C08.Lemmas

/-! # Tie: the mutating cmeta / RDF functions of model.py (generated from the source) = the hand model's operations
    (`Model.transferCmetaId`, `Model.addCmetaId`, `Model.addVariable` of State.lean; `Model.removeVariableA` of
    Cmeta.lean) — value / exception class AND the state left behind, also when the call raises -/

namespace Cellml.Tie.PCmeta
open Model Cellml.Gen

theorem length_setVar (h : List Var) (i : Nat) (f : Var → Var) : (setVar h i f).length = h.length :=
  Model.length_setVar h i f

/-- `v._set_cmeta_id(c)` seen through `w._cmeta_id` -/
theorem cmetaOf_setCmeta (m : MState) (i j : Nat) (c : Option String) (h' : List Var)
    (hh : h' = setVar m.heap i (fun x => { x with cmeta := c })) :
    cmetaOf { m with heap := h' } j = if i = j ∧ j < m.heap.length then c else cmetaOf m j := by
  subst hh
  unfold cmetaOf
  simp only [Model.getElem?_setVar]
  by_cases e : i = j
  · subst e
    by_cases hl : i < m.heap.length
    · simp [hl]
    · simp [hl]
  · simp [e, Ne.symm e]

/-- `transfer_cmeta_id(source, target)` on two variables of the model (the hand model refuses foreign objects by
    convention: `notInModel`; python has no such check). `hb`: the target is on the heap (C08's `liveBound`; outside the
    heap `setVar` changes nothing and the id would be lost) -/
theorem transferCmetaId_tie (a : AState) (src dst : Nat) (hs : isLive a.m src = true) (hd : isLive a.m dst = true)
    (hb : dst < a.m.heap.length) :
    Cmeta.transferCmetaId src dst a = liftM a (Model.transferCmetaId a.m src dst) := by
  unfold Cmeta.transferCmetaId Model.transferCmetaId
  simp only [hs, hd, bind, varCmeta]
  cases h1 : cmetaOf a.m src with
  | none =>
    simp [PyM.bind_apply, h1, throw, throwThe, MonadExceptOf.throw, PyM.throw, liftM, ofOutcome, mErrCls]
  | some c =>
    cases h2 : cmetaOf a.m dst with
    | some c' =>
      simp [PyM.bind_apply, h1, h2, throw, throwThe, MonadExceptOf.throw, PyM.throw, liftM, ofOutcome,
        mErrCls]
    | none =>
      have hne : src ≠ dst := by rintro rfl; simp [h1] at h2
      have hne' : dst ≠ src := fun e => hne e.symm
      have hv : a.m.heap[dst]? = some a.m.heap[dst] := List.getElem?_eq_getElem hb
      simp [PyM.bind_apply, h1, h2, setCmeta, cmetaMapSet, liftM, ofOutcome]
      simp [cmetaOf, Model.getElem?_setVar, hne', hv]

/-- the result of a model operation that returns a new variable -/
def liftNew (a : AState) (new : Nat) (r : MState × Outcome) : Except PyErr Nat × AState :=
  (match r.2 with
   | .ok => .ok new
   | .raised e => .error ⟨mErrCls e⟩, { a with m := r.1 })

theorem isIn_names (s : MState) (name : String) :
    Py.isIn name (s.live.map (nameOfVar s)) = s.live.any (fun i => nameOfVar s i == name) := by
  unfold Py.isIn
  rw [List.contains_eq_any_beq, List.any_map]
  exact List.any_congr rfl fun _ => BEq.comm

theorem nameOf_append (h : List Var) (n : String) (i : Nat) (hi : i < h.length) :
    nameOf (h.map (·.name) ++ [n]) i = nameOf (h.map (·.name)) i := by
  unfold nameOf
  rw [List.getElem?_append_left (by simpa using hi)]

/-- the branch "the key is already in `_name_to_variable`" of `nameDictSet` cannot be taken for a name no live variable
    has; stated in the shape `simp` leaves that branch in inside `addVariable_tie` (any goal `P`) -/
theorem fresh_name_absurd {l : List Nat} {h : List Var} {name : String} (hb : ∀ i ∈ l, i < h.length)
    (hn : (l.any fun i => nameOf (h.map (·.name)) i == name) = false) {P : Prop} :
    ∀ x ∈ l, nameOf (h.map (·.name) ++ [name]) x = name → P := by
  intro x hx hx'
  exfalso
  rw [nameOf_append _ _ _ (hb x hx)] at hx'
  have := List.any_eq_false.mp hn x hx
  simp [hx'] at this

/-- `units` is dead after its conditional reassignment (`units = self.units.get_unit(units)`), and the leaf `getUnit`
    touches nothing: the rest `B` runs the same either way -/
theorem skip_getUnit {α} (c : Prop) [Decidable c] (u : UnitArg) (B : M α) :
    (if c then getUnit u >>= fun _ => B else B) = B := by split <;> rfl

/-- `add_variable` = `Model.addVariable`, returning the new variable's identity number. `hb`: the variables of the model
    are on the heap (C08's `liveBound`), so their names are read as before when the new object is put at its end. -/
theorem addVariable_tie (a : AState) (name : String) (units : UnitArg) (init : Option Rat) (pub priv cmeta : Option String)
    (hb : ∀ i ∈ a.m.live, i < a.m.heap.length) :
    Cmeta.addVariable name units init pub priv cmeta a
      = liftNew a a.m.heap.length (Model.addVariable a.m name cmeta init) := by
  unfold Cmeta.addVariable Model.addVariable
  simp only [skip_getUnit]
  simp only [bind, nameKeys, PyM.bind_apply, PyM.rd_run, isIn_names, PyM.ite_run]
  by_cases hn : (a.m.live.any fun i => nameOfVar a.m i == name) = true
  · simp [hn, throw, throwThe, MonadExceptOf.throw, PyM.throw, liftNew, mErrCls]
  · have hn' : (a.m.live.any fun i => nameOf (a.m.heap.map (·.name)) i == name) = false := by
      simpa [nameOfVar, names] using hn
    cases cmeta with
    | none =>
      simp [liftNew, variablesAdded, newVariable, nameDictSet, variablesAddedIncr, invalidateCache, cmetaTaken,
        registerCmeta, invalidate, pure, PyM.pure, nameOfVar, names, hn']
      exact fresh_name_absurd hb hn'
    | some c =>
      by_cases hc : Model.hasCmetaId a.m c = true
      · simp [hn, hc, throw, throwThe, MonadExceptOf.throw, PyM.throw, liftNew, mErrCls, callQ, hasCmetaId_tie,
          cmetaTaken]
      · simp [hc, liftNew, callQ, hasCmetaId_tie, variablesAdded, newVariable, nameDictSet, variablesAddedIncr,
          invalidateCache, cmetaTaken, registerCmeta, invalidate, pure, PyM.pure, nameOfVar, names, hn', cmetaMapSet]
        exact fresh_name_absurd hb hn'

/-- the `while self.has_cmeta_id(cmeta_id): cmeta_id += '_'` loop of the generated code (test and body as translated,
    known only by what they do on the state `a`) = the hand model's `freeCmeta`; one unit of fuel more because
    `freeCmeta` tests once more at 0 -/
theorem whileFuel_free (a : AState) (test : String → M Bool) (body : String → M String)
    (ht : ∀ c, test c a = (.ok (Model.hasCmetaId a.m c), a)) (hbody : ∀ c, body c a = (.ok (c ++ "_"), a))
    (n : Nat) (c : String) :
    Py.whileFuel (n + 1) c test body a
      = (match freeCmeta a.m c n with
         | some c' => .ok c'
         | none => .error ⟨"FuelExhausted"⟩, a) := by
  induction n generalizing c with
  | zero =>
    unfold Py.whileFuel Py.whileFuel freeCmeta
    simp only [bind, PyM.bind_apply, ht]
    by_cases h : Model.hasCmetaId a.m c = true <;>
      simp [h, PyM.bind_apply, hbody, throw, throwThe, MonadExceptOf.throw, PyM.throw, pure, PyM.pure]
  | succ n ih =>
    unfold Py.whileFuel freeCmeta
    simp only [bind, PyM.bind_apply, ht]
    by_cases h : Model.hasCmetaId a.m c = true
    · simp only [h, if_true, PyM.bind_apply, hbody]
      exact ih (c ++ "_")
    · simp [h, pure, PyM.pure]

theorem displayName_nocmeta (a : AState) (v : Nat) (h : cmetaOf a.m v = none) :
    displayName v a = (.ok ((nameOfVar a.m v).replace "$" "__"), a) := by
  simp [displayName, displayNames, termsOf, annotationsOf, h]

/-- `add_cmeta_id(variable)` on a variable of the model -/
theorem addCmetaId_tie (a : AState) (v : Nat) (hl : isLive a.m v = true) :
    Cmeta.addCmetaId v a = liftM a (Model.addCmetaId a.m v) := by
  unfold Cmeta.addCmetaId Model.addCmetaId
  simp only [hl, bind, PyM.bind_apply, varCmeta, PyM.rd_run]
  cases h : cmetaOf a.m v with
  | some c => simp [liftM, ofOutcome, pure, PyM.pure]
  | none =>
    simp only [Option.isSome_none, Bool.false_eq_true, if_false, PyM.bind_apply, displayName_nocmeta a v h, callQ,
      PyM.rdE_run]
    rw [whileFuel_free a _ _ (fun c => by simp [PyM.bind_apply, hasCmetaId_tie, pure, PyM.pure])
      (fun c => by simp [pure, PyM.pure])]
    cases freeCmeta a.m ((nameOfVar a.m v).replace "$" "__") (a.m.cmetaMap.length + 1) with
    | none => simp [liftM, ofOutcome, mErrCls]
    | some c => simp [setCmeta, cmetaMapSet, liftM, ofOutcome]

/-- `for triple in triples: self.rdf.remove(triple)`, for ANY body that takes its triple out of the graph and goes on:
    afterwards none of them is in the graph -/
theorem forIn_rdfRemove (body : Triple → PUnit → M (ForInStep PUnit))
    (hbody : ∀ t b, body t ⟨⟩ b = (.ok (.yield ⟨⟩), { b with rdf := b.rdf.filter (fun x => x != t) }))
    (l : List Triple) (b : AState) :
    forIn l PUnit.unit body b = (.ok PUnit.unit, { b with rdf := b.rdf.filter (fun x => !(l.contains x)) }) := by
  induction l generalizing b with
  | nil =>
    have : b.rdf.filter (fun _ => true) = b.rdf := List.filter_eq_self.mpr (fun _ _ => rfl)
    simp [pure, PyM.pure, this]
  | cons t r ih =>
    rw [List.forIn_cons]
    simp only [bind, PyM.bind_apply, hbody]
    rw [ih]
    simp only [List.filter_filter, List.contains_cons]
    congr 2
    apply List.filter_congr
    intro x _
    cases hx : (x == t) <;> cases hr : r.contains x <;> simp [bne, hx]

theorem filter_name_eq_erase (f : Nat → String) (l : List Nat) (v : Nat) (hn : (l.map f).Nodup) (hv : v ∈ l) :
    l.filter (fun i => !(f i == f v)) = l.erase v := by
  -- distinct names: `f i = f v` only for `i = v`, and `v` occurs once
  have hl : l.Nodup := List.Pairwise.of_map f (fun _ _ hab e => hab (congrArg f e)) hn
  rw [hl.erase_eq_filter]
  refine List.filter_congr fun i hi => congrArg (!·) (Bool.eq_iff_iff.mpr ?_)
  rw [beq_iff_eq, beq_iff_eq]
  exact ⟨List.inj_of_nodup_map f l hn i hi v hv, congrArg f⟩

/-- the statements of the generated `remove_variable` after the defining equation has been dealt with — generated text
    typed again, checked against the generated definition by `removeVariable_split` (`rfl`) -/
def removeTail (variable_ : Nat) : M Unit := do
  if (Py.truthy (← varRdfIdentity variable_)) then
    for triple in (← rdfTriplesOf (← varRdfIdentity variable_)) do
      rdfRemove triple
  nameDictDel (← varName variable_)
  if ((← varCmeta variable_)).isSome then
    cmetaMapDel (← varCmeta variable_)
  invalidateCache

theorem removeVariable_split (v : Nat) :
    Cmeta.removeVariable v = (do
      let defn ← getDefinitionM v
      if (defn).isSome then
        removeEquationM defn
      removeTail v) := rfl

/-- annotations, name, registry entry, caches = the hand model's `dropSubject` + `unregister` -/
theorem removeTail_run (b : AState) (v : Nat) (hl : v ∈ b.m.live) (hn : (b.m.live.map (nameOfVar b.m)).Nodup) :
    removeTail v b = (ofOutcome (unregister b.m v).2,
      { m := (unregister b.m v).1, rdf := dropSubject (cmetaOf b.m v) b.rdf }) := by
  unfold removeTail unregister
  simp only [bind, PyM.bind_apply, varRdfIdentity, PyM.rd_run, Py.truthy_option, PyM.ite_run]
  have hex : ∃ x, x ∈ b.m.live ∧ nameOfVar b.m x = nameOfVar b.m v := ⟨v, hl, rfl⟩
  cases hc : cmetaOf b.m v with
  | none =>
    have hc' : (b.m.heap[v]?.bind fun x => x.cmeta) = none := hc
    simp [varName, nameDictDel, hex, varCmeta, cmetaOf, hc', invalidateCache,
      filter_name_eq_erase _ _ _ hn hl, ofOutcome, dropSubject, invalidate]
  | some c =>
    have hc' : (b.m.heap[v]?.bind fun x => x.cmeta) = some c := hc
    have hfilter : b.rdf.filter (fun x => !(b.rdf.filter (fun t => t.subj == c)).contains x)
        = b.rdf.filter (fun t => t.subj != c) := by
      apply List.filter_congr
      intro x hx
      cases hs : (x.subj == c) <;> simp [bne, hs, hx]
    simp only [Option.isSome_some, if_true, rdfTriplesOf, PyM.rd_run]
    rw [forIn_rdfRemove _ (by exact fun _ _ => rfl), hfilter]
    -- the registry may lack the id: then `del` raises KeyError with the triples and the name already gone
    by_cases hk : hasKey c b.m.cmetaMap = true
    · simp [varName, nameDictDel, hex, varCmeta, cmetaOf, hc', invalidateCache, cmetaMapDel, hk,
        filter_name_eq_erase _ _ _ hn hl, ofOutcome, dropSubject, invalidate]
    · simp [varName, nameDictDel, hex, varCmeta, cmetaOf, hc', cmetaMapDel, hk,
        filter_name_eq_erase _ _ _ hn hl, ofOutcome, dropSubject, mErrCls]

/-- `remove_variable(variable)` on a variable of the model whose names are pairwise distinct (C08's invariant; the
    hand model deletes the name entry by identity, python by name): the hand model's `removeVariableA` — outcome and
    state, also when `remove_equation` or the `del` of the registry entry raises half-way -/
theorem removeVariable_tie (a : AState) (v : Nat) (hl : isLive a.m v = true)
    (hn : (a.m.live.map (nameOfVar a.m)).Nodup) :
    Cmeta.removeVariable v a = (ofOutcome (removeVariableA a v).2, (removeVariableA a v).1) := by
  have hl' : v ∈ a.m.live := by simpa [isLive] using hl
  rw [removeVariable_split]
  unfold removeVariableA
  simp only [hl, bind, PyM.bind_apply, getDefinitionM, PyM.rd_run, PyM.ite_run]
  cases hd : getDefinition a.m v with
  | none =>
    simp only [Option.isSome_none, Bool.false_eq_true, if_false]
    rw [removeTail_run a v hl' hn]
    simp
  | some e =>
    obtain ⟨hheap, hlive, _⟩ := removeEquation_frame a.m e
    simp only [Option.isSome_some, if_true, removeEquationM, PyM.updE_run, liftM]
    cases hr : removeEquation a.m e with
    | mk s1 o =>
      rw [hr] at hlive hheap
      simp only at hlive hheap
      cases o with
      | raised x => simp [ofOutcome]
      | ok =>
        have hnames : nameOfVar s1 = nameOfVar a.m := by
          funext i; simp [nameOfVar, names, hheap]
        show removeTail v { a with m := s1 } = _
        rw [removeTail_run { a with m := s1 } v (by simpa [hlive] using hl') (by simpa [hlive, hnames] using hn)]
        rfl

/-! The property theorems of `Props/C13.lean` speak about `astep` / `arun` (one API call on the annotated state). Its
    four cmeta cases are the functions tied above: -/

theorem astep_addVariable (a : AState) (name : String) (units : UnitArg) (init : Option Rat)
    (pub priv cmeta : Option String) (hb : ∀ i ∈ a.m.live, i < a.m.heap.length) :
    Cmeta.addVariable name units init pub priv cmeta a
      = ((ofOutcome (astep a (.base (.addVariable name cmeta init))).2).map (fun _ => a.m.heap.length),
         (astep a (.base (.addVariable name cmeta init))).1) := by
  rw [addVariable_tie a name units init pub priv cmeta hb]
  simp only [astep, step, liftNew]
  cases (Model.addVariable a.m name cmeta init).2 <;> rfl

theorem astep_removeVariable (a : AState) (v : Nat) (hl : isLive a.m v = true)
    (hn : (a.m.live.map (nameOfVar a.m)).Nodup) :
    Cmeta.removeVariable v a
      = (ofOutcome (astep a (.base (.removeVariable v))).2, (astep a (.base (.removeVariable v))).1) :=
  removeVariable_tie a v hl hn

theorem astep_addCmetaId (a : AState) (v : Nat) (hl : isLive a.m v = true) :
    Cmeta.addCmetaId v a = (ofOutcome (astep a (.base (.addCmetaId v))).2, (astep a (.base (.addCmetaId v))).1) :=
  addCmetaId_tie a v hl

theorem astep_transferCmetaId (a : AState) (src dst : Nat) (hs : isLive a.m src = true) (hd : isLive a.m dst = true)
    (hb : dst < a.m.heap.length) :
    Cmeta.transferCmetaId src dst a
      = (ofOutcome (astep a (.base (.transferCmetaId src dst))).2, (astep a (.base (.transferCmetaId src dst))).1) :=
  transferCmetaId_tie a src dst hs hd hb

end Cellml.Tie.PCmeta
