import Cellml.Units.Define

/-! The work list of `Parser._add_units` (parser.py 182-236), composed with `Units.addUnit` / `Units.addBaseUnit`.

    ```
    definitions_to_add = deque()
    for units_element in units_elements:                 # document order
        if base unit: self.model.units.add_base_unit(name); units_found.add(name)
        else:         definitions_to_add.append((name, unit_elements))
    iteration = 0
    while definitions_to_add:
        name, elems = definitions_to_add.pop()           # from the RIGHT
        if some elem['units'] not in units_found:
            definitions_to_add.appendleft((name, elems)) # back in on the LEFT
            iteration += 1
            if iteration > len(definitions_to_add): raise ValueError('... Cycles or unknown units.')
        else:
            definition = self._make_pint_unit_definition(name, elems)    # ValueError for offsets
            if self.model.units.is_defined(name): raise ValueError('Duplicate unit definition ...')
            self.model.units.add_unit(name, definition); units_found.add(name); iteration = 0
    ```

    The deque is a `List` whose HEAD is the RIGHT end: `pop()` takes the head, `appendleft` appends at the end.
    `units_found` starts as `_CELLML_UNITS` and receives exactly the names the store receives in `_known_units`
    (a `Model` always creates a fresh `UnitStore`), so `name in units_found` is `Store.isDefined`.

    The loop is a TOTAL function by well-founded recursion on the lexicographic measure
    `(|deque|, |deque| + 1 − iteration)` under the invariant `iteration ≤ |deque|`: Lean accepting the definition is
    the proof that `_add_units` cannot hang. `loopFuel` is the same loop by structural recursion on a step budget
    (`Units/WorklistLemmas.lean` proves they agree once the budget is ≥ `stepBound`); it reduces in the kernel.
    Core Lean only. -/

namespace Units

/-- one `<units>` element of the document: name, `base_units` flag, attribute dicts of the `<unit>` children -/
structure UDef where
  name  : String
  base  : Bool := false
  elems : List UnitElem := []
deriving Repr, DecidableEq

/-- `for unit in unit_elements: if unit['units'] not in units_found: … add_now = False` -/
def ready (st : Store) (d : UDef) : Bool := d.elems.all (fun e => st.isDefined e.units)

/-- pint's `parse_expression` evaluates every identifier of the (prefixed) expression: each must be a registry key -/
def refsResolve (reg : Registry) (st : Store) (d : UDef) : Bool := refsKnown reg st.id d.elems

/-- the `add_now` branch: `_make_pint_unit_definition` (offset test), `is_defined` (`name in _known_units`, a set
    that starts as `_CELLML_UNITS`: `Store.isDefined`), `add_unit` (`addUnit` tests the offset once more; here
    that test cannot fire: `addUnit_noOffset`) -/
def addNow (reg : Registry) (st : Store) (d : UDef) : Except AddErr (Registry × Store) :=
  if d.elems.any elemOffsetBad then .error (.valueError "offset")
  else if st.isDefined d.name then .error (.valueError "duplicate")
  else addUnit reg st d.name d.elems

/-- first pass, document order: base units are added at once, the others are queued -/
def addBases (reg : Registry) (st : Store) : List UDef → Except AddErr (Registry × Store)
  | [] => .ok (reg, st)
  | d :: ds =>
      if d.base then
        match addBaseUnit reg st d.name with
        | .ok (reg', st') => addBases reg' st' ds
        | .error e => .error e
      else addBases reg st ds

/-- the deque after the first pass, head = right end -/
def queue (defs : List UDef) : List UDef := (defs.filter (fun d => !d.base)).reverse

def stuck : AddErr := .valueError "Cycles or unknown units"

/-- the `while definitions_to_add` loop -/
def loop (reg : Registry) (st : Store) (dq : List UDef) (it : Nat) (hit : it ≤ dq.length) :
    Except AddErr (Registry × Store) :=
  match dq with
  | [] => .ok (reg, st)
  | d :: rest =>
      if ready st d then
        match addNow reg st d with
        | .ok (reg', st') => loop reg' st' rest 0 (Nat.zero_le _)
        | .error e => .error e
      else
        if hgt : it + 1 > (rest ++ [d]).length then .error stuck
        else loop reg st (rest ++ [d]) (it + 1) (by omega)
termination_by (dq.length, dq.length + 1 - it)
decreasing_by
  · apply Prod.Lex.left; simp
  · have hl : (rest ++ [d]).length = (d :: rest).length := by simp
    rw [hl]; apply Prod.Lex.right
    simp only [List.length_append, List.length_cons, List.length_nil] at hgt hit ⊢
    omega

/-- `Parser._add_units` on a fresh model whose unit store has id `id` -/
def addUnits (id : Nat) (defs : List UDef) : Except AddErr (Registry × Store) :=
  match addBases builtinRegistry { id := id, known := [] } defs with
  | .error e => .error e
  | .ok (reg, st) => loop reg st (queue defs) 0 (Nat.zero_le _)

/-! ### the same loop with an explicit step budget (structural recursion: evaluates in the kernel) -/

def loopFuel : Nat → Registry → Store → List UDef → Nat → Option (Except AddErr (Registry × Store))
  | 0, _, _, _, _ => none
  | fuel + 1, reg, st, dq, it =>
      match dq with
      | [] => some (.ok (reg, st))
      | d :: rest =>
          if ready st d then
            match addNow reg st d with
            | .ok (reg', st') => loopFuel fuel reg' st' rest 0
            | .error e => some (.error e)
          else
            if it + 1 > (rest ++ [d]).length then some (.error stuck)
            else loopFuel fuel reg st (rest ++ [d]) (it + 1)

/-- triangular number: steps needed to empty a deque of `n` definitions in the worst case, minus the final one -/
def tri : Nat → Nat
  | 0 => 0
  | n + 1 => tri n + (n + 1)

/-- budget that always suffices: `n(n+1)/2 + n + 2` passes through the `while` test for `n` definitions, counter at 0 -/
def stepBound (n it : Nat) : Nat := tri n + (n + 1 - it) + 1

def addUnitsFuel (id : Nat) (defs : List UDef) : Option (Except AddErr (Registry × Store)) :=
  match addBases builtinRegistry { id := id, known := [] } defs with
  | .error e => some (.error e)
  | .ok (reg, st) => loopFuel (stepBound (queue defs).length 0) reg st (queue defs) 0

/-- what `model.units.get_unit(name)` expands to after loading: (scale, root units) -/
def meaningOf (reg : Registry) (st : Store) (name : String) : Scale × Container :=
  toRoot reg (nameContainer (prefixName st.id name))

end Units
