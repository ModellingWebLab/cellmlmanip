import Cellml.Units.Registry

/-! What the functions of `Units/Define.lean` do. The namespace: `prefixName` is injective and its values are disjoint
    from the built-in keys (`storeLike`); `Store.isDefined`; the `_WORD` substitution on identifiers that start with a
    letter or an underscore (`mangle_good`); `elemMeaning` / `defMeaning` when they return (the attributes read as the
    specification reads them, `Units/Den.lean`); the conditions under which `add_unit` and `add_base_unit` succeed, and
    what they leave behind; what pint's test on the identifiers (`refsKnown`) is of the value of `defMeaning`. -/

namespace Units
open PMap

/-- begins with the letters `store`: all that is tested of a prefixed name, because no built-in key or alias begins so
    (`builtin_keys_not_storeLike`, `aliases_not_storeLike`) -/
def storeLike (q : String) : Bool := q.toList.take 5 == ['s', 't', 'o', 'r', 'e']

theorem prefixName_builtin (id : Nat) {n : String} (h : Cellml.Gen.cellmlUnits.contains n = true) :
    prefixName id n = n := by unfold prefixName; rw [if_pos h]

theorem prefixName_user (id : Nat) {n : String} (h : Cellml.Gen.cellmlUnits.contains n = false) :
    prefixName id n = "store" ++ toString id ++ "_" ++ n := by
  unfold prefixName
  rw [if_neg (by rw [h]; exact Bool.false_ne_true)]

theorem prefixName_storeLike (id : Nat) {n : String} (h : Cellml.Gen.cellmlUnits.contains n = false) :
    storeLike (prefixName id n) = true := by
  rw [prefixName_user id h]
  simp [storeLike, String.toList_append]

theorem prefixName_inj (id : Nat) {n m : String} (hn : Cellml.Gen.cellmlUnits.contains n = false)
    (hm : Cellml.Gen.cellmlUnits.contains m = false) (h : prefixName id n = prefixName id m) : n = m := by
  rw [prefixName_user id hn, prefixName_user id hm] at h
  have := String.toList_inj.mpr h
  simp only [String.toList_append, List.append_assoc] at this
  exact String.toList_inj.mp (List.append_cancel_left (List.append_cancel_left (List.append_cancel_left this)))

theorem aliases_not_storeLike :
    Cellml.Gen.builtinUnits.all (fun e => e.2.1.all (fun a => !storeLike a)) = true := by decide +kernel

theorem canonName_storeLike {q : String} (h : storeLike q = true) : canonName q = q := by
  unfold canonName
  have : Cellml.Gen.builtinUnits.find? (fun x => match x with | (_, aliases, _) => aliases.contains q) = none := by
    rw [List.find?_eq_none]
    intro x hx hc
    obtain ⟨nm, al, df⟩ := x
    simp only at hc
    have h1 := List.all_eq_true.mp aliases_not_storeLike _ hx
    have h2 := List.all_eq_true.mp h1 q (List.contains_iff_mem.mp hc)
    rw [h] at h2; cases h2
  rw [this]

theorem storeLike_ne_dimensionless {q : String} (h : storeLike q = true) : (q == "dimensionless") = false := by
  cases hq : q == "dimensionless"
  · rfl
  · rw [beq_iff_eq.mp hq] at h; revert h; decide

theorem nameContainer_storeLike {q : String} (h : storeLike q = true) : nameContainer q = [(q, 1)] := by
  unfold nameContainer
  rw [storeLike_ne_dimensionless h, canonName_storeLike h]; rfl

theorem builtin_keys_not_storeLike : (keys builtinRegistry).all (fun k => !storeLike k) = true := by
  rw [builtinRegistry_eq]; decide +kernel

theorem isDefined_cons {st : Store} {n m : String} :
    ({ st with known := m :: st.known } : Store).isDefined n = (st.isDefined n || n == m) := by
  simp only [Store.isDefined, List.contains_cons, Bool.or_assoc]
  cases Cellml.Gen.cellmlUnits.contains n <;> cases st.known.contains n <;> simp

theorem isDefined_iff {st : Store} {n : String} :
    st.isDefined n = true ↔ Cellml.Gen.cellmlUnits.contains n = true ∨ n ∈ st.known := by
  simp only [Store.isDefined, Bool.or_eq_true, List.contains_iff_mem]

theorem isDefined_eq_false_iff {st : Store} {n : String} :
    st.isDefined n = false ↔ Cellml.Gen.cellmlUnits.contains n = false ∧ st.known.contains n = false := by
  simp only [Store.isDefined, Bool.or_eq_false_iff]

theorem isDefined_false_cellml {st : Store} {n : String} (h : st.isDefined n = false) :
    Cellml.Gen.cellmlUnits.contains n = false := (isDefined_eq_false_iff.mp h).1

theorem isDefined_mono {st st' : Store} {l : List String} (h : st'.known = l ++ st.known) (n : String)
    (hn : st.isDefined n = true) : st'.isDefined n = true := by
  simp only [Store.isDefined, h, List.contains_append, Bool.or_eq_true] at hn ⊢
  exact hn.imp_right Or.inr

/-- a letter or `_`, then letters, digits and `_` only — what the comments call an identifier that starts with a letter
    or an underscore; `_WORD` matches such a name once and whole (`wordSubst_good`) -/
def goodIdent (n : String) : Bool :=
  match n.toList with
  | [] => false
  | c :: r => isWordStart c && r.all isWordChar

theorem isWordChar_of_start {c : Char} (h : isWordStart c = true) : isWordChar c = true := by
  simp only [isWordStart, isWordChar, Char.isAlphanum, Bool.or_eq_true] at h ⊢
  rcases h with h | h
  · exact Or.inl (Or.inl h)
  · exact Or.inr h

theorem takeWhile_all {p : Char → Bool} : ∀ (l : List Char), (∀ x ∈ l, p x = true) → l.takeWhile p = l := by
  intro l
  induction l with
  | nil => intro _; rfl
  | cons a l ih => intro h; simp [h a (by simp), ih (fun x hx => h x (by simp [hx]))]

theorem dropWhile_all {p : Char → Bool} : ∀ (l : List Char), (∀ x ∈ l, p x = true) → l.dropWhile p = [] := by
  intro l
  induction l with
  | nil => intro _; rfl
  | cons a l ih => intro h; simp [h a (by simp), ih (fun x hx => h x (by simp [hx]))]

theorem wordSubstGo_nil (f : String → String) (fuel : Nat) (prev : Char) : wordSubstGo f fuel prev [] = [] := by
  cases fuel <;> rfl

theorem wordSubst_good (f : String → String) {n : String} (h : goodIdent n = true) : wordSubst f n = f n := by
  unfold goodIdent at h
  split at h
  · cases h
  · rename_i c r hn
    rw [Bool.and_eq_true] at h
    have hall : ∀ x ∈ c :: r, isWordChar x = true := by
      intro x hx
      rcases List.mem_cons.mp hx with rfl | hx
      · exact isWordChar_of_start h.1
      · exact List.all_eq_true.mp h.2 x hx
    unfold wordSubst
    rw [hn]
    simp only [wordSubstGo]
    have hcond : (isWordStart c && !(' '.isDigit || ' ' == '.')) = true := by
      rw [h.1]; decide
    rw [if_pos hcond, takeWhile_all _ hall, dropWhile_all _ hall, wordSubstGo_nil,
      List.append_nil, String.ofList_toList, ← hn, String.ofList_toList]

theorem mangle_good (id : Nat) {n : String} (h : goodIdent n = true) : mangle id n = prefixName id n :=
  wordSubst_good _ h

example : goodIdent "store1_x" = true ∧ goodIdent "_x" = true ∧ goodIdent "metre_per_second" = true ∧
    goodIdent "2pi" = false := by decide +kernel

theorem elemOffsetBad_some {e : UnitElem} {o : String} (h : e.offset = some o) :
    elemOffsetBad e = offsetRejected o := by rw [elemOffsetBad, h]

theorem elemOffsetBad_none {e : UnitElem} (h : e.offset = none) : elemOffsetBad e = false := by rw [elemOffsetBad, h]

theorem elemMeaning_ok {id : Nat} {e : UnitElem} {s : Scale} {c : Container} {b : Bool}
    (h : elemMeaning id e = .ok (s, c, b)) :
    ∃ k q m, elemPrefix e = some k ∧ elemExponent e = some q ∧ elemMultiplier e = some m ∧ elemOffsetBad e = false ∧
      s = add m (smul q (pow10 k)) ∧ c = smul q (nameContainer (mangle id e.units)) ∧
      b = (e.units == "dimensionless") := by
  unfold elemMeaning at h
  -- the `do` block is a chain of four `match`es, each ending in a call of the rest; invert them one at a time
  extract_lets c0 rest at h
  have hp : ∃ k, elemPrefix e = some k ∧ rest (pow10 k) = .ok (s, c, b) := by
    clear_value rest; unfold elemPrefix; revert h
    cases e.pfx with
    | none => exact fun h => ⟨0, rfl, h⟩
    | some p =>
      dsimp only
      cases prefixPower p with
      | some k => exact fun h => ⟨k, rfl, h⟩
      | none => intro h; cases h
  clear h; obtain ⟨k, hk, h⟩ := hp
  dsimp -zeta only [rest] at h; clear rest
  extract_lets rest at h
  have hq : ∃ q, elemExponent e = some q ∧ rest q = .ok (s, c, b) := by
    clear_value rest; unfold elemExponent; revert h
    cases e.exponent with
    | none => exact fun h => ⟨1, rfl, h⟩
    | some t =>
      dsimp only
      cases Decimal.parse t with
      | some q => exact fun h => ⟨q, rfl, h⟩
      | none => intro h; cases h
  clear h; obtain ⟨q, hq, h⟩ := hq
  dsimp -zeta only [rest] at h; clear rest
  extract_lets rest at h
  have hm : ∃ m, elemMultiplier e = some m ∧ rest m = .ok (s, c, b) := by
    clear_value rest; unfold elemMultiplier; revert h
    cases e.multiplier with
    | none => exact fun h => ⟨[], rfl, h⟩
    | some t =>
      dsimp only
      cases Decimal.parse t with
      | some q =>
        dsimp only [Option.bind]
        cases Factor.rat q with
        | some m => exact fun h => ⟨m, rfl, h⟩
        | none => intro h; cases h
      | none => intro h; cases h
  clear h; obtain ⟨m, hm, h⟩ := hm
  dsimp -zeta only [rest] at h; clear rest
  extract_lets rest at h
  have ho : elemOffsetBad e = false ∧ rest () = .ok (s, c, b) := by
    clear_value rest; unfold elemOffsetBad; revert h
    cases e.offset with
    | none => exact fun h => ⟨rfl, h⟩
    | some o =>
      dsimp only
      cases offsetRejected o with
      | false => exact fun h => ⟨rfl, h⟩
      | true => intro h; cases h
  cases ho.2
  exact ⟨k, q, m, hk, hq, hm, ho.1, rfl, rfl, rfl⟩
theorem defMeaning_cons_ok {id : Nat} {e : UnitElem} {es : List UnitElem} {k : Scale} {c : Container} {md : Bool}
    (h : defMeaning id (e :: es) = .ok (k, c, md)) :
    ∃ s c1 b s' c' b', elemMeaning id e = .ok (s, c1, b) ∧ defMeaning id es = .ok (s', c', b') ∧
      k = add s s' ∧ c = add c1 c' ∧ md = (b || b') := by
  simp only [defMeaning, bind, Except.bind, pure, Except.pure] at h
  split at h
  · cases h
  · rename_i v hv
    obtain ⟨s, c1, b⟩ := v
    simp only at h
    split at h
    · cases h
    · rename_i v' hv'
      obtain ⟨s', c', b'⟩ := v'
      simp only [Except.ok.injEq, Prod.mk.injEq] at h
      exact ⟨s, c1, b, s', c', b', hv, hv', h.1.symm, h.2.1.symm, h.2.2.symm⟩

theorem defMeaning_ok_offset {id : Nat} : ∀ {elems : List UnitElem} {r : Scale × Container × Bool},
    defMeaning id elems = .ok r → elems.any elemOffsetBad = false := by
  intro elems
  induction elems with
  | nil => intro r _; rfl
  | cons e es ih =>
      intro r h
      obtain ⟨s, c1, b, s', c', b', he, hes, _⟩ := defMeaning_cons_ok (k := r.1) (c := r.2.1) (md := r.2.2) h
      obtain ⟨_, _, _, _, _, _, ho, _⟩ := elemMeaning_ok he
      rw [List.any_cons, ho, ih hes]; rfl

theorem addUnitWith_pass {m : Except DefErr (Scale × Container × Bool)} {reg : Registry} {st : Store} {name : String}
    (h1 : Cellml.Gen.cellmlUnits.contains name = false) (h2 : st.known.contains name = false)
    (h3 : Cellml.Gen.unsupportedUnits.contains name = false) :
    addUnitWith true m reg st name =
      match m with
      | .error .offset => .error (.valueError "offset")
      | .error (.badNumber w) => .error (.badDefinition w)
      | .error (.unsupported w) => .error (.unsupported w)
      | .ok (k, c, md) =>
        if norm c = [] then
          .ok ((prefixName st.id name, .derived (norm k) []) :: reg, { st with known := name :: st.known })
        else if md then .error (.unsupported "dimensionless mixed with dimensional units")
        else .ok ((prefixName st.id name, .derived (norm k) (norm c)) :: reg, { st with known := name :: st.known }) := by
  unfold addUnitWith
  simp only [h1, h2, h3, Bool.false_eq_true, if_false, Bool.not_true]
  rfl

theorem addUnitWith_ok {refs : Bool} {m : Except DefErr (Scale × Container × Bool)} {reg : Registry} {st : Store}
    {name : String} {r : Registry × Store} (h : addUnitWith refs m reg st name = .ok r) :
      ∃ k c md, m = .ok (k, c, md) ∧
        Cellml.Gen.cellmlUnits.contains name = false ∧ st.known.contains name = false ∧
        Cellml.Gen.unsupportedUnits.contains name = false ∧
        refs = true ∧ (md = true → norm c = []) ∧
        r = ((prefixName st.id name, .derived (norm k) (norm c)) :: reg, { st with known := name :: st.known }) := by
  -- each guard that answers `.error` must be false, and the `.ok` branches give `r`
  unfold addUnitWith at h
  grind

theorem addUnit_noOffset {reg : Registry} {st : Store} {name : String} {elems : List UnitElem}
    (h : elems.any elemOffsetBad = false) :
    addUnit reg st name elems = addUnitWith (refsKnown reg st.id elems) (defMeaning st.id elems) reg st name := by
  unfold addUnit
  rw [if_neg (by rw [h]; exact Bool.false_ne_true)]

theorem addUnit_ok {reg : Registry} {st : Store} {name : String} {elems : List UnitElem} {r : Registry × Store}
    (h : addUnit reg st name elems = .ok r) :
      ∃ k c md, defMeaning st.id elems = .ok (k, c, md) ∧
        Cellml.Gen.cellmlUnits.contains name = false ∧ st.known.contains name = false ∧
        Cellml.Gen.unsupportedUnits.contains name = false ∧
        refsKnown reg st.id elems = true ∧ (md = true → norm c = []) ∧
        r = ((prefixName st.id name, .derived (norm k) (norm c)) :: reg, { st with known := name :: st.known }) := by
  unfold addUnit at h
  by_cases h0 : elems.any elemOffsetBad = true
  · rw [if_pos h0] at h; cases h
  rw [if_neg h0] at h
  exact addUnitWith_ok h

theorem addUnit_of {reg : Registry} {st : Store} {name : String} {elems : List UnitElem} {k : Scale} {c : Container}
    {md : Bool} (hd : defMeaning st.id elems = .ok (k, c, md))
    (h1 : Cellml.Gen.cellmlUnits.contains name = false) (h2 : st.known.contains name = false)
    (h3 : Cellml.Gen.unsupportedUnits.contains name = false) (h4 : refsKnown reg st.id elems = true)
    (h5 : md = true → norm c = []) :
    addUnit reg st name elems =
      .ok ((prefixName st.id name, .derived (norm k) (norm c)) :: reg, { st with known := name :: st.known }) := by
  rw [addUnit_noOffset (defMeaning_ok_offset hd), h4, addUnitWith_pass h1 h2 h3, hd]
  -- `h5` excludes the mixed case, and for `norm c = []` the two `.ok` branches coincide
  grind


theorem addBaseUnit_ok {reg : Registry} {st : Store} {name : String} {r : Registry × Store}
    (h : addBaseUnit reg st name = .ok r) :
    st.isDefined name = false ∧
      r = ((prefixName st.id name, .base (some ("[" ++ prefixName st.id name ++ "]"))) :: reg,
           { st with known := name :: st.known }) := by
  unfold addBaseUnit at h
  grind [isDefined_eq_false_iff]

theorem addBaseUnit_of {reg : Registry} {st : Store} {name : String} (h : st.isDefined name = false) :
    addBaseUnit reg st name =
      .ok ((prefixName st.id name, .base (some ("[" ++ prefixName st.id name ++ "]"))) :: reg,
           { st with known := name :: st.known }) := by
  rw [isDefined_eq_false_iff] at h
  unfold addBaseUnit
  rw [if_neg (by rw [h.1]; exact Bool.false_ne_true), if_neg (by rw [h.2]; exact Bool.false_ne_true)]



/-- the test pint makes (`refsKnown`: every identifier of the expression is a registry key) is `allKnown` of the
    UN-normalised container of the definition: a name with total exponent zero still counts -/
theorem refsKnown_eq_allKnown {id : Nat} {reg : Registry} : ∀ (elems : List UnitElem) (k : Scale) (c : Container)
    (md : Bool), defMeaning id elems = .ok (k, c, md) → refsKnown reg id elems = allKnown reg c := by
  intro elems
  induction elems with
  | nil =>
      intro k c md h
      simp only [defMeaning, pure, Except.pure, Except.ok.injEq, Prod.mk.injEq] at h
      rw [← h.2.1]; rfl
  | cons e es ih =>
      intro k c md h
      obtain ⟨s, c1, b, s', c', b', he, hes, _, rfl, _⟩ := defMeaning_cons_ok h
      obtain ⟨kp, q, m, _, _, _, _, _, rfl, _⟩ := elemMeaning_ok he
      have ih' := ih s' c' b' hes
      simp only [refsKnown, List.all_cons] at ih' ⊢
      rw [ih', allKnown_add_eq, allKnown_smul_eq]

theorem defMeaning_allKnown {id : Nat} {reg : Registry} (elems : List UnitElem) (k : Scale) (c : Container)
    (md : Bool) (h : defMeaning id elems = .ok (k, c, md))
    (hres : ∀ e ∈ elems, allKnown reg (nameContainer (mangle id e.units)) = true) : allKnown reg c = true :=
  refsKnown_eq_allKnown elems k c md h ▸ List.all_eq_true.mpr hres

end Units
