import Cellml.Basic.Sexp
import Cellml.Units.Define

/-! Wire format shared by the unit-related channels (C03, C07, C16, C19, and the unit families of C04/C05). -/

namespace Units.Wire
open Sexp

def ofPMapNat (m : PMap Nat) : Sexp :=
  .list (m.map (fun (k, e) => .list [ofNat k, ofRat e]))

def ofPMapStr (m : PMap String) : Sexp :=
  .list (m.map (fun (k, e) => .list [.str k, ofRat e]))

def ofScale (s : Scale) : Sexp := .list (.atom "scale" :: (PMap.norm s).map (fun (k, e) => .list [ofNat k, ofRat e]))
def ofContainer (tag : String) (c : Container) : Sexp :=
  .list (.atom tag :: (PMap.norm c).map (fun (k, e) => .list [.str k, ofRat e]))

/-- `(units-name :prefix p :exponent "e" :multiplier "m" :offset "o")` -/
def elem? : Sexp → Option UnitElem
  | .list (u :: rest) => do
      let name ← atomOf? u
      let f (k : String) : Option String := (kw? rest k).bind atomOf?
      some { units := name, pfx := f "prefix", exponent := f "exponent", multiplier := f "multiplier",
             offset := f "offset" }
  | _ => none

def elems? (e : Sexp) : Option (List UnitElem) := do
  let xs ← listOf? e
  xs.mapM elem?

/-- the state of a process: registries, and stores pointing at a registry -/
structure World where
  regs   : List Registry := []
  stores : List (Store × Nat) := []      -- store, index of its registry
deriving Repr

def World.regOf (w : World) (s : Nat) : Option (Store × Nat × Registry) := do
  let (st, ri) ← w.stores[s]?
  let reg ← w.regs[ri]?
  some (st, ri, reg)

/-- `UnitStore(store=…)`: the new store gets the next id and the registry of the store `share` names, or, when there
    is none (also when `share` names no store), a new registry holding the built-in units -/
def World.newStore (w : World) (share : Option Nat) : World :=
  let id := w.stores.length
  match share.bind (fun s => w.stores[s]?) with
  | some (_, ri) => { w with stores := w.stores ++ [({ id := id, known := [] }, ri)] }
  | none => { regs := w.regs ++ [builtinRegistry], stores := w.stores ++ [({ id := id, known := [] }, w.regs.length)] }

/-- write back what an operation on store `s` made of the store and of its registry `ri` -/
def World.update (w : World) (s : Nat) (ri : Nat) (reg : Registry) (st : Store) : World :=
  { regs := w.regs.set ri reg, stores := w.stores.set s (st, ri) }

def addErrSexp : AddErr → Sexp
  | .valueError _ => .list [.atom "err", .atom "ValueError"]
  | .undefinedUnit => .list [.atom "err", .atom "UndefinedUnitError"]
  | .badDefinition w => .list [.atom "err", .atom "BadDefinition", .str w]
  | .unsupported w => .list [.atom "unsupported", .str w]

/-- `(base s name)` or `(def s name (elems))`: apply to the world; reply `ok` or the error -/
def applyDef (w : World) : Sexp → World × Sexp
  | .list [.atom "base", s, n] =>
      match nat? s, atomOf? n with
      | some s, some name =>
          match w.regOf s with
          | some (st, ri, reg) =>
              match addBaseUnit reg st name with
              | .ok (reg', st') => (w.update s ri reg' st', .atom "ok")
              | .error e => (w, addErrSexp e)
          | none => (w, .atom "bad-store")
      | _, _ => (w, .atom "bad-def")
  | .list [.atom "def", s, n, es] =>
      match nat? s, atomOf? n, elems? es with
      | some s, some name, some elems =>
          match w.regOf s with
          | some (st, ri, reg) =>
              match addUnit reg st name elems with
              | .ok (reg', st') => (w.update s ri reg' st', .atom "ok")
              | .error e => (w, addErrSexp e)
          | none => (w, .atom "bad-store")
      | _, _, _ => (w, .atom "bad-def")
  | _ => (w, .atom "bad-def")

def applyDefs (w : World) : List Sexp → World × List Sexp
  | [] => (w, [])
  | d :: ds =>
      let (w', r) := applyDef w d
      let (w'', rs) := applyDefs w' ds
      (w'', r :: rs)

/-- `((s name exp) ...)`: product of named units of stores; all must live in one registry.
    Returns (registry index, container) -/
def unitExpr? (w : World) (e : Sexp) : Except String (Nat × Container) := do
  let xs ← match listOf? e with | some xs => pure xs | none => throw "bad-unit"
  let mut ri? : Option Nat := none
  let mut c : Container := []
  for x in xs do
    match x with
    | .list [s, n, ex] =>
        match nat? s, atomOf? n, rat? ex with
        | some s, some name, some q =>
            match w.regOf s with
            | some (st, ri, _) =>
                match ri? with
                | some r => if r != ri then throw "different-registries"
                | none => ri? := some ri
                match getUnit st name with
                | .ok u => c := PMap.add c (PMap.smul q u)
                | .error _ => throw "KeyError"
            | none => throw "bad-store"
        | _, _, _ => throw "bad-unit"
    | _ => throw "bad-unit"
  pure (ri?.getD 0, PMap.norm c)

def mkWorld (spec : List Sexp) : World :=
  spec.foldl (fun w s => match s with
    | .list [_, .atom "share", k] => w.newStore (nat? k)
    | _ => w.newStore none) {}

end Units.Wire
