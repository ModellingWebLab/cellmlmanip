import Cellml.Units.Core
import Cellml.Basic.Decimal

/-! Unit definitions: parser.py `_make_pint_unit_definition` (238-280) composed with units.py
    `UnitStore.add_unit` / `add_base_unit` / `_prefix_name` / the `_WORD` substitution (64-69, 143-204, 393-406).
    Core Lean only. -/

namespace Units

/-- attributes of one CellML `<unit>` element, as text -/
structure UnitElem where
  units      : String
  pfx        : Option String := none
  exponent   : Option String := none
  multiplier : Option String := none
  offset     : Option String := none
deriving Repr, DecidableEq

def isWordStart (c : Char) : Bool := c.isAlpha || c == '_'
def isWordChar (c : Char) : Bool := c.isAlphanum || c == '_'

/-- `_WORD.sub(f, s)` for `_WORD = (?<![0-9.])[a-zA-Z_]+[a-zA-Z0-9_]*`, scanning with the previous character -/
def wordSubstGo (f : String → String) : Nat → Char → List Char → List Char
  | 0, _, cs => cs
  | _, _, [] => []
  | fuel + 1, prev, c :: r =>
      if isWordStart c && !(prev.isDigit || prev == '.') then
        let run := (c :: r).takeWhile isWordChar
        let rest := (c :: r).dropWhile isWordChar
        (f (String.ofList run)).toList ++ wordSubstGo f fuel (run.getLast?.getD c) rest
      else c :: wordSubstGo f fuel c r

/-- the fuel cannot run out: every call of `wordSubstGo` consumes at least one character -/
def wordSubst (f : String → String) (s : String) : String :=
  String.ofList (wordSubstGo f (s.length + 1) ' ' s.toList)

/-- `UnitStore._prefix_name` -/
def prefixName (storeId : Nat) (name : String) : String :=
  if Cellml.Gen.cellmlUnits.contains name then name else "store" ++ toString storeId ++ "_" ++ name

/-- what a unit name inside a definition expression becomes after `_WORD.sub(self._prefix_expression, ·)` -/
def mangle (storeId : Nat) (name : String) : String := wordSubst (prefixName storeId) name

/-- canonical pint name of a built-in alias (`metre` ↦ `meter`): pint resolves aliases when it parses -/
def canonName (n : String) : String :=
  match Cellml.Gen.builtinUnits.find? (fun (_, aliases, _) => aliases.contains n) with
  | some (name, _, _) => name
  | none => n

/-- container of a single (already qualified) unit name; `dimensionless` is the empty container -/
def nameContainer (q : String) : Container :=
  if q == "dimensionless" then [] else [(canonName q, 1)]

inductive DefErr where
  | offset                 -- ValueError('Offsets in units are not supported!')
  | badNumber (what : String)
  | unsupported (what : String)   -- outside the modelled fragment (e.g. non-positive multiplier)
deriving Repr, DecidableEq

/-! ### the offset test: `float(offset) != 0`

    CPython's `float(text)` for ASCII text: surrounding white space is stripped; `[sign] inf | infinity | nan` in any
    case; otherwise a decimal literal `[sign] (digits [. [digits]] | . digits) [(e|E) [sign] digits]` in which single
    underscores may stand between two digits (`1_0`, PEP 515); anything else raises `ValueError`. The decimal literal is
    read by `Decimal.parse` (exact value); the result of `float` is the binary64 number nearest to that value (ties to
    even), which is zero exactly when `|value| ≤ 2^-1075` (half of the smallest subnormal; the tie goes to the even
    neighbour 0) - `roundsToZero`.
    Outside this reading: non-ASCII decimal digits and non-ASCII / VT / FF white space, which `float()` also accepts
    (`float('٠') == 0.0`); the model answers `ValueError` there. None of them is a lexical form of `xsd:decimal`, the
    type the RELAX NG schema gives the attribute, so no such text reaches the function through `load_model`. -/

/-- what `float(text)` returns, before rounding -/
inductive FloatText where
  | nan
  | inf
  /-- a decimal literal and its exact value -/
  | dec (q : Rat)
deriving Repr, DecidableEq

/-- PEP 515: every `_` stands between two digits (`prev` = the character before the list) -/
def underscoresOk : Char → List Char → Bool
  | _, [] => true
  | prev, c :: r =>
    if c == '_' then prev.isDigit && (r.head?.map Char.isDigit).getD false && underscoresOk c r
    else underscoresOk c r

/-- CPython `float(text)`; `none` = `ValueError` -/
def floatText (s : String) : Option FloatText :=
  match Decimal.parse s with
  | some q => some (.dec q)
  | none =>
    let t := Decimal.trimList s.toList
    let u := (match t with
      | '-' :: r => r
      | '+' :: r => r
      | r => r).map Char.toLower
    if u == "inf".toList || u == "infinity".toList then some .inf
    else if u == "nan".toList then some .nan
    else if t.contains '_' && underscoresOk ' ' t then
      (Decimal.parse (String.ofList (t.filter (· != '_')))).map .dec
    else none

/-- the binary64 number nearest to `q` (ties to even) is zero: `|q| ≤ 2^-1075` -/
def roundsToZero (q : Rat) : Bool := decide (q.num.natAbs * 2 ^ 1075 ≤ q.den)

/-- the offset test exactly as written: `float(offset) != 0` (`ValueError` from `float` refuses the offset as well;
    `nan != 0` and `inf != 0` hold) -/
def offsetRejected (o : String) : Bool :=
  match floatText o with
  | none => true
  | some .nan => true
  | some .inf => true
  | some (.dec q) => !roundsToZero q

/-- power of ten of a prefix attribute: a table name, else an integer -/
def prefixPower (p : String) : Option Int :=
  match Cellml.Gen.unitPrefixes.lookup p with
  | some (some k) => some k
  | some none => none
  | none => Decimal.parseInt p

/-- one `<unit>` child: multiplier · (10^prefix · ref)^exponent -/
def elemMeaning (storeId : Nat) (e : UnitElem) : Except DefErr (Scale × Container × Bool) := do
  let c0 := nameContainer (mangle storeId e.units)
  let s0 : Scale ← match e.pfx with
    | none => pure []
    | some p => match prefixPower p with
        | some k => pure (pow10 k)
        | none => throw (.badNumber ("prefix " ++ p))
  let ex : Rat ← match e.exponent with
    | none => pure 1
    | some t => match Decimal.parse t with
        | some q => pure q
        | none => throw (.badNumber ("exponent " ++ t))
  let m : Scale ← match e.multiplier with
    | none => pure []
    | some t => match Decimal.parse t with
        | some q => match Factor.rat q with
            | some s => pure s
            | none => throw (.unsupported ("multiplier " ++ t))
        | none => throw (.badNumber ("multiplier " ++ t))
  match e.offset with
  | some o => if offsetRejected o then throw .offset
  | none => pure ()
  pure (PMap.add m (PMap.smul ex s0), PMap.smul ex c0, e.units == "dimensionless")

/-- the whole `<units>` element: product over its children. Third component: mentions `dimensionless`. -/
def defMeaning (storeId : Nat) : List UnitElem → Except DefErr (Scale × Container × Bool)
  | [] => pure ([], [], false)
  | e :: es => do
      let (s, c, d) ← elemMeaning storeId e
      let (s', c', d') ← defMeaning storeId es
      pure (PMap.add s s', PMap.add c c', d || d')

structure Store where
  id    : Nat
  known : List String      -- user-visible names added to this store (built-ins are implicit)
deriving Repr, DecidableEq

/-- `UnitStore.is_defined(name)`: `name in self._known_units`. The set starts as `set(_CELLML_UNITS)` (units.py
    `__init__`) and receives every name added through this store, so the built-ins ARE defined
    (`UnitStore().is_defined('metre') == True`); tied to the source by `Cellml.Tie.PUnits.isDefined_tie`. -/
def Store.isDefined (st : Store) (name : String) : Bool :=
  Cellml.Gen.cellmlUnits.contains name || st.known.contains name

inductive AddErr where
  | valueError (what : String)
  | undefinedUnit
  | badDefinition (what : String)
  | unsupported (what : String)
deriving Repr, DecidableEq

/-- the offset test of `Parser._make_pint_unit_definition` on one `<unit>` child -/
def elemOffsetBad (e : UnitElem) : Bool :=
  match e.offset with
  | some o => offsetRejected o
  | none => false

/-- pint's `parse_expression` evaluates EVERY identifier of the (prefixed) expression, whatever exponent it ends up
    with: each must be a registry key (`'((nosuch)**0)'` raises `UndefinedUnitError`) -/
def refsKnown (reg : Registry) (storeId : Nat) (elems : List UnitElem) : Bool :=
  elems.all (fun e => allKnown reg (nameContainer (mangle storeId e.units)))

/-- `UnitStore.add_unit(name, expression)` (units.py 155-181) in the order of the source, given what pint makes of the
    expression text: `refs` = every identifier in it is a registry key, `m` = its value.
    1. the three tests on the NAME (`ValueError`), before anything is evaluated;
    2. `parse_expression`: `UndefinedUnitError` for an unknown identifier;
    3. the dimensionless / dimensional branch, `define`, `_known_units.add(name)`. -/
def addUnitWith (refs : Bool) (m : Except DefErr (Scale × Container × Bool)) (reg : Registry) (st : Store)
    (name : String) : Except AddErr (Registry × Store) :=
  if Cellml.Gen.cellmlUnits.contains name then .error (.valueError "redefine CellML unit")
  else if st.known.contains name then .error (.valueError "redefine unit")
  else if Cellml.Gen.unsupportedUnits.contains name then .error (.valueError "unsupported unit")
  else if !refs then .error .undefinedUnit
  else
    match m with
    | .error .offset => .error (.valueError "offset")
    | .error (.badNumber w) => .error (.badDefinition w)
    | .error (.unsupported w) => .error (.unsupported w)
    | .ok (k, c, mentionsDimless) =>
      let c' := PMap.norm c
      if c' = [] then
        .ok ((prefixName st.id name, .derived (PMap.norm k) []) :: reg, { st with known := name :: st.known })
      else if mentionsDimless then
        -- `qname = (dimensionless ...)*(metre ...)`: pint keeps the key `dimensionless` in the reference of
        -- a string definition; the unit is unusable afterwards (known finding C03/C07) — outside the model
        .error (.unsupported "dimensionless mixed with dimensional units")
      else
        .ok ((prefixName st.id name, .derived (PMap.norm k) c') :: reg, { st with known := name :: st.known })

/-- `UnitStore.add_unit(name, _make_pint_unit_definition(name, elems))`: first the parser builds the text (its only
    failure: an offset, `ValueError`), then `add_unit` runs on it -/
def addUnit (reg : Registry) (st : Store) (name : String) (elems : List UnitElem) :
    Except AddErr (Registry × Store) :=
  if elems.any elemOffsetBad then .error (.valueError "offset")
  else addUnitWith (refsKnown reg st.id elems) (defMeaning st.id elems) reg st name

/-- `UnitStore.add_base_unit(name)` -/
def addBaseUnit (reg : Registry) (st : Store) (name : String) : Except AddErr (Registry × Store) :=
  if Cellml.Gen.cellmlUnits.contains name then .error (.valueError "redefine CellML unit")
  else if st.known.contains name then .error (.valueError "redefine unit")
  else
    let q := prefixName st.id name
    .ok ((q, .base (some ("[" ++ q ++ "]"))) :: reg, { st with known := name :: st.known })

/-- `UnitStore.get_unit(name)` as a container; both errors stand for python's `KeyError`, for which `AddErr` has no
    constructor (`getUnit_tie` and `Units/Wire.lean` read them so) -/
def getUnit (st : Store) (name : String) : Except AddErr Container :=
  if Cellml.Gen.unsupportedUnits.contains name then .error (.valueError "KeyError unsupported")
  else if !st.isDefined name then .error (.valueError "KeyError unknown")
  else .ok (nameContainer (prefixName st.id name))

end Units
