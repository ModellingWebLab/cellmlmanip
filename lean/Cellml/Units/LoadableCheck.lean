import Cellml.Units.WorklistComplete

/-! An executable sufficient test for `Loadable` (given a candidate order), so that concrete documents can be shown
    loadable by evaluation, and the outcome of a load read off the fuel-bounded loop (`fuelError`, `loadedMeaning`),
    which the kernel can run; used for the non-vacuity examples and the proved counterexamples of `Props/C03.lean`. -/

namespace Units
open PMap

def localOKb (id : Nat) (d : UDef) : Bool :=
  !d.elems.any elemOffsetBad && !Cellml.Gen.unsupportedUnits.contains d.name &&
    match defMeaning id d.elems with
    | .ok (_, c, md) => !md || decide (norm c = [])
    | .error _ => false

theorem localOK_of_b {id : Nat} {d : UDef} (h : localOKb id d = true) : LocalOK id d := by
  unfold localOKb at h
  simp only [Bool.and_eq_true, Bool.not_eq_true'] at h
  obtain ⟨⟨h1, h2⟩, h3⟩ := h
  refine ⟨h1, h2, ?_⟩
  split at h3
  · rename_i k c md hd
    refine ⟨k, c, md, hd, ?_⟩
    intro hm
    rw [hm] at h3
    simpa using h3
  · cases h3

def topoB (ks : List String) : List UDef → Bool
  | [] => true
  | d :: ds => d.elems.all (fun e => ks.contains e.units) && topoB (d.name :: ks) ds

theorem topo_of_b : ∀ (ord : List UDef) (ks : List String), topoB ks ord = true → Topo (fun n => n ∈ ks) ord := by
  intro ord
  induction ord with
  | nil => intro _ _; trivial
  | cons d ds ih =>
      intro ks h
      simp only [topoB, Bool.and_eq_true] at h
      refine ⟨fun e he => List.contains_iff_mem.mp (List.all_eq_true.mp h.1 e he), ?_⟩
      refine Topo.mono ?_ _ (ih _ h.2)
      intro n hn
      rcases List.mem_cons.mp hn with h | h
      · exact Or.inr h
      · exact Or.inl h

def loadableB (id : Nat) (defs ord : List UDef) : Bool :=
  decide (defs.map (·.name)).Nodup && defs.all (fun d => !Cellml.Gen.cellmlUnits.contains d.name) &&
    defs.all (fun d => d.base || localOKb id d) && decide (ord.Perm (queue defs)) &&
    topoB (Cellml.Gen.cellmlUnits ++ (basesOf defs).map (·.name)) ord

theorem loadable_of_b {id : Nat} {defs ord : List UDef} (h : loadableB id defs ord = true) : Loadable id defs := by
  unfold loadableB at h
  simp only [Bool.and_eq_true, decide_eq_true_eq] at h
  obtain ⟨⟨⟨⟨h1, h2⟩, h3⟩, h4⟩, h5⟩ := h
  refine ⟨h1, ?_, ?_, ⟨ord, h4, ?_⟩⟩
  · intro d hd
    have := List.all_eq_true.mp h2 d hd
    simpa using this
  · intro d hd hb
    have := List.all_eq_true.mp h3 d hd
    rw [hb, Bool.false_or] at this
    exact localOK_of_b this
  · refine Topo.mono ?_ _ (topo_of_b ord _ h5)
    intro n hn
    rcases List.mem_append.mp hn with h | h
    · exact Or.inl (List.contains_iff_mem.mpr h)
    · exact Or.inr h

/-- reading results off the fuel-bounded loop (which the kernel can evaluate) -/
def fuelError (id : Nat) (defs : List UDef) : Option AddErr :=
  match addUnitsFuel id defs with
  | some (.error e) => some e
  | _ => none

/-- normal forms of what `get_base_units(get_unit(name))` returns after loading `defs` -/
def loadedMeaning (id : Nat) (defs : List UDef) (name : String) : Option (Scale × Container) :=
  match addUnitsFuel id defs with
  | some (.ok (reg, st)) => some (norm (meaningOf reg st name).1, norm (meaningOf reg st name).2)
  | _ => none

end Units
