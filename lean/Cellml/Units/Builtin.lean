import Cellml.Units.Core

/-! The built-in tables in closed form. `builtinRoots` and `builtinRegistry` are computed from the generated table
    `Cellml.Gen.builtinUnits`, and the kernel repeats that computation wherever a closed statement mentions them. A
    kernel evaluation that mentions the built-ins therefore rewrites with the two equations below first
    (`rw [builtinRegistry_eq]`, then `decide +kernel`). They fail to compile when `data/cellml_units.txt` changes
    meaning. -/

namespace Units

/-- root forms of the derived built-ins, newest first -/
def builtinDerived : List (String × Scale × Container) :=
  [("tesla", [], [("ampere", -1), ("kilogram", 1), ("second", -2)]),
   ("siemens", [], [("ampere", 2), ("kilogram", -1), ("meter", -2), ("second", 3)]),
   ("ohm", [], [("ampere", -2), ("kilogram", 1), ("meter", 2), ("second", -3)]),
   ("henry", [], [("ampere", -2), ("kilogram", 1), ("meter", 2), ("second", -2)]),
   ("farad", [], [("ampere", 2), ("kilogram", -1), ("meter", -2), ("second", 4)]),
   ("weber", [], [("ampere", -1), ("kilogram", 1), ("meter", 2), ("second", -2)]),
   ("watt", [], [("kilogram", 1), ("meter", 2), ("second", -3)]),
   ("volt", [], [("ampere", -1), ("kilogram", 1), ("meter", 2), ("second", -3)]),
   ("gray", [], [("meter", 2), ("second", -2)]),
   ("sievert", [], [("meter", 2), ("second", -2)]),
   ("lux", [], [("candela", 1), ("meter", -2), ("radian", 2)]),
   ("lumen", [], [("candela", 1), ("radian", 2)]),
   ("joule", [], [("kilogram", 1), ("meter", 2), ("second", -2)]),
   ("becquerel", [], [("second", -1)]),
   ("steradian", [], [("radian", 2)]),
   ("pascal", [], [("kilogram", 1), ("meter", -1), ("second", -2)]),
   ("newton", [], [("kilogram", 1), ("meter", 1), ("second", -2)]),
   ("litre", [(2, -3), (5, -3)], [("meter", 3)]),
   ("liter", [(2, -3), (5, -3)], [("meter", 3)]),
   ("katal", [], [("mole", 1), ("second", -1)]),
   ("hertz", [], [("second", -1)]),
   ("gram", [(2, -3), (5, -3)], [("kilogram", 1)]),
   ("coulomb", [], [("ampere", 1), ("second", 1)])]

/-- the root units with their dimension (`radian` has none), in registry order -/
def builtinBases : List (String × Option String) :=
  [("ampere", some "current"), ("candela", some "luminosity"), ("kilogram", some "mass"),
   ("kelvin", some "temperature"), ("meter", some "length"), ("mole", some "substance"), ("radian", none),
   ("second", some "time")]

theorem builtinRoots_eq : builtinRoots =
    builtinDerived ++
      (["second", "radian", "mole", "metre", "meter", "kelvin", "kilogram", "candela", "ampere"].map fun n =>
        (n, ([] : Scale), [(if n = "metre" then "meter" else n, (1 : Rat))])) := by
  decide +kernel

theorem builtinRegistry_eq : builtinRegistry =
    (builtinDerived.map fun (n, s, c) => (n, UnitDef.derived s c)) ++
      (("metre", UnitDef.derived [] [("meter", 1)]) :: builtinBases.map fun (n, d) => (n, UnitDef.base d)) := by
  decide +kernel

end Units
