import Cellml.Basic.PMap
import Cellml.Generated.Tables

/-! Mini-pint: the unit algebra exactly as cellmlmanip uses pint 0.18 (units.py 143-335).

    * `Scale`     : prime ↦ rational exponent; denotes the positive real ∏ pᵉ. Multiplication of scales is
                    `PMap.add`, powers are `PMap.smul`, the unit scale is `[]`.
    * `Container` : pint's `UnitsContainer` (unit name ↦ exponent); `dimensionless` is the empty container.
    * `Registry`  : name ↦ definition, NEWEST FIRST; a derived unit refers only to names defined before it
                    (deeper in the list) — this is what `_add_units`' work list guarantees — so one pass over
                    the list expands any container to root units (`expand`), by structural recursion.
    Core Lean only. -/

abbrev Scale := PMap Nat
abbrev Container := PMap String
abbrev Dims := PMap String

inductive UnitDef where
  /-- root unit. `dim = none` is pint's `radian = []`: a root unit that carries no dimension. -/
  | base (dim : Option String)
  /-- `name = k · of` (also the `ScaleConverter` special case for scaled dimensionless units: `of = []`). -/
  | derived (k : Scale) (of : Container)
deriving Repr, DecidableEq

abbrev Registry := List (String × UnitDef)

namespace Units

/-- 10^k as a scale -/
def pow10 (k : Int) : Scale := if k = 0 then [] else [(2, (k : Rat)), (5, (k : Rat))]

/-- One pass, newest first: replace every derived unit by its definition. Returns (scale, root container). -/
def expand : Registry → Scale × Container → Scale × Container
  | [], sc => sc
  | (_, .base _) :: r, sc => expand r sc
  | (n, .derived k of) :: r, (s, c) =>
      let e := c.get n
      expand r (PMap.add s (PMap.smul e k), PMap.add (PMap.sub c (PMap.single n e)) (PMap.smul e of))

/-- `registry.get_base_units(unit)` : (factor, root units) -/
def toRoot (reg : Registry) (c : Container) : Scale × Container := expand reg ([], c)

def scaleOf (reg : Registry) (c : Container) : Scale := PMap.norm (toRoot reg c).1
def rootOf (reg : Registry) (c : Container) : Container := PMap.norm (toRoot reg c).2

/-- dimensionality of a root container: root units without a dimension (`radian`) disappear -/
def dimsOfRoot : Registry → Container → Dims
  | [], _ => []
  | (n, .base (some d)) :: r, c => PMap.add (PMap.single d (c.get n)) (dimsOfRoot r c)
  | _ :: r, c => dimsOfRoot r c

def dimsOf (reg : Registry) (c : Container) : Dims := PMap.norm (dimsOfRoot reg (PMap.norm (toRoot reg c).2))

/-- every name of the container is a key of the registry -/
def allKnown (reg : Registry) (c : Container) : Bool :=
  c.all (fun (n, _) => (reg.lookup n).isSome)

inductive UErr where
  | dimensionality      -- pint.DimensionalityError
  | undefinedUnit       -- pint.UndefinedUnitError / KeyError
  | valueError
  | other (what : String)
deriving Repr, DecidableEq

/-- `1 * a` converted to `b` : the magnitude multiplier. pint: dimensionalities must agree; the factor is
    the scale of `a / b` in root units (left-over dimensionless root units such as `radian` are ignored). -/
def factor (reg : Registry) (a b : Container) : Except UErr Scale :=
  if !(allKnown reg a && allKnown reg b) then .error .undefinedUnit
  else if PMap.beq (dimsOf reg a) (dimsOf reg b) then
    .ok (PMap.norm (PMap.sub (toRoot reg a).1 (toRoot reg b).1))
  else .error .dimensionality

/-- `UnitStore.is_equivalent`: equal root containers (radian counts) and equal scales -/
def isEquivalent (reg : Registry) (a b : Container) : Bool :=
  PMap.beq (toRoot reg a).2 (toRoot reg b).2 && PMap.beq (toRoot reg a).1 (toRoot reg b).1

/-! ### Built-in registry, computed from the generated table `Cellml.Gen.builtinUnits`. -/

open Cellml.Gen in
/-- root form of a built-in definition given root forms of the already resolved names -/
def builtinFactor (known : List (String × (Scale × Container))) : BFactor → Option (Scale × Container)
  | .num m e10 p =>
      if m = 1 then some (PMap.smul (p : Rat) (pow10 e10), []) else none
  | .unit n p =>
      match known.lookup n with
      | some (s, c) => some (PMap.smul (p : Rat) s, PMap.smul (p : Rat) c)
      | none => none

open Cellml.Gen in
def builtinExpr (known : List (String × (Scale × Container))) : List BFactor → Option (Scale × Container)
  | [] => some ([], [])
  | f :: fs =>
      match builtinFactor known f, builtinExpr known fs with
      | some (s, c), some (s', c') => some (PMap.add s s', PMap.add c c')
      | _, _ => none

open Cellml.Gen in
/-- one sweep over the table: resolve every entry whose references are all resolved -/
def builtinSweep (tbl : List (String × List String × BDef)) (known : List (String × (Scale × Container))) :
    List (String × (Scale × Container)) :=
  tbl.foldl (fun kn (name, aliases, d) =>
    if (kn.lookup name).isSome then kn else
    match d with
    | .base _ => (name :: aliases).foldl (fun k n => (n, (([] : Scale), PMap.single name 1)) :: k) kn
    | .expr fs =>
        match builtinExpr kn fs with
        | some (s, c) => (name :: aliases).foldl (fun k n => (n, (PMap.norm s, PMap.norm c)) :: k) kn
        | none => kn
    | .raw _ => kn) known

def builtinResolve : Nat → List (String × (Scale × Container)) → List (String × (Scale × Container))
  | 0, kn => kn
  | n + 1, kn => builtinResolve n (builtinSweep Cellml.Gen.builtinUnits kn)

/-- root forms (scale, root container) of all built-in names, aliases included. The table as it is settles after three
    sweeps (18, 27, 32 names); a name left unresolved would break `Units.builtinRegistry_eq` (`Units/Builtin.lean`). -/
def builtinRoots : List (String × (Scale × Container)) := builtinResolve 8 []

open Cellml.Gen in
/-- the registry of a fresh `UnitStore`: base units first defined (deepest), derived units in root form -/
def builtinRegistry : Registry :=
  let bases : Registry := builtinUnits.filterMap (fun (name, _, d) =>
    match d with
    | .base dim => some (name, UnitDef.base (if dim = "" then none else some dim))
    | _ => none)
  let derived : Registry := builtinRoots.filterMap (fun (n, (s, c)) =>
    if (bases.lookup n).isSome then none else some (n, UnitDef.derived s c))
  derived ++ bases

end Units
