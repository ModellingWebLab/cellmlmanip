import Cellml.Units.Den
import Cellml.Units.Local
import Cellml.Basic.Assoc

/-! The pint registry as a list of entries: its keys, the test `allKnown` (every name of a container is a key), what an
    entry on top does to the expansion of a container (nothing, if the container does not mention its key; the newest
    entry means its definition), and registries in root form — the built-in registry is one, so a built-in name expands
    to its entry in the table of root forms (`toRoot_builtin`). -/

namespace Units
open PMap

def keys (reg : Registry) : List String := reg.map Prod.fst

theorem lookup_isSome_iff {reg : Registry} {n : String} : (reg.lookup n).isSome = true ↔ n ∈ keys reg :=
  List.lookup_isSome_iff_mem_keys

/-- "every name is a key of the registry" is "every name lies in a set of names" (`Units/Local.lean`) for the key set -/
theorem allKnown_eq_withinB (reg : Registry) (c : Container) : allKnown reg c = withinB (keys reg) c :=
  List.all_congr rfl fun p => by
    rw [Bool.eq_iff_iff, List.contains_iff_mem]; exact lookup_isSome_iff

theorem allKnown_iff {reg : Registry} {c : Container} : allKnown reg c = true ↔ ∀ p ∈ c, p.1 ∈ keys reg := by
  rw [allKnown_eq_withinB, withinB, List.all_eq_true]
  exact forall_congr' fun p => forall_congr' fun _ => List.contains_iff_mem

theorem get_eq_zero_of_not_key {c : PMap String} {n : String} (h : ∀ p ∈ c, p.1 ≠ n) : get c n = 0 :=
  Decidable.byContradiction fun hn => let ⟨_, hx⟩ := mem_of_get_ne_zero c n hn; h _ hx rfl

theorem allKnown_get_zero {reg : Registry} {c : Container} {q : String} (hk : allKnown reg c = true)
    (hq : q ∉ keys reg) : get c q = 0 :=
  get_eq_zero_of_not_key (fun p hp heq => hq (heq ▸ allKnown_iff.mp hk p hp))

theorem allKnown_cons {reg : Registry} {c : Container} (e : String × UnitDef) (hk : allKnown reg c = true) :
    allKnown (e :: reg) c = true :=
  allKnown_iff.mpr (fun p hp => by simp only [keys, List.map_cons, List.mem_cons]; exact Or.inr (allKnown_iff.mp hk p hp))

theorem allKnown_self (q : String) (df : UnitDef) (reg : Registry) : allKnown ((q, df) :: reg) [(q, 1)] = true := by
  simp [allKnown]

theorem allKnown_norm {reg : Registry} {c : Container} (h : allKnown reg c = true) : allKnown reg (norm c) = true := by
  rw [allKnown_eq_withinB] at h ⊢; exact withinB_norm h

theorem toRoot_cons_fresh {reg : Registry} {c : Container} {q : String} (df : UnitDef)
    (hk : allKnown reg c = true) (hq : q ∉ keys reg) : toRoot ((q, df) :: reg) c ≃₂ toRoot reg c :=
  expand_cons_zero q df reg [] c (allKnown_get_zero hk hq)

theorem expand_inert : ∀ (reg : Registry) (s : Scale) (c : Container),
    (∀ n K c', (n, UnitDef.derived K c') ∈ reg → get c n = 0) → expand reg (s, c) ≃₂ (s, c) := by
  intro reg
  induction reg with
  | nil => intro s c _; exact Equiv₂.refl _
  | cons hd tl ih =>
      intro s c h
      obtain ⟨n, d⟩ := hd
      have htl := ih s c fun m K c' hm => h m K c' (List.mem_cons_of_mem _ hm)
      cases d with
      | base dim => exact htl
      | derived K c' => exact (expand_cons_zero n _ tl s c (h n K c' List.mem_cons_self)).trans htl

theorem toRoot_new_derived (reg : Registry) (q : String) (K : Scale) (c' : Container) :
    toRoot ((q, .derived K c') :: reg) [(q, 1)] ≃₂ (add K (toRoot reg c').1, (toRoot reg c').2) := by
  simp only [toRoot, expand]
  -- the one step of `expand` at `q` leaves `(K, c')` up to `≃₂` (`h1`); `expand` is additive, and on a pure scale inert
  have h1 : expand reg (add [] (smul (get [(q, (1 : Rat))] q) K),
      add (sub [(q, (1 : Rat))] (single q (get [(q, (1 : Rat))] q))) (smul (get [(q, (1 : Rat))] q) c')) ≃₂
      expand reg (add K [], add [] c') := by
    apply expand_congr
    refine ⟨?_, ?_⟩
    · intro p; simp only [get_add, get_smul, get_nil, get_cons]; grind
    · intro p; simp only [get_add, get_sub, get_smul, get_single, get_nil, get_cons]; grind
  refine Equiv₂.trans h1 (Equiv₂.trans (expand_add reg K [] [] c') ?_)
  have h2 := expand_inert reg K [] (fun _ _ _ _ => rfl)
  refine ⟨?_, ?_⟩
  · intro p; have := h2.1 p; simp only [get_add] at this ⊢; simp only [this]
  · intro p; have := h2.2 p; simp only [get_add, get_nil] at this ⊢; simp only [this]; grind

theorem toRoot_new_base (reg : Registry) (q : String) (dim : Option String) (hq : q ∉ keys reg) :
    toRoot ((q, .base dim) :: reg) [(q, 1)] ≃₂ (([] : Scale), [(q, (1 : Rat))]) := by
  simp only [toRoot, expand]
  apply expand_inert
  intro n K c hn
  have : q ≠ n := fun h => hq (h ▸ List.mem_map_of_mem (f := Prod.fst) hn)
  simp only [get_cons, if_neg this, get_nil, Rat.add_zero]

/-! ### registries in root form: every derived entry is written in root units -/

def rootForm (roots : List String) (reg : Registry) : Bool :=
  reg.all fun e => match e.2 with
    | .base _ => true
    | .derived _ c => !roots.contains e.1 && c.all (fun p => roots.contains p.1)

theorem rootForm_mem {roots : List String} {reg : Registry} (h : rootForm roots reg = true) {n : String} {K : Scale}
    {c : Container} (hm : (n, UnitDef.derived K c) ∈ reg) : n ∉ roots ∧ ∀ p ∈ c, p.1 ∈ roots := by
  have := List.all_eq_true.mp h _ hm
  simp only [Bool.and_eq_true, Bool.not_eq_true', List.all_eq_true] at this
  refine ⟨fun hn => ?_, fun p hp => List.contains_iff_mem.mp (this.2 p hp)⟩
  rw [List.contains_iff_mem.mpr hn] at this; cases this.1

theorem toRoot_roots {roots : List String} {reg : Registry} (h : rootForm roots reg = true) {c : Container}
    (hc : ∀ p ∈ c, p.1 ∈ roots) : toRoot reg c ≃₂ (([] : Scale), c) :=
  expand_inert reg [] c fun _ _ _ hm =>
    get_eq_zero_of_not_key fun p hp heq => (rootForm_mem h hm).1 (heq ▸ hc p hp)

/-- a derived name expands to its entry: the entries above it do not mention it, those below are not mentioned
    by its definition -/
theorem toRoot_derived {roots : List String} : ∀ {reg : Registry}, rootForm roots reg = true →
    ∀ {n : String} {K : Scale} {c : Container}, reg.lookup n = some (.derived K c) → toRoot reg [(n, 1)] ≃₂ (K, c) := by
  intro reg
  induction reg with
  | nil => intro _ n K c hl; cases hl
  | cons hd tl ih =>
      intro h n K c hl
      obtain ⟨q, df⟩ := hd
      have htl : rootForm roots tl = true := by
        unfold rootForm at h; rw [List.all_cons, Bool.and_eq_true] at h; exact h.2
      rw [List.lookup_cons] at hl
      split at hl
      · rename_i hq
        cases hl
        rw [beq_iff_eq.mp hq]
        refine (toRoot_new_derived tl q K c).trans ?_
        have := toRoot_roots htl (rootForm_mem h List.mem_cons_self).2
        exact ⟨fun p => by simp only [get_add, this.1 p, get_nil]; grind, this.2⟩
      · rename_i hq
        refine (expand_cons_zero q df tl [] _ ?_).trans (ih htl hl)
        have : n ≠ q := fun e => by simp [e] at hq
        simp only [get_cons, if_neg this, get_nil, Rat.add_zero]

/-- `x` is what the entry of `m` in a root-form registry says `m` means -/
def entryIs (roots : List String) (reg : Registry) (m : String) (x : Scale × Container) : Bool :=
  match reg.lookup m with
  | some (.derived K c) => x == (K, c)
  | some (.base _) => roots.contains m && x == ([], [(m, 1)])
  | none => false

theorem toRoot_of_entryIs {roots : List String} {reg : Registry} (h : rootForm roots reg = true) {m : String}
    {x : Scale × Container} (he : entryIs roots reg m x = true) :
    allKnown reg [(m, 1)] = true ∧ toRoot reg [(m, 1)] ≃₂ x := by
  unfold entryIs at he
  have hk : ∀ {d}, reg.lookup m = some d → allKnown reg [(m, 1)] = true := fun hl => by
    simp [allKnown, hl]
  split at he
  · rename_i K c hl
    rw [beq_iff_eq.mp he]
    exact ⟨hk hl, toRoot_derived h hl⟩
  · rename_i d hl
    rw [Bool.and_eq_true, List.contains_iff_mem, beq_iff_eq] at he
    rw [he.2]
    exact ⟨hk hl, toRoot_roots h fun p hp => by rw [List.mem_singleton.mp hp]; exact he.1⟩
  · cases he

theorem builtin_rootForm : rootForm (builtinBases.map Prod.fst) builtinRegistry = true := by
  rw [builtinRegistry_eq]; decide +kernel

/-- the entry of `n` (of the name it is an alias of) in the registry is its entry in the table of root forms -/
def builtinOK (n : String) : Bool :=
  match builtinDen n with
  | some x =>
      if n = "dimensionless" then x == ([], [])
      else entryIs (builtinBases.map Prod.fst) builtinRegistry (canonName n) x
  | none => false

theorem builtins_ok : Cellml.Gen.cellmlUnits.all builtinOK = true := by
  unfold builtinOK builtinDen
  rw [builtinRegistry_eq, builtinRoots_eq]
  decide +kernel

theorem toRoot_builtin {n : String} (hn : Cellml.Gen.cellmlUnits.contains n = true) :
    allKnown builtinRegistry (nameContainer n) = true ∧
      ∃ x, builtinDen n = some x ∧ toRoot builtinRegistry (nameContainer n) ≃₂ x := by
  have hok := List.all_eq_true.mp builtins_ok n (List.contains_iff_mem.mp hn)
  unfold builtinOK at hok
  split at hok
  · rename_i x hx
    unfold nameContainer
    split at hok
    · rename_i hd
      rw [beq_iff_eq.mpr hd, if_pos rfl]
      exact ⟨rfl, x, hx, beq_iff_eq.mp hok ▸ toRoot_nil _⟩
    · rename_i hd
      rw [if_neg (by simpa using hd)]
      exact ⟨(toRoot_of_entryIs builtin_rootForm hok).1, x, hx, (toRoot_of_entryIs builtin_rootForm hok).2⟩
  · cases hok

end Units
