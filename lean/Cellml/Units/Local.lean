import Cellml.Units.Lemmas

/-! pint looks a unit up by its name, so the root form, the dimensionality, `is_equivalent` and the conversion factor of
    a container depend only on the registry entries that can be reached from the names in it: a registry cut down to a
    set `S` of names that is closed under "is defined by" (`restrict S reg`) answers every question about containers over
    `S` as the whole registry does. Closed examples use this to be evaluated over the few entries they mention
    (`withinB`, `closedB` are the executable side conditions). Core Lean only. -/

namespace Units
open PMap

def restrict (S : List String) (reg : Registry) : Registry := reg.filter fun p => S.contains p.1

/-- only names in `S` have a coefficient (entries with coefficient 0 do not count) -/
def Within (S : List String) (c : Container) : Prop := ∀ n, get c n ≠ 0 → n ∈ S

def Closed (S : List String) (reg : Registry) : Prop :=
  ∀ n k of, (n, UnitDef.derived k of) ∈ reg → n ∈ S → Within S of

def withinB (S : List String) (c : Container) : Bool := c.all fun p => S.contains p.1

def closedB (S : List String) : Registry → Bool
  | [] => true
  | (n, .derived _ of) :: r => (!S.contains n || withinB S of) && closedB S r
  | _ :: r => closedB S r

variable {S : List String} {reg : Registry}

theorem restrict_cons_mem {n : String} (d : UnitDef) (tl : Registry) (hn : n ∈ S) :
    restrict S ((n, d) :: tl) = (n, d) :: restrict S tl := by
  simp only [restrict, List.filter_cons, List.contains_eq_mem, hn, decide_true, if_true]

theorem restrict_cons_not_mem {n : String} (d : UnitDef) (tl : Registry) (hn : n ∉ S) :
    restrict S ((n, d) :: tl) = restrict S tl := by
  simp only [restrict, List.filter_cons, List.contains_eq_mem, hn, decide_false, Bool.false_eq_true, if_false]

theorem Within.nil : Within S ([] : Container) := fun _ h => absurd rfl h

theorem Within.add {a b : Container} (ha : Within S a) (hb : Within S b) : Within S (PMap.add a b) := by
  intro n hn
  simp only [get_add] at hn
  by_cases h : get a n = 0
  · exact hb n fun h' => hn (by rw [h, h']; grind)
  · exact ha n h

theorem Within.smul (q : Rat) {a : Container} (ha : Within S a) : Within S (PMap.smul q a) := by
  intro n hn
  simp only [get_smul] at hn
  exact ha n fun h' => hn (by rw [h']; grind)

theorem Within.step {c of : Container} {n : String} (hc : Within S c) (hof : get c n ≠ 0 → Within S of) :
    Within S (PMap.add (PMap.sub c (PMap.single n (get c n))) (PMap.smul (get c n) of)) := by
  intro m hm
  simp only [get_add, get_sub, get_smul, get_single] at hm
  by_cases h1 : get c m = 0
  · by_cases h3 : get c n = 0
    · exfalso; apply hm; rw [h1, h3]; split <;> grind
    · by_cases h2 : get of m = 0
      · exfalso; apply hm; rw [h1, h2]; split <;> grind
      · exact hof h3 m h2
  · exact hc m h1

theorem expand_within : ∀ (reg : Registry), Closed S reg → ∀ sc : Scale × Container, Within S sc.2 →
    Within S (expand reg sc).2 := by
  intro reg
  induction reg with
  | nil => intro _ sc h; exact h
  | cons hd tl ih =>
      intro hS sc hw
      have hS' : Closed S tl := fun n k of h => hS n k of (List.mem_cons_of_mem _ h)
      obtain ⟨n, d⟩ := hd
      obtain ⟨s, c⟩ := sc
      cases d with
      | base dim => exact ih hS' _ hw
      | derived k of => exact ih hS' _ (hw.step fun h => hS n k of List.mem_cons_self (hw n h))

/-- a derived unit outside `S` has coefficient 0 in a container over `S`: its step changes nothing; one inside `S` is in
    both registries -/
theorem expand_restrict : ∀ (reg : Registry), Closed S reg → ∀ sc : Scale × Container, Within S sc.2 →
    expand reg sc ≃₂ expand (restrict S reg) sc := by
  intro reg
  induction reg with
  | nil => intro _ sc _; exact Equiv₂.refl _
  | cons hd tl ih =>
      intro hS sc hw
      have hS' : Closed S tl := fun n k of h => hS n k of (List.mem_cons_of_mem _ h)
      obtain ⟨n, d⟩ := hd
      obtain ⟨s, c⟩ := sc
      by_cases hn : n ∈ S
      · rw [restrict_cons_mem d tl hn]
        cases d with
        | base dim => exact ih hS' _ hw
        | derived k of => exact ih hS' _ (hw.step fun _ => hS n k of List.mem_cons_self hn)
      · rw [restrict_cons_not_mem d tl hn]
        exact (expand_cons_zero n d tl s c (Decidable.byContradiction fun h => hn (hw n h))).trans (ih hS' _ hw)

theorem toRoot_restrict (hS : Closed S reg) {c : Container} (hc : Within S c) :
    toRoot reg c ≃₂ toRoot (restrict S reg) c := expand_restrict reg hS _ hc

/-- a root unit outside `S` has coefficient 0 in a container over `S` -/
theorem dimsOfRoot_restrict : ∀ (reg : Registry) {c : Container}, Within S c →
    dimsOfRoot reg c ≃ dimsOfRoot (restrict S reg) c := by
  intro reg
  induction reg with
  | nil => intro _ _; exact PMap.Equiv.refl _
  | cons hd tl ih =>
      intro c hc
      obtain ⟨n, d⟩ := hd
      by_cases hn : n ∈ S
      · rw [restrict_cons_mem d tl hn]
        cases d with
        | base dim =>
            cases dim with
            | none => exact ih hc
            | some dn => intro p; simp only [dimsOfRoot, get_add, ih hc p]
        | derived k of => exact ih hc
      · rw [restrict_cons_not_mem d tl hn]
        exact (dimsOfRoot_cons_zero n d tl (Decidable.byContradiction fun h => hn (hc n h))).trans (ih hc)

theorem dimsOf_restrict (hS : Closed S reg) {c : Container} (hc : Within S c) :
    dimsOf reg c = dimsOf (restrict S reg) c := by
  refine norm_eq_of_equiv ?_
  refine (dimsOfRoot_congr reg (norm_equiv _)).trans ?_
  refine (dimsOfRoot_restrict reg (expand_within reg hS _ hc)).trans ?_
  exact dimsOfRoot_congr _ ((toRoot_restrict hS hc).2.trans (norm_equiv _).symm)

theorem scaleOf_restrict (hS : Closed S reg) {c : Container} (hc : Within S c) :
    scaleOf reg c = scaleOf (restrict S reg) c := norm_eq_of_equiv (toRoot_restrict hS hc).1

theorem rootOf_restrict (hS : Closed S reg) {c : Container} (hc : Within S c) :
    rootOf reg c = rootOf (restrict S reg) c := norm_eq_of_equiv (toRoot_restrict hS hc).2

theorem isEquivalent_restrict (hS : Closed S reg) {a b : Container} (ha : Within S a) (hb : Within S b) :
    isEquivalent reg a b = isEquivalent (restrict S reg) a b := by
  have ea := toRoot_restrict hS ha
  have eb := toRoot_restrict hS hb
  simp only [isEquivalent, PMap.beq, norm_eq_of_equiv ea.1, norm_eq_of_equiv ea.2, norm_eq_of_equiv eb.1,
    norm_eq_of_equiv eb.2]

theorem mem_of_withinB {c : Container} (h : withinB S c = true) {p : String × Rat} (hp : p ∈ c) : p.1 ∈ S := by
  simpa using List.all_eq_true.mp h p hp

theorem within_of_keys {c : Container} (h : ∀ p ∈ c, p.1 ∈ S) : Within S c := fun n hn =>
  (mem_of_get_ne_zero c n hn).elim fun _ hx => h _ hx

theorem within_of_test {c : Container} (h : withinB S c = true) : Within S c :=
  within_of_keys fun _ hp => mem_of_withinB h hp

theorem closed_of_test : ∀ {reg : Registry}, closedB S reg = true → Closed S reg := by
  intro reg
  induction reg with
  | nil => intro _ n k of h; cases h
  | cons hd tl ih =>
      intro h n k of hm hn
      obtain ⟨n', d⟩ := hd
      cases d with
      | base dim => exact ih h n k of (by simpa using hm) hn
      | derived k' of' =>
          simp only [closedB, Bool.and_eq_true, Bool.or_eq_true, Bool.not_eq_true', List.contains_eq_mem,
            decide_eq_false_iff_not] at h
          rcases List.mem_cons.mp hm with e | hm
          · cases e
            rcases h.1 with h1 | h1
            · exact absurd hn h1
            · exact within_of_test h1
          · exact ih h.2 n k of hm hn

/-! the unit arithmetic of containers stays over `S` -/

theorem withinB_add {a b : Container} (ha : withinB S a = true) (hb : withinB S b = true) :
    withinB S (PMap.add a b) = true := by
  simp only [withinB, PMap.add, List.all_append, Bool.and_eq_true]; exact ⟨ha, hb⟩

theorem withinB_smul (q : Rat) {a : Container} (ha : withinB S a = true) : withinB S (PMap.smul q a) = true := by
  refine List.all_eq_true.mpr fun p hp => ?_
  obtain ⟨p', hp', rfl⟩ := List.mem_map.mp hp
  exact List.all_eq_true.mp ha p' hp'

theorem withinB_norm {c : Container} (h : withinB S c = true) : withinB S (PMap.norm c) = true := by
  refine List.all_eq_true.mpr fun p hp => ?_
  obtain ⟨p', hp', e⟩ := key_of_mem_norm c p hp
  simpa [e] using mem_of_withinB h hp'

/-! `factor` also asks whether every key is known, so it needs every KEY in `S` -/

theorem lookup_restrict {n : String} (hn : n ∈ S) : ∀ reg : Registry, (restrict S reg).lookup n = reg.lookup n := by
  intro reg
  induction reg with
  | nil => rfl
  | cons hd tl ih =>
      obtain ⟨k, d⟩ := hd
      by_cases hk : k ∈ S
      · rw [restrict_cons_mem d tl hk, List.lookup_cons, List.lookup_cons, ih]
      · have hne : (n == k) = false := beq_false_of_ne fun e => hk (e ▸ hn)
        rw [restrict_cons_not_mem d tl hk, List.lookup_cons, hne]; exact ih

theorem allKnown_restrict (reg : Registry) {c : Container} (hc : withinB S c = true) :
    allKnown reg c = allKnown (restrict S reg) c := by
  rw [Bool.eq_iff_iff]
  simp only [allKnown, List.all_eq_true]
  exact forall_congr' fun p => forall_congr' fun hp => by rw [lookup_restrict (mem_of_withinB hc hp)]

theorem factor_restrict (hS : Closed S reg) {a b : Container} (ha : withinB S a = true) (hb : withinB S b = true) :
    factor reg a b = factor (restrict S reg) a b := by
  have wa := within_of_test ha
  have wb := within_of_test hb
  unfold factor
  rw [allKnown_restrict reg ha, allKnown_restrict reg hb, dimsOf_restrict hS wa, dimsOf_restrict hS wb,
    norm_eq_of_equiv (sub_congr (toRoot_restrict hS wa).1 (toRoot_restrict hS wb).1)]

/-! ### the part of the built-in registry that the closed examples use -/

/-- the built-in units those examples mention, with their root units -/
def commonUnits : List String :=
  ["volt", "joule", "coulomb", "liter", "ampere", "kilogram", "meter", "mole", "radian", "second"]

theorem commonUnits_closed : closedB commonUnits builtinRegistry = true := by rw [builtinRegistry_eq]; decide +kernel

theorem commonUnits_isClosed : Closed commonUnits builtinRegistry := closed_of_test commonUnits_closed

theorem restrict_commonUnits : restrict commonUnits builtinRegistry =
    [("volt", .derived [] [("ampere", -1), ("kilogram", 1), ("meter", 2), ("second", -3)]),
     ("joule", .derived [] [("kilogram", 1), ("meter", 2), ("second", -2)]),
     ("liter", .derived [(2, -3), (5, -3)] [("meter", 3)]),
     ("coulomb", .derived [] [("ampere", 1), ("second", 1)]),
     ("ampere", .base (some "current")), ("kilogram", .base (some "mass")), ("meter", .base (some "length")),
     ("mole", .base (some "substance")), ("radian", .base none), ("second", .base (some "time"))] := by
  rw [builtinRegistry_eq]; decide +kernel

end Units
