import Cellml.Units.Conv

/-! Custom conversion rules (units.py 267-335: `get_conversion_factor` with a symbolic magnitude, `convert`,
    `add_conversion_rule`) over the mini-pint, with pint 0.18's context machinery as the code uses it:

    * `add_conversion_rule(from_unit, to_unit, rule)` enables a pint `Context` holding one transformation. pint keys it
      by the pair (DIMENSIONALITY of `from_unit`, DIMENSIONALITY of `to_unit`) — the units themselves are forgotten
      (`enable_contexts` rewrites the key with `_get_dimensionality`). Newer contexts shadow older ones with the same
      key (`ContextChain` is a `ChainMap`, newest map first): `lookupRule` takes the first match of a newest-first list.
    * `ContextRegistry._convert`: when contexts are active, look for a shortest path from the source dimensionality to
      the target dimensionality in the graph of keys (`find_shortest_path`: depth-first over simple paths, shortest
      kept); apply the rule of every hop to the QUANTITY (which keeps whatever units it has); then convert the result to
      the requested unit by the ordinary factor — which raises `DimensionalityError` if the rules did not produce the
      target dimension, and is all that happens when there is no path.
    * A linear rule multiplies by a quantity κ: `lambda ureg, rhs: rhs * Cs / Cm`. Its magnitude is a positive number
      (a `Scale`) times opaque symbols with integer exponents (`Syms`, the same finite-map type: symbol ↦ exponent), its
      unit a container.

    Dimensionalities handled here are always the canonical forms produced by `dimsOf` (pint compares normalised
    `UnitsContainer`s), so keys are compared with `=`. The last section (`Units.convertVariable`) is what
    `Model.convert_variable` does WITH the factor (C19); what it does to the model given a factor is
    `Model.CV.convertVariable` (`Model/ConvertVar.lean`, C06).   Core Lean only. -/

namespace Units

/-- symbolic part of a magnitude: symbol ↦ exponent (`Cs / Cm` is `[("Cs", 1), ("Cm", -1)]`) -/
abbrev Syms := PMap String

/-- an enabled transformation: key (source dimensionality, target dimensionality) and the quantity κ it multiplies by -/
structure Rule where
  src    : Dims
  dst    : Dims
  kscale : Scale
  ksyms  : Syms
  kunit  : Container
deriving Repr, DecidableEq

inductive Mag where
  | num (s : Scale)          -- a positive number, as its prime factorisation
  | sym (name : String)      -- an opaque symbol (sympy Symbol / cellmlmanip Variable / sympy function application)
deriving Repr, DecidableEq

/-- one factor of a linear rule body: `rhs * Q` (`inv = false`) or `rhs / Q` (`inv = true`), `Q = mag · unit` -/
structure RFactor where
  inv  : Bool
  mag  : Mag
  unit : Container
deriving Repr, DecidableEq

def RFactor.sign (f : RFactor) : Rat := if f.inv then -1 else 1

/-- κ of a rule body: (numeric magnitude, symbolic magnitude, unit) -/
def kappa : List RFactor → Scale × Syms × Container
  | [] => ([], [], [])
  | f :: fs =>
      match kappa fs with
      | (s, y, u) =>
        match f.mag with
        | .num m => (PMap.add (PMap.smul f.sign m) s, y, PMap.add (PMap.smul f.sign f.unit) u)
        | .sym n => (s, PMap.add (PMap.single n f.sign) y, PMap.add (PMap.smul f.sign f.unit) u)

/-- `add_conversion_rule(from_unit, to_unit, lambda ureg, rhs: rhs * … / …)`: only the DIMENSIONS of the two units are
    kept. -/
def mkRule (reg : Registry) (fromU toU : Container) (fs : List RFactor) : Rule :=
  match kappa fs with
  | (s, y, u) =>
    { src := dimsOf reg fromU, dst := dimsOf reg toU,
      kscale := PMap.norm s, ksyms := PMap.norm y, kunit := PMap.norm u }

/-- the transformation pint finds for the key (s, d): rules are kept newest first, the newest wins -/
def lookupRule (rules : List Rule) (s d : Dims) : Option Rule :=
  rules.find? (fun r => decide (r.src = s) && decide (r.dst = d))

/-- all walks of exactly `n` hops from `s` to `d` in the graph of keys, as the list of nodes after `s` -/
def walks (rules : List Rule) : Nat → Dims → Dims → List (List Dims)
  | 0, s, d => if s = d then [[]] else []
  | n + 1, s, d =>
      (rules.filter (fun r => decide (r.src = s))).flatMap (fun r => (walks rules n r.dst d).map (fun p => r.dst :: p))

/-- iterative deepening: the first walk of the smallest length that has one (a shortest walk is a simple path) -/
def search (rules : List Rule) (s d : Dims) : Nat → Nat → Option (List Dims)
  | 0, _ => none
  | fuel + 1, n =>
      match walks rules n s d with
      | p :: _ => some p
      | [] => search rules s d fuel (n + 1)

/-- `find_shortest_path(graph, s, d)`: a simple path uses every key at most once, so `length + 1` lengths suffice -/
def findPath (rules : List Rule) (s d : Dims) : Option (List Dims) :=
  search rules s d (rules.length + 1) 0

/-- number of distinct shortest paths (pint's choice among several depends on set iteration order) -/
def shortestCount (rules : List Rule) (s d : Dims) : Nat :=
  match findPath rules s d with
  | none => 0
  | some p => ((walks rules p.length s d).eraseDups).length

/-- the transformation applied on every hop of a path starting at `s` -/
def rulesAlong (rules : List Rule) : Dims → List Dims → List Rule
  | _, [] => []
  | s, d :: p =>
      match lookupRule rules s d with
      | some r => r :: rulesAlong rules d p
      | none => rulesAlong rules d p          -- unreachable for paths produced by `walks`

def pathScale : List Rule → Scale
  | [] => []
  | r :: rs => PMap.add r.kscale (pathScale rs)

def pathSyms : List Rule → Syms
  | [] => []
  | r :: rs => PMap.add r.ksyms (pathSyms rs)

def pathUnit : List Rule → Container
  | [] => []
  | r :: rs => PMap.add r.kunit (pathUnit rs)

/-- `Quantity(1, a).to(b)` with the enabled rules: magnitude multiplier as (number, symbols).
    Without a path pint falls through to the ordinary conversion (which fails when the dimensions differ). -/
def convertWithRules (reg : Registry) (rules : List Rule) (a b : Container) : Except UErr (Scale × Syms) :=
  if !(allKnown reg a && allKnown reg b) then .error .undefinedUnit
  else
    match findPath rules (dimsOf reg a) (dimsOf reg b) with
    | none =>
        match factor reg a b with
        | .ok f => .ok (f, [])
        | .error e => .error e
    | some path =>
        let rs := rulesAlong rules (dimsOf reg a) path
        match factor reg (PMap.add a (pathUnit rs)) b with
        | .ok f => .ok (PMap.norm (PMap.add f (pathScale rs)), PMap.norm (pathSyms rs))
        | .error e => .error e

/-- `UnitStore.convert(q·a, b)`: magnitude multiplier. After the repair of the defect recorded in findings/C19.json
    the inverse route of the special case is taken only when the target is dimensionless in dimension too — where no
    rule is ever consulted — so it cannot be observed (`Cellml.Props.C19.convert_special_case_invisible`). -/
def convertQ (reg : Registry) (rules : List Rule) (a b : Container) : Except UErr (Scale × Syms) :=
  if PMap.norm a = [] ∧ dimsOf reg b = [] then
    match convertWithRules reg rules b a with
    | .ok (f, y) => .ok (PMap.norm (PMap.neg f), PMap.norm (PMap.neg y))
    | .error e => .error e
  else convertWithRules reg rules a b

/-- `UnitStore.convert` as it was before that repair: converting FROM the unit `dimensionless` always went through the
    inverse of the conversion TO it. Kept for the proved counterexamples. -/
def convertQ_before (reg : Registry) (rules : List Rule) (a b : Container) : Except UErr (Scale × Syms) :=
  if PMap.norm a = [] then
    match convertWithRules reg rules b a with
    | .ok (f, y) => .ok (PMap.norm (PMap.neg f), PMap.norm (PMap.neg y))
    | .error e => .error e
  else convertWithRules reg rules a b

/-- `get_conversion_factor`: `none` is the int `1` returned for a number within 1e-9 of one (exactly one in the model);
    a symbolic factor is returned as it is (with a leading `1.0` removed). -/
def conversionFactorR (reg : Registry) (rules : List Rule) (a b : Container) :
    Except UErr (Option (Scale × Syms)) :=
  match convertQ reg rules a b with
  | .ok (f, y) => .ok (if f = [] ∧ y = [] then none else some (f, y))
  | .error e => .error e

/-! ### `Model.convert_variable` as far as the conversion factor is concerned (model.py 824-831, 1013-1014, 1025-1046,
    945-989) -/

inductive Dir where
  | input | output
deriving Repr, DecidableEq

/-- how the variable being converted is defined in the model -/
inductive VarKind where
  | plain      -- no defining equation (a constant given by its initial value, or nothing)
  | defined    -- `v = rhs`
  | state      -- `d v / d t = rhs`
  | free       -- the variable of integration of `nOdes` ODEs
deriving Repr, DecidableEq

/-- the equations `convert_variable` adds, by shape; the exponent says how the factor enters -/
inductive EqForm where
  | newFromOrig      -- new = orig · cf            (OUTPUT)
  | newFromRhs       -- new = rhs · cf             (INPUT, variable defined by an equation)
  | origFromNew      -- orig = new / cf            (INPUT)
  | odeOfNew         -- d new / d t = rhs_var · cf (INPUT, state variable)
  | odeWrtNew        -- d x / d new = rhs_var / cf (INPUT, free variable; one per ODE)
deriving Repr, DecidableEq

def EqForm.exponent : EqForm → Int
  | .newFromOrig => 1 | .newFromRhs => 1 | .origFromNew => -1 | .odeOfNew => 1 | .odeWrtNew => -1

inductive CVErr where
  | units (e : UErr)     -- from `get_conversion_factor`
  | typeError            -- `float(cf)` of a symbolic factor (line 1014)
deriving Repr, DecidableEq

inductive CVOutcome where
  | same                                                        -- `cf == 1`: the original variable is returned
  | converted (f : Scale × Syms) (initScaled : Bool) (eqs : List EqForm)
  | error (e : CVErr)
deriving Repr, DecidableEq

def cvEquations (dir : Dir) (kind : VarKind) (nOdes : Nat) : List EqForm :=
  match dir with
  | .output => [.newFromOrig]
  | .input =>
      (if kind = .defined then [.newFromRhs] else []) ++ [.origFromNew] ++
      (if kind = .state then [.odeOfNew] else []) ++
      (if kind = .free then List.replicate nOdes .odeWrtNew else [])

def convertVariable (reg : Registry) (rules : List Rule) (a b : Container) (dir : Dir) (kind : VarKind)
    (hasInit : Bool) (nOdes : Nat) : CVOutcome :=
  match conversionFactorR reg rules a b with
  | .error e => .error (.units e)
  | .ok none => .same
  | .ok (some (f, y)) =>
      if dir = .input ∧ hasInit = true ∧ y ≠ [] then .error .typeError
      else .converted (f, y) (decide (dir = .input) && hasInit) (cvEquations dir kind nOdes)

end Units
