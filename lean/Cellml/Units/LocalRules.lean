import Cellml.Units.RulesLemmas
import Cellml.Units.Local

/-! Conversion with rules looks at the registry only through `allKnown`, `dimsOf` and `factor` of the two units and of
    the units of the κ's on the path, so it can be asked of the registry cut down to a closed name set that holds all
    of these (`Units/Local.lean`). -/

namespace Units

variable {S : List String} {reg : Registry}

theorem rulesAlong_mem {rules : List Rule} : ∀ (p : List Dims) (s : Dims), ∀ r ∈ rulesAlong rules s p, r ∈ rules := by
  intro p
  induction p with
  | nil => intro s r hr; cases hr
  | cons d p ih =>
      intro s r hr
      simp only [rulesAlong] at hr
      split at hr
      · rename_i r' h
        rcases List.mem_cons.mp hr with rfl | hr
        · exact (lookupRule_some h).1
        · exact ih d r hr
      · exact ih d r hr

theorem withinB_pathUnit : ∀ {rs : List Rule}, (∀ r ∈ rs, withinB S r.kunit = true) → withinB S (pathUnit rs) = true
  | [], _ => rfl
  | r :: _, h => withinB_add (h r List.mem_cons_self) (withinB_pathUnit fun x hx => h x (List.mem_cons_of_mem _ hx))

theorem mkRule_restrict (hS : Closed S reg) {f t : Container} (hf : withinB S f = true) (ht : withinB S t = true)
    (fs : List RFactor) : mkRule reg f t fs = mkRule (restrict S reg) f t fs := by
  unfold mkRule
  rw [dimsOf_restrict hS (within_of_test hf), dimsOf_restrict hS (within_of_test ht)]

theorem convertWithRules_restrict (hS : Closed S reg) {rules : List Rule} {a b : Container}
    (hr : rules.all (fun r => withinB S r.kunit) = true) (ha : withinB S a = true) (hb : withinB S b = true) :
    convertWithRules reg rules a b = convertWithRules (restrict S reg) rules a b := by
  rw [convertWithRules_eq, convertWithRules_eq, ← dimsOf_restrict hS (within_of_test ha),
    ← dimsOf_restrict hS (within_of_test hb)]
  generalize hrs : pathRules rules (dimsOf reg a) (dimsOf reg b) = rs
  have hmem : ∀ r ∈ rs, r ∈ rules := by
    rw [← hrs, pathRules]
    split
    · exact rulesAlong_mem _ _
    · intro r hr; cases hr
  rw [factor_restrict hS (withinB_add ha (withinB_pathUnit fun r h => List.all_eq_true.mp hr r (hmem r h))) hb]

/-- `convertQ` itself needs no lemma of its own: `convertQ_eq` turns it into `convertWithRules` -/
theorem convertQ_before_restrict (hS : Closed S reg) {rules : List Rule} {a b : Container}
    (hr : rules.all (fun r => withinB S r.kunit) = true) (ha : withinB S a = true) (hb : withinB S b = true) :
    convertQ_before reg rules a b = convertQ_before (restrict S reg) rules a b := by
  unfold convertQ_before
  rw [convertWithRules_restrict hS hr ha hb, convertWithRules_restrict hS hr hb ha]

end Units
