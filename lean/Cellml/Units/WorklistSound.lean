import Cellml.Units.DenLemmas
import Cellml.Units.WorklistLemmas

/-! Soundness of the work list with respect to the denotation `Den`:
    every unit of a successfully loaded document expands, in the final registry, to the meaning the specification
    formula assigns to it. The invariant `Inv` of a load says so of every defined name; it holds of the built-in
    registry (`Units/Registry.lean`: root form), and an addition keeps it because a fresh key leaves older meanings
    unchanged and `defMeaning` composed with root expansion is the specification formula (root expansion is a
    homomorphism: `toRoot_add`, `toRoot_smul`). The hypothesis on references (`GoodRefs`) holds of every identifier
    that starts with a letter or an underscore (`goodIdent`, `mangle_good` in `Units/DefineLemmas.lean`). -/

namespace Units
open PMap

theorem pow10_zero : pow10 0 = [] := rfl

/-- what is true of (registry, store) at every point of a load of `defs` into a store with id `id` -/
structure Inv (id : Nat) (defs : List UDef) (reg : Registry) (st : Store) : Prop where
  sid : st.id = id
  /-- the key a not yet defined name would get is free -/
  fresh : ∀ n, st.isDefined n = false → prefixName id n ∉ keys reg
  /-- every defined name resolves, and expands to its denotation -/
  known : ∀ n, st.isDefined n = true →
    allKnown reg (nameContainer (prefixName id n)) = true ∧
      ∃ x, NameDen id defs n x ∧ toRoot reg (nameContainer (prefixName id n)) ≃₂ x

theorem inv_init (id : Nat) (defs : List UDef) : Inv id defs builtinRegistry { id := id, known := [] } where
  sid := rfl
  fresh := by
    intro n hn
    have hc := isDefined_false_cellml hn
    intro hmem
    have := List.all_eq_true.mp builtin_keys_not_storeLike _ hmem
    rw [prefixName_storeLike id hc] at this; cases this
  known := by
    intro n hn
    have hc := (isDefined_iff.mp hn).resolve_right List.not_mem_nil
    rw [prefixName_builtin id hc]
    obtain ⟨hk, x, hx, hxeq⟩ := toRoot_builtin hc
    exact ⟨hk, x, .builtin hc hx, hxeq⟩


/-- `defMeaning` followed by root expansion in a registry that satisfies the invariant IS the specification formula -/
theorem defMeaning_den {id : Nat} {defs : List UDef} {reg : Registry} {st : Store} (inv : Inv id defs reg st) :
    ∀ (elems : List UnitElem) (k : Scale) (c : Container) (md : Bool), defMeaning id elems = .ok (k, c, md) →
      (∀ e ∈ elems, st.isDefined e.units = true) → (∀ e ∈ elems, mangle id e.units = prefixName id e.units) →
      ∃ x, Den id defs elems x ∧ (add k (toRoot reg c).1, (toRoot reg c).2) ≃₂ x := by
  intro elems
  induction elems with
  | nil =>
      intro k c md h _ _
      simp only [defMeaning, pure, Except.pure, Except.ok.injEq, Prod.mk.injEq] at h
      obtain ⟨rfl, rfl, _⟩ := h
      refine ⟨_, .nil, ?_⟩
      have := toRoot_nil reg
      refine ⟨?_, this.2⟩
      intro p; have := this.1 p; simp only [get_add, get_nil] at this ⊢; rw [this]; grind
  | cons e es ih =>
      intro k c md h hdef hgood
      obtain ⟨s, c1, b, s', c', b', he, hes, rfl, rfl, _⟩ := defMeaning_cons_ok h
      obtain ⟨kp, q, m, hp, hq, hmul, _, rfl, rfl, _⟩ := elemMeaning_ok he
      obtain ⟨y, hy, hyeq⟩ := ih s' c' b' hes (fun e' he' => hdef e' (List.mem_cons_of_mem _ he'))
        (fun e' he' => hgood e' (List.mem_cons_of_mem _ he'))
      have hdefe := hdef e List.mem_cons_self
      rw [hgood e List.mem_cons_self]
      obtain ⟨_, xr, hxr, hxeq⟩ := inv.known e.units hdefe
      have hadd := toRoot_add reg (smul q (nameContainer (prefixName id e.units))) c'
      have hsm := toRoot_smul reg q (nameContainer (prefixName id e.units))
      refine ⟨mulDen (elemDen kp q m xr) y, ?_, fun p => ?_, fun p => ?_⟩
      · generalize hn : e.units = n at hxr
        cases hxr with
        | builtin h1 h2 => exact .builtin hp hq hmul (hn ▸ h1) (hn ▸ h2) hy
        | base hm hb => exact .base hp hq hmul hm hb hn.symm hy
        | user hm hb hx => exact .user hp hq hmul hm hb hn.symm hx hy
      · have a1 := hadd.1 p; have a2 := hsm.1 p; have a3 := hxeq.1 p; have a4 := hyeq.1 p
        simp only [mulDen, elemDen, get_add, get_smul] at a1 a2 a3 a4 ⊢
        grind
      · have a1 := hadd.2 p; have a2 := hsm.2 p; have a3 := hxeq.2 p; have a4 := hyeq.2 p
        simp only [mulDen, elemDen, get_add, get_smul] at a1 a2 a3 a4 ⊢
        grind

theorem inv_extend {id : Nat} {defs : List UDef} {reg : Registry} {st : Store} (inv : Inv id defs reg st)
    {name : String} (df : UnitDef) (hnew : st.isDefined name = false)
    (hden : ∃ x, NameDen id defs name x ∧
      toRoot ((prefixName id name, df) :: reg) [(prefixName id name, 1)] ≃₂ x) :
    Inv id defs ((prefixName id name, df) :: reg) { st with known := name :: st.known } where
  sid := inv.sid
  fresh := by
    intro n hn
    rw [isDefined_cons, Bool.or_eq_false_iff] at hn
    have hne : n ≠ name := by simpa using hn.2
    intro hmem
    rcases List.mem_cons.mp hmem with h | h
    · exact hne (prefixName_inj id (isDefined_false_cellml hn.1) (isDefined_false_cellml hnew) h)
    · exact inv.fresh n hn.1 h
  known := by
    intro n hn
    rw [isDefined_cons] at hn
    have hq := inv.fresh name hnew
    by_cases hold : st.isDefined n = true
    · obtain ⟨hk, x, hx, hxeq⟩ := inv.known n hold
      exact ⟨allKnown_cons _ hk, x, hx, (toRoot_cons_fresh df hk hq).trans hxeq⟩
    · have hnn : n = name := by simpa [hold] using hn
      subst hnn
      rw [nameContainer_storeLike (prefixName_storeLike id (isDefined_false_cellml hnew))]
      exact ⟨allKnown_self _ _ _, hden⟩

theorem inv_addBase {id : Nat} {defs : List UDef} {reg : Registry} {st : Store} (inv : Inv id defs reg st)
    {d : UDef} (hm : d ∈ defs) (hb : d.base = true) {reg' : Registry} {st' : Store}
    (h : addBaseUnit reg st d.name = .ok (reg', st')) : Inv id defs reg' st' := by
  obtain ⟨hnew, hr⟩ := addBaseUnit_ok h
  simp only [Prod.mk.injEq] at hr
  have hs := inv.sid
  subst hs
  rw [hr.1, hr.2]
  exact inv_extend inv _ hnew ⟨_, .base hm hb, toRoot_new_base reg _ _ (inv.fresh _ hnew)⟩

theorem inv_addNow {id : Nat} {defs : List UDef} {reg : Registry} {st : Store} (inv : Inv id defs reg st)
    {d : UDef} (hm : d ∈ defs) (hb : d.base = false) (hr : ready st d = true)
    (hgood : ∀ e ∈ d.elems, mangle id e.units = prefixName id e.units) {reg' : Registry} {st' : Store}
    (h : addNow reg st d = .ok (reg', st')) : Inv id defs reg' st' := by
  obtain ⟨_, hnew, _, _, hu⟩ := addNow_ok h
  obtain ⟨k, c, md, hdm, _, _, _, _, _, hres⟩ := addUnit_ok hu
  simp only [Prod.mk.injEq] at hres
  have hs := inv.sid
  subst hs
  rw [hres.1, hres.2]
  obtain ⟨x, hx, hxeq⟩ := defMeaning_den inv d.elems k c md hdm (List.all_eq_true.mp hr) hgood
  refine inv_extend inv _ hnew ⟨x, .user hm hb hx, ?_⟩
  refine (toRoot_new_derived reg _ (norm k) (norm c)).trans (Equiv₂.trans ?_ hxeq)
  have h1 := toRoot_congr reg (norm_equiv c)
  refine ⟨?_, h1.2⟩
  intro p
  have := h1.1 p
  simp only [get_add, get_norm, this]


/-- references that the `_WORD` substitution rewrites as intended (true of every identifier that starts with a
    letter or an underscore: `mangle_good`) -/
def GoodRefs (id : Nat) (defs : List UDef) : Prop :=
  ∀ d ∈ defs, d.base = false → ∀ e ∈ d.elems, mangle id e.units = prefixName id e.units

theorem addUnits_inv {id : Nat} {defs : List UDef} {reg : Registry} {st : Store} (hgood : GoodRefs id defs)
    (h : addUnits id defs = .ok (reg, st)) : Inv id defs reg st := by
  obtain ⟨_, _, hp, hr⟩ := addUnits_run h
  refine hr.preserves (I := fun rs => Inv id defs rs.1 rs.2) (fun d hd a b hs inv => ?_) (inv_init id defs)
  have hm := hp.mem_iff.mp hd
  exact hs.elim (fun hs => inv_addBase inv hm hs.1 hs.2) fun hs => inv_addNow inv hm hs.1 hs.2.1 (hgood d hm hs.1) hs.2.2

theorem addUnits_known {id : Nat} {defs : List UDef} {reg : Registry} {st : Store}
    (h : addUnits id defs = .ok (reg, st)) : st.known.Perm (defs.map (·.name)) := by
  obtain ⟨_, _, hp, hr⟩ := addUnits_run h
  rw [hr.adds.known.1, List.append_nil]
  exact (List.reverse_perm _).trans (hp.map _)

theorem addUnits_defined {id : Nat} {defs : List UDef} {reg : Registry} {st : Store}
    (h : addUnits id defs = .ok (reg, st)) : ∀ d ∈ defs, st.isDefined d.name = true :=
  fun _ hd => isDefined_iff.mpr (.inr ((addUnits_known h).mem_iff.mpr (List.mem_map_of_mem hd)))

theorem addUnits_id {id : Nat} {defs : List UDef} {reg : Registry} {st : Store}
    (h : addUnits id defs = .ok (reg, st)) : st.id = id := by
  obtain ⟨_, _, _, hr⟩ := addUnits_run h
  exact hr.adds.known.2

/-- after a load EVERY defined name, built-in or of the document, means what the specification says -/
theorem addUnits_sound {id : Nat} {defs : List UDef} {reg : Registry} {st : Store} (hgood : GoodRefs id defs)
    (h : addUnits id defs = .ok (reg, st)) {n : String} (hn : st.isDefined n = true) :
    ∃ x, NameDen id defs n x ∧ meaningOf reg st n ≃₂ x := by
  obtain ⟨_, x, hx, hxeq⟩ := (addUnits_inv hgood h).known n hn
  exact ⟨x, hx, by unfold meaningOf; rw [addUnits_id h]; exact hxeq⟩

end Units
