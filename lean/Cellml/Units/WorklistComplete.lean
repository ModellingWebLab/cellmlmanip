import Cellml.Units.WorklistSound
import Cellml.Basic.Rotation

/-! Completeness of the work list and independence of the order.
    `Loadable id defs` collects the conditions under which `_add_units` succeeds: unique names, none of them built-in,
    every definition locally well-formed, and an order exists in which each definition refers only to built-ins, base
    units and earlier definitions (no cycle, no dangling reference). None of the conditions mentions the order of the
    document. `addUnits_loadable`: success ⇒ loadable. `addUnits_complete`: loadable (and references that are
    identifiers starting with a letter or underscore, `goodIdent`) ⇒ success — proved through `loop_complete`, an invariant of the
    rotation (`List.Blocked`): the last `iteration` entries of the deque are not ready, so the counter cannot pass the length while a
    ready definition exists. `Loadable.perm`: the conditions survive a permutation of the document. -/

namespace Units
open PMap

/-- what a definition must satisfy on its own, whatever the state: zero offsets, a supported name, numbers that
    parse (positive multiplier), and no product of `dimensionless` with units that do not cancel -/
def LocalOK (id : Nat) (d : UDef) : Prop :=
  d.elems.any elemOffsetBad = false ∧ Cellml.Gen.unsupportedUnits.contains d.name = false ∧
    ∃ k c md, defMeaning id d.elems = .ok (k, c, md) ∧ (md = true → norm c = [])

/-- a member whose references already satisfy `P` can be moved to the front -/
theorem Topo.erase {P : String → Prop} : ∀ (l : List UDef) (d : UDef), Topo P l → d ∈ l → (∀ e ∈ d.elems, P e.units) →
    Topo (fun n => P n ∨ n = d.name) (l.erase d) := by
  intro l
  induction l generalizing P with
  | nil => intro d _ hd; cases hd
  | cons x xs ih =>
      intro d ht hd hready
      by_cases hx : x = d
      · subst hx
        rw [List.erase_cons_head]
        exact ht.2
      · have hbeq : (x == d) = false := by simpa using hx
        rw [List.erase_cons_tail (by simp [hbeq])]
        have hd' : d ∈ xs := by
          rcases List.mem_cons.mp hd with h | h
          · exact absurd h.symm hx
          · exact h
        refine ⟨fun e he => Or.inl (ht.1 e he), ?_⟩
        have := ih d ht.2 hd' (fun e he => Or.inl (hready e he))
        exact Topo.mono (fun n hn => by
          rcases hn with (h | h) | h
          · exact Or.inl (Or.inl h)
          · exact Or.inr h
          · exact Or.inl (Or.inr h)) _ this

theorem addNow_succeeds {id : Nat} {defs : List UDef} {reg : Registry} {st : Store} {d : UDef} (inv : Inv id defs reg st)
    (hloc : LocalOK id d) (hgood : ∀ e ∈ d.elems, mangle id e.units = prefixName id e.units)
    (hnew : st.isDefined d.name = false) (hr : ready st d = true) :
    ∃ K c, addNow reg st d =
      .ok ((prefixName id d.name, .derived K c) :: reg, { st with known := d.name :: st.known }) := by
  obtain ⟨hoff, hsup, k, c, md, hdm, hmd⟩ := hloc
  have hid := inv.sid
  subst hid
  have hres : ∀ e ∈ d.elems, allKnown reg (nameContainer (mangle st.id e.units)) = true := by
    intro e he
    rw [hgood e he]
    exact (inv.known _ (List.all_eq_true.mp hr e he)).1
  have hrr : refsResolve reg st d = true := List.all_eq_true.mpr hres
  rw [addNow_of hoff hnew]
  have hnew' := isDefined_eq_false_iff.mp hnew
  refine ⟨norm k, norm c, ?_⟩
  exact addUnit_of hdm hnew'.1 hnew'.2 hsup hrr hmd


/-- what is still to be done can be done: the remaining definitions are locally well-formed, have fresh and distinct
    names, and can be put in an order in which each only refers to what is defined by then -/
structure Pending (id : Nat) (defs : List UDef) (reg : Registry) (st : Store) (dq : List UDef) : Prop where
  inv : Inv id defs reg st
  mem : ∀ d ∈ dq, d ∈ defs ∧ d.base = false
  loc : ∀ d ∈ dq, LocalOK id d ∧ ∀ e ∈ d.elems, mangle id e.units = prefixName id e.units
  nodup : (dq.map (·.name)).Nodup
  new : ∀ d ∈ dq, st.isDefined d.name = false
  topo : ∃ ord, ord.Perm dq ∧ Topo (fun n => st.isDefined n = true) ord

theorem Pending.perm {id : Nat} {defs : List UDef} {reg : Registry} {st : Store} {dq dq' : List UDef}
    (h : Pending id defs reg st dq) (hp : dq'.Perm dq) : Pending id defs reg st dq' where
  inv := h.inv
  mem := fun d hd => h.mem d (hp.mem_iff.mp hd)
  loc := fun d hd => h.loc d (hp.mem_iff.mp hd)
  nodup := ((hp.map (·.name)).nodup_iff).mpr h.nodup
  new := fun d hd => h.new d (hp.mem_iff.mp hd)
  topo := by obtain ⟨ord, ho, ht⟩ := h.topo; exact ⟨ord, ho.trans hp.symm, ht⟩

theorem Pending.exists_ready {id : Nat} {defs : List UDef} {reg : Registry} {st : Store} {dq : List UDef}
    (h : Pending id defs reg st dq) (hne : dq ≠ []) : ∃ d ∈ dq, ready st d = true := by
  obtain ⟨ord, ho, ht⟩ := h.topo
  cases ord with
  | nil => exact absurd (List.Perm.nil_eq ho).symm hne
  | cons d ds => exact ⟨d, ho.mem_iff.mp List.mem_cons_self, ready_iff.mpr ht.1⟩

theorem Pending.step {id : Nat} {defs : List UDef} {reg : Registry} {st : Store} {d : UDef} {rest : List UDef}
    (h : Pending id defs reg st (d :: rest)) (hr : ready st d = true) {reg' : Registry}
    (hadd : addNow reg st d = .ok (reg', { st with known := d.name :: st.known })) :
    Pending id defs reg' { st with known := d.name :: st.known } rest where
  inv := inv_addNow h.inv (h.mem d List.mem_cons_self).1 (h.mem d List.mem_cons_self).2 hr
    (h.loc d List.mem_cons_self).2 hadd
  mem := fun x hx => h.mem x (List.mem_cons_of_mem _ hx)
  loc := fun x hx => h.loc x (List.mem_cons_of_mem _ hx)
  nodup := by have := h.nodup; rw [List.map_cons, List.nodup_cons] at this; exact this.2
  new := by
    intro x hx
    rw [isDefined_cons, h.new x (List.mem_cons_of_mem _ hx)]
    have := h.nodup
    rw [List.map_cons, List.nodup_cons] at this
    have hne : x.name ≠ d.name := fun heq => this.1 (heq ▸ List.mem_map_of_mem (f := (·.name)) hx)
    simpa using hne
  topo := by
    obtain ⟨ord, ho, ht⟩ := h.topo
    refine ⟨ord.erase d, ?_, ?_⟩
    · have := ho.erase d
      rwa [List.erase_cons_head] at this
    · have := Topo.erase ord d ht (ho.mem_iff.mpr List.mem_cons_self) (ready_iff.mp hr)
      refine Topo.mono ?_ _ this
      intro n hn
      rw [isDefined_cons]
      rcases hn with hn | hn
      · rw [hn]; rfl
      · rw [hn]; simp

theorem loop_complete {id : Nat} {defs : List UDef} (reg : Registry) (st : Store) (dq : List UDef) (it : Nat)
    (hit : it ≤ dq.length) : Pending id defs reg st dq → dq.Blocked (fun d => ready st d = false) it →
    ∃ r, loop reg st dq it hit = .ok r := by
  fun_induction loop reg st dq it hit with
  | case1 reg st it hit _ => intro _ _; exact ⟨_, rfl⟩
  | case2 reg st it d rest hit hr reg' st' hn _ ih =>
      intro hp _
      obtain ⟨rfl, _, _⟩ := addNow_state hn
      exact ih (hp.step hr hn) (.zero rest)
  | case3 reg st it d rest hit hr e hn _ =>
      intro hp _
      obtain ⟨K, c, hok⟩ := addNow_succeeds hp.inv (hp.loc d List.mem_cons_self).1 (hp.loc d List.mem_cons_self).2
        (hp.new d List.mem_cons_self) hr
      rw [hn] at hok; cases hok
  | case4 reg st it d rest hit hr hgt _ =>
      intro hp hb
      -- the counter has passed the length of the deque: nothing in it is ready, yet something pending is
      obtain ⟨d0, hd0, hr0⟩ := hp.exists_ready (by simp)
      rw [hb.all hgt d0 hd0] at hr0
      cases hr0
  | case5 reg st it d rest hit hr hgt _ ih =>
      intro hp hb
      exact ih (hp.perm (List.perm_append_singleton d rest)) (hb.rotate (Bool.eq_false_iff.mpr hr) hgt)

/-- the conditions on a document under which `_add_units` succeeds — none of them mentions the order -/
structure Loadable (id : Nat) (defs : List UDef) : Prop where
  nodup : (defs.map (·.name)).Nodup
  notBuiltin : ∀ d ∈ defs, Cellml.Gen.cellmlUnits.contains d.name = false
  loc : ∀ d ∈ defs, d.base = false → LocalOK id d
  topo : ∃ ord, ord.Perm (queue defs) ∧
    Topo (fun n => Cellml.Gen.cellmlUnits.contains n = true ∨ n ∈ (basesOf defs).map (·.name)) ord

theorem addNow_local {reg : Registry} {st : Store} {d : UDef} {r : Registry × Store} (h : addNow reg st d = .ok r) :
    LocalOK st.id d := by
  obtain ⟨h1, _, h3, _, hu⟩ := addNow_ok h
  obtain ⟨k, c, md, hdm, _, _, _, _, hmd, _⟩ := addUnit_ok hu
  exact ⟨h1, h3, k, c, md, hdm, hmd⟩

theorem Run.local {rs r : Registry × Store} {ord : List UDef} (h : Run NowStep rs ord r) :
    ∀ d ∈ ord, LocalOK rs.2.id d := by
  induction h with
  | nil => intro d hd; cases hd
  | cons h1 _ ih =>
      intro x hx
      rcases List.mem_cons.mp hx with rfl | hx
      · exact addNow_local h1.2
      · have := ih x hx
        rwa [h1.adds.2.1] at this


theorem addUnits_loadable {id : Nat} {defs : List UDef} {r : Registry × Store} (h : addUnits id defs = .ok r) :
    Loadable id defs := by
  obtain ⟨_, _, hpd, hr⟩ := addUnits_run h
  obtain ⟨reg0, st0, ord, hb, hp, hs⟩ := addUnits_ok h
  obtain ⟨k0, hid0⟩ := ((addBases_run defs _ _ _ hb).mono fun _ _ _ _ => BaseStep.adds).known
  simp only [List.append_nil] at k0
  have hrun := seqAdd_run ord _ _ _ hs
  refine ⟨(hpd.map _).nodup_iff.mp hr.adds.distinct.2,
    fun d hd => isDefined_false_cellml (hr.adds.distinct.1 d (hpd.mem_iff.mpr hd)), fun d hd hbase => ?_,
    ord, hp, Topo.mono (fun n hn => ?_) _ hrun.topo⟩
  · have := hrun.local d (hp.mem_iff.mpr (mem_queue.mpr ⟨hd, hbase⟩))
    rwa [hid0] at this
  · rcases isDefined_iff.mp hn with h | h
    · exact Or.inl h
    · right; rw [k0, List.mem_reverse] at h; exact h

theorem addBases_succeeds : ∀ (ds : List UDef) (reg : Registry) (st : Store),
    ((basesOf ds).map (·.name)).Nodup → (∀ d ∈ basesOf ds, st.isDefined d.name = false) →
    ∃ r, addBases reg st ds = .ok r := by
  intro ds
  induction ds with
  | nil => intro reg st _ _; exact ⟨_, rfl⟩
  | cons d ds ih =>
      intro reg st hnd hnew
      cases hbase : d.base
      · simp only [addBases, hbase, Bool.false_eq_true, if_false]
        rw [basesOf, List.filter_cons, hbase] at hnd hnew
        exact ih reg st hnd hnew
      · rw [basesOf, List.filter_cons, hbase, if_pos rfl] at hnd hnew
        rw [List.map_cons, List.nodup_cons] at hnd
        have hd := hnew d List.mem_cons_self
        simp only [addBases, hbase, if_true, addBaseUnit_of hd]
        refine ih _ _ hnd.2 ?_
        intro x hx
        rw [isDefined_cons, hnew x (List.mem_cons_of_mem _ hx)]
        have hne : x.name ≠ d.name := fun heq => hnd.1 (heq ▸ List.mem_map_of_mem (f := (·.name)) hx)
        simpa using hne

theorem addUnits_complete {id : Nat} {defs : List UDef} (hgood : GoodRefs id defs) (hl : Loadable id defs) :
    ∃ r, addUnits id defs = .ok r := by
  have hperm : ((basesOf defs).map (·.name) ++ (queue defs).map (·.name)).Perm (defs.map (·.name)) := by
    rw [← List.map_append]; exact (bases_queue_perm defs).map _
  have hnd := hperm.nodup_iff.mpr hl.nodup
  rw [List.nodup_append] at hnd
  obtain ⟨hndB, hndQ, hdisj⟩ := hnd
  have hnewB : ∀ d ∈ basesOf defs, ({ id := id, known := [] } : Store).isDefined d.name = false := by
    intro d hd
    exact isDefined_eq_false_iff.mpr ⟨hl.notBuiltin d (mem_basesOf.mp hd).1, rfl⟩
  obtain ⟨⟨reg0, st0⟩, hb⟩ := addBases_succeeds defs builtinRegistry _ hndB hnewB
  have hrun := addBases_run defs _ _ _ hb
  have inv0 := hrun.preserves (I := fun rs => Inv id defs rs.1 rs.2)
    (fun d hd _ _ hs inv => inv_addBase inv (mem_basesOf.mp hd).1 hs.1 hs.2) (inv_init id defs)
  obtain ⟨k0, _⟩ := (hrun.mono fun _ _ _ _ => BaseStep.adds).known
  simp only [List.append_nil] at k0
  unfold addUnits
  rw [hb]
  simp only
  apply loop_complete (id := id) (defs := defs)
  · refine ⟨inv0, fun d hd => mem_queue.mp hd, ?_, hndQ, ?_, ?_⟩
    · intro d hd
      have := mem_queue.mp hd
      exact ⟨hl.loc d this.1 this.2, hgood d this.1 this.2⟩
    · intro d hd
      cases hx : st0.isDefined d.name
      · rfl
      · exfalso
        rcases isDefined_iff.mp hx with h | h
        · rw [hl.notBuiltin d (mem_queue.mp hd).1] at h; cases h
        · rw [k0, List.mem_reverse] at h
          exact hdisj _ h _ (List.mem_map_of_mem (f := (·.name)) hd) rfl
    · obtain ⟨ord, ho, ht⟩ := hl.topo
      refine ⟨ord, ho, Topo.mono ?_ _ ht⟩
      intro n hn
      refine isDefined_iff.mpr ?_
      rcases hn with h | h
      · exact Or.inl h
      · right; rw [k0, List.mem_reverse]; exact h
  · exact .zero _

/-- under `GoodRefs`, `Loadable` is exactly the set of documents the work list loads -/
theorem addUnits_ok_iff {id : Nat} {defs : List UDef} (hgood : GoodRefs id defs) :
    (∃ r, addUnits id defs = .ok r) ↔ Loadable id defs :=
  ⟨fun ⟨_, h⟩ => addUnits_loadable h, addUnits_complete hgood⟩

theorem queue_perm {defs₁ defs₂ : List UDef} (hp : defs₁.Perm defs₂) : (queue defs₁).Perm (queue defs₂) :=
  ((List.reverse_perm _).trans (hp.filter _)).trans (List.reverse_perm _).symm

theorem basesOf_perm {defs₁ defs₂ : List UDef} (hp : defs₁.Perm defs₂) : (basesOf defs₁).Perm (basesOf defs₂) :=
  hp.filter _

theorem Loadable.perm {id : Nat} {defs₁ defs₂ : List UDef} (hp : defs₁.Perm defs₂) (h : Loadable id defs₁) :
    Loadable id defs₂ where
  nodup := ((hp.map (·.name)).nodup_iff).mp h.nodup
  notBuiltin := fun d hd => h.notBuiltin d (hp.mem_iff.mpr hd)
  loc := fun d hd => h.loc d (hp.mem_iff.mpr hd)
  topo := by
    obtain ⟨ord, ho, ht⟩ := h.topo
    refine ⟨ord, ho.trans (queue_perm hp), Topo.mono ?_ _ ht⟩
    intro n hn
    rcases hn with hn | hn
    · exact Or.inl hn
    · exact Or.inr ((((basesOf_perm hp).map (·.name)).mem_iff).mp hn)

theorem GoodRefs.perm {id : Nat} {defs₁ defs₂ : List UDef} (hp : defs₁.Perm defs₂) (h : GoodRefs id defs₁) :
    GoodRefs id defs₂ := fun d hd => h d (hp.mem_iff.mpr hd)

/-- two orders of one document, both loaded: every defined name means the same in both (`addUnits_sound` twice;
    denotations are unique) -/
theorem addUnits_perm_meaning {id : Nat} {defs₁ defs₂ : List UDef} (hp : defs₁.Perm defs₂) (hgood : GoodRefs id defs₁)
    {reg₁ reg₂ : Registry} {st₁ st₂ : Store} (h₁ : addUnits id defs₁ = .ok (reg₁, st₁))
    (h₂ : addUnits id defs₂ = .ok (reg₂, st₂)) {n : String} (hn : st₁.isDefined n = true) :
    meaningOf reg₁ st₁ n ≃₂ meaningOf reg₂ st₂ n := by
  obtain ⟨x, hx, hxeq⟩ := addUnits_sound hgood h₁ hn
  obtain ⟨y, hy, hyeq⟩ := addUnits_sound (hgood.perm hp) h₂ (by
    rw [isDefined_iff] at hn ⊢
    exact hn.imp_right ((addUnits_known h₁).trans ((hp.map _).trans (addUnits_known h₂).symm)).mem_iff.mp)
  have hl := addUnits_loadable h₂
  exact hxeq.trans ((nameDen_functional hl.nodup hl.notBuiltin (hx.mono hp.subset) hy).trans hyeq.symm)

theorem Topo.refs {P : String → Prop} (ord : List UDef) (ht : Topo P ord) :
    ∀ d ∈ ord, ∀ e ∈ d.elems, P e.units ∨ e.units ∈ ord.map (·.name) := by
  intro d hd e he
  obtain ⟨pre, post, rfl⟩ := List.append_of_mem hd
  rcases Topo.refs_prefix pre d post ht e he with h | h
  · exact Or.inl h
  · right; simp only [List.map_append, List.mem_append]; exact Or.inl h

/-- a successful sequential addition contains no group of definitions that all wait for one another -/
theorem Run.no_cycle {rs r : Registry × Store} {ord : List UDef} (h : Run NowStep rs ord r) : ∀ (cyc : List UDef),
    (∀ d ∈ cyc, d ∈ ord ∧ ∃ e ∈ d.elems, ∃ d' ∈ cyc, e.units = d'.name) → cyc = [] := by
  induction h with
  | nil =>
      intro cyc hc
      cases cyc with
      | nil => rfl
      | cons d ds => exact absurd (hc d List.mem_cons_self).1 (by simp)
  | @cons rs _ _ x xs h1 h2 ih =>
      intro cyc hc
      have hfresh := ((Run.cons h1 h2).mono fun _ _ _ _ => NowStep.adds).distinct.1
      have hx : x ∉ cyc := by
        intro hx
        obtain ⟨_, e, he, d', hd', heq⟩ := hc x hx
        have h1 := ready_iff.mp h1.1 e he
        rw [heq, hfresh d' (hc d' hd').1] at h1
        cases h1
      refine ih cyc fun d hd => ?_
      obtain ⟨hm, rest⟩ := hc d hd
      refine ⟨?_, rest⟩
      rcases List.mem_cons.mp hm with heq | hm
      · exact absurd (heq ▸ hd) hx
      · exact hm

end Units
