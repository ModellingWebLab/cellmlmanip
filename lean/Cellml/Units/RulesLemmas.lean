import Cellml.Units.Rules
import Cellml.Units.Lemmas

/-! Lemmas about the rule graph search and about conversion along a rule path. -/

namespace Units
open PMap

theorem mkRule_eq (reg : Registry) (f t : Container) (fs : List RFactor) :
    mkRule reg f t fs =
      ⟨dimsOf reg f, dimsOf reg t, norm (kappa fs).1, norm (kappa fs).2.1, norm (kappa fs).2.2⟩ := rfl

/-- `d` can be reached from `s` along enabled transformations -/
inductive Reach (rules : List Rule) : Dims → Dims → Prop where
  | refl (s : Dims) : Reach rules s s
  | step (r : Rule) (d : Dims) : r ∈ rules → Reach rules r.dst d → Reach rules r.src d

theorem reach_start {rules : List Rule} {s d : Dims} (h : Reach rules s d) : s = d ∨ ∃ r ∈ rules, r.src = s := by
  cases h with
  | refl => left; rfl
  | step r d hr _ => right; exact ⟨r, hr, rfl⟩

theorem mem_walks_zero {rules : List Rule} {s d : Dims} {p : List Dims} :
    p ∈ walks rules 0 s d ↔ s = d ∧ p = [] := by
  unfold walks
  by_cases h : s = d <;> simp [h]

theorem mem_walks_succ {rules : List Rule} {n : Nat} {s d : Dims} {p : List Dims} :
    p ∈ walks rules (n + 1) s d ↔ ∃ r ∈ rules, r.src = s ∧ ∃ q ∈ walks rules n r.dst d, p = r.dst :: q := by
  simp only [walks, List.mem_flatMap, List.mem_filter, List.mem_map, decide_eq_true_eq]
  constructor
  · rintro ⟨r, ⟨hr, hs⟩, q, hq, rfl⟩; exact ⟨r, hr, hs, q, hq, rfl⟩
  · rintro ⟨r, hr, hs, q, hq, rfl⟩; exact ⟨r, ⟨hr, hs⟩, q, hq, rfl⟩

theorem reach_of_mem_walks {rules : List Rule} : ∀ {n : Nat} {s d : Dims} {p : List Dims},
    p ∈ walks rules n s d → Reach rules s d := by
  intro n
  induction n with
  | zero => intro s d p h; obtain ⟨rfl, _⟩ := mem_walks_zero.mp h; exact Reach.refl _
  | succ n ih =>
      intro s d p h
      obtain ⟨r, hr, rfl, q, hq, _⟩ := mem_walks_succ.mp h
      exact Reach.step r d hr (ih hq)

theorem length_of_mem_walks {rules : List Rule} : ∀ {n : Nat} {s d : Dims} {p : List Dims},
    p ∈ walks rules n s d → p.length = n := by
  intro n
  induction n with
  | zero => intro s d p h; obtain ⟨_, rfl⟩ := mem_walks_zero.mp h; rfl
  | succ n ih =>
      intro s d p h
      obtain ⟨r, _, _, q, hq, rfl⟩ := mem_walks_succ.mp h
      simp [ih hq]

theorem search_succ (rules : List Rule) (s d : Dims) (fuel n : Nat) :
    search rules s d (fuel + 1) n =
      match walks rules n s d with
      | p :: _ => some p
      | [] => search rules s d fuel (n + 1) := rfl

theorem mem_walks_of_search {rules : List Rule} {s d : Dims} : ∀ {fuel n : Nat} {p : List Dims},
    search rules s d fuel n = some p → ∃ k, p ∈ walks rules k s d := by
  intro fuel
  induction fuel with
  | zero => intro n p h; simp [search] at h
  | succ fuel ih =>
      intro n p h
      rw [search_succ] at h
      split at h
      · rename_i q t hw
        simp only [Option.some.injEq] at h
        subst h
        exact ⟨n, by rw [hw]; simp⟩
      · exact ih h

theorem reach_of_findPath {rules : List Rule} {s d : Dims} {p : List Dims} (h : findPath rules s d = some p) :
    Reach rules s d := by
  obtain ⟨k, hk⟩ := mem_walks_of_search h
  exact reach_of_mem_walks hk

theorem findPath_none_of_not_reach {rules : List Rule} {s d : Dims} (h : ¬ Reach rules s d) :
    findPath rules s d = none := by
  cases hp : findPath rules s d with
  | none => rfl
  | some p => exact absurd (reach_of_findPath hp) h

theorem findPath_self (rules : List Rule) (s : Dims) : findPath rules s s = some [] := by
  simp [findPath, search_succ, walks]

theorem lookupRule_some {rules : List Rule} {s d : Dims} {r : Rule} (h : lookupRule rules s d = some r) :
    r ∈ rules ∧ r.src = s ∧ r.dst = d := by
  unfold lookupRule at h
  have h1 := List.mem_of_find?_eq_some h
  have h2 := List.find?_some h
  simp only [Bool.and_eq_true, decide_eq_true_eq] at h2
  exact ⟨h1, h2.1, h2.2⟩

theorem lookupRule_none {rules : List Rule} {s d : Dims} (h : lookupRule rules s d = none) :
    ∀ r ∈ rules, ¬ (r.src = s ∧ r.dst = d) := by
  unfold lookupRule at h
  intro r hr hc
  have := List.find?_eq_none.mp h r hr
  simp [hc.1, hc.2] at this

theorem lookupRule_cons (r : Rule) (rules : List Rule) (s d : Dims) :
    lookupRule (r :: rules) s d = if r.src = s ∧ r.dst = d then some r else lookupRule rules s d := by
  unfold lookupRule
  rw [List.find?_cons, ← Bool.decide_and]
  by_cases h : r.src = s ∧ r.dst = d
  · rw [if_pos h, decide_eq_true h]
  · rw [if_neg h, decide_eq_false h]

/-! ### the bounded search is complete and returns a shortest path -/

/-- a path written as the list of rules used -/
inductive RChain (rules : List Rule) : Dims → List Rule → Dims → Prop where
  | nil (s : Dims) : RChain rules s [] s
  | cons (r : Rule) (rs : List Rule) (d : Dims) : r ∈ rules → RChain rules r.dst rs d → RChain rules r.src (r :: rs) d

theorem rchain_of_reach {rules : List Rule} {s d : Dims} (h : Reach rules s d) : ∃ rs, RChain rules s rs d := by
  induction h with
  | refl s => exact ⟨[], RChain.nil s⟩
  | step r d hr _ ih => obtain ⟨rs, hrs⟩ := ih; exact ⟨r :: rs, RChain.cons r rs d hr hrs⟩

theorem rchain_mem {rules : List Rule} {s d : Dims} {rs : List Rule} (h : RChain rules s rs d) :
    ∀ x ∈ rs, x ∈ rules := by
  induction h with
  | nil s => intro x hx; cases hx
  | cons r rs d hr _ ih =>
      intro x hx
      simp only [List.mem_cons] at hx
      rcases hx with rfl | hx
      · exact hr
      · exact ih x hx

theorem rchain_suffix {rules : List Rule} {s d : Dims} {xs zs : List Rule} {r : Rule}
    (h : RChain rules s (xs ++ r :: zs) d) : RChain rules r.dst zs d := by
  induction xs generalizing s with
  | nil =>
      simp only [List.nil_append] at h
      cases h with
      | cons _ _ _ _ ht => exact ht
  | cons x xs ih =>
      simp only [List.cons_append] at h
      cases h with
      | cons _ _ _ _ ht => exact ih ht

/-- loops can be cut out: there is a chain that uses every rule at most once -/
theorem rchain_nodup {rules : List Rule} {s d : Dims} {rs : List Rule} (h : RChain rules s rs d) :
    ∃ rs', RChain rules s rs' d ∧ rs'.Nodup := by
  induction h with
  | nil s => exact ⟨[], RChain.nil s, List.nodup_nil⟩
  | cons r rs d hr _ ih =>
      obtain ⟨rs', hc, hn⟩ := ih
      by_cases hmem : r ∈ rs'
      · obtain ⟨xs, zs, rfl⟩ := List.append_of_mem hmem
        refine ⟨r :: zs, RChain.cons r zs d hr (rchain_suffix hc), ?_⟩
        exact (List.nodup_append.mp hn).2.1
      · exact ⟨r :: rs', RChain.cons r rs' d hr hc, List.nodup_cons.mpr ⟨hmem, hn⟩⟩

theorem mem_walks_of_rchain {rules : List Rule} {s d : Dims} {rs : List Rule} (h : RChain rules s rs d) :
    rs.map (·.dst) ∈ walks rules rs.length s d := by
  induction h with
  | nil s => exact mem_walks_zero.mpr ⟨rfl, rfl⟩
  | cons r rs d hr _ ih =>
      simp only [List.length_cons, List.map_cons]
      exact mem_walks_succ.mpr ⟨r, hr, rfl, _, ih, rfl⟩

theorem lookupRule_of_mem {rules : List Rule} {r : Rule} (hr : r ∈ rules) :
    ∃ r', lookupRule rules r.src r.dst = some r' := by
  cases h : lookupRule rules r.src r.dst with
  | some r' => exact ⟨r', rfl⟩
  | none => exact absurd ⟨rfl, rfl⟩ (lookupRule_none h r hr)

/-- the transformations applied along a walk are a chain of enabled rules from its start to its end: the `none` branch
    of `rulesAlong` is never taken -/
theorem rulesAlong_chain {rules : List Rule} : ∀ {n : Nat} {s d : Dims} {p : List Dims},
    p ∈ walks rules n s d → RChain rules s (rulesAlong rules s p) d := by
  intro n
  induction n with
  | zero => intro s d p h; obtain ⟨rfl, rfl⟩ := mem_walks_zero.mp h; exact RChain.nil _
  | succ n ih =>
      intro s d p h
      obtain ⟨r, hr, rfl, q, hq, rfl⟩ := mem_walks_succ.mp h
      obtain ⟨r', hr'⟩ := lookupRule_of_mem hr
      obtain ⟨hmem, hs, hd⟩ := lookupRule_some hr'
      simp only [rulesAlong, hr']
      rw [← hs]
      exact RChain.cons r' _ d hmem (by rw [hd]; exact ih hq)

theorem search_finds {rules : List Rule} {s d : Dims} {n : Nat} (hn : walks rules n s d ≠ []) :
    ∀ (fuel k : Nat), k ≤ n → n < k + fuel → ∃ p, search rules s d fuel k = some p := by
  intro fuel
  induction fuel with
  | zero => intro k h1 h2; omega
  | succ fuel ih =>
      intro k h1 h2
      rw [search_succ]
      cases hw : walks rules k s d with
      | cons p t => exact ⟨p, rfl⟩
      | nil =>
          have hkn : k ≠ n := fun h => hn (h ▸ hw)
          exact ih (k + 1) (by omega) (by omega)

/-- completeness: whatever can be reached is found (a loop-free path has at most `rules.length` hops) -/
theorem findPath_complete {rules : List Rule} {s d : Dims} (h : Reach rules s d) :
    ∃ p, findPath rules s d = some p := by
  obtain ⟨rs, hc⟩ := rchain_of_reach h
  obtain ⟨rs', hc', hn⟩ := rchain_nodup hc
  have hlen := hn.length_le_of_subset (rchain_mem hc')
  have hw : walks rules rs'.length s d ≠ [] := by
    intro he
    have := mem_walks_of_rchain hc'
    rw [he] at this; cases this
  exact search_finds hw (rules.length + 1) 0 (Nat.zero_le _) (by omega)

theorem findPath_none_iff {rules : List Rule} {s d : Dims} : findPath rules s d = none ↔ ¬ Reach rules s d := by
  constructor
  · intro h hr
    obtain ⟨p, hp⟩ := findPath_complete hr
    rw [h] at hp; cases hp
  · exact findPath_none_of_not_reach

theorem search_minimal {rules : List Rule} {s d : Dims} : ∀ {fuel n : Nat} {p : List Dims},
    search rules s d fuel n = some p → n ≤ p.length ∧ ∀ k, n ≤ k → k < p.length → walks rules k s d = [] := by
  intro fuel
  induction fuel with
  | zero => intro n p h; simp [search] at h
  | succ fuel ih =>
      intro n p h
      rw [search_succ] at h
      split at h
      · rename_i q t hw
        simp only [Option.some.injEq] at h
        subst h
        have : q.length = n := length_of_mem_walks (by rw [hw]; simp)
        exact ⟨by omega, fun k h1 h2 => by omega⟩
      · rename_i hw
        obtain ⟨h1, h2⟩ := ih h
        refine ⟨by omega, fun k hk1 hk2 => ?_⟩
        by_cases hkn : k = n
        · rw [hkn]; exact hw
        · exact h2 k (by omega) hk2

theorem findPath_shortest {rules : List Rule} {s d : Dims} {p : List Dims} (h : findPath rules s d = some p)
    (k : Nat) (q : List Dims) (hq : q ∈ walks rules k s d) : p.length ≤ k := by
  have := (search_minimal h).2 k (Nat.zero_le _)
  by_cases hk : k < p.length
  · rw [this hk] at hq; cases hq
  · omega

theorem findPath_mem {rules : List Rule} {s d : Dims} {p : List Dims} (h : findPath rules s d = some p) :
    p ∈ walks rules p.length s d := by
  obtain ⟨n, hn⟩ := mem_walks_of_search h
  rw [length_of_mem_walks hn]; exact hn

theorem findPath_direct {rules : List Rule} {s d : Dims} {r : Rule} (hne : s ≠ d)
    (h : lookupRule rules s d = some r) : findPath rules s d = some [d] := by
  obtain ⟨hr, hs, hd⟩ := lookupRule_some h
  have hw : [d] ∈ walks rules 1 s d :=
    mem_walks_succ.mpr ⟨r, hr, hs, [], mem_walks_zero.mpr ⟨hd, rfl⟩, by rw [hd]⟩
  obtain ⟨p, hp⟩ := findPath_complete (reach_of_mem_walks hw)
  rw [hp]
  match p, findPath_shortest hp 1 _ hw, findPath_mem hp with
  | [], _, hm => exact absurd (mem_walks_zero.mp hm).1 hne
  | [x], _, hm =>
      obtain ⟨r', _, _, q, hq, he⟩ := mem_walks_succ.mp hm
      obtain ⟨hd', rfl⟩ := mem_walks_zero.mp hq
      rw [he, hd']
  | _ :: _ :: _, hl, _ => simp at hl

theorem findPath_chain {rules : List Rule} {s m d : Dims} {r₁ r₂ : Rule} (hne : s ≠ d)
    (hdirect : lookupRule rules s d = none)
    (h₁ : lookupRule rules s m = some r₁) (h₂ : lookupRule rules m d = some r₂)
    (huniq : ∀ r ∈ rules, r.src = s → (∃ r' ∈ rules, r'.src = r.dst ∧ r'.dst = d) → r.dst = m) :
    findPath rules s d = some [m, d] := by
  obtain ⟨hr₁, hs₁, hd₁⟩ := lookupRule_some h₁
  obtain ⟨hr₂, hs₂, hd₂⟩ := lookupRule_some h₂
  have hw : [m, d] ∈ walks rules 2 s d := by
    refine mem_walks_succ.mpr ⟨r₁, hr₁, hs₁, [d], ?_, by rw [hd₁]⟩
    exact mem_walks_succ.mpr ⟨r₂, hr₂, by rw [hs₂, hd₁], [], mem_walks_zero.mpr ⟨hd₂, rfl⟩, by rw [hd₂]⟩
  obtain ⟨p, hp⟩ := findPath_complete (reach_of_mem_walks hw)
  rw [hp]
  match p, findPath_shortest hp 2 _ hw, findPath_mem hp with
  | [], _, hm => exact absurd (mem_walks_zero.mp hm).1 hne
  | [x], _, hm =>
      obtain ⟨r', hr', hs', q, hq, _⟩ := mem_walks_succ.mp hm
      exact absurd ⟨hs', (mem_walks_zero.mp hq).1⟩ (lookupRule_none hdirect r' hr')
  | [x, y], _, hm =>
      obtain ⟨ra, hra, hsa, q, hq, he⟩ := mem_walks_succ.mp hm
      obtain ⟨rb, hrb, hsb, q', hq', rfl⟩ := mem_walks_succ.mp hq
      obtain ⟨hdb, rfl⟩ := mem_walks_zero.mp hq'
      rw [he, huniq ra hra hsa ⟨rb, hrb, hsb, hdb⟩, hdb]
  | _ :: _ :: _ :: _, hl, _ => simp at hl

theorem convertWithRules_known {reg : Registry} {rules : List Rule} {a b : Container}
    (ha : allKnown reg a = true) (hb : allKnown reg b = true) :
    convertWithRules reg rules a b =
      match findPath rules (dimsOf reg a) (dimsOf reg b) with
      | none =>
          match factor reg a b with
          | .ok f => .ok (f, [])
          | .error e => .error e
      | some path =>
          match factor reg (add a (pathUnit (rulesAlong rules (dimsOf reg a) path))) b with
          | .ok f => .ok (norm (add f (pathScale (rulesAlong rules (dimsOf reg a) path))),
                          norm (pathSyms (rulesAlong rules (dimsOf reg a) path)))
          | .error e => .error e := by
  unfold convertWithRules
  simp only [ha, hb, Bool.and_self, Bool.not_true, Bool.false_eq_true, if_false]
  rfl

theorem convertWithRules_unknown {reg : Registry} {rules : List Rule} {a b : Container}
    (h : (allKnown reg a && allKnown reg b) = false) :
    convertWithRules reg rules a b = .error .undefinedUnit := by
  unfold convertWithRules
  simp [h]

theorem convertWithRules_path {reg : Registry} {rules : List Rule} {a b : Container} {p : List Dims}
    (ha : allKnown reg a = true) (hb : allKnown reg b = true)
    (hp : findPath rules (dimsOf reg a) (dimsOf reg b) = some p) :
    convertWithRules reg rules a b =
      match factor reg (add a (pathUnit (rulesAlong rules (dimsOf reg a) p))) b with
      | .ok f => .ok (norm (add f (pathScale (rulesAlong rules (dimsOf reg a) p))),
                      norm (pathSyms (rulesAlong rules (dimsOf reg a) p)))
      | .error e => .error e := by
  rw [convertWithRules_known ha hb, hp]

theorem convertWithRules_direct {reg : Registry} {rules : List Rule} {a b : Container} {r : Rule}
    (ha : allKnown reg a = true) (hb : allKnown reg b = true) (hne : dimsOf reg a ≠ dimsOf reg b)
    (hr : lookupRule rules (dimsOf reg a) (dimsOf reg b) = some r) :
    convertWithRules reg rules a b =
      match factor reg (add a r.kunit) b with
      | .ok f => .ok (norm (add f (add r.kscale [])), norm (add r.ksyms []))
      | .error e => .error e := by
  rw [convertWithRules_path ha hb (findPath_direct hne hr)]
  simp only [rulesAlong, hr, pathUnit, pathScale, pathSyms, add_nil]

def pathRules (rules : List Rule) (s d : Dims) : List Rule :=
  match findPath rules s d with
  | some p => rulesAlong rules s p
  | none => []

/-- multiplying by no κ at all is the ordinary conversion: the factor is in canonical form already -/
theorem convert_no_rules (reg : Registry) (a b : Container) :
    (match factor reg (add a (pathUnit [])) b with
      | .ok f => Except.ok (norm (add f (pathScale [])), norm (pathSyms []))
      | .error e => .error e) =
    (match factor reg a b with
      | .ok f => Except.ok (f, ([] : Syms))
      | .error e => .error e) := by
  rw [show pathUnit [] = [] from rfl, add_nil]
  cases hf : factor reg a b with
  | error e => rfl
  | ok f =>
      obtain ⟨_, _, _, rfl⟩ := (factor_ok_iff reg a b f).mp hf
      show Except.ok (norm (add (norm _) []), norm []) = _
      rw [add_nil, norm_idem]
      rfl

/-- **`convertWithRules` in one form, path or no path, known units or not**: multiply by every κ of `pathRules`, then the
    ordinary conversion (which also reports unknown units) -/
theorem convertWithRules_eq (reg : Registry) (rules : List Rule) (a b : Container) :
    convertWithRules reg rules a b =
      match factor reg (add a (pathUnit (pathRules rules (dimsOf reg a) (dimsOf reg b)))) b with
      | .ok f => .ok (norm (add f (pathScale (pathRules rules (dimsOf reg a) (dimsOf reg b)))),
                      norm (pathSyms (pathRules rules (dimsOf reg a) (dimsOf reg b))))
      | .error e => .error e := by
  cases hk : (allKnown reg a && allKnown reg b) with
  | false =>
      rw [convertWithRules_unknown hk, factor_unknown (by rw [allKnown_add_eq, Bool.and_right_comm, hk]; rfl)]
  | true =>
      simp only [Bool.and_eq_true] at hk
      rw [convertWithRules_known hk.1 hk.2]
      unfold pathRules
      cases findPath rules (dimsOf reg a) (dimsOf reg b) with
      | some p => rfl
      | none => exact (convert_no_rules reg a b).symm

theorem rulesAlong_nil : ∀ (s : Dims) (p : List Dims), rulesAlong [] s p = []
  | _, [] => rfl
  | _, d :: p => rulesAlong_nil d p

theorem convertWithRules_no_rules (reg : Registry) (a b : Container) :
    convertWithRules reg [] a b =
      match factor reg a b with
      | .ok f => .ok (f, [])
      | .error e => .error e := by
  have : pathRules [] (dimsOf reg a) (dimsOf reg b) = [] := by
    unfold pathRules; split
    · exact rulesAlong_nil _ _
    · rfl
  rw [convertWithRules_eq, this]
  exact convert_no_rules reg a b

theorem convertWithRules_unreachable {reg : Registry} {rules : List Rule} {a b : Container}
    (ha : allKnown reg a = true) (hb : allKnown reg b = true)
    (hun : ¬ Reach rules (dimsOf reg a) (dimsOf reg b)) :
    convertWithRules reg rules a b = .error .dimensionality := by
  have hne : ¬ dimsOf reg a ≃ dimsOf reg b := fun h => hun (dimsOf_eq_of_equiv h ▸ Reach.refl _)
  rw [convertWithRules_known ha hb, findPath_none_of_not_reach hun, factor_mismatch ha hb hne]

/-- rules are directional: a rule that ENDS at the source dimension does not help -/
theorem convertWithRules_no_start {reg : Registry} {rules : List Rule} {a b : Container}
    (ha : allKnown reg a = true) (hb : allKnown reg b = true) (hne : dimsOf reg a ≠ dimsOf reg b)
    (h : ∀ r ∈ rules, r.src ≠ dimsOf reg a) : convertWithRules reg rules a b = .error .dimensionality :=
  convertWithRules_unreachable ha hb fun hr => (reach_start hr).elim hne fun ⟨r, hr, hs⟩ => h r hr hs

/-- when the dimensions agree no rule is consulted -/
theorem convertWithRules_same_dims (reg : Registry) (rules : List Rule) (a b : Container)
    (hd : dimsOf reg a = dimsOf reg b) :
    convertWithRules reg rules a b =
      match factor reg a b with
      | .ok f => .ok (f, [])
      | .error e => .error e := by
  rw [convertWithRules_eq, pathRules, hd, findPath_self]
  exact convert_no_rules reg a b

theorem convertWithRules_nil (reg : Registry) (rules : List Rule) :
    convertWithRules reg rules [] [] = .ok ([], []) := by
  rw [convertWithRules_same_dims reg rules [] [] rfl, factor_nil]

theorem factor_with_kappa {reg : Registry} {a b k : Container} {f : Scale}
    (h : factor reg (add a k) b = .ok f) :
    f ≃ add (sub (toRoot reg a).1 (toRoot reg b).1) (toRoot reg k).1 := by
  have e := factor_ratio reg _ _ f h
  have m := (toRoot_add reg a k).1
  intro p
  have := e p; have := m p
  simp only [get_add, get_sub] at *
  grind

theorem pathUnit_dims {reg : Registry} {rules : List Rule} {s d : Dims} {rs : List Rule} (hc : RChain rules s rs d)
    (hk : ∀ r ∈ rs, allKnown reg r.kunit = true ∧ dimsOf reg r.kunit ≃ sub r.dst r.src) :
    allKnown reg (pathUnit rs) = true ∧ dimsOf reg (pathUnit rs) ≃ sub d s := by
  induction hc with
  | nil s => exact ⟨rfl, by rw [show pathUnit [] = [] from rfl, dimsOf_nil]; intro p; simp only [get_sub, get_nil]; grind⟩
  | cons r rs d _ _ ih =>
      obtain ⟨ih₁, ih₂⟩ := ih (fun x hx => hk x (List.mem_cons_of_mem _ hx))
      obtain ⟨h₁, h₂⟩ := hk r List.mem_cons_self
      refine ⟨by rw [pathUnit, allKnown_add_eq, h₁, ih₁]; rfl, (dimsOf_add reg _ _).trans ?_⟩
      intro p
      have := h₂ p; have := ih₂ p
      simp only [get_add, get_sub] at *
      grind

/-! ### `UnitStore.convert`: the special case for the unit `dimensionless` -/

/-- The inverse route that `UnitStore.convert` takes for `dimensionless → (unit without dimension)` gives exactly what
    the direct route gives: the special case cannot be observed. -/
theorem convertQ_eq (reg : Registry) (rules : List Rule) (a b : Container) :
    convertQ reg rules a b = convertWithRules reg rules a b := by
  unfold convertQ
  split
  · rename_i hc
    have ha0 : a ≃ ([] : Container) := by
      intro p; rw [← get_norm a p, hc.1]
    have hda : dimsOf reg a = [] := by rw [dimsOf_congr reg ha0, dimsOf_nil]
    have hd : dimsOf reg a = dimsOf reg b := by rw [hda, hc.2]
    rw [convertWithRules_same_dims reg rules b a hd.symm, convertWithRules_same_dims reg rules a b hd]
    cases hk : (allKnown reg a && allKnown reg b) with
    | false =>
        have hk' : (allKnown reg b && allKnown reg a) = false := by rw [Bool.and_comm]; exact hk
        rw [factor_unknown hk, factor_unknown hk']
    | true =>
        simp only [Bool.and_eq_true] at hk
        have hab : factor reg a b = .ok (norm (sub (toRoot reg a).1 (toRoot reg b).1)) :=
          (factor_ok_iff reg a b _).mpr ⟨hk.1, hk.2, beq_iff_equiv.mpr (hd ▸ Equiv.refl _), rfl⟩
        have hba : factor reg b a = .ok (norm (sub (toRoot reg b).1 (toRoot reg a).1)) :=
          (factor_ok_iff reg b a _).mpr ⟨hk.2, hk.1, beq_iff_equiv.mpr (hd ▸ Equiv.refl _), rfl⟩
        rw [hab, hba]
        have e1 : norm (neg (norm (sub (toRoot reg b).1 (toRoot reg a).1))) =
            norm (sub (toRoot reg a).1 (toRoot reg b).1) := by
          apply norm_eq_of_equiv
          intro p; simp only [get_neg, get_norm, get_sub]; grind
        have e2 : norm (neg ([] : Syms)) = [] := rfl
        simp only [e1, e2]
  · rfl

end Units
