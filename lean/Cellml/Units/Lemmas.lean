import Cellml.Units.Conv
import Cellml.Units.Builtin
import Cellml.Basic.PMapCanon

/-! Algebra of the mini-pint: expansion to root units (`expand`, `toRoot`) and `dimsOfRoot` respect semantic equality
    and are additive and homogeneous. All statements are semantic (`≃` = equal exponent of every key) and hold for
    unnormalised representations too. -/

namespace Units
open PMap

def Equiv₂ (x y : Scale × Container) : Prop := x.1 ≃ y.1 ∧ x.2 ≃ y.2
infix:50 " ≃₂ " => Equiv₂

theorem Equiv₂.refl (x : Scale × Container) : x ≃₂ x := ⟨Equiv.refl _, Equiv.refl _⟩
theorem Equiv₂.symm {x y : Scale × Container} (h : x ≃₂ y) : y ≃₂ x := ⟨h.1.symm, h.2.symm⟩
theorem Equiv₂.trans {x y z : Scale × Container} (h₁ : x ≃₂ y) (h₂ : y ≃₂ z) : x ≃₂ z :=
  ⟨h₁.1.trans h₂.1, h₁.2.trans h₂.2⟩

theorem expand_congr (reg : Registry) : ∀ (x y : Scale × Container), x ≃₂ y → expand reg x ≃₂ expand reg y := by
  induction reg with
  | nil => intro x y h; simpa [expand] using h
  | cons hd tl ih =>
      intro x y h
      obtain ⟨n, d⟩ := hd
      obtain ⟨s, c⟩ := x
      obtain ⟨s', c'⟩ := y
      cases d with
      | base dim => simpa [expand] using ih _ _ h
      | derived k of =>
          simp only [expand]
          apply ih
          obtain ⟨hs, hc⟩ := h
          simp only at hs hc
          refine ⟨?_, ?_⟩
          · intro p; simp only [get_add, get_smul, hs p, hc n]
          · intro p; simp only [get_add, get_sub, get_smul, get_single, hc p, hc n]

/-- the step behind the frame lemmas of a load and behind locality (`Units/Local.lean`): an entry whose key has
    coefficient 0 does nothing -/
theorem expand_cons_zero (n : String) (d : UnitDef) (reg : Registry) (s : Scale) (c : Container)
    (h : get c n = 0) : expand ((n, d) :: reg) (s, c) ≃₂ expand reg (s, c) := by
  cases d with
  | base dim => exact Equiv₂.refl _
  | derived k of =>
      refine expand_congr reg _ _ ⟨?_, ?_⟩
      · intro p; simp only [get_add, get_smul, h]; grind
      · intro p; simp only [get_add, get_sub, get_smul, get_single, h]; grind

theorem expand_add (reg : Registry) : ∀ (s₁ s₂ : Scale) (c₁ c₂ : Container),
    expand reg (add s₁ s₂, add c₁ c₂) ≃₂
      (add (expand reg (s₁, c₁)).1 (expand reg (s₂, c₂)).1, add (expand reg (s₁, c₁)).2 (expand reg (s₂, c₂)).2) := by
  induction reg with
  | nil => intro s₁ s₂ c₁ c₂; exact Equiv₂.refl _
  | cons hd tl ih =>
      intro s₁ s₂ c₁ c₂
      obtain ⟨n, d⟩ := hd
      cases d with
      | base dim => simpa [expand] using ih s₁ s₂ c₁ c₂
      | derived k of =>
          simp only [expand]
          refine Equiv₂.trans (expand_congr tl _ _ ?_) (ih _ _ _ _)
          refine ⟨?_, ?_⟩
          · intro p; simp only [get_add, get_smul]; grind
          · intro p; simp only [get_add, get_sub, get_smul, get_single]; grind

theorem expand_smul (reg : Registry) (q : Rat) : ∀ (s : Scale) (c : Container),
    expand reg (smul q s, smul q c) ≃₂ (smul q (expand reg (s, c)).1, smul q (expand reg (s, c)).2) := by
  induction reg with
  | nil => intro s c; exact Equiv₂.refl _
  | cons hd tl ih =>
      intro s c
      obtain ⟨n, d⟩ := hd
      cases d with
      | base dim => simpa [expand] using ih s c
      | derived k of =>
          simp only [expand]
          refine Equiv₂.trans (expand_congr tl _ _ ?_) (ih _ _)
          refine ⟨?_, ?_⟩
          · intro p; simp only [get_add, get_smul]; grind
          · intro p; simp only [get_add, get_sub, get_smul, get_single]; grind

theorem nil_add_nil : (add ([] : Scale) []) = [] := rfl

theorem toRoot_congr (reg : Registry) {a b : Container} (h : a ≃ b) : toRoot reg a ≃₂ toRoot reg b :=
  expand_congr reg _ _ ⟨Equiv.refl _, h⟩

/-- `get_base_units(a * b) = get_base_units(a) * get_base_units(b)` -/
theorem toRoot_add (reg : Registry) (a b : Container) :
    toRoot reg (add a b) ≃₂ (add (toRoot reg a).1 (toRoot reg b).1, add (toRoot reg a).2 (toRoot reg b).2) := by
  have := expand_add reg [] [] a b
  simpa [toRoot, nil_add_nil] using this

/-- `get_base_units(a ** q) = get_base_units(a) ** q` -/
theorem toRoot_smul (reg : Registry) (q : Rat) (a : Container) :
    toRoot reg (smul q a) ≃₂ (smul q (toRoot reg a).1, smul q (toRoot reg a).2) := by
  have := expand_smul reg q [] a
  simpa [toRoot, smul] using this

/-- `dimensionless` has no scale and no root unit -/
theorem toRoot_nil (reg : Registry) : toRoot reg [] ≃₂ (([] : Scale), ([] : Container)) := by
  have h := toRoot_smul reg 0 []
  rw [show smul (0 : Rat) ([] : Container) = [] from rfl] at h
  refine h.trans ⟨?_, ?_⟩ <;> intro p <;> simp only [get_smul, get_nil] <;> grind

theorem dimsOfRoot_congr (reg : Registry) {a b : Container} (h : a ≃ b) : dimsOfRoot reg a ≃ dimsOfRoot reg b := by
  induction reg with
  | nil => exact Equiv.refl _
  | cons hd tl ih =>
      obtain ⟨n, d⟩ := hd
      cases d with
      | base dim =>
          cases dim with
          | none => simpa [dimsOfRoot] using ih
          | some dn => intro p; simp only [dimsOfRoot, get_add, get_single, h n, ih p]
      | derived k of => simpa [dimsOfRoot] using ih

theorem dimsOfRoot_add (reg : Registry) (a b : Container) :
    dimsOfRoot reg (add a b) ≃ add (dimsOfRoot reg a) (dimsOfRoot reg b) := by
  induction reg with
  | nil => intro p; simp only [dimsOfRoot, get_add, get_nil]; grind
  | cons hd tl ih =>
      obtain ⟨n, d⟩ := hd
      cases d with
      | base dim =>
          cases dim with
          | none => simpa [dimsOfRoot] using ih
          | some dn => intro p; simp only [dimsOfRoot, get_add, get_single, ih p]; grind
      | derived k of => simpa [dimsOfRoot] using ih

theorem dimsOfRoot_smul (reg : Registry) (q : Rat) (a : Container) :
    dimsOfRoot reg (smul q a) ≃ smul q (dimsOfRoot reg a) := by
  induction reg with
  | nil => intro p; simp only [dimsOfRoot, get_smul, get_nil]; grind
  | cons hd tl ih =>
      obtain ⟨n, d⟩ := hd
      cases d with
      | base dim =>
          cases dim with
          | none => simpa [dimsOfRoot] using ih
          | some dn => intro p; simp only [dimsOfRoot, get_add, get_smul, get_single, ih p]; grind
      | derived k of => simpa [dimsOfRoot] using ih

theorem dimsOfRoot_cons_zero (n : String) (d : UnitDef) (reg : Registry) {c : Container} (h : get c n = 0) :
    dimsOfRoot ((n, d) :: reg) c ≃ dimsOfRoot reg c := by
  cases d with
  | derived k of => exact Equiv.refl _
  | base dim =>
      cases dim with
      | none => exact Equiv.refl _
      | some dn => intro p; simp only [dimsOfRoot, get_add, get_single, h]; grind

theorem dimsOfRoot_nil (reg : Registry) : dimsOfRoot reg [] ≃ [] := by
  have h := dimsOfRoot_smul reg 0 []
  rw [show smul (0 : Rat) ([] : Container) = [] from rfl] at h
  intro k; have := h k; simp only [get_smul, get_nil] at this ⊢; grind

theorem dimsOf_equiv (reg : Registry) (c : Container) : dimsOf reg c ≃ dimsOfRoot reg (toRoot reg c).2 :=
  (norm_equiv _).trans (dimsOfRoot_congr reg (norm_equiv _))

theorem allKnown_add_eq (reg : Registry) (a b : Container) :
    allKnown reg (add a b) = (allKnown reg a && allKnown reg b) := List.all_append

theorem allKnown_smul_eq (reg : Registry) (q : Rat) (a : Container) : allKnown reg (smul q a) = allKnown reg a := by
  simp [allKnown, smul, List.all_map, Function.comp_def]

theorem allKnown_nil (reg : Registry) : allKnown reg [] = true := rfl

/-! ### `dimsOf` is a canonical form, and additive -/

theorem dimsOf_eq_of_equiv {reg : Registry} {a b : Container} (h : dimsOf reg a ≃ dimsOf reg b) :
    dimsOf reg a = dimsOf reg b := by
  have := norm_eq_of_equiv h
  simpa only [dimsOf, norm_idem] using this

theorem dimsOf_add (reg : Registry) (a b : Container) :
    dimsOf reg (add a b) ≃ add (dimsOf reg a) (dimsOf reg b) := by
  refine (dimsOf_equiv reg _).trans ?_
  refine (dimsOfRoot_congr reg (toRoot_add reg a b).2).trans ?_
  refine (dimsOfRoot_add reg _ _).trans ?_
  exact add_congr (dimsOf_equiv reg a).symm (dimsOf_equiv reg b).symm

theorem dimsOf_smul (reg : Registry) (q : Rat) (a : Container) : dimsOf reg (smul q a) ≃ smul q (dimsOf reg a) := by
  refine (dimsOf_equiv reg _).trans ?_
  refine (dimsOfRoot_congr reg (toRoot_smul reg q a).2).trans ?_
  refine (dimsOfRoot_smul reg q _).trans ?_
  exact smul_congr q (dimsOf_equiv reg a).symm

theorem dimsOf_congr (reg : Registry) {a b : Container} (h : a ≃ b) : dimsOf reg a = dimsOf reg b := by
  apply dimsOf_eq_of_equiv
  refine (dimsOf_equiv reg a).trans ?_
  refine (dimsOfRoot_congr reg (toRoot_congr reg h).2).trans ?_
  exact (dimsOf_equiv reg b).symm

theorem dimsOf_nil (reg : Registry) : dimsOf reg ([] : Container) = [] := by
  have h : dimsOf reg ([] : Container) ≃ ([] : Dims) :=
    (dimsOf_equiv reg []).trans ((dimsOfRoot_congr reg (toRoot_nil reg).2).trans (dimsOfRoot_nil reg))
  simpa only [dimsOf, norm_idem, show norm ([] : Dims) = [] from rfl] using norm_eq_of_equiv h

theorem factor_ok_iff (reg : Registry) (a b : Container) (f : Scale) :
    factor reg a b = .ok f ↔
      (allKnown reg a = true ∧ allKnown reg b = true ∧ beq (dimsOf reg a) (dimsOf reg b) = true ∧
        f = norm (sub (toRoot reg a).1 (toRoot reg b).1)) := by
  unfold factor
  cases ha : allKnown reg a <;> cases hb : allKnown reg b <;> cases hd : beq (dimsOf reg a) (dimsOf reg b) <;>
    simp [eq_comm]

/-- the two classes pint raises in a conversion, and when -/
theorem factor_error_iff {reg : Registry} {a b : Container} {e : UErr} :
    factor reg a b = .error e ↔
      ((allKnown reg a && allKnown reg b) = false ∧ e = .undefinedUnit) ∨
      (allKnown reg a = true ∧ allKnown reg b = true ∧ beq (dimsOf reg a) (dimsOf reg b) = false ∧
        e = .dimensionality) := by
  unfold factor
  cases ha : allKnown reg a <;> cases hb : allKnown reg b <;> cases hd : beq (dimsOf reg a) (dimsOf reg b) <;>
    simp [eq_comm]

theorem factor_unknown {reg : Registry} {a b : Container}
    (h : (allKnown reg a && allKnown reg b) = false) : factor reg a b = .error .undefinedUnit :=
  factor_error_iff.mpr (.inl ⟨h, rfl⟩)

theorem factor_of_dims {reg : Registry} {a b : Container} (ha : allKnown reg a = true) (hb : allKnown reg b = true)
    (hd : dimsOf reg a ≃ dimsOf reg b) : factor reg a b = .ok (norm (sub (toRoot reg a).1 (toRoot reg b).1)) :=
  (factor_ok_iff reg a b _).mpr ⟨ha, hb, beq_iff_equiv.mpr hd, rfl⟩

theorem factor_mismatch {reg : Registry} {a b : Container} (ha : allKnown reg a = true) (hb : allKnown reg b = true)
    (hd : ¬ dimsOf reg a ≃ dimsOf reg b) : factor reg a b = .error .dimensionality :=
  factor_error_iff.mpr (.inr ⟨ha, hb, Bool.eq_false_iff.mpr fun h => hd (beq_iff_equiv.mp h), rfl⟩)

theorem factor_ratio (reg : Registry) (a b : Container) (f : Scale) (h : factor reg a b = .ok f) :
    f ≃ sub (toRoot reg a).1 (toRoot reg b).1 := by
  obtain ⟨_, _, _, rfl⟩ := (factor_ok_iff reg a b f).mp h
  exact norm_equiv _

theorem factor_symm {reg : Registry} {a b : Container} {f : Scale} (h : factor reg a b = .ok f) :
    factor reg b a = .ok (norm (sub (toRoot reg b).1 (toRoot reg a).1)) := by
  obtain ⟨ha, hb, hd, _⟩ := (factor_ok_iff reg a b f).mp h
  exact factor_of_dims hb ha (equiv_of_beq hd).symm

theorem factor_mul {reg : Registry} {a b c d : Container} {f g : Scale} (h₁ : factor reg a b = .ok f)
    (h₂ : factor reg c d = .ok g) : ∃ k, factor reg (add a c) (add b d) = .ok k ∧ k ≃ add f g := by
  obtain ⟨ha, hb, hab, rfl⟩ := (factor_ok_iff reg a b f).mp h₁
  obtain ⟨hc, hd, hcd, rfl⟩ := (factor_ok_iff reg c d g).mp h₂
  refine ⟨_, factor_of_dims (by rw [allKnown_add_eq, ha, hc]; rfl) (by rw [allKnown_add_eq, hb, hd]; rfl)
    ((dimsOf_add reg a c).trans ((add_congr (equiv_of_beq hab) (equiv_of_beq hcd)).trans (dimsOf_add reg b d).symm)),
    fun p => ?_⟩
  have := (toRoot_add reg a c).1 p; have := (toRoot_add reg b d).1 p
  simp only [get_norm, get_add, get_sub] at *
  grind

theorem factor_pow {reg : Registry} {a b : Container} {f : Scale} (q : Rat) (h : factor reg a b = .ok f) :
    ∃ k, factor reg (smul q a) (smul q b) = .ok k ∧ k ≃ smul q f := by
  obtain ⟨ha, hb, hab, rfl⟩ := (factor_ok_iff reg a b f).mp h
  refine ⟨_, factor_of_dims (by rw [allKnown_smul_eq, ha]) (by rw [allKnown_smul_eq, hb])
    ((dimsOf_smul reg q a).trans ((smul_congr q (equiv_of_beq hab)).trans (dimsOf_smul reg q b).symm)), fun p => ?_⟩
  have := (toRoot_smul reg q a).1 p; have := (toRoot_smul reg q b).1 p
  simp only [get_norm, get_smul, get_sub] at *
  grind

theorem isEquivalent_iff (reg : Registry) (a b : Container) :
    isEquivalent reg a b = true ↔ toRoot reg a ≃₂ toRoot reg b := by
  simp only [isEquivalent, Bool.and_eq_true, beq_iff_equiv, Equiv₂, and_comm]

theorem isEquivalent_refl (reg : Registry) (a : Container) : isEquivalent reg a a = true :=
  (isEquivalent_iff reg a a).mpr (Equiv₂.refl _)

theorem isEquivalent_symm {reg : Registry} {a b : Container} (h : isEquivalent reg a b = true) :
    isEquivalent reg b a = true :=
  (isEquivalent_iff reg b a).mpr ((isEquivalent_iff reg a b).mp h).symm

theorem isEquivalent_trans {reg : Registry} {a b c : Container} (h₁ : isEquivalent reg a b = true)
    (h₂ : isEquivalent reg b c = true) : isEquivalent reg a c = true :=
  (isEquivalent_iff reg a c).mpr (((isEquivalent_iff reg a b).mp h₁).trans ((isEquivalent_iff reg b c).mp h₂))

theorem factor_of_isEquivalent {reg : Registry} {a b : Container} (ha : allKnown reg a = true)
    (hb : allKnown reg b = true) (h : isEquivalent reg a b = true) : factor reg a b = .ok [] := by
  obtain ⟨hs, hc⟩ := (isEquivalent_iff reg a b).mp h
  rw [factor_of_dims ha hb (by simp only [dimsOf, norm_eq_of_equiv hc]; exact Equiv.refl _),
    -- the scales agree, so their quotient is the canonical form of a map that is zero everywhere
    norm_eq_nil_of_zero _ fun p => by simp only [get_sub, hs p]; grind]

theorem factor_refl {reg : Registry} {a : Container} (h : allKnown reg a = true) : factor reg a a = .ok [] :=
  factor_of_isEquivalent h h (isEquivalent_refl reg a)

theorem factor_nil (reg : Registry) : factor reg [] [] = .ok [] := factor_refl rfl

theorem isEquivalent_iff_factor {reg : Registry} {a b : Container} (ha : allKnown reg a = true)
    (hb : allKnown reg b = true) :
    isEquivalent reg a b = true ↔ (factor reg a b = .ok [] ∧ (toRoot reg a).2 ≃ (toRoot reg b).2) := by
  refine ⟨fun h => ⟨factor_of_isEquivalent ha hb h, ((isEquivalent_iff reg a b).mp h).2⟩, ?_⟩
  rintro ⟨hf, hr⟩
  refine (isEquivalent_iff reg a b).mpr ⟨fun p => ?_, hr⟩
  have := factor_ratio reg a b [] hf p
  simp only [get_nil, get_sub] at this
  grind

end Units
