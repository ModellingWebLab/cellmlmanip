import Cellml.Units.Worklist

/-! The meaning of a set of `<units>` definitions according to the CellML specification (1.1, section 5.2.2 / 5.4.2),
    written as an inductive relation straight from the formula

        ⟦units⟧ = ∏ over its <unit> children of  multiplier · (10^prefix · ⟦referenced units⟧)^exponent

    A meaning is a pair (scale to the root units, root-unit exponents); scales are prime-exponent maps, so a product is
    `PMap.add`, a power is `PMap.smul`. The relation refers to the definitions only through membership, hence it cannot
    depend on their order. Built-in units get their meaning from the table `Units.builtinRoots`, which
    `Cellml.Props.C03` proves equal, entry by entry, to table 2 of the specification. Core Lean only. -/

namespace Units
open PMap

/-- power of ten of the `prefix` attribute (default 0) -/
def elemPrefix (e : UnitElem) : Option Int :=
  match e.pfx with
  | none => some 0
  | some p => prefixPower p

/-- the `exponent` attribute (default 1) -/
def elemExponent (e : UnitElem) : Option Rat :=
  match e.exponent with
  | none => some 1
  | some t => Decimal.parse t

/-- the `multiplier` attribute (default 1) as a scale; defined for positive multipliers -/
def elemMultiplier (e : UnitElem) : Option Scale :=
  match e.multiplier with
  | none => some []
  | some t => (Decimal.parse t).bind Factor.rat

/-- multiplier · (10^prefix · x)^exponent -/
def elemDen (k : Int) (q : Rat) (m : Scale) (x : Scale × Container) : Scale × Container :=
  (add m (smul q (add (pow10 k) x.1)), smul q x.2)

/-- product of two meanings -/
def mulDen (x y : Scale × Container) : Scale × Container := (add x.1 y.1, add x.2 y.2)

/-- meaning of a built-in name: `dimensionless` is the empty product, the others come from the table -/
def builtinDen (n : String) : Option (Scale × Container) :=
  if n = "dimensionless" then some ([], []) else builtinRoots.lookup n

/-- `Den id defs elems x`: the product of the `<unit>` children `elems` means `x`, given the definitions `defs`
    (`id` only names the new root units that `base_units="yes"` definitions introduce) -/
inductive Den (id : Nat) (defs : List UDef) : List UnitElem → Scale × Container → Prop
  | nil : Den id defs [] ([], [])
  | builtin {e : UnitElem} {es : List UnitElem} {k : Int} {q : Rat} {m : Scale} {x y : Scale × Container} :
      elemPrefix e = some k → elemExponent e = some q → elemMultiplier e = some m →
      Cellml.Gen.cellmlUnits.contains e.units = true → builtinDen e.units = some x →
      Den id defs es y → Den id defs (e :: es) (mulDen (elemDen k q m x) y)
  | base {e : UnitElem} {es : List UnitElem} {k : Int} {q : Rat} {m : Scale} {d : UDef} {y : Scale × Container} :
      elemPrefix e = some k → elemExponent e = some q → elemMultiplier e = some m →
      d ∈ defs → d.base = true → d.name = e.units →
      Den id defs es y → Den id defs (e :: es) (mulDen (elemDen k q m ([], [(prefixName id d.name, 1)])) y)
  | user {e : UnitElem} {es : List UnitElem} {k : Int} {q : Rat} {m : Scale} {d : UDef} {x y : Scale × Container} :
      elemPrefix e = some k → elemExponent e = some q → elemMultiplier e = some m →
      d ∈ defs → d.base = false → d.name = e.units → Den id defs d.elems x →
      Den id defs es y → Den id defs (e :: es) (mulDen (elemDen k q m x) y)

/-- meaning of a NAME: a built-in, a new base unit, or a user definition -/
inductive NameDen (id : Nat) (defs : List UDef) : String → Scale × Container → Prop
  | builtin {n : String} {x : Scale × Container} :
      Cellml.Gen.cellmlUnits.contains n = true → builtinDen n = some x → NameDen id defs n x
  | base {d : UDef} : d ∈ defs → d.base = true → NameDen id defs d.name ([], [(prefixName id d.name, 1)])
  | user {d : UDef} {x : Scale × Container} : d ∈ defs → d.base = false → Den id defs d.elems x → NameDen id defs d.name x

/-- the definitions enter only through membership: adding definitions to a document does not change what the others
    mean, and the order of the document is irrelevant -/
theorem Den.mono {id : Nat} {defs defs' : List UDef} (h : defs ⊆ defs') {es : List UnitElem}
    {x : Scale × Container} (hd : Den id defs es x) : Den id defs' es x := by
  induction hd with
  | nil => exact .nil
  | builtin h1 h2 h3 h4 h5 _ ih => exact .builtin h1 h2 h3 h4 h5 ih
  | base h1 h2 h3 hm hb hn _ ih => exact .base h1 h2 h3 (h hm) hb hn ih
  | user h1 h2 h3 hm hb hn _ _ ihx ih => exact .user h1 h2 h3 (h hm) hb hn ihx ih

theorem NameDen.mono {id : Nat} {defs defs' : List UDef} (h : defs ⊆ defs') {n : String}
    {x : Scale × Container} (hd : NameDen id defs n x) : NameDen id defs' n x := by
  cases hd with
  | builtin h1 h2 => exact .builtin h1 h2
  | base hm hb => exact .base (h hm) hb
  | user hm hb hx => exact .user (h hm) hb (hx.mono h)

end Units
