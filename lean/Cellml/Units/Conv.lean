import Cellml.Units.Define

/-! `UnitStore.convert`, `get_conversion_factor` (units.py 240-297) over the mini-pint (`is_equivalent` is
    `Units.isEquivalent` in `Units/Core.lean`). -/
namespace Units

/-- `get_conversion_factor`: `none` result stands for the int `1` the code returns when the factor is within 1e-9 of one
    (in the exact model: when it *is* one). -/
def conversionFactor (reg : Registry) (a b : Container) : Except UErr (Option Scale) :=
  match factor reg a b with
  | .ok f => .ok (if f = [] then none else some f)
  | .error e => .error e

/-- `convert(q·a, b)`: magnitude multiplier and the unit of the result (the special case of `UnitStore.convert` for the
    unit `dimensionless` is in `Units.convertQ`, `Units/Rules.lean`). -/
def convert (reg : Registry) (a b : Container) : Except UErr (Scale × Container) :=
  match factor reg a b with
  | .ok f => .ok (f, b)
  | .error e => .error e

end Units
