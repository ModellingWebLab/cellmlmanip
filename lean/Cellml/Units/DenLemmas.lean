import Cellml.Units.Den
import Cellml.Units.Lemmas
import Cellml.Basic.ListLemmas

/-! `Den` is functional (up to semantic equality of scales and containers) when names are unique and never built-in. -/
namespace Units
open PMap

theorem elemDen_congr (k : Int) (q : Rat) (m : Scale) {x x' : Scale × Container} (h : x ≃₂ x') :
    elemDen k q m x ≃₂ elemDen k q m x' := by
  obtain ⟨h1, h2⟩ := h
  refine ⟨?_, ?_⟩
  · intro p; simp only [elemDen, get_add, get_smul, h1 p]
  · intro p; simp only [elemDen, get_smul, h2 p]

theorem mulDen_congr {x x' y y' : Scale × Container} (hx : x ≃₂ x') (hy : y ≃₂ y') : mulDen x y ≃₂ mulDen x' y' := by
  refine ⟨?_, ?_⟩
  · intro p; simp only [mulDen, get_add, hx.1 p, hy.1 p]
  · intro p; simp only [mulDen, get_add, hx.2 p, hy.2 p]

theorem den_functional {id : Nat} {defs : List UDef} (hnd : (defs.map (·.name)).Nodup)
    (hnb : ∀ d ∈ defs, Cellml.Gen.cellmlUnits.contains d.name = false)
    {es : List UnitElem} {x y : Scale × Container} (hx : Den id defs es x) (hy : Den id defs es y) : x ≃₂ y := by
  have huniq : ∀ d ∈ defs, ∀ d' ∈ defs, d.name = d'.name → d = d' := List.inj_of_nodup_map _ _ hnd
  induction hx generalizing y with
  | nil => cases hy; exact Equiv₂.refl _
  | @builtin e es k q m x0 y0 h1 h2 h3 h4 h5 _ ih =>
      cases hy with
      | builtin g1 g2 g3 g4 g5 gy =>
          rw [h1] at g1; rw [h2] at g2; rw [h3] at g3; rw [h5] at g5
          cases g1; cases g2; cases g3; cases g5
          exact mulDen_congr (Equiv₂.refl _) (ih gy)
      | base g1 g2 g3 gm gb gn gy => rw [← gn, hnb _ gm] at h4; cases h4
      | user g1 g2 g3 gm gb gn gx gy => rw [← gn, hnb _ gm] at h4; cases h4
  | @base e es k q m d y0 h1 h2 h3 hm hb hn _ ih =>
      cases hy with
      | builtin g1 g2 g3 g4 g5 gy => rw [← hn, hnb _ hm] at g4; cases g4
      | @base _ _ _ _ _ d' _ g1 g2 g3 gm gb gn gy =>
          rw [h1] at g1; rw [h2] at g2; rw [h3] at g3
          cases g1; cases g2; cases g3
          have := huniq d hm d' gm (hn.trans gn.symm)
          subst this
          exact mulDen_congr (Equiv₂.refl _) (ih gy)
      | @user _ _ _ _ _ d' _ _ g1 g2 g3 gm gb gn gx gy =>
          have := huniq d hm d' gm (hn.trans gn.symm)
          subst this
          rw [hb] at gb; cases gb
  | @user e es k q m d x0 y0 h1 h2 h3 hm hb hn _ _ ihx ih =>
      cases hy with
      | builtin g1 g2 g3 g4 g5 gy => rw [← hn, hnb _ hm] at g4; cases g4
      | @base _ _ _ _ _ d' _ g1 g2 g3 gm gb gn gy =>
          have := huniq d hm d' gm (hn.trans gn.symm)
          subst this
          rw [hb] at gb; cases gb
      | @user _ _ _ _ _ d' _ _ g1 g2 g3 gm gb gn gx gy =>
          rw [h1] at g1; rw [h2] at g2; rw [h3] at g3
          cases g1; cases g2; cases g3
          have := huniq d hm d' gm (hn.trans gn.symm)
          subst this
          exact mulDen_congr (elemDen_congr _ _ _ (ihx gx)) (ih gy)

theorem nameDen_functional {id : Nat} {defs : List UDef} (hnd : (defs.map (·.name)).Nodup)
    (hnb : ∀ d ∈ defs, Cellml.Gen.cellmlUnits.contains d.name = false)
    {n : String} {x y : Scale × Container} (hx : NameDen id defs n x) (hy : NameDen id defs n y) : x ≃₂ y := by
  have huniq : ∀ d ∈ defs, ∀ d' ∈ defs, d.name = d'.name → d = d' := List.inj_of_nodup_map _ _ hnd
  cases hx with
  | builtin h1 h2 =>
      cases hy with
      | builtin g1 g2 => rw [h2] at g2; cases g2; exact Equiv₂.refl _
      | base gm gb => rw [hnb _ gm] at h1; cases h1
      | user gm gb gx => rw [hnb _ gm] at h1; cases h1
  | @base d hm hb =>
      generalize hn : d.name = n at hy
      cases hy with
      | builtin g1 g2 => rw [← hn, hnb _ hm] at g1; cases g1
      | @base d' gm gb =>
          have := huniq d hm d' gm hn
          subst this; exact Equiv₂.refl _
      | @user d' _ gm gb gx =>
          have := huniq d hm d' gm hn
          subst this; rw [hb] at gb; cases gb
  | @user d x0 hm hb hx =>
      generalize hn : d.name = n at hy
      cases hy with
      | builtin g1 g2 => rw [← hn, hnb _ hm] at g1; cases g1
      | @base d' gm gb =>
          have := huniq d hm d' gm hn
          subst this; rw [hb] at gb; cases gb
      | @user d' _ gm gb gx =>
          have := huniq d hm d' gm hn
          subst this; exact den_functional hnd hnb hx gx
end Units
