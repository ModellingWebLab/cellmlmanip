import Cellml.Props.C08
import Cellml.Tie.ModelState
import Cellml.Tie.Cmeta
import Cellml.Tie.RolesQueries

/-! # C08, stated about the GENERATED code

    `Props/C08.lean` proves its theorems about the hand model `Model.step` / `Model.run`. Here the same statements are
    made about `genStep` / `genRun`, whose every API call is the Lean definition GENERATED from the python source of
    `cellmlmanip/model.py` (`lean/Cellml/Generated/Code/ModelState.lean`, `Cmeta.lean`, `Roles.lean`), and proved as
    corollaries through the tie theorems (`Tie/ModelState.lean`, `Tie/Cmeta.lean`, `Tie/RolesQueries.lean`).

    * `GOp`: a python call with ALL its arguments (the hand model's `Op` drops `units`, the interfaces, the shape of
      a `Derivative`'s `args`, the RDF store `add_cmeta_id` reads for the display name).
    * `Dom s g`: the domain hypotheses of the ties that the invariant does not give:
      the variable handed to `remove_variable` / `add_cmeta_id` / `transfer_cmeta_id` / `get_definition` is a variable of
      the model; the unit name handed to `add_variable` is known to the unit store; the `DerivShape` is one sympy can
      produce for the order of the left-hand side.
    * The calls that have no generated definition here (`create_quantity`, the two graph properties) are the
      constructor `GOp.hand`; they are run by the hand model and are NOT covered by this file.
    * The two queries `qStates` / `qFree` return the state unchanged by the shape of `genStep` (the generated
      functions are pure readers of a view of it); what is tied is their answer. -/

namespace Cellml.Props.C08Gen
open Model
open Cellml.Tie (PyErr)
open Cellml.Tie.PModelState (DerivShape UnitArg outcome)
open Cellml.Gen

/-- the API calls with no generated definition in the ModelState / Cmeta / Roles packages -/
inductive HandOp | createQuantity | qGraph | qGraphNum
deriving DecidableEq, Repr

def HandOp.toOp : HandOp → Op
  | .createQuantity => .createQuantity
  | .qGraph => .qGraph
  | .qGraphNum => .qGraphNum

/-- one python call on a `Model` object, with all its arguments -/
inductive GOp
  | addVariable (name : String) (units : UnitArg) (init : Option Rat) (pub priv cmeta : Option String)
  | removeVariable (v : Nat)
  | addEquation (shape : DerivShape) (e : Eqn)
  | removeEquation (e : Eqn)
  | addCmetaId (rdf : List Triple) (v : Nat)
  | transferCmetaId (rdf : List Triple) (src dst : Nat)
  | qDefinition (v : Nat)
  | qStates (rhs : Nat → Expr) (sort : Bool)
  | qFree (rhs : Nat → Expr)
  | hand (op : HandOp)

/-- the call the hand model sees -/
def GOp.toOp : GOp → Op
  | .addVariable n _ i _ _ c => .addVariable n c i
  | .removeVariable v => .removeVariable v
  | .addEquation _ e => .addEquation e
  | .removeEquation e => .removeEquation e
  | .addCmetaId _ v => .addCmetaId v
  | .transferCmetaId _ a b => .transferCmetaId a b
  | .qDefinition v => .qDefinition v
  | .qStates _ _ => .qStates
  | .qFree _ => .qFree
  | .hand op => op.toOp

theorem toOp_eq_hand {g : GOp} (q : HandOp) (h : g.toOp = q.toOp) : g = .hand q := by
  cases g with
  | hand op => cases op <;> cases q <;> cases h <;> rfl
  | _ => cases q <;> cases h

/-- forget the returned value -/
def unit {α σ} (r : Except PyErr α × σ) : Except PyErr Unit × σ := (r.1.map (fun _ => ()), r.2)

/-- **one API call, run by the generated code**: returned / exception class, and the model object afterwards -/
def genStep (s : MState) : GOp → Except PyErr Unit × MState
  | .addVariable n u i pu pr c => unit ((ModelState.addVariable n u i pu pr c).run s)
  | .removeVariable v => (ModelState.removeVariable v).run s
  | .addEquation sh e => (ModelState.addEquation sh e true).run s
  | .removeEquation e => (ModelState.removeEquation e).run s
  | .addCmetaId rdf v => ((Cmeta.addCmetaId v ⟨s, rdf⟩).1, (Cmeta.addCmetaId v ⟨s, rdf⟩).2.m)
  | .transferCmetaId rdf a b => ((Cmeta.transferCmetaId a b ⟨s, rdf⟩).1, (Cmeta.transferCmetaId a b ⟨s, rdf⟩).2.m)
  | .qDefinition v => unit ((ModelState.getDefinition v).run s)
  | .qStates rhs sort => ((Roles.getStateVariables ⟨s, rhs⟩ sort).map (fun _ => ()), s)
  | .qFree rhs => ((Roles.getFreeVariable ⟨s, rhs⟩).map (fun _ => ()), s)
  | .hand op => outcome () (step s op.toOp)

/-- a history of python calls on a new model, run by the generated code -/
def genRun (mc : Option String) (ops : List GOp) : MState := ops.foldl (fun s g => (genStep s g).2) (init mc)

/-- the domain hypotheses of the ties that `Inv` does not give -/
def Dom (s : MState) : GOp → Prop
  | .addVariable _ u _ _ _ _ => u ≠ .name false
  | .removeVariable v => isLive s v = true
  | .addEquation sh e => ∀ st t o, e.lhs = .deriv st t o → sh.ok o
  | .removeEquation _ => True
  | .addCmetaId _ v => isLive s v = true
  | .transferCmetaId _ a b => isLive s a = true ∧ isLive s b = true
  | .qDefinition v => isLive s v = true
  | .qStates _ _ => True
  | .qFree _ => True
  | .hand _ => True

/-- `Dom` at every point of a history -/
def HistDomFrom : MState → List GOp → Prop
  | _, [] => True
  | s, g :: r => Dom s g ∧ HistDomFrom (genStep s g).2 r

def HistDom (mc : Option String) (ops : List GOp) : Prop := HistDomFrom (init mc) ops

theorem unit_outcome {α} (a : α) (r : MState × Outcome) : unit (outcome a r) = outcome () r := by
  obtain ⟨s, o⟩ := r
  cases o <;> rfl

/-- the two views (`Tie/CmetaView`, `Tie/ModelStateView`) report a model-side outcome alike, except for the name of the
    conventional out-of-fuel error -/
theorem liftM_eq_outcome (s : MState) (rdf : List Triple) (r : MState × Outcome) (h : r.2 ≠ .raised .cmetaFuel) :
    ((Cellml.Tie.PCmeta.liftM ⟨s, rdf⟩ r).1, (Cellml.Tie.PCmeta.liftM ⟨s, rdf⟩ r).2.m) = outcome () r := by
  obtain ⟨s1, o⟩ := r
  cases o with
  | ok => rfl
  | raised e =>
    cases e with
    | cmetaFuel => exact absurd rfl h
    | _ => rfl

/-- **the generated code and the hand model make the same call**: same state afterwards, returned iff returned, same
    exception class — for every state satisfying the invariant and every call in the domain of the ties -/
theorem genStep_eq (s : MState) (h : Inv s) (g : GOp) (hd : Dom s g) :
    genStep s g = outcome () (step s g.toOp) := by
  cases g with
  | addVariable n u i pu pr c =>
    show unit _ = _
    rw [Cellml.Tie.PModelState.addVariable_tie_of_inv s h n u i pu pr c hd, unit_outcome]; rfl
  | removeVariable v => exact Cellml.Tie.PModelState.removeVariable_tie_of_inv s h v hd
  | addEquation sh e => exact Cellml.Tie.PModelState.step_addEquation_tie s e sh hd
  | removeEquation e => exact Cellml.Tie.PModelState.step_removeEquation_tie s e
  | addCmetaId rdf v =>
    show ((Cmeta.addCmetaId v ⟨s, rdf⟩).1, (Cmeta.addCmetaId v ⟨s, rdf⟩).2.m) = outcome () (addCmetaId s v)
    rw [Cellml.Tie.PCmeta.addCmetaId_tie ⟨s, rdf⟩ v hd]
    exact liftM_eq_outcome s rdf _ (by rw [addCmetaId_returns hd]; simp)
  | transferCmetaId rdf a b =>
    show ((Cmeta.transferCmetaId a b ⟨s, rdf⟩).1, (Cmeta.transferCmetaId a b ⟨s, rdf⟩).2.m)
      = outcome () (transferCmetaId s a b)
    rw [Cellml.Tie.PCmeta.transferCmetaId_tie ⟨s, rdf⟩ a b hd.1 hd.2 (h.reg.liveBound b (by simpa [isLive] using hd.2))]
    refine liftM_eq_outcome s rdf _ ?_
    unfold transferCmetaId
    repeat' split
    all_goals simp
  | qDefinition v =>
    show unit _ = outcome () (if isLive s v then (s, .ok) else (s, .raised .notInModel))
    have hd' : isLive s v = true := hd
    rw [Cellml.Tie.PModelState.getDefinition_tie, hd']
    rfl
  | qStates rhs sort =>
    show ((Roles.getStateVariables ⟨s, rhs⟩ sort).map (fun _ => ()), s) = outcome () (s, .ok)
    rw [Cellml.Tie.PRoles.getStateVariables_tie]
    rfl
  | qFree rhs =>
    show ((Roles.getFreeVariable ⟨s, rhs⟩).map (fun _ => ()), s)
      = outcome () (s, match getFreeVariable s with | some _ => .ok | none => .raised .valueError)
    rw [Cellml.Tie.PRoles.getFreeVariable_tie ⟨s, rhs⟩ (Cellml.Tie.PRoles.odeLhsOk_of_inv ⟨s, rhs⟩ h.eq)]
    show ((Cellml.Tie.PRoles.optErr "ValueError" (getFreeVariable s)).map (fun _ => ()), s) = _
    cases getFreeVariable s <;> rfl
  | hand op => rfl

theorem genStep_state (s : MState) (h : Inv s) (g : GOp) (hd : Dom s g) : (genStep s g).2 = (step s g.toOp).1 := by
  rw [genStep_eq s h g hd]
  rcases step s g.toOp with ⟨s1, o⟩
  cases o <;> rfl

theorem raised_of_gen {s s' : MState} (h : Inv s) {g : GOp} (hd : Dom s g) {e : PyErr}
    (hs : genStep s g = (.error e, s')) : ∃ x, step s g.toOp = (s', .raised x) := by
  rw [genStep_eq s h g hd] at hs
  rcases hr : step s g.toOp with ⟨s1, o⟩
  rw [hr] at hs
  cases o with
  | ok => cases hs
  | raised x =>
    simp only [outcome, Prod.mk.injEq] at hs
    exact ⟨x, by rw [hs.2]⟩

theorem genRun_from (ops : List GOp) : ∀ (s : MState), Inv s → HistDomFrom s ops →
    ops.foldl (fun s g => (genStep s g).2) s = (ops.map GOp.toOp).foldl (fun s op => (step s op).1) s := by
  induction ops with
  | nil => intro s _ _; rfl
  | cons g r ih =>
    intro s h hd
    simp only [List.foldl_cons, List.map_cons]
    have e := genStep_state s h g hd.1
    have hd2 := hd.2
    rw [e] at hd2 ⊢
    exact ih _ (C08.inv_step s g.toOp h) hd2

theorem genRun_eq (mc : Option String) (ops : List GOp) (hd : HistDom mc ops) :
    genRun mc ops = run mc (ops.map GOp.toOp) :=
  genRun_from ops (init mc) (C08.inv_init mc) hd

/-- `C08.inv_reachable` for the generated code: the invariant holds after every history of python calls (run by the
    definitions generated from model.py) that stays in the domain of the ties -/
theorem inv_reachable (mc : Option String) (ops : List GOp) (hd : HistDom mc ops) : Inv (genRun mc ops) := by
  rw [genRun_eq mc ops hd]; exact C08.inv_reachable mc _

/-- `C08.coherent` for the generated code -/
theorem coherent (mc : Option String) (ops : List GOp) (hd : HistDom mc ops) :
    obs (genRun mc ops) = obs (fresh (content (genRun mc ops))) := by
  rw [genRun_eq mc ops hd]; exact C08.coherent mc _

/-- coherence with the two observables that have a generated query, asked through the generated query:
    `get_definition(v)` and `is_state(v)` on the model reached by the generated history answer as on the freshly built model -/
theorem coherent_queries (mc : Option String) (ops : List GOp) (hd : HistDom mc ops) (v : Nat) :
    ((ModelState.getDefinition v).run (genRun mc ops)).1
        = ((ModelState.getDefinition v).run (fresh (content (genRun mc ops)))).1 ∧
    ((ModelState.isState v).run (genRun mc ops)).1
        = ((ModelState.isState v).run (fresh (content (genRun mc ops)))).1 := by
  have hc := coherent mc ops hd
  refine ⟨?_, ?_⟩
  · rw [Cellml.Tie.PModelState.getDefinition_tie_obs, Cellml.Tie.PModelState.getDefinition_tie_obs, hc]
  · rw [Cellml.Tie.PModelState.isState_tie_stateKeys, Cellml.Tie.PModelState.isState_tie_stateKeys]
    have : stateKeys (genRun mc ops) = stateKeys (fresh (content (genRun mc ops))) := congrArg Obs.stateKeys hc
    rw [this]

/-- `C08.history_independent` for the generated code -/
theorem history_independent (mc₁ mc₂ : Option String) (ops₁ ops₂ : List GOp) (hd₁ : HistDom mc₁ ops₁)
    (hd₂ : HistDom mc₂ ops₂) (h : content (genRun mc₁ ops₁) = content (genRun mc₂ ops₂)) :
    obs (genRun mc₁ ops₁) = obs (genRun mc₂ ops₂) :=
  obs_eq_of_content (inv_reachable mc₁ ops₁ hd₁) (inv_reachable mc₂ ops₂ hd₂) h

/-- `C08.atomic` for the generated code: a generated call that raises — whatever the exception class — leaves every
    observable of the model as it was -/
theorem atomic (s s' : MState) (g : GOp) (e : PyErr) (h : Inv s) (hd : Dom s g) (hs : genStep s g = (.error e, s')) :
    obs s' = obs s := by
  obtain ⟨x, hx⟩ := raised_of_gen h hd hs
  exact C08.atomic s s' g.toOp x h hx

/-- atomicity at every point of every generated history -/
theorem atomic_reachable (mc : Option String) (ops : List GOp) (hh : HistDom mc ops) (g : GOp) (s' : MState) (e : PyErr)
    (hd : Dom (genRun mc ops) g) (hs : genStep (genRun mc ops) g = (.error e, s')) : obs s' = obs (genRun mc ops) :=
  atomic _ s' g e (inv_reachable mc ops hh) hd hs

/-- `C08.rejected_edit_state` for the generated code: a rejected edit leaves the whole model object untouched -/
theorem rejected_edit_state (s s' : MState) (g : GOp) (e : PyErr) (h : Inv s) (hd : Dom s g)
    (hs : genStep s g = (.error e, s')) (hedit : g ≠ .hand .qGraph ∧ g ≠ .hand .qGraphNum) : s' = s := by
  obtain ⟨x, hx⟩ := raised_of_gen h hd hs
  exact C08.rejected_edit_state s s' g.toOp x h hx
    ⟨fun hq => hedit.1 (toOp_eq_hand .qGraph hq), fun hq => hedit.2 (toOp_eq_hand .qGraphNum hq)⟩

/-- the domain hypothesis on the unit name is not implied by `Inv`: outside it the generated `add_variable` raises
    KeyError where the hand model adds the variable (`addVariable_unknown_unit`) — but atomicity holds there too -/
theorem atomic_unknown_unit (s s' : MState) (n : String) (i : Option Rat) (pu pr c : Option String) (e : PyErr)
    (hs : genStep s (.addVariable n (.name false) i pu pr c) = (.error e, s')) : s' = s := by
  have := Cellml.Tie.PModelState.addVariable_unknown_unit s n i pu pr c
  simp only [genStep, unit, this] at hs
  exact (Prod.mk.inj hs).2.symm

/-- the demo history of `Props/C08.lean` as python calls (shape of `Derivative(x, t)`: two args, count 1) -/
def demoOps : List GOp :=
  [.addVariable "x" .unit (some 2) none none none, .addVariable "t" (.name true) none none none (some "time"),
   .addVariable "a" .unit none none none none,
   .addEquation ⟨2, 1⟩ ⟨0, .deriv 0 1 1, [.var 2], [.var 2], false⟩,
   .addEquation ⟨2, 1⟩ ⟨1, .var 2, [], [], true⟩,
   .hand .qGraph]

theorem demo_toOps : demoOps.map GOp.toOp = C08.demoOps := rfl

end Cellml.Props.C08Gen
