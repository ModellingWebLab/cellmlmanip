import Cellml.Props.C19
import Cellml.Tie.GenBUnits
import Cellml.Tie.GenBConvertVar

/-! # C19 about the GENERATED code — `rule_unit_independent`, `rule_chain`, `rule_noninterference`, `rule_unreachable`
    (and the `convert_variable` theorems) of `Props/C19.lean`, restated for the definitions generated from the source
    text of `cellmlmanip/units.py` / `model.py`: `Cellml.Gen.Units.convert`, `Cellml.Gen.Units.getConversionFactor`,
    `Cellml.Gen.ConvertVarSym.convertVariable`.

    The theorems of `Props/C19.lean` speak about `Units.convertWithRules` — pint's `Quantity.to` with the enabled
    contexts, which is a LEAF of the translated code (`pintTo`) — and reach the code through the model functions
    `convertQ` / `conversionFactorR`. Here the statements are about what the generated `UnitStore.convert` returns for the
    python object `storeObj st reg rules` (any store `st`; registry `reg`; enabled transformations `rules`). They follow
    from the originals through `convert_tie`, `convertQ_eq` (`genConvert_rules`), which hold for ALL arguments: no tie
    hypothesis is added. The hypotheses about `allKnown`, `lookupRule`, `Reach` are those of the original theorems
    (they describe the state of the pint registry, i.e. the leaf). -/

namespace Cellml.Props.C19Gen
open Units PMap Cellml.Tie Cellml.Tie.PUnits Cellml.Tie.PGenB

/-- `store.convert(1 * a, b)` computed by the GENERATED `UnitStore.convert`, with the rules `rules` enabled -/
abbrev convR (st : Store) (reg : Registry) (rules : List Rule) (a b : Container) : Except PyErr QuantityObj :=
  Gen.Units.convert (storeObj st reg rules) (unitQuantity ⟨a⟩) ⟨b⟩

/-- the quantity "magnitude (number `f`) · (symbols `y`), unit `b`" -/
abbrev qty (f : Scale) (y : Syms) (b : Container) : QuantityObj := ⟨⟨f, y⟩, ⟨b⟩⟩

theorem getConversionFactor_congr (s s' : StoreObj) (a b : UnitObj)
    (h : Gen.Units.convert s (unitQuantity a) b = Gen.Units.convert s' (unitQuantity a) b) :
    Gen.Units.getConversionFactor s a b = Gen.Units.getConversionFactor s' a b := by
  unfold Gen.Units.getConversionFactor
  rw [h]

theorem getConversionFactor_error (s : StoreObj) (a b : UnitObj) (e : PyErr)
    (h : Gen.Units.convert s (unitQuantity a) b = .error e) :
    Gen.Units.getConversionFactor s a b = .error e := by
  unfold Gen.Units.getConversionFactor
  rw [h]; rfl

/-- **rule_unit_independent** for the generated `convert`: the multiplier is
    `scale(a) · |κ| · scale(unit κ) / scale(b)` with the symbols of κ, for ANY units `a`, `b` of the two dimensions -/
theorem rule_unit_independent (st : Store) (reg : Registry) (rules : List Rule) (a b : Container) (r : Rule)
    (ha : allKnown reg a = true) (hb : allKnown reg b = true) (hk : allKnown reg r.kunit = true)
    (hne : ¬ dimsOf reg a ≃ dimsOf reg b)
    (hr : lookupRule rules (dimsOf reg a) (dimsOf reg b) = some r)
    (hdim : dimsOf reg r.kunit ≃ sub r.dst r.src) :
    ∃ f y, convR st reg rules a b = .ok (qty f y b) ∧
      f ≃ add (sub (toRoot reg a).1 (toRoot reg b).1) (add r.kscale (toRoot reg r.kunit).1) ∧ y ≃ r.ksyms := by
  simpa only [genConvert_rules_ok] using C19.rule_unit_independent reg rules a b r ha hb hk hne hr hdim

/-- … and for every magnitude `m` the result is `m` times that multiplier, in unit `b` -/
theorem rule_unit_independent_any_magnitude (st : Store) (reg : Registry) (rules : List Rule) (m : MagObj)
    (a b : Container) (r : Rule)
    (ha : allKnown reg a = true) (hb : allKnown reg b = true) (hk : allKnown reg r.kunit = true)
    (hne : ¬ dimsOf reg a ≃ dimsOf reg b)
    (hr : lookupRule rules (dimsOf reg a) (dimsOf reg b) = some r)
    (hdim : dimsOf reg r.kunit ≃ sub r.dst r.src) :
    ∃ f y, Gen.Units.convert (storeObj st reg rules) ⟨m, ⟨a⟩⟩ ⟨b⟩ = .ok ⟨m * ⟨f, y⟩, ⟨b⟩⟩ ∧
      f ≃ add (sub (toRoot reg a).1 (toRoot reg b).1) (add r.kscale (toRoot reg r.kunit).1) ∧ y ≃ r.ksyms := by
  obtain ⟨f, y, h, hf, hy⟩ := C19.rule_unit_independent reg rules a b r ha hb hk hne hr hdim
  exact ⟨f, y, by rw [genConvert_rules, h], hf, hy⟩

/-- **rule_chain** for the generated `convert`: through two rules the multiplier is
    `scale(a) · |κ₁| · scale(unit κ₁) · |κ₂| · scale(unit κ₂) / scale(b)` with the symbols of both κ -/
theorem rule_chain (st : Store) (reg : Registry) (rules : List Rule) (a b : Container) (m : Dims) (r₁ r₂ : Rule)
    (ha : allKnown reg a = true) (hb : allKnown reg b = true)
    (hk₁ : allKnown reg r₁.kunit = true) (hk₂ : allKnown reg r₂.kunit = true)
    (hne : ¬ dimsOf reg a ≃ dimsOf reg b)
    (hdirect : lookupRule rules (dimsOf reg a) (dimsOf reg b) = none)
    (h₁ : lookupRule rules (dimsOf reg a) m = some r₁) (h₂ : lookupRule rules m (dimsOf reg b) = some r₂)
    (huniq : ∀ r ∈ rules, r.src = dimsOf reg a → (∃ r' ∈ rules, r'.src = r.dst ∧ r'.dst = dimsOf reg b) → r.dst = m)
    (hdim₁ : dimsOf reg r₁.kunit ≃ sub r₁.dst r₁.src) (hdim₂ : dimsOf reg r₂.kunit ≃ sub r₂.dst r₂.src) :
    ∃ f y, convR st reg rules a b = .ok (qty f y b) ∧
      f ≃ add (sub (toRoot reg a).1 (toRoot reg b).1)
            (add (add r₁.kscale (toRoot reg r₁.kunit).1) (add r₂.kscale (toRoot reg r₂.kunit).1)) ∧
      y ≃ add r₁.ksyms r₂.ksyms := by
  simpa only [genConvert_rules_ok] using
    C19.rule_chain reg rules a b m r₁ r₂ ha hb hk₁ hk₂ hne hdirect h₁ h₂ huniq hdim₁ hdim₂

/-- **rule_noninterference** for the generated `convert`: between units of the same dimension the result is the
    ordinary factor (a number, no symbols) whatever rules are enabled — same result, same exception class -/
theorem rule_noninterference (st : Store) (reg : Registry) (rules : List Rule) (m : MagObj) (a b : Container)
    (hd : dimsOf reg a ≃ dimsOf reg b) :
    Gen.Units.convert (storeObj st reg rules) ⟨m, ⟨a⟩⟩ ⟨b⟩ =
      match factor reg a b with
      | .ok f => .ok ⟨m * ⟨f, []⟩, ⟨b⟩⟩
      | .error e => .error ⟨uErrClass e⟩ := by
  rw [genConvert_rules, C19.rule_noninterference reg rules a b hd]
  cases factor reg a b <;> rfl

/-- the same without any model function in the statement: enabling rules does not change what the generated `convert`
    and `get_conversion_factor` return between units of one dimension (compare with the rule-free store) -/
theorem rule_noninterference_code (st : Store) (reg : Registry) (rules rules' : List Rule) (m : MagObj) (a b : Container)
    (hd : dimsOf reg a ≃ dimsOf reg b) :
    Gen.Units.convert (storeObj st reg rules) ⟨m, ⟨a⟩⟩ ⟨b⟩ = Gen.Units.convert (storeObj st reg rules') ⟨m, ⟨a⟩⟩ ⟨b⟩ ∧
    Gen.Units.getConversionFactor (storeObj st reg rules) ⟨a⟩ ⟨b⟩ =
      Gen.Units.getConversionFactor (storeObj st reg rules') ⟨a⟩ ⟨b⟩ := by
  refine ⟨by rw [rule_noninterference st reg rules m a b hd, rule_noninterference st reg rules' m a b hd], ?_⟩
  apply getConversionFactor_congr
  show Gen.Units.convert _ ⟨MagObj.one, ⟨a⟩⟩ ⟨b⟩ = Gen.Units.convert _ ⟨MagObj.one, ⟨a⟩⟩ ⟨b⟩
  rw [rule_noninterference st reg rules _ a b hd, rule_noninterference st reg rules' _ a b hd]

/-- **rule_unreachable** for the generated `convert` and `get_conversion_factor`: no rule path between the dimensions
    ⇒ `DimensionalityError`, for every magnitude, whatever rules are enabled -/
theorem rule_unreachable (st : Store) (reg : Registry) (rules : List Rule) (m : MagObj) (a b : Container)
    (ha : allKnown reg a = true) (hb : allKnown reg b = true)
    (hun : ¬ Reach rules (dimsOf reg a) (dimsOf reg b)) :
    Gen.Units.convert (storeObj st reg rules) ⟨m, ⟨a⟩⟩ ⟨b⟩ = .error ⟨"DimensionalityError"⟩ ∧
    Gen.Units.getConversionFactor (storeObj st reg rules) ⟨a⟩ ⟨b⟩ = .error ⟨"DimensionalityError"⟩ := by
  have h := C19.rule_unreachable reg rules a b ha hb hun
  refine ⟨genConvert_rules_error st reg rules m a b _ h, ?_⟩
  exact getConversionFactor_error _ _ _ _ (genConvert_rules_error st reg rules MagObj.one a b _ h)

/-! ### `convert_variable`: the generated `Model.convert_variable` (+ `_convert_variable_instance` and the three
    derivative helpers, all generated from model.py, run on symbolic values as in `Tie/ConvertVarSym.lean`) over the
    GENERATED `get_conversion_factor` -/

open Cellml.Tie.CVSym

/-- the generated `convert_variable(original, units, direction, move_annotations)` for a variable in unit `a`, target
    unit `b`, in a model whose unit store is `storeObj st reg rules`; result: (log of the equations added that mention
    the factor + whether a scaled initial value was given to `add_variable`, the variable returned) -/
abbrev genCV (st : Store) (reg : Registry) (rules : List Rule) (a b : Container) (dir : Dir) (kind : VarKind)
    (hasInit : Bool) (n : Nat) (cmeta : Option Unit) (move : Bool) : Except PyErr (SymSt × SV) :=
  Gen.ConvertVarSym.convertVariable (symViewGen st reg rules a b kind hasInit n cmeta) {} .orig dir move

theorem enc_same_iff (o : CVOutcome) : enc o = .ok ({}, .orig) ↔ o = .same := by
  cases o with
  | same => simp [enc]
  | converted fy sc eqs => simp [enc]
  | error e => cases e <;> simp [enc]

/-- `convert_variable` returns the original variable (and adds nothing) exactly when the generated
    `get_conversion_factor` returns the int `1` -/
theorem cv_same_iff (st : Store) (reg : Registry) (rules : List Rule) (a b : Container) (dir : Dir) (kind : VarKind)
    (hasInit : Bool) (n : Nat) (cmeta : Option Unit) (move : Bool) :
    genCV st reg rules a b dir kind hasInit n cmeta move = .ok ({}, .orig) ↔
      Gen.Units.getConversionFactor (storeObj st reg rules) ⟨a⟩ ⟨b⟩ = .ok 1 := by
  show Gen.ConvertVarSym.convertVariable _ _ _ _ _ = _ ↔ _
  rw [genConvertVariable_eq, genCf_one_iff, enc_same_iff, C19.cv_same_iff]

/-- an exception of the generated `get_conversion_factor` is re-raised unchanged, nothing is added -/
theorem cv_unit_error (st : Store) (reg : Registry) (rules : List Rule) (a b : Container) (dir : Dir) (kind : VarKind)
    (hasInit : Bool) (n : Nat) (cmeta : Option Unit) (move : Bool) (e : PyErr)
    (h : Gen.Units.getConversionFactor (storeObj st reg rules) ⟨a⟩ ⟨b⟩ = .error e) :
    genCV st reg rules a b dir kind hasInit n cmeta move = .error e := by
  show Gen.ConvertVarSym.convertVariable _ _ _ _ _ = _
  rw [genConvertVariable_eq]
  have ht := getConversionFactor_tie st reg rules a b
  rw [h] at ht
  obtain ⟨e', hc, rfl⟩ := (errClass_eq_error uErrClass _ e).mp ht.symm
  rw [(C19.cv_unit_error_iff reg rules a b dir kind hasInit n e').mpr hc]
  simp only [enc, uerrClass_eq (conversionFactorR_err hc)]

/-- when it converts (returns the new variable), the factor in EVERY added equation is the one the generated
    `get_conversion_factor` returned; the equations are `cvEquations`; the initial value is scaled iff INPUT with an
    initial value -/
theorem cv_uses_rule_factor (st : Store) (reg : Registry) (rules : List Rule) (a b : Container) (dir : Dir)
    (kind : VarKind) (hasInit : Bool) (n : Nat) (cmeta : Option Unit) (move : Bool) (s : SymSt)
    (h : genCV st reg rules a b dir kind hasInit n cmeta move = .ok (s, .new)) :
    ∃ f y, Gen.Units.getConversionFactor (storeObj st reg rules) ⟨a⟩ ⟨b⟩ = .ok (CFObj.mag ⟨f, y⟩) ∧
      s.log = (cvEquations dir kind n).map (fun e => (e, (f, y))) ∧ s.log ≠ [] ∧
      (s.initScaled = true ↔ (dir = .input ∧ hasInit = true)) := by
  change Gen.ConvertVarSym.convertVariable _ _ _ _ _ = _ at h
  rw [genConvertVariable_eq] at h
  cases hcv : Units.convertVariable reg rules a b dir kind hasInit n with
  | same => rw [hcv] at h; simp [enc] at h
  | error e => rw [hcv] at h; cases e <;> simp [enc] at h
  | converted fy sc eqs =>
    rw [hcv] at h
    simp only [enc, Except.ok.injEq, Prod.mk.injEq, and_true] at h
    subst h
    obtain ⟨hcf, heqs, _, hne, hinit⟩ := C19.cv_uses_rule_factor reg rules a b dir kind hasInit n fy sc eqs hcv
    obtain ⟨f, y⟩ := fy
    refine ⟨f, y, (genCf_mag_iff st reg rules a b f y).mpr hcf, by simp [heqs], ?_, hinit⟩
    simpa using hne

/-- **convert_variable alike (partial)**: whenever the generated `get_conversion_factor` gives a factor other than the
    int `1`, the generated `convert_variable` converts with it — provided the factor is numeric, or the direction is
    OUTPUT, or the variable has no initial value -/
theorem cv_alike_partial (st : Store) (reg : Registry) (rules : List Rule) (a b : Container) (dir : Dir)
    (kind : VarKind) (hasInit : Bool) (n : Nat) (cmeta : Option Unit) (move : Bool) (f : Scale) (y : Syms)
    (hcf : Gen.Units.getConversionFactor (storeObj st reg rules) ⟨a⟩ ⟨b⟩ = .ok (CFObj.mag ⟨f, y⟩))
    (hex : y = [] ∨ dir = .output ∨ hasInit = false) :
    genCV st reg rules a b dir kind hasInit n cmeta move =
      .ok ({ log := (cvEquations dir kind n).map (fun e => (e, (f, y))),
             initScaled := decide (dir = .input) && hasInit }, .new) := by
  show Gen.ConvertVarSym.convertVariable _ _ _ _ _ = _
  rw [genConvertVariable_eq,
    C19.cv_alike_partial reg rules a b dir kind hasInit n f y ((genCf_mag_iff st reg rules a b f y).mp hcf) hex]
  rfl

/-- the excluded configuration really fails (known finding `cv-symbolic-factor-initial-value`): symbolic factor,
    INPUT, initial value ⇒ the generated `convert_variable` raises `TypeError` although the generated
    `get_conversion_factor` succeeded -/
theorem cv_symbolic_input_initial_value_refused (st : Store) (reg : Registry) (rules : List Rule) (a b : Container)
    (kind : VarKind) (n : Nat) (cmeta : Option Unit) (move : Bool) (f : Scale) (y : Syms)
    (hcf : Gen.Units.getConversionFactor (storeObj st reg rules) ⟨a⟩ ⟨b⟩ = .ok (CFObj.mag ⟨f, y⟩)) (hy : y ≠ []) :
    genCV st reg rules a b .input kind true n cmeta move = .error ⟨"TypeError"⟩ := by
  show Gen.ConvertVarSym.convertVariable _ _ _ _ _ = _
  rw [genConvertVariable_eq, C19.cv_symbolic_input_initial_value_refused reg rules a b kind n f y
    ((genCf_mag_iff st reg rules a b f y).mp hcf) hy]
  rfl

end Cellml.Props.C19Gen
