import Cellml.Props.C16
import Cellml.Props.C07Gen
import Cellml.Tie.GenBIso

/-! # C16 about the GENERATED code — `prefix_injective`, `frame_run` (with `frame`, the probe forms,
    `names_unknown_elsewhere`), `shared_convert` of `Props/C16.lean`, restated for the definitions generated from the
    source text of `cellmlmanip/units.py`: `Gen.Units.prefixName`, `Gen.UnitsInit.init`, `Gen.Units.addUnit`,
    `Gen.Units.addBaseUnit`, `Gen.Units.getUnit`, `Gen.Units.isDefined`, `Gen.Units.getConversionFactor`.
    The process over these methods (`genStep`, `genRun`, `genObsStore`, `genProbe`, `genCrossFactor`) is defined in
    `Tie/GenBIso.lean`.

    * `prefix_injective`, `shared_convert`, and the equality of the OBSERVATIONS with the hand model's: no tie
      hypothesis (`prefixName_tie`, `getUnit_tie`, `isDefined_tie`, `getConversionFactor_tie` are unconditional).
    * `frame`, `frame_run`, … carry `OpDom` / `RunDom`: the domain of `addUnit_tie` for every `add_unit` of the run
      (`hsup`: no `dimensionless` mixed with dimensional units; and of `hdef`, "the definition has a value in the hand
      model", the part the code does not share: no multiplier ≤ 0 — the hand model ABSTAINS in both places). The hypotheses of the original theorems do NOT imply it; `genStep_differs_dimensionless_mixed` shows the
      generated step really differs from `Iso.step` outside. For `newStore`, `add_base_unit`, definitions refused for an
      offset or a malformed number there is no condition, and none for unknown names with a total exponent of zero
      either (`genStep_agrees_zero_exponent`). -/

namespace Cellml.Props.C16Gen
open Units Units.Wire Iso PMap Cellml.Gen Cellml.Tie Cellml.Tie.PUnits Cellml.Tie.PGenB

/-- the generated `_prefix_name` is injective on (store id, user name): the `UnitStore` objects of two stores
    (whatever registries and rules they hold) never map two different (store, name) pairs to one registry key -/
theorem prefix_injective (sti stj : Store) (regi regj : Registry) (rulesi rulesj : List Rule) (n₁ n₂ : String)
    (h₁ : Cellml.Gen.cellmlUnits.contains n₁ = false) (h₂ : Cellml.Gen.cellmlUnits.contains n₂ = false)
    (hne : (sti.id, n₁) ≠ (stj.id, n₂)) :
    Id.run (Gen.Units.prefixName (storeObj sti regi rulesi) n₁) ≠
      Id.run (Gen.Units.prefixName (storeObj stj regj rulesj) n₂) := by
  rw [prefixName_tie, prefixName_tie]
  exact C16.prefix_injective sti.id stj.id n₁ n₂ h₁ h₂ hne

/-- … in particular for two stores built by the generated `__init__` in one process: the ids it assigns are the
    positions in the store list (`init_tie`), so different stores ⇒ different keys for every pair of user names -/
theorem prefix_injective_created (w : World) (share₁ share₂ : Option Nat) (self₁ self₂ : StoreRef)
    (o₁ o₂ : StoreRef) (n₁ n₂ : Nat) (regs₁ regs₂ : List Registry)
    (hc₁ : UnitsInit.init self₁ (shareArg w share₁) w.stores.length w.regs = .ok (o₁, n₁, regs₁))
    (hc₂ : UnitsInit.init self₂ (shareArg (w.newStore share₁) share₂) (w.newStore share₁).stores.length
      (w.newStore share₁).regs = .ok (o₂, n₂, regs₂))
    (x y : String) (hx : Cellml.Gen.cellmlUnits.contains x = false) (_hy : Cellml.Gen.cellmlUnits.contains y = false) :
    o₁._prefix ++ x ≠ o₂._prefix ++ y := by
  obtain ⟨p₁, h₁, hs₁, hp₁⟩ := init_tie w share₁ self₁
  obtain ⟨p₂, h₂, _, hp₂⟩ := init_tie (w.newStore share₁) share₂ self₂
  rw [hc₁] at h₁; rw [hc₂] at h₂
  simp only [Except.ok.injEq, Prod.mk.injEq] at h₁ h₂
  rw [h₁.1, h₂.1, init_prefix p₁ x hx, init_prefix p₂ y _hy]
  apply C16.prefix_injective _ _ _ _ hx _hy
  intro heq
  have hid := (Prod.mk.inj heq).1
  rw [hp₁, hp₂, hs₁] at hid
  simp at hid

/-- **frame** for the generated methods: an operation that does not act on store `j` leaves everything observable
    through `j` (generated `get_unit` of every known name, `_known_units`) unchanged -/
theorem frame (w : World) (h : Inv w) (op : Op) (j : Nat) (hj : j < w.stores.length) (hop : op.actsOn j = false)
    (hdom : OpDom w op) : genObsStore (genStep w op) j = genObsStore w j := by
  rw [genStep_eq w op hdom, genObsStore_eq, genObsStore_eq, C16.frame w h op j hj hop]

theorem frame_probe (w : World) (h : Inv w) (op : Op) (j : Nat) (hj : j < w.stores.length)
    (hop : op.actsOn j = false) (hdom : OpDom w op) (name : String) :
    genProbe (genStep w op) j name = genProbe w j name := by
  rw [genStep_eq w op hdom, genProbe_eq, genProbe_eq, C16.frame_probe w h op j hj hop]

/-- **frame_run** for the generated methods: any list of operations none of which acts on store `j` — generated
    `__init__`, `add_unit`, `add_base_unit` on other stores, successful or raising — leaves `genObsStore j` unchanged -/
theorem frame_run (w : World) (h : Inv w) (ops : List Op) (j : Nat) (hj : j < w.stores.length)
    (hops : ∀ op ∈ ops, op.actsOn j = false) (hdom : RunDom w ops) :
    genObsStore (genRun w ops) j = genObsStore w j := by
  rw [genRun_eq ops w hdom, genObsStore_eq, genObsStore_eq, C16.frame_run w h ops j hj hops]

theorem frame_run_probe (w : World) (h : Inv w) (ops : List Op) (j : Nat) (hj : j < w.stores.length)
    (hops : ∀ op ∈ ops, op.actsOn j = false) (hdom : RunDom w ops) (name : String) :
    genProbe (genRun w ops) j name = genProbe w j name := by
  rw [genRun_eq ops w hdom, genProbe_eq, genProbe_eq, C16.frame_run_probe w h ops j hj hops]

/-- the generated `get_unit` of store `j` on a name only other stores define raises, and the generated `is_defined`
    says no, whatever the others do -/
theorem names_unknown_elsewhere (w : World) (h : Inv w) (ops : List Op) (j : Nat) (hj : j < w.stores.length)
    (hops : ∀ op ∈ ops, op.actsOn j = false) (hdom : RunDom w ops) (name : String) (stj : Store) (rj : Nat)
    (reg : Registry) (hw : w.regOf j = some (stj, rj, reg))
    (hunknown : Id.run (Gen.Units.isDefined (storeObj stj reg []) name) = false) :
    genProbe (genRun w ops) j name = some (false, none) := by
  rw [isDefined_tie] at hunknown
  rw [genRun_eq ops w hdom, genProbe_eq]
  exact C16.names_unknown_elsewhere w h ops j hj hops name stj rj reg hw hunknown

theorem genGetUnit_ok_iff (st : Store) (reg : Registry) (rules : List Rule) (x : String) (a : Container) :
    Gen.Units.getUnit (storeObj st reg rules) x = .ok ⟨a⟩ ↔ Units.getUnit st x = .ok a := by
  rw [getUnit_tie]
  cases Units.getUnit st x <;> simp [except_run]

/-- **shared_convert** for the generated methods: units handed out (generated `get_unit`) by two stores that share a
    registry convert (generated `get_conversion_factor` of store `i`) exactly as within one store — the result is
    `get_conversion_factor` on the shared registry, its value is the magnitude of the generated `convert(1 * a, b)`
    — and both units are defined in the shared registry: every law of `Props/C07Gen.lean` applies across stores -/
theorem shared_convert (w : World) (h : Inv w) (i j ri : Nat) (sti stj : Store) (reg : Registry) (x y : String)
    (a b : Container) (hi : w.stores[i]? = some (sti, ri)) (hj : w.stores[j]? = some (stj, ri))
    (hr : w.regs[ri]? = some reg)
    (ha : Gen.Units.getUnit (storeObj sti reg []) x = .ok ⟨a⟩)
    (hb : Gen.Units.getUnit (storeObj stj reg []) y = .ok ⟨b⟩) :
    genCrossFactor w i x j y = Gen.Units.getConversionFactor (storeObj sti reg []) ⟨a⟩ ⟨b⟩ ∧
    (∀ f, (genCrossFactor w i x j y).map cfScale = .ok f ↔ C07Gen.conv1 sti reg a b = .ok (C07Gen.num f b)) ∧
    allKnown reg a = true ∧ allKnown reg b = true := by
  have ha' := (genGetUnit_ok_iff sti reg [] x a).mp ha
  have hb' := (genGetUnit_ok_iff stj reg [] y b).mp hb
  have hx : genCrossFactor w i x j y = Gen.Units.getConversionFactor (storeObj sti reg []) ⟨a⟩ ⟨b⟩ := by
    simp only [except_run, genCrossFactor, regOf_eq_some.mpr ⟨hi, hr⟩, regOf_eq_some.mpr ⟨hj, hr⟩, ha, hb, ne_eq,
        not_true_eq_false, if_false]
  refine ⟨hx, ?_, getUnit_allKnown w h i ri sti reg hi hr x a ha', getUnit_allKnown w h j ri stj reg hj hr y b hb'⟩
  intro f
  rw [hx, genFactor_plain_scale, genConvert_plain_ok]

/-- the model-level form: the generated cross-store factor is the hand model's `Iso.crossFactor` -/
theorem shared_convert_model (w : World) (i j ri : Nat) (sti stj : Store) (reg : Registry) (x y : String)
    (a b : Container) (hi : w.stores[i]? = some (sti, ri)) (hj : w.stores[j]? = some (stj, ri))
    (hr : w.regs[ri]? = some reg) (ha : Units.getUnit sti x = .ok a) (hb : Units.getUnit stj y = .ok b) (f : Scale) :
    (genCrossFactor w i x j y).map cfScale = .ok f ↔ crossFactor w i x j y = .ok f := by
  have ha' := (genGetUnit_ok_iff sti reg [] x a).mpr ha
  have hb' := (genGetUnit_ok_iff stj reg [] y b).mpr hb
  rw [crossFactor_shared w i j ri sti stj reg x y a b hi hj hr ha hb]
  simp only [except_run, genCrossFactor, regOf_eq_some.mpr ⟨hi, hr⟩, regOf_eq_some.mpr ⟨hj, hr⟩, ha', hb',
      ne_eq, not_true_eq_false, if_false]
  show (Gen.Units.getConversionFactor (storeObj sti reg []) ⟨a⟩ ⟨b⟩).map cfScale = .ok f ↔ _
  rw [genFactor_plain_scale]
  cases factor reg a b <;> simp

/-! ### non-vacuity, and where the generated step leaves the hand model -/

/-- the demo process of `Props/C16.lean` lies inside the tie domain: `frame_run` applies to it -/
theorem demo_runDom : RunDom {} C16.demoOps := by decide +kernel

example : RunDom {} C16.demoOps := demo_runDom

/-- … so the generated run ends in the state the hand model's run ends in -/
theorem genRun_demo : genRun {} C16.demoOps = C16.demoWorld := by
  rw [genRun_eq _ _ demo_runDom, C16.demoWorld_eq]

example : (genRun {} C16.demoOps).stores.map (fun p => (p.1.id, p.1.known, p.2)) =
    [(0, ["mV"], 0), (1, ["widget", "mV"], 0), (2, ["kW"], 1)] := by rw [genRun_demo]; decide +kernel

example : (genCrossFactor (genRun {} C16.demoOps) 0 "mV" 1 "mV").map cfScale = .ok [(2, 3), (5, 3)] := by
  rw [genRun_demo]
  exact (shared_convert_model C16.demoWorld 0 1 0 ⟨0, ["mV"]⟩ ⟨1, ["widget", "mV"]⟩ _ "mV" "mV"
    [("store0_mV", 1)] [("store1_mV", 1)] rfl rfl rfl
    (by decide +kernel) (by decide +kernel) _).mpr C16.demo_crossFactor

theorem fresh_store : run {} [.newStore none] = ⟨[builtinRegistry], [(⟨0, []⟩, 0)]⟩ := rfl

/-- `add_unit('x', '((nosuch)**0)')` — pint evaluates the unknown name and raises `UndefinedUnitError`; the hand model
    looks every identifier up as well: the generated step and `Iso.step` are the SAME state, in which `x` is not
    defined. -/
theorem genStep_agrees_zero_exponent :
    let w := run {} [.newStore none]
    let op := Op.addUnit 0 "x" [{ units := "nosuch", exponent := some "0" }]
    genStep w op = step w op ∧ (step w op).stores.map (·.1.known) = [[]] ∧
      errClass addErrClass (Units.addUnit builtinRegistry ⟨0, []⟩ "x" [{ units := "nosuch", exponent := some "0" }]) =
        .error ⟨"UndefinedUnitError"⟩ := by
  rw [fresh_store, builtinRegistry_eq]
  exact ⟨genStep_eq _ _ (by decide +kernel), by decide +kernel, by decide +kernel⟩

/-- for ANY state: an operation whose definition has a value and does not mix `dimensionless` with dimensional units is
    inside the domain, whatever names it mentions (no condition on the registry is left in `OpDom`) -/
theorem opDom_of_value (w : World) (s : Nat) (name : String) (elems : List UnitElem)
    (h : ∀ st ri reg, w.regOf s = some (st, ri, reg) →
      ∃ k c d, defMeaning st.id elems = .ok (k, c, d) ∧ ¬ (norm c ≠ [] ∧ d = true)) :
    OpDom w (.addUnit s name elems) := by
  cases hr : w.regOf s with
  | none => simp only [OpDom, hr]
  | some p =>
    obtain ⟨st, ri, reg⟩ := p
    obtain ⟨k, c, d, hd, hs⟩ := h st ri reg hr
    simp only [OpDom, hr, AddDom, hd]
    exact hs

/-- the order of the tests: `add_unit('metre', '((second)**x)')` is `ValueError: Cannot redefine CellML unit` in the
    code (the name is tested before the expression is evaluated) and in the hand model; for every name that fails a
    name test: `PUnits.addUnit_tie_name` -/
example : errClass addErrClass (Units.addUnit builtinRegistry ⟨0, []⟩ "metre" [{ units := "second", exponent := some "x" }]) =
      .error ⟨"ValueError"⟩ ∧
    Gen.Units.addUnit (storeObj ⟨0, []⟩ builtinRegistry []) "metre" ⟨[{ units := "second", exponent := some "x" }], id⟩ =
      .error ⟨"ValueError"⟩ := by
  refine ⟨by decide +kernel, ?_⟩
  exact (addUnit_tie_name ⟨0, []⟩ builtinRegistry [] "metre" _ (by decide +kernel) (Or.inl (by decide +kernel))).1

/-- outside `hsup`: `dimensionless` (carrying the multiplier) times a dimensional unit — the hand model abstains
    (`AddErr.unsupported`, known finding `unit-unusable:dimensionless-times-dimensional`), the code defines the unit. -/
theorem genStep_differs_dimensionless_mixed :
    let w := run {} [.newStore none]
    let op := Op.addUnit 0 "km" [{ units := "dimensionless", multiplier := some "1000" }, { units := "metre" }]
    (genStep w op).stores.map (·.1.known) = [["km"]] ∧ (step w op).stores.map (·.1.known) = [[]] := by
  rw [fresh_store, builtinRegistry_eq]
  decide +kernel

end Cellml.Props.C16Gen
