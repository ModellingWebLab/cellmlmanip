import Cellml.Props.C19GenRIdem

/-! # C19, generated `add_conversion_rule` followed by the generated `convert` / `get_conversion_factor` on the concrete
    inputs of `notes/tie5_convrule_probe.py` (the outcomes are the ones cellmlmanip + pint 0.18 print there; a scale is
    a prime-exponent map: `[(2, -15), (5, -14)]` is 5e-15). Case 12 of the probe (the return value `None`, the free text
    of the context name) has nothing the model represents and is left out. -/

namespace Cellml.Props.C19GenR.Cases
open Units PMap Cellml.Tie Cellml.Tie.PUnits Cellml.Tie.PConvRule

/-- the units the probe adds: A, uA, pA, V, mV, kV, S, ms -/
def probeReg : Registry :=
  [("ms", .derived (pow10 (-3)) [("second", 1)]), ("S", .derived [] [("second", 1)]),
   ("kV", .derived (pow10 3) [("volt", 1)]), ("mV", .derived (pow10 (-3)) [("volt", 1)]),
   ("V", .derived [] [("volt", 1)]), ("pA", .derived (pow10 (-12)) [("ampere", 1)]),
   ("uA", .derived (pow10 (-6)) [("ampere", 1)]), ("A", .derived [] [("ampere", 1)])] ++ builtinRegistry
def obj0 : StoreObj := storeObj ⟨0, []⟩ probeReg []
def u (n : String) : Container := [(n, 1)]
/-- `lambda ureg, rhs: rhs * Quantity(k, c)` -/
def mulBy (k : Scale) (c : Container) : List RFactor := [⟨false, .num k, c⟩]
def addTo (s : Except PyErr StoreObj) (f t : Container) (b : List RFactor) : Except PyErr StoreObj :=
  s >>= fun s => Cellml.Gen.ConvRule.addConversionRule s ⟨f⟩ ⟨t⟩ b
def conv (s : Except PyErr StoreObj) (a b : Container) : Except PyErr MagObj :=
  s >>= fun s => (Cellml.Gen.Units.convert s (unitQuantity ⟨a⟩) ⟨b⟩).map (·.magnitude)
def cf (s : Except PyErr StoreObj) (a b : Container) : Except PyErr CFObj :=
  s >>= fun s => Cellml.Gen.Units.getConversionFactor s ⟨a⟩ ⟨b⟩
def num (k : Scale) : Except PyErr MagObj := .ok ⟨k, []⟩
def VperA : Container := [("V", 1), ("A", -1)]

/-! The kernel evaluates by name: a `dimsOf probeReg …` that `mkRule` leaves inside a store is expanded again whenever
    a key is compared, and every expansion sweeps the whole registry. So the dimensions of the eight probe units are
    computed once (`dims`), every store is stated once in closed form (`s1_eq` …, through the tie lemma
    `addConversionRule_ok`), and every evaluation runs over the thirteen entries the probe units reach
    (`Units/Local.lean`: `probeUnits` is closed, so `conv_probe` / `cf_probe` may cut the registry down to it). -/

def current : Dims := [("current", 1)]
def voltage : Dims := [("current", -1), ("length", 2), ("mass", 1), ("time", -3)]
def time : Dims := [("time", 1)]
/-- the store object of the probe with the given transformations enabled (`obj0` is `obj []` by unfolding) -/
def obj (rules : List Rule) : StoreObj := storeObj ⟨0, []⟩ probeReg rules
/-- `rhs * 5 V/A`, current → voltage: the rule of cases 1, 5, 7, 9 -/
def r5 : Rule := ⟨current, voltage, [(5, 1)], [], [("A", -1), ("V", 1)]⟩
def r11 : Rule := ⟨current, voltage, [(11, 1)], [], [("A", -1), ("V", 1)]⟩

/-- the probe units and the built-in units they are made of -/
def probeUnits : List String :=
  ["ms", "S", "kV", "mV", "V", "pA", "uA", "A", "volt", "ampere", "kilogram", "meter", "second"]

theorem probeUnits_closed : Closed probeUnits probeReg :=
  closed_of_test (by rw [probeReg, builtinRegistry_eq]; decide +kernel)

theorem restrict_probeUnits : restrict probeUnits probeReg =
    [("ms", .derived (pow10 (-3)) [("second", 1)]), ("S", .derived [] [("second", 1)]),
     ("kV", .derived (pow10 3) [("volt", 1)]), ("mV", .derived (pow10 (-3)) [("volt", 1)]),
     ("V", .derived [] [("volt", 1)]), ("pA", .derived (pow10 (-12)) [("ampere", 1)]),
     ("uA", .derived (pow10 (-6)) [("ampere", 1)]), ("A", .derived [] [("ampere", 1)]),
     ("volt", .derived [] [("ampere", -1), ("kilogram", 1), ("meter", 2), ("second", -3)]),
     ("ampere", .base (some "current")), ("kilogram", .base (some "mass")), ("meter", .base (some "length")),
     ("second", .base (some "time"))] := by
  rw [probeReg, builtinRegistry_eq]; decide +kernel

theorem dims_probe {n : String} (hn : withinB probeUnits (u n) = true) :
    dimsOf probeReg (u n) = dimsOf (restrict probeUnits probeReg) (u n) :=
  dimsOf_restrict probeUnits_closed (within_of_test hn)

theorem dims_A : dimsOf probeReg (u "A") = current := by
  rw [dims_probe (by decide +kernel), restrict_probeUnits]; decide +kernel
theorem dims_uA : dimsOf probeReg (u "uA") = current := by
  rw [dims_probe (by decide +kernel), restrict_probeUnits]; decide +kernel
theorem dims_pA : dimsOf probeReg (u "pA") = current := by
  rw [dims_probe (by decide +kernel), restrict_probeUnits]; decide +kernel
theorem dims_V : dimsOf probeReg (u "V") = voltage := by
  rw [dims_probe (by decide +kernel), restrict_probeUnits]; decide +kernel
theorem dims_mV : dimsOf probeReg (u "mV") = voltage := by
  rw [dims_probe (by decide +kernel), restrict_probeUnits]; decide +kernel
theorem dims_kV : dimsOf probeReg (u "kV") = voltage := by
  rw [dims_probe (by decide +kernel), restrict_probeUnits]; decide +kernel
theorem dims_S : dimsOf probeReg (u "S") = time := by
  rw [dims_probe (by decide +kernel), restrict_probeUnits]; decide +kernel
theorem dims_ms : dimsOf probeReg (u "ms") = time := by
  rw [dims_probe (by decide +kernel), restrict_probeUnits]; decide +kernel

/-- one `add_conversion_rule` on a store of the probe, given the closed form `r` of the rule it enables -/
theorem addTo_obj {rules : List Rule} {f t : Container} {b : List RFactor} {r : Rule}
    (hk : (allKnown probeReg f && allKnown probeReg t) = true) (hr : mkRule probeReg f t b = r) :
    addTo (.ok (obj rules)) f t b = .ok (obj (r :: rules)) :=
  hr ▸ addConversionRule_ok ⟨0, []⟩ probeReg rules f t b (Bool.and_eq_true_iff.mp hk).1 (Bool.and_eq_true_iff.mp hk).2

theorem addTo_unknown {rules : List Rule} {f t : Container} {b : List RFactor}
    (hk : (allKnown probeReg f && allKnown probeReg t) = false) :
    addTo (.ok (obj rules)) f t b = .error ⟨"UndefinedUnitError"⟩ :=
  addConversionRule_unknown ⟨0, []⟩ probeReg rules f t b hk

theorem conv_ok (s : StoreObj) (a b : Container) :
    conv (.ok s) a b = (Cellml.Gen.Units.convert s (unitQuantity ⟨a⟩) ⟨b⟩).map (·.magnitude) := rfl

theorem conv_probe {rules : List Rule} {a b : Container} (hr : rules.all (fun r => withinB probeUnits r.kunit) = true)
    (ha : withinB probeUnits a = true) (hb : withinB probeUnits b = true) :
    conv (.ok (obj rules)) a b = conv (.ok (storeObj ⟨0, []⟩ (restrict probeUnits probeReg) rules)) a b := by
  rw [conv_ok, conv_ok, obj, show unitQuantity ⟨a⟩ = ⟨MagObj.one, ⟨a⟩⟩ from rfl,
    PGenB.genConvert_restrict probeUnits_closed _ _ hr ha hb]

theorem cf_probe {rules : List Rule} {a b : Container} (hr : rules.all (fun r => withinB probeUnits r.kunit) = true)
    (ha : withinB probeUnits a = true) (hb : withinB probeUnits b = true) :
    cf (.ok (obj rules)) a b = cf (.ok (storeObj ⟨0, []⟩ (restrict probeUnits probeReg) rules)) a b := by
  show Cellml.Gen.Units.getConversionFactor _ _ _ = Cellml.Gen.Units.getConversionFactor _ _ _
  rw [obj, PGenB.genFactor_restrict probeUnits_closed _ hr ha hb]

/-- 1 A → V in a store whose newest rule for (current, voltage) multiplies by `k V/A`: the generated `convert` is
    the model's conversion (`genConvert_rules_ok`), that is the single hop (`convertWithRules_direct`), and the ordinary
    factor left over is the same whatever else is enabled. Shared by the cases that differ in the rule list only. -/
theorem conv_A_V {rules : List Rule} {r : Rule} (hr : lookupRule rules current voltage = some r)
    (hu : r.kunit = [("A", -1), ("V", 1)]) (hy : r.ksyms = []) :
    conv (.ok (obj rules)) (u "A") (u "V") = num (norm (add [] (add r.kscale []))) := by
  have hf : factor probeReg (add (u "A") [("A", -1), ("V", 1)]) (u "V") = .ok [] := by
    rw [factor_restrict probeUnits_closed (by decide +kernel) (by decide +kernel), restrict_probeUnits]; decide +kernel
  have hc : convertWithRules probeReg rules (u "A") (u "V") = .ok (norm (add [] (add r.kscale [])), []) := by
    rw [convertWithRules_direct (by decide +kernel) (by decide +kernel) (by rw [dims_A, dims_V]; decide)
      (by rw [dims_A, dims_V]; exact hr), hu, hf, hy]
    rfl
  rw [conv_ok, obj, (PGenB.genConvert_rules_ok _ _ _ _ _ _ _).mpr hc]
  rfl

theorem rule_uA_mV : mkRule probeReg (u "uA") (u "mV") (mulBy [(5, 1)] VperA) = r5 := by
  rw [mkRule_eq, dims_uA, dims_mV]; decide +kernel

/-- 1. rule registered with (uA, mV): serves A → V, pA → kV, uA → mV (5, 5e-15, 5e-3) -/
def s1 := addTo (.ok obj0) (u "uA") (u "mV") (mulBy [(5, 1)] VperA)
theorem s1_eq : s1 = .ok (obj [r5]) := addTo_obj (by decide +kernel) rule_uA_mV
example : conv s1 (u "A") (u "V") = num [(5, 1)] := by
  rw [s1_eq, conv_A_V (r := r5) (by decide +kernel) rfl rfl]; rfl
example : conv s1 (u "pA") (u "kV") = num [(2, -15), (5, -14)] := by
  rw [s1_eq, conv_probe (by decide +kernel) (by decide +kernel) (by decide +kernel), restrict_probeUnits]
  decide +kernel
example : cf s1 (u "uA") (u "mV") = .ok (.mag ⟨[(2, -3), (5, -2)], []⟩) := by
  rw [s1_eq, cf_probe (by decide +kernel) (by decide +kernel) (by decide +kernel), restrict_probeUnits]
  decide +kernel
/-- 2. the reverse direction finds nothing -/
example : conv s1 (u "V") (u "A") = .error ⟨"DimensionalityError"⟩ := by
  rw [s1_eq, conv_probe (by decide +kernel) (by decide +kernel) (by decide +kernel), restrict_probeUnits]
  decide +kernel
/-- 3. equal dimensionality: the ordinary factors 1e6, 1e-6 -/
example : cf s1 (u "uA") (u "pA") = .ok (.mag ⟨[(2, 6), (5, 6)], []⟩) := by
  rw [s1_eq, cf_probe (by decide +kernel) (by decide +kernel) (by decide +kernel), restrict_probeUnits]
  decide +kernel
example : cf s1 (u "mV") (u "kV") = .ok (.mag ⟨[(2, -6), (5, -6)], []⟩) := by
  rw [s1_eq, cf_probe (by decide +kernel) (by decide +kernel) (by decide +kernel), restrict_probeUnits]
  decide +kernel
/-- 4. a rule keyed (current, current) is registered and never used -/
def s4 := addTo s1 (u "A") (u "pA") (mulBy [(7, 1)] [])
theorem s4_eq : s4 = .ok (obj [⟨current, current, [(7, 1)], [], []⟩, r5]) := by
  rw [s4, s1_eq]
  exact addTo_obj (by decide +kernel) (by rw [mkRule_eq, dims_A, dims_pA]; decide +kernel)
example : cf s4 (u "uA") (u "pA") = .ok (.mag ⟨[(2, 6), (5, 6)], []⟩) := by
  rw [s4_eq, cf_probe (by decide +kernel) (by decide +kernel) (by decide +kernel), restrict_probeUnits]
  decide +kernel
/-- 5. the same rule twice -/
def s5 := addTo s1 (u "uA") (u "mV") (mulBy [(5, 1)] VperA)
theorem s5_eq : s5 = .ok (obj [r5, r5]) := by
  rw [s5, s1_eq]; exact addTo_obj (by decide +kernel) rule_uA_mV
example : conv s5 (u "A") (u "V") = num [(5, 1)] := by
  rw [s5_eq, conv_A_V (r := r5) (by decide +kernel) rfl rfl]; rfl
/-- 6. a later rule for the same key, given by (pA, kV), shadows: 11 -/
def s6 := addTo s5 (u "pA") (u "kV") (mulBy [(11, 1)] VperA)
theorem s6_eq : s6 = .ok (obj [r11, r5, r5]) := by
  rw [s6, s5_eq]
  exact addTo_obj (by decide +kernel) (by rw [mkRule_eq, dims_pA, dims_kV]; decide +kernel)
example : conv s6 (u "A") (u "V") = num [(11, 1)] := by
  rw [s6_eq, conv_A_V (r := r11) (by decide +kernel) rfl rfl]; rfl
/-- 7. re-adding the old rule makes it the newest again: 5 -/
def s7 := addTo s6 (u "uA") (u "mV") (mulBy [(5, 1)] VperA)
theorem s7_eq : s7 = .ok (obj [r5, r11, r5, r5]) := by
  rw [s7, s6_eq]; exact addTo_obj (by decide +kernel) rule_uA_mV
example : conv s7 (u "A") (u "V") = num [(5, 1)] := by
  rw [s7_eq, conv_A_V (r := r5) (by decide +kernel) rfl rfl]; rfl
/-- 8. a rule for another key does not shadow: 5; ms → V through it: 3e-3 -/
def s8 := addTo s7 (u "S") (u "V") (mulBy [(3, 1)] [("V", 1), ("S", -1)])
theorem s8_eq : s8 = .ok (obj [⟨time, voltage, [(3, 1)], [], [("S", -1), ("V", 1)]⟩, r5, r11, r5, r5]) := by
  rw [s8, s7_eq]
  exact addTo_obj (by decide +kernel) (by rw [mkRule_eq, dims_S, dims_V]; decide +kernel)
example : conv s8 (u "A") (u "V") = num [(5, 1)] := by
  rw [s8_eq, conv_A_V (r := r5) (by decide +kernel) rfl rfl]; rfl
example : conv s8 (u "ms") (u "V") = num [(2, -3), (3, 1), (5, -3)] := by
  rw [s8_eq, conv_probe (by decide +kernel) (by decide +kernel) (by decide +kernel), restrict_probeUnits]
  decide +kernel
/-- 9. registered with (pA, kV): not rescaled to those units, A → V is still 5 -/
def s9 := addTo (.ok obj0) (u "pA") (u "kV") (mulBy [(5, 1)] VperA)
theorem s9_eq : s9 = .ok (obj [r5]) :=
  addTo_obj (by decide +kernel) (by rw [mkRule_eq, dims_pA, dims_kV]; decide +kernel)
example : conv s9 (u "A") (u "V") = num [(5, 1)] := by
  rw [s9_eq, conv_A_V (r := r5) (by decide +kernel) rfl rfl]; rfl
/-- 10. a rule of the wrong dimension is accepted at registration and refused at conversion -/
def s10 := addTo (.ok obj0) (u "A") (u "V") (mulBy [(5, 1)] (u "S"))
theorem s10_eq : s10 = .ok (obj [⟨current, voltage, [(5, 1)], [], [("S", 1)]⟩]) :=
  addTo_obj (by decide +kernel) (by rw [mkRule_eq, dims_A, dims_V]; decide +kernel)
example : (s10.map fun s => s._registry.rules.length) = .ok 1 := by
  rw [s10_eq]; rfl
example : conv s10 (u "A") (u "V") = .error ⟨"DimensionalityError"⟩ := by
  rw [s10_eq, conv_probe (by decide +kernel) (by decide +kernel) (by decide +kernel), restrict_probeUnits]
  decide +kernel
/-- 11. a unit of another registry -/
example : (addTo (.ok obj0) (u "store1_x") (u "V") []).map (fun s => s._registry.rules.length) =
    .error ⟨"UndefinedUnitError"⟩ := by
  rw [show obj0 = obj [] from rfl, addTo_unknown (by rw [probeReg, builtinRegistry_eq]; decide +kernel)]
  rfl
/-- 13. a rule from the empty dimension: dimensionless → mV is 5000 -/
def s13 := addTo (.ok obj0) [] (u "V") (mulBy [(5, 1)] (u "V"))
theorem s13_eq : s13 = .ok (obj [⟨[], voltage, [(5, 1)], [], [("V", 1)]⟩]) :=
  addTo_obj (by decide +kernel) (by rw [mkRule_eq, dimsOf_nil, dims_V]; decide +kernel)
example : conv s13 [] (u "mV") = num [(2, 3), (5, 4)] := by
  rw [s13_eq, conv_probe (by decide +kernel) (by decide +kernel) (by decide +kernel), restrict_probeUnits]
  decide +kernel
/-- 14. a chain whose second rule is registered through (kV, ms): A → S is 10 -/
def s14 := addTo s1 (u "kV") (u "ms") (mulBy [(2, 1)] [("S", 1), ("V", -1)])
theorem s14_eq : s14 = .ok (obj [⟨voltage, time, [(2, 1)], [], [("S", 1), ("V", -1)]⟩, r5]) := by
  rw [s14, s1_eq]
  exact addTo_obj (by decide +kernel) (by rw [mkRule_eq, dims_kV, dims_ms]; decide +kernel)
example : conv s14 (u "A") (u "S") = num [(2, 1), (5, 1)] := by
  rw [s14_eq, conv_probe (by decide +kernel) (by decide +kernel) (by decide +kernel), restrict_probeUnits]
  decide +kernel

end Cellml.Props.C19GenR.Cases
