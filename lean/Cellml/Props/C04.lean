import Cellml.Expr.Local

/-! # C04 — unit inference is sound

    Model: `Infer.traverse reg Γ e` (units.py `UnitCalculator.traverse`): pint arithmetic on unit containers, carrying
    magnitudes along. Specification: `Spec.specUnit reg Γ e` (Expr/Spec.lean): the CellML rules on SEMANTIC units
    `(scale, root units)`, with no containers and no magnitudes. `sem reg u = Units.toRoot reg u` is the meaning of a
    container, `≃₂` is equality of meaning (same positive real scale, same exponent of every root unit).
    Every theorem is for ALL registries (unit families), ALL variable environments and ALL expressions (induction on
    the expression, no depth bound). The tie to cellmlmanip: `Tie/Infer.lean` (the generated `traverse` against this
    model), `Props/C04Gen.lean` (the theorems below for the generated function) and the correspondence check
    `harness/props/c04.py`. -/

-- expressions are called `e`, which is also the constructor `E.e` (Euler's number)
set_option linter.constructorNameAsVariable false

namespace Cellml.Props.C04
open Units PMap Spec Infer

/-! ## the containers `traverse` builds mean what the rules say (all registries, all containers) -/

theorem sem_product (reg : Registry) (a b : Container) : sem reg (mulC a b) ≃₂ Spec.mul (sem reg a) (sem reg b) :=
  sem_mulC reg a b
theorem sem_quotient (reg : Registry) (a b : Container) : sem reg (divC a b) ≃₂ Spec.div (sem reg a) (sem reg b) :=
  sem_divC reg a b
theorem sem_power (reg : Registry) (a : Container) (q : Rat) : sem reg (powC a q) ≃₂ Spec.pow q (sem reg a) :=
  sem_powC reg a q
theorem sem_dimensionless (reg : Registry) : sem reg [] ≃₂ Spec.one := sem_nil reg
/-- the sum / piecewise check accepts exactly the pairs of equal scale and equal root units -/
theorem sameUnits_iff_sem (reg : Registry) (a b : Container) : sameUnits reg a b = true ↔ sem reg a ≃₂ sem reg b :=
  sameUnits_iff reg a b
/-- the function-argument check accepts exactly the units of dimension zero -/
theorem isDimless_iff_dims (reg : Registry) (u : Container) :
    isDimless reg u = true ↔ dimsOfRoot reg (sem reg u).2 ≃ [] := isDimless_iff reg u

/-- terms that have no unit: relations, boolean terms, two-argument functions, an empty piecewise, anything unknown -/
def noUnitHead : E → Bool
  | .other _ | .rel _ _ _ | .and _ _ | .or _ _ | .not _ | .tt | .ff | .fnN _ _ _ | .undef => true
  | _ => false

theorem not_ok_of_noUnitHead {reg : Registry} {Γ : VarEnv} {e : E} {r : M × Container}
    (hr : traverse reg Γ e = .ok r) (h : noUnitHead e = true) : False := by
  cases e <;> simp only [noUnitHead, Bool.false_eq_true] at h
  case other | tt | ff | undef => cases hr
  case fnN f a b =>
    obtain ⟨err, he⟩ := traverse_fnN reg Γ f a b
    rw [he] at hr
    cases hr
  all_goals
    simp only [traverse_rel, traverse_and, traverse_or, traverse_not, bind_ok, reduceCtorEq, and_false,
      exists_false] at hr

/-- `infer_rejects`: such a term is never given a unit, whatever its operands are -/
theorem infer_rejects (reg : Registry) (Γ : VarEnv) (e : E) (h : noUnitHead e = true) :
    ∃ err, traverse reg Γ e = .error err :=
  error_of_not_ok fun _ hr => not_ok_of_noUnitHead hr h

/-- `infer_sound`: whenever `traverse` returns a unit for an expression whose exponents are numeric (numeric leaves or
    products of numeric leaves such as `-2`, `(-1)·0.5`; `SimpleExps`), the CellML rules assign the expression a unit
    — so it is consistent — and the returned container denotes exactly that unit: same scale, same root units.
    The hypothesis `SimpleExps e` is the property's "power with numeric exponent"; it excludes the known finding
    `wrong-unit:composite-exponent`, and without it the statement is false
    (`infer_sound_fails_for_composite_exponent`). -/
theorem infer_sound (reg : Registry) (Γ : VarEnv) (e : E) :
    SimpleExps e = true → ∀ r, traverse reg Γ e = .ok r →
      ∃ su, specUnit reg Γ e = some su ∧ sem reg r.2 ≃₂ su := by
  -- the statement is a `Post` of `traverse`; the composite cases walk the recursion equation forwards (`Post.bind`)
  induction e with
  | qty _ _ | cf _ _ => intro _; exact Post.ok ⟨_, rfl, Equiv₂.refl _⟩
  | var i =>
      intro _ r h; rw [traverse_var] at h
      obtain ⟨vi, hvi, hu⟩ := varQ_ok Γ i r h
      exact ⟨sem reg vi.unit, by simp [specUnit, hvi], by rw [hu]; exact Equiv₂.refl _⟩
  | int _ | rat _ | flt _ | pi | e => intro _; exact Post.ok ⟨_, rfl, sem_nil reg⟩
  | oo | nan => intro _; exact Post.error
  | undef | tt | ff | other _ | rel _ _ _ _ _ | and _ _ _ _ | or _ _ _ _ | not _ _ | fnN _ _ _ _ _ =>
      intro _ r h
      exact (not_ok_of_noUnitHead h rfl).elim
  | mul a b iha ihb =>
      intro hs
      simp only [SimpleExps, Bool.and_eq_true] at hs
      rw [traverse_mul]
      exact Post.bind (iha hs.1) fun qa ⟨sa, hsa, ea⟩ => Post.bind (ihb hs.2) fun qb ⟨sb, hsb, eb⟩ =>
        .ok ⟨Spec.mul sa sb, by simp [specUnit, hsa, hsb], (sem_mulC reg _ _).trans (mul_congr ea eb)⟩
  | add a b iha ihb =>
      intro hs r h
      simp only [SimpleExps, Bool.and_eq_true] at hs
      obtain ⟨ha, qb, hb, hsame⟩ := traverse_add_ok reg Γ a b r h
      obtain ⟨sa, hsa, ea⟩ := iha hs.1 r ha
      obtain ⟨sb, hsb, eb⟩ := ihb hs.2 qb hb
      have hab : sa ≃₂ sb := ea.symm.trans (((sameUnits_iff reg _ _).mp hsame).trans eb)
      exact ⟨sa, by simp [specUnit, hsa, hsb, (same_iff sa sb).mpr hab], ea⟩
  | abs a iha => intro hs; rw [traverse_abs]; exact Post.bind (iha hs) fun qa h => .ok h
  | floor a iha | ceil a iha =>
      intro hs
      simp only [traverse_floor, traverse_ceil]
      exact Post.bind (iha hs) fun qa h => Post.any.bind fun m _ => .ok h
  | fn1 f a iha =>
      intro hs
      rw [traverse_fn1]
      refine Post.bind (iha hs) fun qa ⟨sa, hsa, ea⟩ r h => ?_
      obtain ⟨hd, hr⟩ := fn1Step_ok reg f qa r h
      have hz : dimZero reg sa = true := by
        rw [← dimZero_congr reg ea, ← isDimless_eq_dimZero]; exact hd
      exact ⟨Spec.one, by simp [specUnit, hsa, hz], by rw [hr]; exact sem_nil reg⟩
  | deriv v t =>
      intro _
      rw [traverse_deriv]
      refine Post.bind (varQ_ok Γ v) fun qv ⟨vi, hvi, hu⟩ => Post.bind (varQ_ok Γ t) fun qt ⟨ti, hti, hw⟩ =>
        Post.any.bind fun m _ => .ok ⟨Spec.div (sem reg vi.unit) (sem reg ti.unit), by simp [specUnit, hvi, hti], ?_⟩
      show sem reg (divC qv.2 qt.2) ≃₂ _
      rw [hu, hw]; exact sem_divC reg _ _
  | ite c t el _ iht ihe =>
      intro hs
      simp only [SimpleExps, Bool.and_eq_true] at hs
      rw [traverse_ite]
      refine Post.bind (iht hs.1) fun qt ⟨st, hst, et⟩ => ?_
      by_cases hu : el = .undef
      · simp only [hu, if_true]
        exact .ok ⟨st, by simp [specUnit, hst], et⟩
      · simp only [hu, if_false]
        refine Post.bind (ihe hs.2) fun qe ⟨se, hse, ee⟩ => ?_
        split
        · rename_i hsame
          have hab : st ≃₂ se := et.symm.trans (((sameUnits_iff reg _ _).mp hsame).trans ee)
          exact .ok ⟨st, by simp [specUnit, hu, hst, hse, (same_iff st se).mpr hab], et⟩
        · exact .error
  | pow b x ihb ihx =>
      intro hs
      simp only [SimpleExps, Bool.and_eq_true] at hs
      obtain ⟨q, f, hx, hc⟩ := numProd_traverse reg Γ x hs.2
      obtain ⟨sx, hsx, ex⟩ := ihx (simpleExps_of_numProd x hs.2) _ hx
      have hone : isOne sx = true := (isOne_iff sx).mpr (ex.symm.trans (sem_nil reg))
      rw [traverse_pow, hx]
      refine Post.bind (ihb hs.1) fun qb ⟨sb, hsb, eb⟩ => ?_
      show Post _ (powStep qb (.num q f, []))
      rw [powStep_num]
      exact Post.any.bind fun m _ =>
        .ok ⟨Spec.pow q sb, by simp [specUnit, hsb, hsx, hone, hc], (sem_powC reg _ q).trans (pow_congr q eb)⟩

/-- the same in the canonical forms the correspondence check compares: the SI scale (`scaleOf`) and the dimension
    (`dimsOf`) of the returned unit are exactly those of the unit the rules assign -/
theorem infer_sound_scale_dims (reg : Registry) (Γ : VarEnv) (e : E) (hs : SimpleExps e = true) (r : M × Container)
    (h : traverse reg Γ e = .ok r) :
    ∃ su, specUnit reg Γ e = some su ∧ scaleOf reg r.2 = norm su.1 ∧ rootOf reg r.2 = norm su.2 ∧
      dimsOf reg r.2 = norm (dimsOfRoot reg su.2) := by
  obtain ⟨su, hsu, heq⟩ := infer_sound reg Γ e hs r h
  refine ⟨su, hsu, norm_eq_of_equiv heq.1, norm_eq_of_equiv heq.2, ?_⟩
  exact norm_eq_of_equiv (dimsOfRoot_congr reg ((norm_equiv _).trans heq.2))

/-! ## consistency: `specUnit` decides the typing relation `HasUnit` -/

/-- whatever `specUnit` computes is derivable by the rules -/
theorem specUnit_hasUnit (reg : Registry) (Γ : VarEnv) (e : E) :
    ∀ su, specUnit reg Γ e = some su → HasUnit reg Γ e su := by
  induction e with
  | qty _ _ | cf _ _ | int _ | rat _ | flt _ | pi | e | oo | nan =>
      intro su h; simp only [specUnit, Option.some.injEq] at h; subst h; constructor
  | var i =>
      intro su h
      cases hv : Γ[i]? with
      | none => simp [specUnit, hv] at h
      | some vi => simp only [specUnit, hv, Option.some.injEq] at h; subst h; exact .var i vi hv
  | mul a b iha ihb =>
      intro su h
      cases ha : specUnit reg Γ a <;> cases hb : specUnit reg Γ b <;> simp [specUnit, ha, hb] at h
      subst h; exact .mul (iha _ ha) (ihb _ hb)
  | add a b iha ihb =>
      intro su h
      cases ha : specUnit reg Γ a <;> cases hb : specUnit reg Γ b <;> simp [specUnit, ha, hb] at h
      obtain ⟨hs, rfl⟩ := h
      exact .add (iha _ ha) (ihb _ hb) ((same_iff _ _).mp hs)
  | pow b x ihb ihx =>
      intro su h
      cases hb : specUnit reg Γ b <;> cases hx : specUnit reg Γ x <;> simp [specUnit, hb, hx] at h
      rename_i sb sx
      obtain ⟨h1, h⟩ := h
      have hsx := (isOne_iff sx).mp h1
      cases hc : constVal x with
      | some q =>
          simp only [hc, Option.some.injEq] at h; subst h
          exact .powNum (ihb _ hb) (ihx _ hx) hsx hc
      | none =>
          simp only [hc, Option.ite_none_right_eq_some, Option.some.injEq] at h
          obtain ⟨h2, rfl⟩ := h
          exact .powOne (ihb _ hb) (ihx _ hx) hsx ((isOne_iff sb).mp h2) hc
  | ite c t el _ iht ihe =>
      intro su h
      by_cases hu : el = .undef
      · subst hu
        simp only [specUnit, if_true] at h
        exact .iteLast (iht _ h)
      · cases ht : specUnit reg Γ t <;> cases he : specUnit reg Γ el <;> simp [specUnit, hu, ht, he] at h
        obtain ⟨hs, rfl⟩ := h
        exact .ite hu (iht _ ht) (ihe _ he) ((same_iff _ _).mp hs)
  | abs a iha | floor a iha | ceil a iha => intro su h; simp only [specUnit] at h; constructor; exact iha _ h
  | fn1 f a iha =>
      intro su h
      cases ha : specUnit reg Γ a <;> simp [specUnit, ha] at h
      obtain ⟨hz, rfl⟩ := h
      exact .fn1 (iha _ ha) ((isZero_iff _).mp hz)
  | deriv v t =>
      intro su h
      cases hv : Γ[v]? <;> cases ht : Γ[t]? <;> simp [specUnit, hv, ht] at h
      subst h; exact .deriv v t _ _ hv ht
  | _ => intro su h; simp [specUnit] at h

/-- the rules determine the unit up to meaning, and `specUnit` finds it: `HasUnit` is not weaker than `specUnit` -/
theorem hasUnit_specUnit (reg : Registry) (Γ : VarEnv) (e : E) (su : SUnit) (h : HasUnit reg Γ e su) :
    ∃ su', specUnit reg Γ e = some su' ∧ su' ≃₂ su := by
  induction h with
  | qty _ _ | cf _ _ | int _ | rat _ | flt _ | pi | e | oo | nan => exact ⟨_, rfl, Equiv₂.refl _⟩
  | var i vi hv => exact ⟨_, by simp [specUnit, hv], Equiv₂.refl _⟩
  | mul _ _ iha ihb =>
      obtain ⟨x', hx, ex⟩ := iha
      obtain ⟨y', hy, ey⟩ := ihb
      exact ⟨Spec.mul x' y', by simp [specUnit, hx, hy], mul_congr ex ey⟩
  | powNum _ _ hone hc ihb ihx =>
      obtain ⟨sb', hb, eb⟩ := ihb
      obtain ⟨sx', hx, ex⟩ := ihx
      have : isOne sx' = true := (isOne_iff _).mpr (ex.trans hone)
      exact ⟨_, by simp [specUnit, hb, hx, this, hc], pow_congr _ eb⟩
  | powOne _ _ hone hbone hc ihb ihx =>
      obtain ⟨sb', hb, eb⟩ := ihb
      obtain ⟨sx', hx, ex⟩ := ihx
      have h1 : isOne sx' = true := (isOne_iff _).mpr (ex.trans hone)
      have h2 : isOne sb' = true := (isOne_iff _).mpr (eb.trans hbone)
      exact ⟨Spec.one, by simp [specUnit, hb, hx, h1, h2, hc], Equiv₂.refl _⟩
  | add _ _ hxy iha ihb =>
      obtain ⟨x', hx, ex⟩ := iha
      obtain ⟨y', hy, ey⟩ := ihb
      have : Spec.same x' y' = true := (same_iff _ _).mpr (ex.trans (hxy.trans ey.symm))
      exact ⟨x', by simp [specUnit, hx, hy, this], ex⟩
  | iteLast _ iht =>
      obtain ⟨x', hx, ex⟩ := iht
      exact ⟨x', by simp [specUnit, hx], ex⟩
  | ite hu _ _ hxy iht ihe =>
      obtain ⟨x', hx, ex⟩ := iht
      obtain ⟨y', hy, ey⟩ := ihe
      have : Spec.same x' y' = true := (same_iff _ _).mpr (ex.trans (hxy.trans ey.symm))
      exact ⟨x', by simp [specUnit, hu, hx, hy, this], ex⟩
  | abs _ ih | floor _ ih | ceil _ ih => obtain ⟨x', hx, ex⟩ := ih; exact ⟨x', by simp [specUnit, hx], ex⟩
  | fn1 _ hz ih =>
      obtain ⟨x', hx, ex⟩ := ih
      have : dimZero reg x' = true := by
        rw [dimZero_congr reg ex]; exact (isZero_iff _).mpr hz
      exact ⟨Spec.one, by simp [specUnit, hx, this], Equiv₂.refl _⟩
  | deriv v t vi ti hv ht => exact ⟨_, by simp [specUnit, hv, ht], Equiv₂.refl _⟩

/-- the unit of a consistent expression is unique up to meaning -/
theorem hasUnit_unique (reg : Registry) (Γ : VarEnv) (e : E) (s₁ s₂ : SUnit)
    (h₁ : HasUnit reg Γ e s₁) (h₂ : HasUnit reg Γ e s₂) : s₁ ≃₂ s₂ := by
  obtain ⟨a, ha, ea⟩ := hasUnit_specUnit reg Γ e s₁ h₁
  obtain ⟨b, hb, eb⟩ := hasUnit_specUnit reg Γ e s₂ h₂
  rw [ha] at hb; cases hb
  exact ea.symm.trans eb

/-- `infer_consistent`: a returned unit certifies that the expression is consistent under the CellML rules — there is a
    derivation in which every sum's operands and every piecewise's pieces have the same unit, every function
    argument has dimension zero, every exponent is dimensionless — and the returned container denotes the derived
    unit (which is unique, `hasUnit_unique`). -/
theorem infer_consistent (reg : Registry) (Γ : VarEnv) (e : E) (hs : SimpleExps e = true) (r : M × Container)
    (h : traverse reg Γ e = .ok r) : ∃ su, HasUnit reg Γ e su ∧ sem reg r.2 ≃₂ su := by
  obtain ⟨su, hsu, eq⟩ := infer_sound reg Γ e hs r h
  exact ⟨su, specUnit_hasUnit reg Γ e su hsu, eq⟩

/-- `infer_complete_err` (value part): an expression to which the rules assign no unit — a unit clash in a sum or
    piecewise, a dimensional exponent or function argument, a boolean / relational / unsupported node where a value is
    needed — is never given a unit: `traverse` ends in an error. -/
theorem infer_complete_err (reg : Registry) (Γ : VarEnv) (e : E) (hs : SimpleExps e = true)
    (hno : ∀ su, ¬ HasUnit reg Γ e su) : ∃ err, traverse reg Γ e = .error err :=
  error_of_not_ok fun r h => let ⟨su, hsu, _⟩ := infer_consistent reg Γ e hs r h; hno su hsu

theorem infer_complete_err_spec (reg : Registry) (Γ : VarEnv) (e : E) (hs : SimpleExps e = true)
    (hno : specUnit reg Γ e = none) : ∃ err, traverse reg Γ e = .error err :=
  error_of_not_ok fun r h => let ⟨_, hsu, _⟩ := infer_sound reg Γ e hs r h; nomatch hno.symm.trans hsu

/-- What an error of `traverse` on `e` can be: a `UnitError` subclass; or a Python exception of a magnitude operation
    that occurs in `e` (`pyErrors e` lists them per node: `ZeroDivisionError` for `**` and derivatives, `OverflowError`
    for `exp`, `TypeError` for floor / ceiling); or the model's `unsupported` for a node of `e` outside the exactly
    modelled fragment (`outside Γ e`: infinity, nan, unknown variable, powers). -/
def ErrClass (Γ : VarEnv) (e : E) (err : UnitErr) : Prop :=
  (∀ w, err = .otherException w → w ∈ pyErrors e) ∧ (∀ w, err = .unsupported w → outside Γ e = true)

theorem ErrClass.of_unitError {Γ : VarEnv} {e : E} {err : UnitErr} (h : isUnitError err = true) :
    ErrClass Γ e err := by
  constructor <;> intro w hw <;> subst hw <;> simp [isUnitError] at h

theorem ErrClass.of_py {Γ : VarEnv} {e : E} {w : String} (h : w ∈ pyErrors e) :
    ErrClass Γ e (.otherException w) :=
  ⟨fun _ hw => (by cases hw; exact h), fun _ hw => (by cases hw)⟩

theorem ErrClass.of_outside {Γ : VarEnv} {e : E} {w : String} (h : outside Γ e = true) :
    ErrClass Γ e (.unsupported w) :=
  ⟨fun _ hw => (by cases hw), fun _ _ => h⟩

theorem ErrClass.mono {Γ : VarEnv} {a e : E} {err : UnitErr} (h : ErrClass Γ a err)
    (hp : ∀ w, w ∈ pyErrors a → w ∈ pyErrors e) (ho : outside Γ a = true → outside Γ e = true) :
    ErrClass Γ e err :=
  ⟨fun w hw => hp w (h.1 w hw), fun w hw => ho (h.2 w hw)⟩

/-- sub-expression step of the induction: errors of an operand are errors the parent may show -/
macro "from_operand " ih:term : tactic =>
  `(tactic| exact ErrClass.mono $ih (by intro w hw; simp [pyErrors, hw]) (by intro ho; simp [outside, ho]))

/-- `infer_error_class`: every error of `traverse` is classified by `ErrClass` -/
theorem infer_error_class (reg : Registry) (Γ : VarEnv) (e : E) :
    ∀ err, traverse reg Γ e = .error err → ErrClass Γ e err := by
  induction e with
  | qty _ _ | cf _ _ | int _ | rat _ | flt _ | pi | e => intro err h; cases h
  | oo | nan => intro err h; cases h; exact .of_outside rfl
  | undef | tt | ff | other _ => intro err h; cases h; exact .of_unitError rfl
  | var i =>
      intro err h; rw [traverse_var] at h
      obtain ⟨hn, rfl⟩ := varQ_error Γ i err h
      exact .of_outside (by simp [outside, hn])
  | mul a b iha ihb =>
      intro err h
      simp only [traverse_mul, bind_error] at h
      rcases h with h | ⟨qa, _, h | ⟨qb, _, h⟩⟩
      · from_operand (iha err h)
      · from_operand (ihb err h)
      · cases h
  | add a b iha ihb =>
      intro err h
      rcases traverse_add_error reg Γ a b err h with h | h | rfl
      · from_operand (iha err h)
      · from_operand (ihb err h)
      · exact .of_unitError rfl
  | rel _ a b iha ihb | and a b iha ihb | or a b iha ihb =>
      intro err h
      simp only [traverse_rel, traverse_and, traverse_or, bind_error] at h
      rcases h with h | ⟨qa, _, h | ⟨qb, _, h⟩⟩
      · from_operand (iha err h)
      · from_operand (ihb err h)
      · cases h; exact .of_unitError rfl
  | not a iha =>
      intro err h
      simp only [traverse_not, bind_error] at h
      rcases h with h | ⟨qa, _, h⟩
      · from_operand (iha err h)
      · cases h; exact .of_unitError rfl
  | abs a iha =>
      intro err h
      simp only [traverse_abs, bind_error] at h
      rcases h with h | ⟨qa, _, h⟩
      · from_operand (iha err h)
      · cases h
  | floor a iha | ceil a iha =>
      intro err h
      simp only [traverse_floor, traverse_ceil, bind_error] at h
      rcases h with h | ⟨qa, _, h | ⟨m, _, h⟩⟩
      · from_operand (iha err h)
      · cases floorM_error _ _ _ h
        exact .of_py (by simp [pyErrors])
      · cases h
  | fn1 f a iha =>
      intro err h
      simp only [traverse_fn1, bind_error] at h
      rcases h with h | ⟨qa, _, h⟩
      · from_operand (iha err h)
      · rcases fn1Step_error reg f qa err h with rfl | rfl | ⟨rfl, rfl⟩
        · exact .of_unitError rfl
        · exact .of_unitError rfl
        · exact .of_py (by simp [pyErrors])
  | fnN f a b iha ihb =>
      intro err h
      rcases traverse_fnN_error reg Γ f a b err h with rfl | rfl | h | h
      · exact .of_unitError rfl
      · exact .of_unitError rfl
      · from_operand (iha err h)
      · from_operand (ihb err h)
  | deriv v t =>
      intro err h
      simp only [traverse_deriv, bind_error] at h
      rcases h with h | ⟨qv, _, h | ⟨qt, _, h | ⟨m, _, h⟩⟩⟩
      · obtain ⟨hn, rfl⟩ := varQ_error Γ v err h
        exact .of_outside (by simp [outside, hn])
      · obtain ⟨hn, rfl⟩ := varQ_error Γ t err h
        exact .of_outside (by simp [outside, hn])
      · cases divM_error _ _ _ h
        exact .of_py (by simp [pyErrors])
      · cases h
  | ite c t el _ iht ihe =>
      intro err h
      simp only [traverse_ite, bind_error] at h
      rcases h with h | ⟨qt, _, h⟩
      · from_operand (iht err h)
      · by_cases hu : el = .undef
        · simp only [hu, if_true] at h; cases h
        · simp only [hu, if_false, bind_error] at h
          rcases h with h | ⟨qe, _, h⟩
          · from_operand (ihe err h)
          · rcases ite_error h with h | h <;> cases h
            exact .of_unitError rfl
  | pow b x ihb ihx =>
      intro err h
      simp only [traverse_pow, bind_error] at h
      rcases h with h | ⟨qb, _, h | ⟨qx, _, h⟩⟩
      · from_operand (ihb err h)
      · from_operand (ihx err h)
      · rcases powStep_error qb qx err h with h | rfl | ⟨w, rfl⟩
        · exact .of_unitError h
        · exact .of_py (by simp [pyErrors])
        · exact .of_outside rfl

/-- the three ways an evaluation can fail -/
theorem infer_error_trichotomy (reg : Registry) (Γ : VarEnv) (e : E) (err : UnitErr)
    (h : traverse reg Γ e = .error err) :
    isUnitError err = true ∨ (∃ w, err = .otherException w ∧ w ∈ pyErrors e) ∨
      (∃ w, err = .unsupported w ∧ outside Γ e = true) := by
  have hc := infer_error_class reg Γ e err h
  cases err with
  | otherException w => exact Or.inr (Or.inl ⟨w, rfl, hc.1 w rfl⟩)
  | unsupported w => exact Or.inr (Or.inr ⟨w, rfl, hc.2 w rfl⟩)
  | _ => exact Or.inl rfl

/-- only three Python exception types can escape, each from the magnitude operation named in `pyErrors` -/
theorem pyErrors_subset (e : E) : ∀ w, w ∈ pyErrors e → w ∈ ["ZeroDivisionError", "OverflowError", "TypeError"] := by
  have sub : pyErrors e ⊆ ["ZeroDivisionError", "OverflowError", "TypeError"] := by
    induction e with
    | pow b x ihb ihx => exact List.cons_subset.mpr ⟨by simp, List.append_subset.mpr ⟨ihb, ihx⟩⟩
    | floor a ih | ceil a ih => exact List.cons_subset.mpr ⟨by simp, ih⟩
    | deriv v t => simp [pyErrors]
    | fn1 f a ih =>
        refine List.append_subset.mpr ⟨?_, ih⟩
        split <;> simp
    | add a b iha ihb | mul a b iha ihb | fnN f a b iha ihb | rel rl a b iha ihb | and a b iha ihb | or a b iha ihb =>
        exact List.append_subset.mpr ⟨iha, ihb⟩
    | ite c t el _ iht ihe => exact List.append_subset.mpr ⟨iht, ihe⟩
    | abs a ih | not a ih => exact ih
    | _ => exact List.nil_subset _
  exact fun w hw => sub hw

/-- `infer_unit_errors_only_partial`: an expression without powers, floor / ceiling, `exp` and derivatives (no operation
    on magnitudes can fail), without infinity / nan and whose variables are all declared, is either given a unit or
    rejected with a `UnitError` subclass — never another exception.
    PARTIAL with respect to the property text ("never another exception type", for every expression): the hypothesis
    `pyErrors e = []` excludes exactly the known findings `non-UnitError:OverflowError / ZeroDivisionError / TypeError`
    (`overflow_reachable`, `zero_division_reachable`, `type_error_reachable` below show they are real);
    `infer_error_trichotomy` is the unconditional statement, which names the escaping exception and its origin. -/
theorem infer_unit_errors_only_partial (reg : Registry) (Γ : VarEnv) (e : E) (hp : pyErrors e = [])
    (ho : outside Γ e = false) : (∃ r, traverse reg Γ e = .ok r) ∨
      (∃ err, traverse reg Γ e = .error err ∧ isUnitError err = true) := by
  cases h : traverse reg Γ e with
  | ok r => exact Or.inl ⟨r, rfl⟩
  | error err =>
      refine Or.inr ⟨err, rfl, ?_⟩
      rcases infer_error_trichotomy reg Γ e err h with hu | ⟨w, _, hw⟩ | ⟨w, _, hw⟩
      · exact hu
      · rw [hp] at hw; cases hw
      · rw [ho] at hw; cases hw

/-- with acceptable operands a relation / boolean term is rejected as `BooleanUnitsError` -/
theorem infer_rejects_relation (reg : Registry) (Γ : VarEnv) (rl : Rel) (a b : E) (ra rb : M × Container)
    (ha : traverse reg Γ a = .ok ra) (hb : traverse reg Γ b = .ok rb) :
    traverse reg Γ (.rel rl a b) = .error .boolean := by
  rw [traverse_rel, ha, hb]; rfl

/-- `infer_rejects_sum`: two accepted operands whose units differ in meaning (scale or root units) cannot be added:
    `InputArgumentsInvalidUnitsError` -/
theorem infer_rejects_sum (reg : Registry) (Γ : VarEnv) (a b : E) (ra rb : M × Container)
    (ha : traverse reg Γ a = .ok ra) (hb : traverse reg Γ b = .ok rb) (hne : ¬ sem reg ra.2 ≃₂ sem reg rb.2) :
    traverse reg Γ (.add a b) = .error .argsInvalidUnits := by
  apply traverse_add_mismatch reg Γ a b ra rb ha hb
  cases hs : sameUnits reg ra.2 rb.2 with
  | false => rfl
  | true => exact absurd ((sameUnits_iff reg _ _).mp hs) hne

/-- the same from the specification's side: operands to which the rules give different units -/
theorem infer_rejects_sum_spec (reg : Registry) (Γ : VarEnv) (a b : E) (sa sb : SUnit)
    (hsa : SimpleExps a = true) (hsb : SimpleExps b = true)
    (ha : specUnit reg Γ a = some sa) (hb : specUnit reg Γ b = some sb) (hne : ¬ sa ≃₂ sb) :
    ∃ err, traverse reg Γ (.add a b) = .error err := by
  apply infer_complete_err_spec reg Γ (.add a b) (by simp [SimpleExps, hsa, hsb])
  have : Spec.same sa sb = false := by
    cases hs : Spec.same sa sb with
    | false => rfl
    | true => exact absurd ((same_iff _ _).mp hs) hne
  simp [specUnit, ha, hb, this]

/-! ## the known defects, as theorems about the model (findings/C04.json) -/

/-- `wrong-unit:composite-exponent`: why `infer_sound` needs `SimpleExps`. For `(0.5 second)**(_2 + _3)` the code
    reads the exponent as its first operand, 2, and reports `second**2`; the rules give `second**5`. -/
def compositeExp : E := .pow (.qty (1/2) [("second", 1)]) (.add (.qty 2 []) (.qty 3 []))

theorem composite_exponent_counterexample :
    traverse builtinRegistry [] compositeExp = .ok (.num (1/4) true, [("second", 2)]) ∧
    (specUnit builtinRegistry [] compositeExp).map (fun su => (norm su.1, norm su.2)) = some ([], [("second", 5)]) ∧
    SimpleExps compositeExp = false ∧
    (∀ su, specUnit builtinRegistry [] compositeExp = some su →
      Spec.same (sem builtinRegistry [("second", 2)]) su = false) := by
  have hspec : (specUnit builtinRegistry [] compositeExp).map (fun su => (norm su.1, norm su.2)) =
      some ([], [("second", 5)]) := by
    rw [specUnit_restrict _ (fun a b h => by rw [norm_eq_of_equiv h.1, norm_eq_of_equiv h.2]) commonUnits_closed
      (by decide +kernel), restrict_commonUnits]
    decide +kernel
  refine ⟨?_, hspec, by decide, ?_⟩
  · rw [traverse_restrict commonUnits_closed (by decide +kernel), restrict_commonUnits]
    decide +kernel
  · intro su h
    rw [h] at hspec
    have hroot : norm su.2 = [("second", 5)] := congrArg Prod.snd (Option.some.inj hspec)
    have hsec : norm (sem builtinRegistry [("second", 2)]).2 = [("second", 2)] := by
      show rootOf builtinRegistry [("second", 2)] = _
      rw [rootOf_restrict (closed_of_test commonUnits_closed) (within_of_test (by decide +kernel)), restrict_commonUnits]
      decide +kernel
    have hne : PMap.beq (sem builtinRegistry [("second", 2)]).2 su.2 = false := by
      simp only [PMap.beq, hroot, hsec]
      decide
    simp only [Spec.same, hne, Bool.and_false]

/-- so the returned unit is NOT the unit of the expression: soundness fails without the hypothesis -/
theorem infer_sound_fails_for_composite_exponent :
    ¬ (∀ r, traverse builtinRegistry [] compositeExp = .ok r →
        ∃ su, specUnit builtinRegistry [] compositeExp = some su ∧ sem builtinRegistry r.2 ≃₂ su) := by
  intro hall
  obtain ⟨h1, _, _, h4⟩ := composite_exponent_counterexample
  obtain ⟨su, hsu, heq⟩ := hall _ h1
  have := h4 su hsu
  rw [(same_iff _ _).mpr heq] at this
  cases this

/-- `non-UnitError:OverflowError` -/
theorem overflow_reachable :
    traverse builtinRegistry [] (.fn1 "exp" (.qty 1000 [])) = .error (.otherException "OverflowError") := by
  rw [traverse_restrict commonUnits_closed (by decide +kernel), restrict_commonUnits]
  decide +kernel

/-- `non-UnitError:ZeroDivisionError`: `floor(_0.5)**-1` -/
theorem zero_division_reachable :
    traverse builtinRegistry [] (.pow (.floor (.qty (1/2) [])) (.int (-1))) =
      .error (.otherException "ZeroDivisionError") := by
  rw [traverse_restrict commonUnits_closed (by decide +kernel), restrict_commonUnits]
  decide +kernel

/-- `non-UnitError:TypeError`: `floor((-2 mole)**(1/2))` -/
theorem type_error_reachable :
    traverse builtinRegistry [] (.floor (.pow (.qty (-2) [("mole", 1)]) (.rat (1/2)))) =
      .error (.otherException "TypeError") := by
  rw [traverse_restrict commonUnits_closed (by decide +kernel), restrict_commonUnits]
  decide +kernel

/-! ## non-vacuity: concrete expressions over the built-in registry -/

section Examples
/-- a potential with an initial value, a time, a potential declared as joule / coulomb -/
def Γ₀ : VarEnv := [{ unit := [("volt", 1)], init := some (-80) }, { unit := [("second", 1)] },
                    { unit := [("joule", 1), ("coulomb", -1)] }]

-- volt + joule/coulomb: different containers, same meaning: accepted, the first operand's unit is returned
example : traverse builtinRegistry [] (.add (.qty 1 [("volt", 1)]) (.qty 2 [("joule", 1), ("coulomb", -1)])) =
    .ok (.num 1 true, [("volt", 1)]) := by
  rw [traverse_restrict commonUnits_closed (by decide +kernel), restrict_commonUnits]
  decide +kernel
example : SimpleExps (.add (.qty 1 [("volt", 1)]) (.qty 2 [("joule", 1), ("coulomb", -1)])) = true := by decide
-- … and the specification agrees (this is an instance of `infer_sound`)
example : (specUnit builtinRegistry [] (.add (.qty 1 [("volt", 1)]) (.qty 2 [("joule", 1), ("coulomb", -1)]))).map
    (fun su => Spec.same su (sem builtinRegistry [("volt", 1)])) = some true := by
  obtain ⟨su, h, e⟩ := infer_sound builtinRegistry []
    (.add (.qty 1 [("volt", 1)]) (.qty 2 [("joule", 1), ("coulomb", -1)])) (by decide) (.num 1 true, [("volt", 1)])
    (by rw [traverse_restrict commonUnits_closed (by decide +kernel), restrict_commonUnits]; decide +kernel)
  rw [h]
  exact congrArg some ((same_iff _ _).mpr e.symm)
-- volt + second: rejected, by the code and by the rules
example : traverse builtinRegistry [] (.add (.qty 1 [("volt", 1)]) (.qty 1 [("second", 1)])) =
    .error .argsInvalidUnits := by
  rw [traverse_restrict commonUnits_closed (by decide +kernel), restrict_commonUnits]
  decide +kernel
example : specUnit builtinRegistry [] (.add (.qty 1 [("volt", 1)]) (.qty 1 [("second", 1)])) = none := by
  refine Option.map_eq_none_iff.mp (?_ : Option.map (fun _ => ()) _ = none)
  rw [specUnit_restrict _ (fun _ _ _ => rfl) commonUnits_closed (by decide +kernel), restrict_commonUnits]
  decide +kernel
-- same dimension, different scale (litre vs cubic metre): rejected
example : traverse builtinRegistry [] (.add (.qty 1 [("liter", 1)]) (.qty 1 [("meter", 3)])) =
    .error .argsInvalidUnits := by
  rw [traverse_restrict commonUnits_closed (by decide +kernel), restrict_commonUnits]
  decide +kernel
-- numeric powers, also negative and rational: (3 m)², (4 m²)^(1/2), (2 s)^(-1)
example : traverse builtinRegistry [] (.pow (.qty 3 [("meter", 1)]) (.int 2)) =
    .ok (.num 9 true, [("meter", 2)]) := by
  rw [traverse_restrict commonUnits_closed (by decide +kernel), restrict_commonUnits]
  decide +kernel
example : (traverse builtinRegistry [] (.pow (.qty 4 [("meter", 2)]) (.rat (1/2)))).map (·.2) =
    .ok [("meter", 1)] := by
  rw [traverse_restrict commonUnits_closed (by decide +kernel), restrict_commonUnits]
  decide +kernel
example : (traverse builtinRegistry [] (.pow (.qty 2 [("second", 1)]) (.mul (.int (-1)) (.int 1)))).map (·.2) =
    .ok [("second", -1)] := by
  rw [traverse_restrict commonUnits_closed (by decide +kernel), restrict_commonUnits]
  decide +kernel
example : SimpleExps (.pow (.qty 2 [("second", 1)]) (.mul (.int (-1)) (.int 1))) = true := by decide
-- variables, derivative, piecewise, function of a dimensionless quotient
example : (traverse builtinRegistry Γ₀ (.deriv 0 1)).map (·.2) = .ok [("second", -1), ("volt", 1)] := by
  rw [traverse_restrict commonUnits_closed (by decide +kernel), restrict_commonUnits]
  decide +kernel
example : (traverse builtinRegistry Γ₀
    (.ite (.rel .lt (.var 1) (.qty 1 [("second", 1)])) (.var 0) (.ite .tt (.var 2) .undef))).map (·.2) =
    .ok [("volt", 1)] := by
  rw [traverse_restrict commonUnits_closed (by decide +kernel), restrict_commonUnits]
  decide +kernel
example : (traverse builtinRegistry Γ₀ (.fn1 "exp" (.mul (.var 0) (.pow (.var 2) (.int (-1)))))).map (·.2) =
    .ok [] := by
  rw [traverse_restrict commonUnits_closed (by decide +kernel), restrict_commonUnits]
  decide +kernel
example : traverse builtinRegistry Γ₀ (.fn1 "exp" (.var 0)) = .error .mustBeDimensionless := by
  rw [traverse_restrict commonUnits_closed (by decide +kernel), restrict_commonUnits]
  decide +kernel
example : traverse builtinRegistry Γ₀ (.pow (.var 0) (.var 1)) = .error .mustBeDimensionless := by
  rw [traverse_restrict commonUnits_closed (by decide +kernel), restrict_commonUnits]
  decide +kernel
-- the hypotheses of `infer_unit_errors_only_partial` are satisfiable by a non-trivial expression
example : pyErrors (.add (.mul (.var 0) (.fn1 "sin" (.qty 1 []))) (.abs (.var 2))) = [] ∧
    outside Γ₀ (.add (.mul (.var 0) (.fn1 "sin" (.qty 1 []))) (.abs (.var 2))) = false := by decide
-- relations, booleans, Max are rejected
example : traverse builtinRegistry Γ₀ (.rel .lt (.var 0) (.var 2)) = .error .boolean := by
  rw [traverse_restrict commonUnits_closed (by decide +kernel), restrict_commonUnits]
  decide +kernel
example : traverse builtinRegistry Γ₀ (.fnN "Max" (.var 0) (.var 2)) = .error .deferredFn := by
  rw [traverse_restrict commonUnits_closed (by decide +kernel), restrict_commonUnits]
  decide +kernel
end Examples

end Cellml.Props.C04
