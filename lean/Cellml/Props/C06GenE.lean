import Cellml.Tie.ConvertVarERefine
import Cellml.Props.C06Gen

/-! # C06 — `convert_variable` with the exception CLASS and the STATE LEFT BEHIND, stated about the generated code

    `Gen.ConvertVarE.convertVariable view s v u dir move : Except Raised (CState × Nat)` is generated from the source of
    `Model.convert_variable` (group `ConvertVarE`: the same leaves as `ConvertVar`, but an exception carries its class
    and the model state at the raise). Three layers:

    1. `genE_eq` (= `convertVariable_tieE`, NO hypothesis): the generated code IS the stopping hand model
       `Model.CVE.convertVariable` — equal results, equal exception classes, equal states left behind, whatever
       `get_conversion_factor` does.
    2. `genE_refines` (`ref_convertVariable`): the stopping model refines the flag model `Model.CV.convertVariable` that
       `Props/C06.lean` is about. Hypotheses: the variable is in the model, the keys of `_ode_definition_map` are
       distinct (it is a dict). NOT needed, unlike in `convertVariable_tie`: `s.raised = false` (the flag model never
       reads its flag), `DerivOdes s` (the `IndexError` is part of the stopping model).
    3. the C06 theorems restated (`*_genE`) without those two hypotheses, and the atomicity statements: which raises
       leave the model untouched, and a history through the public API where a raising `convert_variable` leaves the
       model HALF-EDITED (`raising_convert_variable_not_atomic`; python: notes/tie4_cverr_histories.py H1). -/

namespace Cellml.Props.C06GenE
open Model Model.CV Cellml.Gen Cellml.Tie.CV Cellml.Tie.CVE Cellml.Tie.GenD Cellml.Props.C06
open Model.CVE (Raised)

theorem genE_eq (view : CVViewE) (s : CState) (v : Nat) (u : U) (dir : Dir) (move : Bool) :
    ConvertVarE.convertVariable view s v u dir move
      = Model.CVE.convertVariable s v u (view.getConversionFactor (unitOfV s v) u) dir move :=
  convertVariable_tieE view s v u dir move

theorem genE_refines (view : CVViewE) (s : CState) (v : Nat) (u : U) (dir : Dir) (move : Bool) (cf : Rat)
    (hv : v < s.vars.length) (hk : KeysNodup s) (hget : view.getConversionFactor (unitOfV s v) u = .ok cf) :
    Ref (DerivOdes s) s.raised (ConvertVarE.convertVariable view s v u dir move)
      ((CV.convertVariable s v u cf dir move).1, (CV.convertVariable s v u cf dir move).2.1) := by
  rw [genE_eq, hget]
  exact ref_convertVariable s v u cf dir move hv hk

/-- python returns ⇒ exactly the flag model's state and variable, and the flag is where it was -/
theorem genE_returns (view : CVViewE) (s : CState) (v : Nat) (u : U) (dir : Dir) (move : Bool) (cf : Rat)
    (hv : v < s.vars.length) (hk : KeysNodup s) (hget : view.getConversionFactor (unitOfV s v) u = .ok cf)
    (s' : CState) (nv : Nat) (hok : ConvertVarE.convertVariable view s v u dir move = .ok (s', nv)) :
    s' = (CV.convertVariable s v u cf dir move).1 ∧ nv = (CV.convertVariable s v u cf dir move).2.1 ∧
      s'.raised = s.raised := by
  have h := genE_refines view s v u dir move cf hv hk hget
  rw [hok] at h
  obtain ⟨h1, h2⟩ := h
  have e1 : s' = (CV.convertVariable s v u cf dir move).1 := congrArg Prod.fst h1
  exact ⟨e1, congrArg Prod.snd h1, e1 ▸ h2⟩

/-- on a well-formed model the generated `convert_variable` raises NOTHING and returns the flag model's result -/
theorem genE_wf (view : CVViewE) {s : CState} (hwf : WF s) (v : Nat) (hv : v < s.vars.length) (u : U) (cf : Rat)
    (hget : view.getConversionFactor (unitOfV s v) u = .ok cf) (dir : Dir) (move : Bool) :
    ConvertVarE.convertVariable view s v u dir move =
      .ok ((CV.convertVariable s v u cf dir move).1, (CV.convertVariable s v u cf dir move).2.1) :=
  (genE_refines view s v u dir move cf hv hwf.inv.odKeys hget).ok_of_flag_down (derivOdes_of_inv0 hwf.inv)
    (convert_var_wf hwf v hv u cf dir move).2

/-- `get_conversion_factor` raises (`DimensionalityError`, …): the same class escapes, the model is untouched -/
theorem genE_cf_error (view : CVViewE) (s : CState) (v : Nat) (u : U) (dir : Dir) (move : Bool) (c : String)
    (hv : v < s.vars.length) (hcf : view.getConversionFactor (unitOfV s v) u = .error c) :
    ConvertVarE.convertVariable view s v u dir move = .error ⟨c, s⟩ := by
  rw [genE_eq, hcf]
  unfold Model.CVE.convertVariable
  simp [nameOfV_mem s v hv]

/-- a variable whose name is not in `_name_to_variable`: `AssertionError`, the model is untouched -/
theorem genE_not_in_model (view : CVViewE) (s : CState) (v : Nat) (u : U) (dir : Dir) (move : Bool)
    (hv : nameOfV s v ∉ CV.names s) :
    ConvertVarE.convertVariable view s v u dir move = .error ⟨"AssertionError", s⟩ := by
  rw [genE_eq]
  unfold Model.CVE.convertVariable
  simp [hv]

/-- **No-op** (`convert_var_noop`): equivalent units, any state -/
theorem convert_var_noop_genE (view : CVViewE) (s : CState) (v : Nat) (hv : v < s.vars.length) (u : U)
    (hget : view.getConversionFactor (unitOfV s v) u = .ok 1) (dir : Dir) (move : Bool) :
    ConvertVarE.convertVariable view s v u dir move = .ok (s, v) := by
  rw [genE_eq, hget]
  unfold Model.CVE.convertVariable
  simp [nameOfV_mem s v hv]

variable {K : Type} [Field K]

/-- `convert_var_sound` for the generated code with exceptions-with-state: python raises nothing -/
theorem convert_var_sound_genE (view : CVViewE) (I : Interp K) {s : CState} (hwf : WF s) (v : Nat)
    (hv : v < s.vars.length) (u : U) (cf : Rat) (hget : view.getConversionFactor (unitOfV s v) u = .ok cf)
    (hcf1 : cf ≠ 1) (hcf : I.lit cf ≠ 0) (dir : Dir) (move : Bool) :
    ∃ s' nv, ConvertVarE.convertVariable view s v u dir move = .ok (s', nv) ∧
      CallOK I s v cf dir (s', nv, (CV.convertVariable s v u cf dir move).2.2) :=
  ⟨_, _, genE_wf view hwf v hv u cf hget dir move, convert_var_sound I hwf v hv u cf hcf1 hcf dir move⟩

theorem convert_var_wf_genE (view : CVViewE) {s : CState} (hwf : WF s) (v : Nat) (hv : v < s.vars.length) (u : U)
    (cf : Rat) (hget : view.getConversionFactor (unitOfV s v) u = .ok cf) (dir : Dir) (move : Bool) :
    ∃ s' nv, ConvertVarE.convertVariable view s v u dir move = .ok (s', nv) ∧ WF s' ∧ s'.raised = false :=
  ⟨_, _, genE_wf view hwf v hv u cf hget dir move, convert_var_wf hwf v hv u cf dir move⟩

/-- `convert_var_names_fresh` for the generated code. Of the three domain hypotheses of
    `C06Gen.convert_var_names_fresh_gen` only `KeysNodup s` is left: the names do not depend on it, the route (equality of
    the WHOLE state with the flag model's) does. -/
theorem convert_var_names_fresh_genE (view : CVViewE) (s : CState) (v : Nat) (hv : v < s.vars.length) (u : U) (cf : Rat)
    (hget : view.getConversionFactor (unitOfV s v) u = .ok cf) (dir : Dir) (move : Bool) (hk : KeysNodup s) :
    (∀ base, genUniqueName s base ∉ CV.names s) ∧
    (∀ s' nv, ConvertVarE.convertVariable view s v u dir move = .ok (s', nv) →
      (CV.names s).Nodup → (CV.names s').Nodup) := by
  refine ⟨genUniqueName_fresh s, ?_⟩
  intro s' nv hok hn
  obtain ⟨h1, _, _⟩ := genE_returns view s v u dir move cf hv hk hget s' nv hok
  rw [h1]
  exact (convert_var_names_fresh s v hv u cf dir move).2 hn

/-- `convert_var_meta` for the generated code. Of the three domain hypotheses of `C06Gen.convert_var_meta_gen` only
    `KeysNodup s` is left; the flag clause reads "untouched". -/
theorem convert_var_meta_genE (view : CVViewE) (s : CState) (v : Nat) (hv : v < s.vars.length) (u : U) (cf : Rat)
    (hget : view.getConversionFactor (unitOfV s v) u = .ok cf) (hcf : cf ≠ 1) (dir : Dir) (move : Bool)
    (hk : KeysNodup s)
    (s' : CState) (nv : Nat) (hok : ConvertVarE.convertVariable view s v u dir move = .ok (s', nv)) :
    s'.vars[s.vars.length]? =
      some ⟨genUniqueName s (nameOfV s v ++ "_converted"), u,
            C06Gen.newInitOf dir (initOfV s v) cf,
            if move then cmetaOfV s v else none⟩ ∧
    s'.vars[v]? =
      (s.vars[v]?).map (fun y => ⟨y.name, y.unit, C06Gen.keptInitOf dir y.init,
                                  if move then none else y.cmeta⟩) ∧
    (∀ i, i < s.vars.length → i ≠ v → s'.vars[i]? = s.vars[i]?) ∧
    (∀ c, move = true → cmetaOfV s v = some c → s'.cmetaMap.lookup c = some s.vars.length) ∧
    ((move = false ∨ cmetaOfV s v = none) → s'.cmetaMap = s.cmetaMap) ∧
    s'.raised = s.raised := by
  obtain ⟨h1, _, hflag⟩ := genE_returns view s v u dir move cf hv hk hget s' nv hok
  obtain ⟨m1, m2, m3, m4, m5⟩ := convert_var_meta s v hv u cf hcf dir move
  rw [genUniqueName_eq]
  rw [h1] at hflag ⊢
  exact ⟨m1, m2, m3, m4, m5, hflag⟩

/-! A model built through the public API only (python: notes/tie4_cverr_histories.py, history H1): variables `t`, `tau`
    (seconds), `x`, `y` (mV), `dx/dt = 1`, `dy/dtau = 1` — `add_equation` accepts ODEs with different bound variables.
    `convert_variable(t, ms, INPUT)`: `get_free_variable()` answers `t` (the bound variable of the FIRST ODE), the loop
    over the ODEs converts `dx/dt`, then the `assert` on `dy/dtau` fails. The exception escapes with the model
    half-edited. Everything the C08 invariant asks holds before the call (`twoFree_inv0`); what fails is `WF.oneFree`. -/

def twoFree0 : CState :=
  { vars := [⟨"t", uSec, none, none⟩, ⟨"tau", uSec, none, none⟩, ⟨"x", uMV, some 1, none⟩, ⟨"y", uMV, some 2, none⟩] }

def twoFree : CState :=
  addEq (addEq twoFree0 ⟨.deriv 2 0, .lit 1 (uMV.div uSec)⟩ true) ⟨.deriv 3 1, .lit 1 (uMV.div uSec)⟩ true

/-- the model satisfies the invariant of `add_equation` / `add_variable` (`Inv0`, the C08 invariant specialised to this
    state): the definition maps are what the equation list says, keys distinct, every variable known -/
theorem twoFree_inv0 : Inv0 twoFree := by
  have h0 : Inv0 twoFree0 :=
    { notRaised := rfl, scopedE := fun _ h => (by cases h), keys := List.nodup_nil, vdKeys := List.nodup_nil,
      odKeys := List.nodup_nil, vd := fun _ _ => ⟨fun h => (by cases h), fun h => (by cases h.1)⟩,
      od := fun _ _ => ⟨fun h => (by cases h), fun h => (by cases h.1)⟩ }
  have h1 := addEq_ok h0 ⟨.deriv 2 0, .lit 1 (uMV.div uSec)⟩ true
    (by unfold EqScoped; decide) (fun _ h => (by cases h)) (fun _ _ h => (by cases h))
  have e1 := h1.1
  have v1 := h1.2.1
  refine (addEq_ok h1.2.2.2 ⟨.deriv 3 1, .lit 1 (uMV.div uSec)⟩ true ?_ ?_ ?_).2.2.2
  · rw [v1]; unfold EqScoped; decide
  · rw [e1]; intro e0 h; simp only [twoFree0, List.nil_append, List.mem_cons, List.not_mem_nil, or_false] at h
    subst h; decide
  · rw [e1]; intro _ e0 h; simp only [twoFree0, List.nil_append, List.mem_cons, List.not_mem_nil, or_false] at h
    subst h; decide

/-- … but not `WF`: two ODEs with different bound variables -/
theorem twoFree_not_oneFree : ¬ OneFree twoFree.equations := by
  intro h
  have := h ⟨.deriv 2 0, .lit 1 (uMV.div uSec)⟩ (by decide +kernel) ⟨.deriv 3 1, .lit 1 (uMV.div uSec)⟩ (by decide +kernel)
    2 0 3 1 rfl rfl
  cases this

/-- a units module that answers 1000 (s → ms) -/
def twoFreeView : CVViewE := ⟨fun _ _ => .ok 1000⟩

/-- what the caller observes of an outcome: the class, and names / initial values, equations, keys of the two maps -/
structure Seen where
  out : String
  vars : List (String × Option Rat)
  eqs : List CEqn
  odes : List Nat
  defs : List Nat
deriving DecidableEq

def seenOf (c : String) (s : CState) : Seen :=
  ⟨c, s.vars.map (fun x => (x.name, x.init)), s.equations, s.odeDef.map (·.1), s.varDef.map (·.1)⟩

def observe : Except Raised (CState × Nat) → Seen
  | .ok r => seenOf "returned" r.1
  | .error e => seenOf e.cls e.st

/-- **a raising `convert_variable` is not atomic**: the generated code, evaluated by the kernel, raises
    `AssertionError` and leaves behind `t_converted`, `x_orig_deriv`, `t = t_converted / cf`, `x_orig_deriv = 1`,
    `dx/dt_converted = x_orig_deriv / cf`, without `dx/dt = 1` — exactly what python leaves (H1) -/
theorem raising_convert_variable_not_atomic :
    observe (ConvertVarE.convertVariable twoFreeView twoFree 0 uMs .input true) =
      ⟨"AssertionError",
       [("t", none), ("tau", none), ("x", some 1), ("y", some 2), ("t_converted", none), ("x_orig_deriv", none)],
       [⟨.deriv 3 1, .lit 1 (uMV.div uSec)⟩,
        ⟨.var 0, .div (.var 4) (.lit 1000 (uMs.div uSec))⟩,
        ⟨.var 5, .lit 1 (uMV.div uSec)⟩,
        ⟨.deriv 2 4, .div (.var 5) (.lit 1000 (uMs.div uSec))⟩],
       [3, 2], [0, 5]⟩ ∧
    seenOf "before" twoFree =
      ⟨"before", [("t", none), ("tau", none), ("x", some 1), ("y", some 2)],
       [⟨.deriv 2 0, .lit 1 (uMV.div uSec)⟩, ⟨.deriv 3 1, .lit 1 (uMV.div uSec)⟩], [2, 3], []⟩ := by
  decide +kernel

/-- the state at the raise differs from the entry state -/
theorem raising_convert_variable_state_changed :
    ∀ e, ConvertVarE.convertVariable twoFreeView twoFree 0 uMs .input true = .error e → e.st ≠ twoFree := by
  intro e he hst
  have h := raising_convert_variable_not_atomic.1
  rw [he] at h
  have h2 : e.st.equations.length = 4 := by
    have := congrArg (fun o : Seen => o.eqs.length) h
    simpa [observe, seenOf] using this
  rw [hst] at h2
  revert h2
  decide +kernel

/-- the OUTPUT direction of the same call returns (no loop over the ODEs) -/
example : (observe (ConvertVarE.convertVariable twoFreeView twoFree 0 uMs .output true)).out = "returned" := by
  decide +kernel

end Cellml.Props.C06GenE

/-- info: 'Cellml.Props.C06GenE.genE_eq' depends on axioms: [propext, Classical.choice, Quot.sound] -/
#guard_msgs in
#print axioms Cellml.Props.C06GenE.genE_eq
/-- info: 'Cellml.Props.C06GenE.genE_refines' depends on axioms: [propext, Classical.choice, Quot.sound] -/
#guard_msgs in
#print axioms Cellml.Props.C06GenE.genE_refines
/-- info: 'Cellml.Props.C06GenE.genE_wf' depends on axioms: [propext, Classical.choice, Quot.sound] -/
#guard_msgs in
#print axioms Cellml.Props.C06GenE.genE_wf
/-- info: 'Cellml.Props.C06GenE.convert_var_meta_genE' depends on axioms: [propext, Classical.choice, Quot.sound] -/
#guard_msgs in
#print axioms Cellml.Props.C06GenE.convert_var_meta_genE
/-- info: 'Cellml.Props.C06GenE.raising_convert_variable_not_atomic' depends on axioms: [propext, Classical.choice, Quot.sound] -/
#guard_msgs in
#print axioms Cellml.Props.C06GenE.raising_convert_variable_not_atomic
