import Cellml.Props.C13
import Cellml.Tie.Cmeta
import Cellml.Tie.CmetaQ
import Cellml.Tie.ModelState
import Cellml.Tie.ConnLoopClosed

/-! # C13, stated about the GENERATED code

    `Props/C13.lean` proves its theorems about the hand model (`astep` / `arun`, the lookups `getVariableByCmetaId`,
    `byRdf`, `byTerm`, the loader loop `Load.connect`). Here the same statements are made about the definitions GENERATED
    from the python source (`Generated/Code/Cmeta.lean`, `CmetaQ.lean`, `ModelState.lean`, `ConnLoop.lean`) and proved
    as corollaries through the ties (`Tie/Cmeta.lean`, `Tie/CmetaQ.lean`, `Tie/ModelState.lean`, `Tie/ConnLoop.lean`, `Tie/ConnLoopClosed.lean`).

    * `GAOp` / `genAStep` / `genARun`: a python call with all its arguments, run by the generated code.
    * `Dom`: the domain hypotheses of the ties that `AInv` does not give (variables handed to `remove_variable`,
      `add_cmeta_id`, `transfer_cmeta_id` are variables of the model; the `DerivShape` fits the order of the lhs).
    * `GAOp.hand`: the calls this file runs by the hand model, NOT covered here (`create_quantity`, graph / role
      queries, `rdf.add`, `convert_variable`, the loader's mover on the API model). (`Model.add_rdf` and
      `convert_variable` have generated code with ties elsewhere: `Tie/RdfQ.lean`, `Tie/ConvertVar*.lean`.) `Dom`
      restricts `hand` to exactly those.
    * `genConnectLoop`: the `while connections_to_process:` loop over the generated body, recursing on the hand model's
      termination measure and TESTING the decrease at run time (answer `NonTermination`), where
      `Tie.GenA.genConnectLoop` proves it; both are `Load.connectLoop`, the theorems here are about this one. -/

namespace Cellml.Props.C13Gen
open Model
open Cellml.Tie (PyErr errClass errClass_eq_ok)
open Cellml.Tie.PCmeta (UnitArg RdfArg ofOutcome lErrCls ofLookup ofObj)
open Cellml.Tie.PModelState (DerivShape)
open Cellml.Gen

/-- one python call on a `Model` object with its RDF store, with all its arguments -/
inductive GAOp
  | addVariable (name : String) (units : UnitArg) (init : Option Rat) (pub priv cmeta : Option String)
  | removeVariable (v : Nat)
  | addCmetaId (v : Nat)
  | transferCmetaId (src dst : Nat)
  | addEquation (shape : DerivShape) (e : Eqn)
  | removeEquation (e : Eqn)
  | hand (op : AOp)

def GAOp.toAOp : GAOp → AOp
  | .addVariable n _ i _ _ c => .base (.addVariable n c i)
  | .removeVariable v => .base (.removeVariable v)
  | .addCmetaId v => .base (.addCmetaId v)
  | .transferCmetaId a b => .base (.transferCmetaId a b)
  | .addEquation _ e => .base (.addEquation e)
  | .removeEquation e => .base (.removeEquation e)
  | .hand op => op

/-- the calls that have no generated definition here -/
def isHand : AOp → Bool
  | .base (.addVariable _ _ _) => false
  | .base (.removeVariable _) => false
  | .base (.addCmetaId _) => false
  | .base (.transferCmetaId _ _) => false
  | .base (.addEquation _) => false
  | .base (.removeEquation _) => false
  | _ => true

/-- a step of the hand model as a python result -/
def pyStep (r : AState × Outcome) : Except PyErr Unit × AState := (ofOutcome r.2, r.1)

/-- **one API call, run by the generated code** -/
def genAStep (a : AState) : GAOp → Except PyErr Unit × AState
  | .addVariable n u i pu pr c => ((Cmeta.addVariable n u i pu pr c a).1.map (fun _ => ()), (Cmeta.addVariable n u i pu pr c a).2)
  | .removeVariable v => Cmeta.removeVariable v a
  | .addCmetaId v => Cmeta.addCmetaId v a
  | .transferCmetaId s d => Cmeta.transferCmetaId s d a
  | .addEquation sh e => (((ModelState.addEquation sh e true).run a.m).1, { a with m := ((ModelState.addEquation sh e true).run a.m).2 })
  | .removeEquation e => (((ModelState.removeEquation e).run a.m).1, { a with m := ((ModelState.removeEquation e).run a.m).2 })
  | .hand op => pyStep (astep a op)

def genARun (mc : Option String) (ops : List GAOp) : AState := ops.foldl (fun a g => (genAStep a g).2) (ainit mc)

def Dom (a : AState) : GAOp → Prop
  | .addVariable _ _ _ _ _ _ => True
  | .removeVariable v => isLive a.m v = true
  | .addCmetaId v => isLive a.m v = true
  | .transferCmetaId s d => isLive a.m s = true ∧ isLive a.m d = true
  | .addEquation sh e => ∀ st t o, e.lhs = .deriv st t o → sh.ok o
  | .removeEquation _ => True
  | .hand op => isHand op = true

def HistDomFrom : AState → List GAOp → Prop
  | _, [] => True
  | a, g :: r => Dom a g ∧ HistDomFrom (genAStep a g).2 r

def HistDom (mc : Option String) (ops : List GAOp) : Prop := HistDomFrom (ainit mc) ops

theorem outcome_eq (r : MState × Outcome) (h : r.2 ≠ .raised .cmetaFuel) :
    Cellml.Tie.PModelState.outcome () r = (ofOutcome r.2, r.1) := by
  obtain ⟨s, o⟩ := r
  cases o with
  | ok => rfl
  | raised e =>
    cases e with
    | cmetaFuel => exact absurd rfl h
    | _ => rfl

theorem addEquationCore_noFuel (s : MState) (e : Eqn) (c : Bool) : (addEquationCore s e c).2 ≠ .raised .cmetaFuel := by
  unfold addEquationCore
  split
  · split
    · simp
    · split <;> simp
  · split <;> simp
  · simp

theorem removeEquation_noFuel (s : MState) (e : Eqn) : (removeEquation s e).2 ≠ .raised .cmetaFuel := by
  unfold removeEquation
  split
  · simp
  · split
    · split <;> simp
    · split <;> simp
    · simp

theorem genAStep_eq (a : AState) (h : AInv a) (g : GAOp) (hd : Dom a g) : genAStep a g = pyStep (astep a g.toAOp) := by
  cases g with
  | addVariable n u i pu pr c =>
    show (_, _) = _
    rw [Cellml.Tie.PCmeta.astep_addVariable a n u i pu pr c h.inv.reg.liveBound]
    simp only [pyStep, GAOp.toAOp]
    cases (astep a (.base (.addVariable n c i))).2 <;> rfl
  | removeVariable v => exact Cellml.Tie.PCmeta.astep_removeVariable a v hd h.inv.reg.namesNodup
  | addCmetaId v => exact Cellml.Tie.PCmeta.astep_addCmetaId a v hd
  | transferCmetaId s d =>
    exact Cellml.Tie.PCmeta.astep_transferCmetaId a s d hd.1 hd.2 (h.inv.reg.liveBound d (by simpa [isLive] using hd.2))
  | addEquation sh e =>
    show (_, _) = _
    rw [Cellml.Tie.PModelState.addEquation_tie a.m e true sh hd, outcome_eq _ (addEquationCore_noFuel a.m e true)]
    rfl
  | removeEquation e =>
    show (_, _) = _
    rw [Cellml.Tie.PModelState.removeEquation_tie a.m e, outcome_eq _ (removeEquation_noFuel a.m e)]
    rfl
  | hand op => rfl

theorem genARun_from (ops : List GAOp) : ∀ (a : AState), AInv a → HistDomFrom a ops →
    ops.foldl (fun a g => (genAStep a g).2) a = (ops.map GAOp.toAOp).foldl (fun a op => (astep a op).1) a := by
  induction ops with
  | nil => intro a _ _; rfl
  | cons g r ih =>
    intro a h hd
    simp only [List.foldl_cons, List.map_cons]
    have e : (genAStep a g).2 = (astep a g.toAOp).1 := by rw [genAStep_eq a h g hd.1]; rfl
    have hd2 := hd.2
    rw [e] at hd2 ⊢
    exact ih _ (ainv_step h g.toAOp) hd2

theorem genARun_eq (mc : Option String) (ops : List GAOp) (hd : HistDom mc ops) :
    genARun mc ops = arun mc (ops.map GAOp.toAOp) :=
  genARun_from ops (ainit mc) (ainv_init mc) hd

/-- `C13.ainv_reachable` for the generated code -/
theorem ainv_reachable (mc : Option String) (ops : List GAOp) (hd : HistDom mc ops) : AInv (genARun mc ops) := by
  rw [genARun_eq mc ops hd]; exact C13.ainv_reachable mc _

/-- `C13.bij_reachable` for the generated code: after every history of python calls run by the generated definitions,
    the cmeta ids and the live variables are in bijection -/
theorem bij_reachable (mc : Option String) (ops : List GAOp) (hd : HistDom mc ops) : Bij (genARun mc ops).m := by
  rw [genARun_eq mc ops hd]; exact C13.bij_reachable mc _

/-- after every such history the generated `has_cmeta_id` answers as the bijection says (`Bij.has_iff` through the
    generated query) -/
theorem hasCmetaId_reachable (mc : Option String) (ops : List GAOp) (hd : HistDom mc ops) (c : String) :
    CmetaQ.hasCmetaId (genARun mc ops) (some c) = .ok true ↔
      ((genARun mc ops).m.modelCmeta = some c ∨ ∃ i ∈ (genARun mc ops).m.live, cmetaOf (genARun mc ops).m i = some c) := by
  rw [Cellml.Tie.PCmeta.hasCmetaId_tie, ← (bij_reachable mc ops hd).has_iff c, Except.ok.injEq]

theorem ofLookup_ok_iff (o : Option Nat) (v : Nat) : ofLookup o = .ok v ↔ o = some v := by
  cases o <;> simp [ofLookup]

theorem ofLookup_err_iff (o : Option Nat) : ofLookup o = .error ⟨"KeyError"⟩ ↔ o = none := by
  cases o <;> simp [ofLookup]

/-- `C13.lookup_id` for the generated `get_variable_by_cmeta_id`, called with a plain string -/
theorem lookup_id (a : AState) (h : AInv a) (c : String) :
    CmetaQ.getVariableByCmetaId a (.str c) = ofLookup (carrierOf a.m c) ∧
    (∀ v, CmetaQ.getVariableByCmetaId a (.str c) = .ok v ↔ (v ∈ a.m.live ∧ cmetaOf a.m v = some c)) ∧
    (CmetaQ.getVariableByCmetaId a (.str c) = .error ⟨"KeyError"⟩ ↔ ∀ i ∈ a.m.live, cmetaOf a.m i ≠ some c) := by
  obtain ⟨h1, h2, h3⟩ := C13.lookup_id a h c
  rw [Cellml.Tie.PCmeta.getVariableByCmetaId_str]
  exact ⟨by rw [h1], by simpa only [ofLookup_ok_iff] using h2, by simpa only [ofLookup_err_iff] using h3⟩

/-- `C13.lookup_id` for the generated `get_variable_by_cmeta_id`, called with the `URIRef('#' + c)` that `rdf.subjects`
    yields -/
theorem lookup_id_uri (a : AState) (h : AInv a) (c : String) :
    CmetaQ.getVariableByCmetaId a (.uriRef ("#" ++ c)) = ofLookup (carrierOf a.m c) ∧
    (∀ v, CmetaQ.getVariableByCmetaId a (.uriRef ("#" ++ c)) = .ok v ↔ (v ∈ a.m.live ∧ cmetaOf a.m v = some c)) ∧
    (CmetaQ.getVariableByCmetaId a (.uriRef ("#" ++ c)) = .error ⟨"KeyError"⟩ ↔ ∀ i ∈ a.m.live, cmetaOf a.m i ≠ some c) := by
  rw [Cellml.Tie.PCmeta.getVariableByCmetaId_uri, ← Cellml.Tie.PCmeta.getVariableByCmetaId_str]
  exact lookup_id a h c

/-- `C13.lookup_rdf` for the generated `get_variables_by_rdf(predicate, object_)` (`sort=True`), predicate a URI node,
    object `None` or a node -/
theorem lookup_rdf (a : AState) (h : AInv a) (p : String) (o : Option RNode) :
    CmetaQ.getVariablesByRdf a (.node (.uri p)) (ofObj o) true = errClass lErrCls (byRdfSpec a p o) ∧
    (∀ vs, CmetaQ.getVariablesByRdf a (.node (.uri p)) (ofObj o) true = .ok vs →
      vs.length = (a.rdf.filter (tripleMatches p o)).length ∧
      (∀ v, v ∈ vs ↔ v ∈ a.m.live ∧ ∃ t ∈ a.rdf, tripleMatches p o t = true ∧ cmetaOf a.m v = some t.subj) ∧
      vs.Pairwise (fun x y => orderOf a.m x ≤ orderOf a.m y)) ∧
    (∀ e : PyErr, CmetaQ.getVariablesByRdf a (.node (.uri p)) (ofObj o) true = .error e ↔
      (e = ⟨"KeyError"⟩ ∧ ∃ t ∈ a.rdf, tripleMatches p o t = true ∧ ∀ i ∈ a.m.live, cmetaOf a.m i ≠ some t.subj)) := by
  obtain ⟨h1, h2, h3⟩ := C13.lookup_rdf a h p o
  rw [Cellml.Tie.PCmeta.getVariablesByRdf_tie]
  refine ⟨by rw [h1], fun vs hv => h2 vs ((errClass_eq_ok _ _ _).mp hv), fun e => ?_⟩
  rw [Cellml.Tie.errClass_eq_error]
  constructor
  · rintro ⟨e', he', rfl⟩
    obtain ⟨rfl, hex⟩ := (h3 e').mp he'
    exact ⟨rfl, hex⟩
  · rintro ⟨rfl, hex⟩
    exact ⟨.keyError, (h3 _).mpr ⟨rfl, hex⟩, rfl⟩

/-- the unsorted call returns the same variables in triple order (`getVariablesByRdf_unsorted`); for arbitrary
    arguments the generated function sees them only through `create_rdf_node` (`getVariablesByRdf_args`) -/
theorem lookup_rdf_args (a : AState) (p o : RdfArg) (s : Bool) :
    CmetaQ.getVariablesByRdf a p o s
      = CmetaQ.getVariablesByRdf a (Cellml.Tie.PCmeta.createRdfNode p) (Cellml.Tie.PCmeta.createRdfNode o) s :=
  Cellml.Tie.PCmeta.getVariablesByRdf_args a p o s

/-- `C13.lookup_term` for the generated `get_variable_by_ontology_term` -/
theorem lookup_term (a : AState) (h : AInv a) (term : RNode) :
    (∀ v, CmetaQ.getVariableByOntologyTerm a (.node term) = .ok v ↔
      ∃ c, a.rdf.filter (tripleMatches bqbiolIs (some term)) = [⟨c, bqbiolIs, term⟩] ∧ v ∈ a.m.live ∧
        cmetaOf a.m v = some c) ∧
    (a.rdf.filter (tripleMatches bqbiolIs (some term)) = [] →
      CmetaQ.getVariableByOntologyTerm a (.node term) = .error ⟨"KeyError"⟩) ∧
    (∀ v, CmetaQ.getVariableByOntologyTerm a (.node term) = .ok v → localName term.text ∈ termsOf a v none) := by
  obtain ⟨h1, h2, h3⟩ := C13.lookup_term a h term
  rw [Cellml.Tie.PCmeta.getVariableByOntologyTerm_tie]
  refine ⟨fun v => ?_, fun hf => ?_, fun v hv => h3 v ((errClass_eq_ok _ _ _).mp hv)⟩
  · rw [errClass_eq_ok]; exact h1 v
  · rw [h2 hf]; rfl

/-- `C13.addCmetaId_fresh` for the generated `add_cmeta_id`: it returns; the id is the first free candidate — free as
    the generated `has_cmeta_id` sees it; afterwards the generated `get_variable_by_cmeta_id` finds `v` by it -/
theorem addCmetaId_fresh (a : AState) (h : AInv a) (v : Nat) (hv : v ∈ a.m.live) (hc : cmetaOf a.m v = none) :
    ∃ (c : String) (k : Nat), c = cand ((nameOfVar a.m v).replace "$" "__") k ∧
      (∀ j, j < k → CmetaQ.hasCmetaId a (some (cand ((nameOfVar a.m v).replace "$" "__") j)) = .ok true) ∧
      CmetaQ.hasCmetaId a (some c) = .ok false ∧ a.m.modelCmeta ≠ some c ∧ (∀ i ∈ a.m.live, cmetaOf a.m i ≠ some c) ∧
      (Cmeta.addCmetaId v a).1 = .ok () ∧
      (∀ i, cmetaOf (Cmeta.addCmetaId v a).2.m i = if i = v then some c else cmetaOf a.m i) ∧
      (Cmeta.addCmetaId v a).2.m.live = a.m.live ∧
      (Cmeta.addCmetaId v a).2.rdf = a.rdf ∧
      CmetaQ.getVariableByCmetaId (Cmeta.addCmetaId v a).2 (.str c) = .ok v := by
  have hl : isLive a.m v = true := by simpa [isLive] using hv
  obtain ⟨c, k, he, hall, hfree, hnm, hnl, hok, hcm, hlive, hlook⟩ := C13.addCmetaId_fresh a h v hv hc
  have ht := Cellml.Tie.PCmeta.astep_addCmetaId a v hl
  refine ⟨c, k, he, fun j hj => ?_, ?_, hnm, hnl, ?_, ?_, ?_, ?_, ?_⟩
  · rw [Cellml.Tie.PCmeta.hasCmetaId_tie, hall j hj]
  · rw [Cellml.Tie.PCmeta.hasCmetaId_tie, hfree]
  · rw [ht, hok]; rfl
  · rw [ht]; exact hcm
  · rw [ht]; exact hlive
  · rw [ht]; rfl
  · rw [ht, Cellml.Tie.PCmeta.getVariableByCmetaId_str]
    show ofLookup (getVariableByCmetaId (astep a (.base (.addCmetaId v))).1.m c) = _
    rw [hlook]; rfl

/-- `C13.transfer_moves` for the generated `transfer_cmeta_id` (and the generated lookups after it) -/
theorem transfer_moves (a : AState) (h : AInv a) (src dst : Nat) (hs : src ∈ a.m.live) (hd : dst ∈ a.m.live) :
    ((cmetaOf a.m src = none ∨ (cmetaOf a.m dst).isSome = true) →
      Cmeta.transferCmetaId src dst a = (.error ⟨"ValueError"⟩, a)) ∧
    (∀ c, cmetaOf a.m src = some c → cmetaOf a.m dst = none →
      (Cmeta.transferCmetaId src dst a).1 = .ok () ∧
      (∀ i, cmetaOf (Cmeta.transferCmetaId src dst a).2.m i =
        if i = src then none else if i = dst then some c else cmetaOf a.m i) ∧
      (Cmeta.transferCmetaId src dst a).2.m.live = a.m.live ∧
      (Cmeta.transferCmetaId src dst a).2.rdf = a.rdf ∧
      CmetaQ.getVariableByCmetaId (Cmeta.transferCmetaId src dst a).2 (.str c) = .ok dst ∧
      (∀ term, CmetaQ.getVariableByOntologyTerm a (.node term) = .ok src →
        CmetaQ.getVariableByOntologyTerm (Cmeta.transferCmetaId src dst a).2 (.node term) = .ok dst)) := by
  have hls : isLive a.m src = true := by simpa [isLive] using hs
  have hld : isLive a.m dst = true := by simpa [isLive] using hd
  have ht := Cellml.Tie.PCmeta.astep_transferCmetaId a src dst hls hld (h.inv.reg.liveBound dst hd)
  obtain ⟨m1, m2⟩ := C13.transfer_moves a h src dst hs hd
  constructor
  · intro hx
    rw [ht, m1 hx]; rfl
  · intro c hcs hcd
    obtain ⟨t1, t2, t3, t4, t5, t6⟩ := m2 c hcs hcd
    refine ⟨by rw [ht, t1]; rfl, by rw [ht]; exact t2, by rw [ht]; exact t3, by rw [ht]; exact t4, ?_, ?_⟩
    · rw [ht, Cellml.Tie.PCmeta.getVariableByCmetaId_str]
      show ofLookup (getVariableByCmetaId (astep a (.base (.transferCmetaId src dst))).1.m c) = _
      rw [t5]; rfl
    · intro term hterm
      rw [Cellml.Tie.PCmeta.getVariableByOntologyTerm_tie, errClass_eq_ok] at hterm
      rw [ht, Cellml.Tie.PCmeta.getVariableByOntologyTerm_tie, errClass_eq_ok]
      exact t6 term hterm

/-- the termination measure of the hand model's `Load.connectLoop` decreases from `(dq, unch)` to `(dq', unch')` -/
def Decreases (dq' : List (Load.VRef × Load.VRef)) (unch' : Nat) (dq : List (Load.VRef × Load.VRef)) (unch : Nat) : Prop :=
  dq'.length < dq.length ∨ (dq'.length = dq.length ∧ dq'.length + 1 - unch' < dq.length + 1 - unch)

instance (dq' : List (Load.VRef × Load.VRef)) (unch' : Nat) (dq : List (Load.VRef × Load.VRef)) (unch : Nat) :
    Decidable (Decreases dq' unch' dq unch) := by unfold Decreases; infer_instance

/-- **the `while connections_to_process:` loop of `Parser._add_connections` over the GENERATED body**
    (`ConnLoop.addConnectionsBody`): stop on the empty deque, otherwise run the generated body and continue from the
    loop state it returns. The recursion is on the hand model's termination measure; a body that did not decrease it
    would be answered `NonTermination` (python: an endless loop) — `genConnectLoop_eq` shows this never happens. -/
def genConnectLoop (reg : Registry) (vt : Load.VarTable) (dq : List (Load.VRef × Load.VRef)) (unch : Nat)
    (st : Load.CState) : Except PyErr Load.CState :=
  match dq with
  | [] => .ok st
  | c :: rest =>
    match ConnLoop.addConnectionsBody (Cellml.Tie.connLoopView reg vt) (c :: rest) unch st with
    | .error e => .error e
    | .ok (dq', unch', st') =>
      if Decreases dq' unch' (c :: rest) unch then genConnectLoop reg vt dq' unch' st'
      else .error ⟨"NonTermination"⟩
termination_by (dq.length, dq.length + 1 - unch)
decreasing_by
  rename_i hdec
  rcases hdec with h | ⟨h1, h2⟩
  · exact Prod.Lex.left _ _ h
  · rw [h1] at h2 ⊢; exact Prod.Lex.right _ h2

/-- `_add_connections` after the directions are known, over the generated loop body -/
def genConnect (reg : Registry) (vt : Load.VarTable) (l : List (Load.VRef × Load.VRef)) : Except PyErr Load.CState :=
  genConnectLoop reg vt l 0 (Load.initState vt)

theorem body_Decreases {reg : Registry} {vt : Load.VarTable} {dq dq' : List (Load.VRef × Load.VRef)} {unch unch' : Nat}
    {st st' : Load.CState}
    (h : ConnLoop.addConnectionsBody (Cellml.Tie.connLoopView reg vt) dq unch st = .ok (dq', unch', st')) :
    Decreases dq' unch' dq unch := by
  unfold Decreases
  rcases Cellml.Tie.GenA.body_ok_shape h with ⟨h1, _⟩ | ⟨h1, h2, h3⟩ <;> omega

/-- the closed loop over the generated body IS the hand model's loop (result and exception class), from every loop state
    that satisfies the loop's own assertion `unchanged_loop_count <= len(connections_to_process)` -/
theorem genConnectLoop_eq (reg : Registry) (vt : Load.VarTable) (dq : List (Load.VRef × Load.VRef)) (unch : Nat)
    (h : unch ≤ dq.length) (st : Load.CState) :
    genConnectLoop reg vt dq unch st = errClass Load.Err.className (Load.connectLoop reg vt dq unch h st) := by
  fun_induction genConnectLoop reg vt dq unch st with
  | case1 unch st => rw [Cellml.Tie.connectLoop_nil]; rfl
  | case2 unch st c rest e hb => rw [Cellml.Tie.connectLoop_cons, hb]
  | case3 unch st c rest dq' unch' st' hb _ ih =>
    rw [Cellml.Tie.connectLoop_cons, hb]
    simp only [dif_pos (Cellml.Tie.GenA.body_ok_inv hb)]
    exact ih _
  | case4 unch st c rest dq' unch' st' hb hn => exact absurd (body_Decreases hb) hn

theorem genConnect_eq (reg : Registry) (vt : Load.VarTable) (l : List (Load.VRef × Load.VRef)) :
    genConnect reg vt l = errClass Load.Err.className (Load.connect reg vt l) :=
  genConnectLoop_eq reg vt l 0 (Nat.zero_le _) (Load.initState vt)

/-- `C13.load_moves_id` for the loop over the generated body: for every document whose connections the generated loop
    resolves (`genConnect … = ok st`), the ids sit exactly on the homes of the variables they were written on -/
theorem load_moves_id {reg : Registry} {vt : Load.VarTable} {l : List (Load.VRef × Load.VRef)} {st : Load.CState}
    (h : genConnect reg vt l = .ok st) :
    (∀ w c, Load.cmetaOf st w = some c ↔ ∃ v0, Load.docId vt v0 = some c ∧ Load.home st v0 = w) ∧
    (∀ v0 c, Load.docId vt v0 = some c → Load.cmetaOf st (Load.home st v0) = some c) ∧
    (∀ v0, (st.asg v0 = none ∧ Load.home st v0 = v0) ∨
      (st.asg v0 = some (Load.home st v0) ∧ st.asg (Load.home st v0) = some (Load.home st v0) ∧
        ((Load.Src vt (Load.home st v0) ∧ Load.rootOf st v0 = Load.home st v0) ∨
          ∃ e ∈ st.convs, e.target = Load.home st v0))) := by
  rw [genConnect_eq, errClass_eq_ok] at h
  exact C13.load_moves_id h

/-- non-vacuity: the chain document of `Props/C13.lean` resolves under the generated loop, to the same state -/
theorem chain_genConnect : genConnect C13.chainUnits.1 C13.chainVt C13.chainDl = .ok C13.chainSt := by
  rw [genConnect_eq, C13.chain_connect]; rfl

end Cellml.Props.C13Gen
