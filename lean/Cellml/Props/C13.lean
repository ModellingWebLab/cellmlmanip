import Cellml.C13.Lemmas
import Cellml.C13.LoadLemmas
import Cellml.Units.Builtin

/-! # C13 — annotations always point at exactly one live variable

    Model: `Cellml/Model/Cmeta.lean` (`AState` = the C08 model state + the RDF triples; `astep`, `arun`; the lookups
    `getVariableByCmetaId`, `byRdf`, `byTerm`, `termsOf`), `Cellml/Load/Connect.lean` (`stepConn`: the mover of
    connection resolution, as repaired by commit df25620). Lemmas: `Cellml/C13/Lemmas.lean`, `Cellml/C13/LoadLemmas.lean`.

    Every theorem quantifies over ALL states satisfying the invariant / ALL histories of calls of any length (valid
    calls and calls that raise) / ALL documents. The ties to the python source are `Tie/Cmeta*.lean`, `Tie/RdfQ.lean`
    and `Tie/ConnLoop.lean`, the statements about the generated code `Props/C13Gen.lean`, `Props/C13GenQ.lean`;
    `harness/props/c13.py` runs the histories against cellmlmanip. -/

namespace Cellml.Props.C13
open Model

/-- a new model satisfies the invariant, hence the bijection -/
theorem bij_init (mc : Option String) : AInv (ainit mc) ∧ Bij (ainit mc).m :=
  ⟨ainv_init mc, bij_of_inv (ainv_init mc).inv⟩

/-- every call — `add_variable` (with or without id, clashing or not), `remove_variable`, `add_equation`,
    `remove_equation`, `add_cmeta_id`, `transfer_cmeta_id`, the graph queries, `rdf.add`, `convert_variable` with
    either setting of `move_annotations`, the loader's mover — whether it returns or raises, preserves the invariant -/
theorem bij_step (a : AState) (op : AOp) (h : AInv a) : AInv (astep a op).1 ∧ Bij (astep a op).1.m :=
  ⟨ainv_step h op, bij_of_inv (ainv_step h op).inv⟩

/-- after every history each cmeta id belongs to at most one live variable and never to a variable and the
    model at once; the registry holds exactly the pairs (id, live variable carrying it); `has_cmeta_id` is true exactly
    of the model's id and the ids carried by live variables. -/
theorem bij_reachable (mc : Option String) (ops : List AOp) : Bij (arun mc ops).m :=
  bij_of_inv (ainv_run mc ops).inv

theorem ainv_reachable (mc : Option String) (ops : List AOp) : AInv (arun mc ops) := ainv_run mc ops

/-- `get_variable_by_cmeta_id(c)` returns precisely the live variable that carries `c` now (found by looking at every
    variable), and raises KeyError exactly when no live variable does -/
theorem lookup_id (a : AState) (h : AInv a) (c : String) :
    getVariableByCmetaId a.m c = carrierOf a.m c ∧
    (∀ v, getVariableByCmetaId a.m c = some v ↔ (v ∈ a.m.live ∧ cmetaOf a.m v = some c)) ∧
    (getVariableByCmetaId a.m c = none ↔ ∀ i ∈ a.m.live, cmetaOf a.m i ≠ some c) :=
  ⟨lookup_eq_carrier (bij_of_inv h.inv) c, (bij_of_inv h.inv).lookup_iff c, lookup_none_iff (bij_of_inv h.inv) c⟩

/-- `get_variables_by_rdf(predicate, object)` is the lookup computed from `variables()` alone; when it returns, it
    returns one entry per matching triple, exactly the live variables whose CURRENT id is the subject of a matching
    triple, in `order_added` order; it raises (KeyError) exactly when a matching triple is about an id that no live
    variable carries (an annotation of the model itself, or of an unknown id) -/
theorem lookup_rdf (a : AState) (h : AInv a) (p : String) (o : Option RNode) :
    byRdf a p o = byRdfSpec a p o ∧
    (∀ vs, byRdf a p o = .ok vs →
      vs.length = (a.rdf.filter (tripleMatches p o)).length ∧
      (∀ v, v ∈ vs ↔ v ∈ a.m.live ∧ ∃ t ∈ a.rdf, tripleMatches p o t = true ∧ cmetaOf a.m v = some t.subj) ∧
      vs.Pairwise (fun x y => orderOf a.m x ≤ orderOf a.m y)) ∧
    (∀ e, byRdf a p o = .error e ↔
      (e = .keyError ∧ ∃ t ∈ a.rdf, tripleMatches p o t = true ∧ ∀ i ∈ a.m.live, cmetaOf a.m i ≠ some t.subj)) :=
  ⟨byRdf_eq_spec (bij_of_inv h.inv) p o, fun _ hv => byRdf_ok (bij_of_inv h.inv) hv,
   fun e => byRdf_error (bij_of_inv h.inv) p o e⟩

/-- `get_variable_by_ontology_term(term)` returns `v` exactly when one triple says `… bqbiol:is term` and its subject
    is the id `v` carries now; with no such triple it raises KeyError; and the term found a variable by is among the
    terms reachable through that variable (`get_ontology_terms_by_variable`) -/
theorem lookup_term (a : AState) (h : AInv a) (term : RNode) :
    (∀ v, byTerm a term = .ok v ↔
      ∃ c, a.rdf.filter (tripleMatches bqbiolIs (some term)) = [⟨c, bqbiolIs, term⟩] ∧ v ∈ a.m.live ∧
        cmetaOf a.m v = some c) ∧
    (a.rdf.filter (tripleMatches bqbiolIs (some term)) = [] → byTerm a term = .error .keyError) ∧
    (∀ v, byTerm a term = .ok v → localName term.text ∈ termsOf a v none) :=
  ⟨byTerm_ok_iff (bij_of_inv h.inv) term, byTerm_none term, fun _ hv => byTerm_mem_termsOf (bij_of_inv h.inv) hv⟩

/-- a variable's annotations are reachable through it: `get_ontology_terms_by_variable(v, ns)` lists exactly the local
    names of the objects of the `bqbiol:is` triples whose subject is the id `v` carries now -/
theorem annotations_reachable (a : AState) (v : Nat) (ns : Option String) (x : String) :
    x ∈ termsOf a v ns ↔
      ∃ t ∈ a.rdf, cmetaOf a.m v = some t.subj ∧ t.pred = bqbiolIs ∧ nsOk ns t.obj = true ∧ localName t.obj.text = x :=
  termsOf_mem

/-- `remove_variable(v)` on a variable carrying `c`: the call returns; `v` is no longer in `variables()`; every triple
    about `c` is gone and every other triple is kept; `c` is free again (`has_cmeta_id` false, lookup raises KeyError);
    nobody else's id changes -/
theorem remove_drops_annotations (a : AState) (h : AInv a) (v : Nat) (c : String) (hv : v ∈ a.m.live)
    (hc : cmetaOf a.m v = some c) :
    (astep a (.base (.removeVariable v))).2 = .ok ∧
    v ∉ (astep a (.base (.removeVariable v))).1.m.live ∧
    (∀ t, t ∈ (astep a (.base (.removeVariable v))).1.rdf ↔ (t ∈ a.rdf ∧ t.subj ≠ c)) ∧
    hasCmetaId (astep a (.base (.removeVariable v))).1.m c = false ∧
    getVariableByCmetaId (astep a (.base (.removeVariable v))).1.m c = none ∧
    (∀ i, cmetaOf (astep a (.base (.removeVariable v))).1.m i = cmetaOf a.m i) ∧
    (∀ i, i ∈ (astep a (.base (.removeVariable v))).1.m.live ↔ (i ∈ a.m.live ∧ i ≠ v)) := by
  have hst : astep a (.base (.removeVariable v)) = removeVariableA a v := rfl
  rw [hst]
  obtain ⟨r1, r2, r3, r4, r5⟩ := removeVariableA_ok h.inv hv
  have B := bij_of_inv h.inv
  have B' : Bij (removeVariableA a v).1.m := bij_of_inv (by rw [← hst]; exact (ainv_step h _).inv)
  have hlive : ∀ i, i ∈ (removeVariableA a v).1.m.live ↔ (i ∈ a.m.live ∧ i ≠ v) := by
    intro i; rw [r2, h.inv.reg.liveNodup.mem_erase_iff]; exact And.comm
  have hnone : ∀ i ∈ (removeVariableA a v).1.m.live, cmetaOf (removeVariableA a v).1.m i ≠ some c := by
    intro i hi hci
    obtain ⟨hi1, hi2⟩ := (hlive i).mp hi
    rw [r4] at hci
    exact hi2 (B.distinct i hi1 v hv c hci hc)
  refine ⟨r1, fun hm => ((hlive v).mp hm).2 rfl, ?_, ?_, (lookup_none_iff B' c).mpr hnone, r4, hlive⟩
  · intro t
    rw [r5, hc, mem_dropSubject]
    constructor
    · rintro ⟨h1, h2⟩; exact ⟨h1, fun e => h2 (by rw [e])⟩
    · rintro ⟨h1, h2⟩; exact ⟨h1, fun e => h2 (Option.some.inj e).symm⟩
  · cases hh : hasCmetaId (removeVariableA a v).1.m c with
    | false => rfl
    | true =>
      exfalso
      rcases (B'.has_iff c).mp hh with hm | ⟨i, hi, hci⟩
      · rw [r3] at hm; exact B.notModel v hv c hc hm
      · exact hnone i hi hci

/-- a variable that later receives the id of a removed variable starts without annotations: after
    `remove_variable(v)`, `add_variable(n, cmeta_id=c)` (when it is accepted) creates a variable with no terms -/
theorem readd_has_no_annotations (a : AState) (h : AInv a) (v : Nat) (c : String) (hv : v ∈ a.m.live)
    (hc : cmetaOf a.m v = some c) (n : String) (iv : Option Rat) (ns : Option String) :
    let a1 := (astep a (.base (.removeVariable v))).1
    let a2 := (astep a1 (.base (.addVariable n (some c) iv))).1
    (astep a1 (.base (.addVariable n (some c) iv))).2 = .ok → termsOf a2 a1.m.heap.length ns = [] := by
  intro a1 a2 hok
  obtain ⟨_, _, hrdf, hfree, _, _, _⟩ := remove_drops_annotations a h v c hv hc
  have hnt : nameTaken a1.m n = false := by
    cases hx : nameTaken a1.m n with
    | false => rfl
    | true =>
      have : (astep a1 (.base (.addVariable n (some c) iv))).2 = .raised .valueError := by
        show (addVariable a1.m n (some c) iv).2 = _
        rw [addVariable_raised (Or.inl hx)]
      rw [this] at hok; cases hok
  obtain ⟨_, _, _, _, h5, _⟩ := addVariable_ok (s := a1.m) (n := n) (c := some c) (iv := iv) hnt hfree
  have hcm : cmetaOf a2.m a1.m.heap.length = some c := by
    show cmetaOf (addVariable a1.m n (some c) iv).1 a1.m.heap.length = some c
    rw [h5]; simp
  rw [List.eq_nil_iff_forall_not_mem]
  intro x hx
  obtain ⟨t, ht, hs, _⟩ := termsOf_mem.mp hx
  exact ((hrdf t).mp ht).2 (Option.some.inj (hs.symm.trans hcm))

/-- `add_cmeta_id(v)` on a variable without id: the `while has_cmeta_id` loop terminates (the conventional out-of-fuel
    answer of the model never occurs); the id is the first of `name'`, `name'_`, `name'__`, … (`name'` = the name with
    `$` replaced by `__`) that is neither in use by a variable nor the model's own id; `v` carries it afterwards,
    nobody else's id changes, and looking it up returns `v` -/
theorem addCmetaId_fresh (a : AState) (h : AInv a) (v : Nat) (hv : v ∈ a.m.live) (hc : cmetaOf a.m v = none) :
    ∃ (c : String) (k : Nat), c = cand ((nameOfVar a.m v).replace "$" "__") k ∧
      (∀ j, j < k → hasCmetaId a.m (cand ((nameOfVar a.m v).replace "$" "__") j) = true) ∧
      hasCmetaId a.m c = false ∧ a.m.modelCmeta ≠ some c ∧ (∀ i ∈ a.m.live, cmetaOf a.m i ≠ some c) ∧
      (astep a (.base (.addCmetaId v))).2 = .ok ∧
      (∀ i, cmetaOf (astep a (.base (.addCmetaId v))).1.m i = if i = v then some c else cmetaOf a.m i) ∧
      (astep a (.base (.addCmetaId v))).1.m.live = a.m.live ∧
      getVariableByCmetaId (astep a (.base (.addCmetaId v))).1.m c = some v := by
  obtain ⟨c, k, he, hall, hfree, hok, hl, _, _, hcm, _⟩ := addCmetaId_ok h.inv.reg hv hc
  have B := bij_of_inv h.inv
  have B' := bij_of_inv (ainv_step h (.base (.addCmetaId v))).inv
  have hnot : ¬ (a.m.modelCmeta = some c ∨ ∃ i ∈ a.m.live, cmetaOf a.m i = some c) := by
    intro hx; have := (B.has_iff c).mpr hx; rw [hfree] at this; cases this
  refine ⟨c, k, he, hall, hfree, fun hm => hnot (Or.inl hm), fun i hi hci => hnot (Or.inr ⟨i, hi, hci⟩), hok, hcm, hl, ?_⟩
  exact (B'.lookup_iff c v).mpr ⟨by show v ∈ (addCmetaId a.m v).1.live; rw [hl]; exact hv,
    by show cmetaOf (addCmetaId a.m v).1 v = some c; rw [hcm]; simp⟩

/-- `add_cmeta_id` on a variable that already has an id does nothing -/
theorem addCmetaId_keeps (a : AState) (v : Nat) (c : String) (hc : cmetaOf a.m v = some c) :
    (astep a (.base (.addCmetaId v))).1 = a := by
  show ({ a with m := (addCmetaId a.m v).1 } : AState) = a
  rw [addCmetaId_noop (Or.inr (by rw [hc]; rfl))]

/-- `transfer_cmeta_id(src, dst)`: raises ValueError — and changes nothing — when `src` has no id or `dst` already has
    one; otherwise `src` loses the id, `dst` gains it, nothing else changes (no other variable, no triple), the id now
    leads to `dst`, and so does every annotation that led to `src` -/
theorem transfer_moves (a : AState) (h : AInv a) (src dst : Nat) (hs : src ∈ a.m.live) (hd : dst ∈ a.m.live) :
    ((cmetaOf a.m src = none ∨ (cmetaOf a.m dst).isSome = true) →
      astep a (.base (.transferCmetaId src dst)) = (a, .raised .valueError)) ∧
    (∀ c, cmetaOf a.m src = some c → cmetaOf a.m dst = none →
      (astep a (.base (.transferCmetaId src dst))).2 = .ok ∧
      (∀ i, cmetaOf (astep a (.base (.transferCmetaId src dst))).1.m i =
        if i = src then none else if i = dst then some c else cmetaOf a.m i) ∧
      (astep a (.base (.transferCmetaId src dst))).1.m.live = a.m.live ∧
      (astep a (.base (.transferCmetaId src dst))).1.rdf = a.rdf ∧
      getVariableByCmetaId (astep a (.base (.transferCmetaId src dst))).1.m c = some dst ∧
      (∀ term, byTerm a term = .ok src → byTerm (astep a (.base (.transferCmetaId src dst))).1 term = .ok dst)) := by
  constructor
  · intro hx
    show (({ a with m := (transferCmetaId a.m src dst).1 } : AState), (transferCmetaId a.m src dst).2) = _
    rw [transferCmetaId_raised hs hd hx]
  · intro c hcs hcd
    obtain ⟨t1, t2, _, _, t5, _⟩ := transferCmetaId_ok h.inv.reg hs hd hcs hcd
    have B := bij_of_inv h.inv
    have A' := ainv_step h (.base (.transferCmetaId src dst))
    have B' := bij_of_inv A'.inv
    have hne : src ≠ dst := by rintro rfl; rw [hcs] at hcd; cases hcd
    have hdst : dst ∈ (astep a (.base (.transferCmetaId src dst))).1.m.live ∧
        cmetaOf (astep a (.base (.transferCmetaId src dst))).1.m dst = some c := by
      refine ⟨by show dst ∈ (transferCmetaId a.m src dst).1.live; rw [t2]; exact hd, ?_⟩
      show cmetaOf (transferCmetaId a.m src dst).1 dst = some c
      rw [t5, if_neg (Ne.symm hne), if_pos rfl]
    exact ⟨t1, t5, t2, rfl, (B'.lookup_iff c dst).mpr hdst, fun _ => byTerm_moves B B' rfl hcs hdst⟩

/-- `convert_variable(v, …, move_annotations=True)` that converts (factor ≠ 1), `v` carrying `c`: the call returns; the
    new variable (number `heap.length`, not a variable before) is live and carries `c`; `v` has no id; nobody else's id
    and no triple changes; `c` and every ontology term that led to `v` now lead to the new variable -/
theorem convert_moves_id (a : AState) (h : AInv a) (v : Nat) (k : ConvKind) (c : String) (hv : v ∈ a.m.live)
    (hk : k ≠ .same) (hc : cmetaOf a.m v = some c) :
    (astep a (.convert v true k)).2 = .ok ∧
    a.m.heap.length ∈ (astep a (.convert v true k)).1.m.live ∧ a.m.heap.length ∉ a.m.live ∧
    cmetaOf (astep a (.convert v true k)).1.m a.m.heap.length = some c ∧
    cmetaOf (astep a (.convert v true k)).1.m v = none ∧
    (∀ i, i ≠ v → i ≠ a.m.heap.length → cmetaOf (astep a (.convert v true k)).1.m i = cmetaOf a.m i) ∧
    (astep a (.convert v true k)).1.rdf = a.rdf ∧
    getVariableByCmetaId (astep a (.convert v true k)).1.m c = some a.m.heap.length ∧
    (∀ term, byTerm a term = .ok v → byTerm (astep a (.convert v true k)).1 term = .ok a.m.heap.length) := by
  have hst : astep a (.convert v true k) = convertVariable a v true k := rfl
  rw [hst]
  obtain ⟨e1, e2, hnv, e5⟩ := convertVariable_moves h.inv hv hk hc
  have B := bij_of_inv h.inv
  have B' : Bij (convertVariable a v true k).1.m := bij_of_inv (by rw [← hst]; exact (ainv_step h _).inv)
  have hne : a.m.heap.length ≠ v := Nat.ne_of_gt (h.inv.reg.liveBound v hv)
  have hcn : cmetaOf (convertVariable a v true k).1.m a.m.heap.length = some c := by
    rw [e5, if_neg hne, if_pos rfl]
  exact ⟨e1, hnv, fun hm => Nat.lt_irrefl _ (h.inv.reg.liveBound _ hm), hcn, by rw [e5, if_pos rfl],
    fun i h1 h2 => by rw [e5, if_neg h1, if_neg h2], e2,
    (B'.lookup_iff c _).mpr ⟨hnv, hcn⟩, fun _ => byTerm_moves B B' e2 hc ⟨hnv, hcn⟩⟩

/-- `convert_variable` with `move_annotations=False`, or of a variable without id: no id moves — every variable keeps
    what it had, the new variables have none, no triple changes, and every lookup by id or by ontology term answers as
    before -/
theorem convert_keeps_id (a : AState) (h : AInv a) (v : Nat) (move : Bool) (k : ConvKind) (hv : v ∈ a.m.live)
    (hk : k ≠ .same) (hm : move = false ∨ cmetaOf a.m v = none) :
    (astep a (.convert v move k)).2 = .ok ∧
    (∀ i, cmetaOf (astep a (.convert v move k)).1.m i = cmetaOf a.m i) ∧
    (astep a (.convert v move k)).1.rdf = a.rdf ∧
    (∀ c i, getVariableByCmetaId (astep a (.convert v move k)).1.m c = some i ↔ getVariableByCmetaId a.m c = some i) ∧
    (∀ term w, byTerm (astep a (.convert v move k)).1 term = .ok w ↔ byTerm a term = .ok w) := by
  have hst : astep a (.convert v move k) = convertVariable a v move k := rfl
  rw [hst]
  obtain ⟨e1, e2, g⟩ := convertVariable_keeps hv hk hm
  have B := bij_of_inv h.inv
  have B' : Bij (convertVariable a v move k).1.m := bij_of_inv (by rw [← hst]; exact (ainv_step h _).inv)
  refine ⟨e1, g.cmeta, e2, ?_, ?_⟩
  · intro c i; rw [B'.lookup_iff, B.lookup_iff]; exact g.carried c i
  · intro term w
    rw [byTerm_ok_iff B', byTerm_ok_iff B, e2]
    exact exists_congr fun c => and_congr_right fun _ => g.carried c w

/-- a conversion that is not needed (factor 1: the original is returned) or not possible (DimensionalityError) leaves
    the model as it is -/
theorem convert_same_noop (a : AState) (v : Nat) (move : Bool) : (astep a (.convert v move .same)).1 = a :=
  convertVariable_noop (Or.inr rfl)

/-- **where loading leaves the ids** (rule of commit df25620: a factor-1 target hands its id to `source.assigned_to`).
    For every document whose connections resolve (`connect … = ok st`), with `home v0 = v0.assigned_to` (or `v0` when it
    has none):
    * the ids after resolution sit exactly on the homes of the variables they were written on — none is lost, none is
      duplicated, none appears from nowhere;
    * a variable that was never connected keeps its id (`home v0 = v0`);
    * otherwise `home v0` is assigned to itself and is either a source proper — and then it is the ULTIMATE source
      `rootOf st v0`, the variable by which `symbol_generator` replaces every mention of `v0` in the component
      maths — or the left-hand side of a conversion equation of the flat model. -/
theorem load_moves_id {reg : Registry} {vt : Load.VarTable} {l : List (Load.VRef × Load.VRef)} {st : Load.CState}
    (h : Load.connect reg vt l = .ok st) :
    (∀ w c, Load.cmetaOf st w = some c ↔ ∃ v0, Load.docId vt v0 = some c ∧ Load.home st v0 = w) ∧
    (∀ v0 c, Load.docId vt v0 = some c → Load.cmetaOf st (Load.home st v0) = some c) ∧
    (∀ v0, (st.asg v0 = none ∧ Load.home st v0 = v0) ∨
      (st.asg v0 = some (Load.home st v0) ∧ st.asg (Load.home st v0) = some (Load.home st v0) ∧
        ((Load.Src vt (Load.home st v0) ∧ Load.rootOf st v0 = Load.home st v0) ∨
          ∃ e ∈ st.convs, e.target = Load.home st v0))) :=
  ⟨(Load.connect_cm h).ids, fun v0 c hd => ((Load.connect_cm h).ids _ c).mpr ⟨v0, hd, rfl⟩, Load.home_facts h⟩

/-- the same for a loaded document: every flat variable reports the id that resolution left on it, and a conversion
    target that received an id is the left-hand side of an equation of the flat model -/
theorem load_moves_id_flat {doc : Load.Doc} {F : Load.Flat} (h : Load.load doc = .ok F) :
    ∃ L, Load.prepare doc = .ok L ∧ F = L.flat doc ∧
      (∀ fv ∈ F.vars, ∀ c, fv.cmeta = some c ↔ ∃ v0, Load.docId L.vt v0 = some c ∧ Load.home L.st v0 = fv.ref) ∧
      (∀ e ∈ L.st.convs, ∃ q ∈ F.eqs, q.lhs = .var e.target) := by
  obtain ⟨L, hL, hF⟩ := Load.load_prepare h
  have hconn := Load.prepare_connect hL
  refine ⟨L, hL, hF, ?_, ?_⟩
  · intro fv hfv c
    subst hF
    simp only [Load.Loaded.flat, Load.flatVars, List.mem_map] at hfv
    obtain ⟨⟨r, i⟩, _, rfl⟩ := hfv
    exact (Load.connect_cm hconn).ids r c
  · intro e he
    subst hF
    exact ⟨e.toEq, by simp only [Load.Loaded.flat]; exact List.mem_append_left _ (List.mem_append_left _ (List.mem_map.mpr ⟨e, he, rfl⟩)), rfl⟩

/-- a (owns `x`, `x = 1 V`) ⊃ b (relays `x`) ⊃ c (reads `x`, carries the annotation `ann_x`; `y = x + 1 V`): a relay
    chain in ONE unit, the id on the far end -/
def chainDoc : Load.Doc :=
  { units := []
    comps := [
      ⟨"a", [⟨"x", "volt", .none, .out, none, none⟩], [⟨.var "x", .num 1 "volt"⟩]⟩,
      ⟨"b", [⟨"x", "volt", .inn, .out, none, none⟩], []⟩,
      ⟨"c", [⟨"x", "volt", .inn, .none, none, some "ann_x"⟩, ⟨"y", "volt", .none, .none, none, none⟩],
        [⟨.var "y", .add (.var "x") (.num 1 "volt")⟩]⟩]
    encaps := [(none, "a"), (some "a", "b"), (some "b", "c")]
    conns := [⟨"b", "x", "c", "x"⟩, ⟨"a", "x", "b", "x"⟩] }

def chainUnits : Registry × Units.Store := (Units.builtinRegistry, { id := 0, known := [] })
def chainVt : Load.VarTable := Load.varTable chainUnits.2 chainDoc.comps
def chainPar : Load.ParentMap :=
  match Load.buildParents (chainDoc.comps.map (·.name)) chainDoc.encaps [] [] with
  | .ok p => p
  | .error _ => []
def chainDl : List (Load.VRef × Load.VRef) :=
  match Load.directAll (chainDoc.comps.map (·.name)) chainPar chainVt chainDoc.conns with
  | .ok d => d
  | .error _ => []
/-- resolution with the repaired rule … -/
def chainSt : Load.CState :=
  match Load.loopF (Load.stepConn chainUnits.1 chainVt) 10 chainDl 0 (Load.initState chainVt) with
  | some (.ok st) => st
  | _ => Load.initState chainVt
/-- … and with the rule before commit df25620 -/
def chainStToday : Load.CState :=
  match Load.loopF (Load.stepConnToday chainUnits.1 chainVt) 10 chainDl 0 (Load.initState chainVt) with
  | some (.ok st) => st
  | _ => Load.initState chainVt

/-- does the variable occur in an equation (either side, also under a derivative)? -/
def occurs (v : Load.VRef) (eqs : List Load.FlatEq) : Bool :=
  eqs.any (fun e => (e.lhs :: e.rhs.leaves).any (fun l => match l with
    | .var a => a == v
    | .diff x t => x == v || t == v))

/-- the same chain with a second id on the source `a$x` -/
def chainVt2 : Load.VarTable :=
  chainVt.map (fun (r, i) => if r = ("a", "x") then (r, { i with cmeta := some "src" }) else (r, i))

def chainSt2Today : Load.CState :=
  match Load.loopF (Load.stepConnToday chainUnits.1 chainVt2) 10 chainDl 0 (Load.initState chainVt2) with
  | some (.ok st) => st
  | _ => Load.initState chainVt2

/-- The three witnesses about the chain that mention `chainSt`, `chainStToday`, `chainSt2Today`, evaluated together: these
    definitions are `match <loop over the built-in registry> with …`, so one evaluation of the loop is unavoidable for each,
    and the kernel shares repeated closed sub-terms (the registry, the conversion factors of the two connections) only within
    one declaration. -/
theorem chain_all :
    (chainSt =
    { assigned := [(("c", "x"), ("a", "x")), (("b", "x"), ("a", "x")), (("a", "x"), ("a", "x")), (("c", "y"), ("c", "y"))]
      mapping := [(("c", "x"), ("b", "x")), (("b", "x"), ("a", "x"))]
      convs := []
      cmeta := [(("a", "x"), some "ann_x"), (("c", "x"), none), (("a", "x"), none), (("b", "x"), none),
        (("c", "x"), some "ann_x"), (("c", "y"), none)] }) ∧
    (Load.cmetaOf chainStToday ("b", "x") = some "ann_x" ∧ Load.cmetaOf chainStToday ("a", "x") = none ∧
    Load.rootOf chainStToday ("c", "x") = ("a", "x") ∧
    occurs ("b", "x") ((⟨chainUnits.1, chainUnits.2, chainVt, chainPar, chainDl, chainStToday⟩ : Load.Loaded).flat chainDoc).eqs = false ∧
    occurs ("a", "x") ((⟨chainUnits.1, chainUnits.2, chainVt, chainPar, chainDl, chainStToday⟩ : Load.Loaded).flat chainDoc).eqs = true) ∧
    (Load.loopF (Load.stepConn chainUnits.1 chainVt2) 10 chainDl 0 (Load.initState chainVt2) =
      some (.error (.valueError "Cannot transfer cmeta id: target variable already has a cmeta id")) ∧
    Load.loopF (Load.stepConnToday chainUnits.1 chainVt2) 10 chainDl 0 (Load.initState chainVt2) = some (.ok chainSt2Today) ∧
    Load.cmetaOf chainSt2Today ("b", "x") = some "ann_x" ∧ Load.cmetaOf chainSt2Today ("a", "x") = some "src") := by
  decide +kernel

theorem chainSt_eq : chainSt =
    { assigned := [(("c", "x"), ("a", "x")), (("b", "x"), ("a", "x")), (("a", "x"), ("a", "x")), (("c", "y"), ("c", "y"))]
      mapping := [(("c", "x"), ("b", "x")), (("b", "x"), ("a", "x"))]
      convs := []
      cmeta := [(("a", "x"), some "ann_x"), (("c", "x"), none), (("a", "x"), none), (("b", "x"), none),
        (("c", "x"), some "ann_x"), (("c", "y"), none)] } := chain_all.1

/-- Both ends of every connection of the chain are in volt, and the factor between a unit and itself is 1 in every
    registry that knows it. So for `chain_connect` the kernel may run the loop over the registry that holds `volt` alone,
    which is much less work for it than the built-in table. (Not so for `chainSt`, `chainStToday`, `chainSt2Today`
    themselves: their definitions evaluate the loop over the built-in table, see `chain_all`.) -/
theorem chain_factor (c : Load.VRef × Load.VRef) (hc : c ∈ chainDl) :
    Units.factor chainUnits.1 (Load.unitsOf chainVt c.1) (Load.unitsOf chainVt c.2) =
      Units.factor [("volt", .base none)] (Load.unitsOf chainVt c.1) (Load.unitsOf chainVt c.2) := by
  have hu : ∀ c ∈ chainDl, Load.unitsOf chainVt c.1 = [("volt", 1)] ∧ Load.unitsOf chainVt c.2 = [("volt", 1)] := by
    decide +kernel
  have hk : Units.allKnown chainUnits.1 [("volt", 1)] = true := by
    show Units.allKnown Units.builtinRegistry _ = true
    rw [Units.builtinRegistry_eq]; decide +kernel
  rw [(hu c hc).1, (hu c hc).2, Units.factor_refl hk, Units.factor_refl (by decide +kernel)]

theorem chain_connect : Load.connect chainUnits.1 chainVt chainDl = .ok chainSt :=
  Load.connect_of_fuel 10 <| by
    rw [← Load.loopF_stepConn, Load.loopF_congr _ _ _ _ fun c hc => Load.stepConn_reg (chain_factor c hc), chainSt_eq]
    decide +kernel

/-- the loop really rotates (the first connection listed cannot be resolved first) and both connections have factor 1 -/
example : chainDl = [(("b", "x"), ("c", "x")), (("a", "x"), ("b", "x"))] ∧ chainSt.convs = [] ∧
    chainSt.asg ("c", "x") = some ("a", "x") := by rw [chainSt_eq]; decide +kernel

/-- **before the repair** the id written on `c$x` ended on the relay variable `b$x`, which occurs in no equation of the
    flat model, while the quantity is known to the equations as `a$x` (= `rootOf … c$x`) -/
theorem today_relay_unused :
    Load.cmetaOf chainStToday ("b", "x") = some "ann_x" ∧ Load.cmetaOf chainStToday ("a", "x") = none ∧
    Load.rootOf chainStToday ("c", "x") = ("a", "x") ∧
    occurs ("b", "x") ((⟨chainUnits.1, chainUnits.2, chainVt, chainPar, chainDl, chainStToday⟩ : Load.Loaded).flat chainDoc).eqs = false ∧
    occurs ("a", "x") ((⟨chainUnits.1, chainUnits.2, chainVt, chainPar, chainDl, chainStToday⟩ : Load.Loaded).flat chainDoc).eqs = true :=
  chain_all.2.1

/-- **after the repair** it is on `a$x`: `load_moves_id` applied to the same document -/
example : Load.cmetaOf chainSt ("a", "x") = some "ann_x" ∧ Load.cmetaOf chainSt ("b", "x") = none ∧
    Load.home chainSt ("c", "x") = ("a", "x") ∧ Load.docId chainVt ("c", "x") = some "ann_x" ∧
    occurs ("a", "x") ((⟨chainUnits.1, chainUnits.2, chainVt, chainPar, chainDl, chainSt⟩ : Load.Loaded).flat chainDoc).eqs = true := by
  rw [chainSt_eq]; decide +kernel

example : Load.cmetaOf chainSt (Load.home chainSt ("c", "x")) = some "ann_x" :=
  (load_moves_id chain_connect).2.1 ("c", "x") "ann_x" (by decide +kernel)

/-- ids on both the source and the far end: refused (ValueError) — as the direct connection `a$x → b$x` with ids on
    both ends always was; before the repair this document loaded, with `ann_x` on the unused relay -/
example : Load.loopF (Load.stepConn chainUnits.1 chainVt2) 10 chainDl 0 (Load.initState chainVt2) =
      some (.error (.valueError "Cannot transfer cmeta id: target variable already has a cmeta id")) ∧
    Load.loopF (Load.stepConnToday chainUnits.1 chainVt2) 10 chainDl 0 (Load.initState chainVt2) = some (.ok chainSt2Today) ∧
    Load.cmetaOf chainSt2Today ("b", "x") = some "ann_x" ∧ Load.cmetaOf chainSt2Today ("a", "x") = some "src" :=
  chain_all.2.2

/-- a history on an API-built model with id `mid`: V (id `V`, two terms), t (id `t`, one term), b (no id), and a term on
    the model's own id; the examples below try a clash, a transfer, a conversion and a removal on it -/
def demoOps : List AOp :=
  [.base (.addVariable "V" (some "V") none), .base (.addVariable "t" (some "t") none), .base (.addVariable "b" none none),
   .addRdf ⟨"V", bqbiolIs, .uri "https://chaste.comlab.ox.ac.uk/cellml/ns/oxford-metadata#membrane_voltage"⟩,
   .addRdf ⟨"V", bqbiolIs, .uri "http://example.org/onto#V"⟩,
   .addRdf ⟨"t", bqbiolIs, .uri "https://chaste.comlab.ox.ac.uk/cellml/ns/oxford-metadata#time"⟩,
   .addRdf ⟨"mid", bqbiolIs, .uri "http://example.org/onto#model"⟩]

def demo : AState := arun (some "mid") demoOps
def oxV : RNode := .uri "https://chaste.comlab.ox.ac.uk/cellml/ns/oxford-metadata#membrane_voltage"

theorem demo_eq : demo =
    { m := { modelCmeta := some "mid"
             heap := [⟨"V", 0, some "V", none, none⟩, ⟨"t", 1, some "t", none, none⟩, ⟨"b", 2, none, none, none⟩]
             live := [0, 1, 2], cmetaMap := [("V", 0), ("t", 1)], nextOrder := 3 }
      rdf := [⟨"V", bqbiolIs, oxV⟩, ⟨"V", bqbiolIs, .uri "http://example.org/onto#V"⟩,
        ⟨"t", bqbiolIs, .uri "https://chaste.comlab.ox.ac.uk/cellml/ns/oxford-metadata#time"⟩,
        ⟨"mid", bqbiolIs, .uri "http://example.org/onto#model"⟩] } := by decide +kernel

example : demo.m.live = [0, 1, 2] ∧ getVariableByCmetaId demo.m "V" = some 0 ∧ hasCmetaId demo.m "mid" = true ∧
    getVariableByCmetaId demo.m "mid" = none ∧ byTerm demo oxV = .ok 0 ∧
    termsOf demo 0 none = ["membrane_voltage", "V"] ∧
    termsOf demo 0 (some "http://example.org/") = ["V"] ∧
    byRdf demo bqbiolIs (some (.uri "http://example.org/onto#model")) = .error .keyError ∧
    byRdf demo bqbiolIs (some (.uri "http://example.org/onto#V")) = .ok [0] := by rw [demo_eq]; decide +kernel

/-- clashing ids are refused: an id in use, and the model's own id -/
example : (astep demo (.base (.addVariable "c" (some "V") none))).2 = .raised .valueError ∧
    (astep demo (.base (.addVariable "c" (some "mid") none))).2 = .raised .valueError ∧
    (astep demo (.base (.addVariable "V" none none))).2 = .raised .valueError := by rw [demo_eq]; decide +kernel

/-- transfer V → b, then the term leads to b (hypotheses of `transfer_moves` are met) … -/
example : byTerm (astep demo (.base (.transferCmetaId 0 2))).1 oxV = .ok 2 :=
  ((transfer_moves demo (ainv_reachable _ _) 0 2 (by rw [demo_eq]; decide +kernel) (by rw [demo_eq]; decide +kernel)).2 "V" (by rw [demo_eq]; decide +kernel)
    (by rw [demo_eq]; decide +kernel)).2.2.2.2.2 oxV (by rw [demo_eq]; decide +kernel)

/-- … a transfer onto an annotated variable is refused … -/
example : astep demo (.base (.transferCmetaId 0 1)) = (demo, .raised .valueError) := by rw [demo_eq]; decide +kernel

/-- … conversion with `move_annotations`: the new variable 3 carries `V` and the term leads to it; without: nothing moves -/
example : getVariableByCmetaId (astep demo (.convert 0 true (.input [0]))).1.m "V" = some 3 ∧
    byTerm (astep demo (.convert 0 true (.input [0]))).1 oxV = .ok 3 ∧
    (astep demo (.convert 0 true (.input [0]))).1.m.live = [0, 1, 2, 3, 4] ∧
    nameOfVar (astep demo (.convert 0 true (.input [0]))).1.m 3 = "V_converted" ∧
    nameOfVar (astep demo (.convert 0 true (.input [0]))).1.m 4 = "V_orig_deriv" ∧
    byTerm (astep demo (.convert 0 false .output)).1 oxV = .ok 0 := by rw [demo_eq]; decide +kernel

/-- … `remove_variable` takes the annotations along: 2 of the 4 triples stay, the id is free again -/
example : (astep demo (.base (.removeVariable 0))).1.rdf.length = 2 ∧
    hasCmetaId (astep demo (.base (.removeVariable 0))).1.m "V" = false ∧
    byTerm (astep demo (.base (.removeVariable 0))).1 oxV = .error .keyError := by rw [demo_eq]; decide +kernel

/-- `add_cmeta_id`: variable `b` (no id) meets the hypotheses of `addCmetaId_fresh`; a variable named like an id in use
    (`V` is taken, `V_` is taken) gets `V__` — stated through the theorem, since `String.replace` does not reduce in
    the kernel -/
example : ∃ c k, c = cand (("b" : String).replace "$" "__") k ∧ hasCmetaId demo.m c = false := by
  obtain ⟨c, k, he, _, hf, _⟩ := addCmetaId_fresh demo (ainv_reachable _ _) 2 (by rw [demo_eq]; decide +kernel) (by rw [demo_eq]; decide +kernel)
  exact ⟨c, k, by rw [he]; rfl, hf⟩

example : freeCmeta demo.m "V" (demo.m.cmetaMap.length + 1) = some "V_" ∧
    freeCmeta (astep demo (.base (.addVariable "x" (some "V_") none))).1.m "V" 4 = some "V__" ∧
    freeCmeta demo.m "mid" 3 = some "mid_" := by rw [demo_eq]; decide +kernel


end Cellml.Props.C13
