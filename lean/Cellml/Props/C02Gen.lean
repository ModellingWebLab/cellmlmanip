import Cellml.Props.C02
import Cellml.Tie.TranspileClosed

/-! # C02 — the headline theorems of `Props/C02.lean`, stated about the code GENERATED from `cellmlmanip/parser.py`

    `Props/C02.lean` proves its theorems about the hand-written model `C02.transpile`. Here every one of them is
    restated with `C02.transpile` replaced by `genTranspile` (`Tie/TranspileClosed.lean`): the closed function made of
    the definitions `lean/Cellml/Generated/Code/Transpile.lean` — the loop of `Transpiler.transpile`, the seven
    container handlers, `_simple_operator_handler`, `_cn_handler`, and (through the leaf `pyCall`, `call_tie`) the
    closures `_wrapped_minus … _wrapped_diff`, `_wrapper_relational` — and proved as a corollary of the model theorem
    through `genTranspile_eq`. Exceptions are python class names (`PyErr`): `.value ↦ "ValueError"`, `.type ↦
    "TypeError"`, `.index ↦ "IndexError"`.

    The one domain hypothesis the tie carries is `wfV` (visited well-formedness: where a container handler reads the
    children, they are a proper chain of elements — i.e. the tree is the image of an XML tree; `.el "ci"`, `.el "cn"`,
    `.el "math"` excluded). It is stated explicitly wherever the original theorem quantifies over arbitrary trees; it is
    NOT implied by the hypotheses of the originals (`wfV_not_implied` below gives the tree). Where the original is about
    a tree of a fixed shape the hypothesis is proved, not assumed (`diff_shape_gen`, `transpile_rejects_cn_gen`,
    `unknown_tag_is_ValueError_gen`, every `opk`). -/

namespace Cellml.Props.C02Gen
open _root_.C02 Cellml.Tie Cellml.Tie.PTranspile Cellml.Tie.PGenE

theorem gen_ok {t : Mml} {a : Sy} (hw : wfV t = true) (h : transpile t = .ok a) : genTranspile t = .ok a := by
  rw [genTranspile_eq t hw, h]; rfl

theorem gen_ok_inv {t : Mml} {a : Sy} (hw : wfV t = true) (h : genTranspile t = .ok a) : transpile t = .ok a := by
  rwa [genTranspile_eq t hw, syE_ok_iff] at h

theorem gen_error {t : Mml} {e : Err} (hw : wfV t = true) (h : transpile t = .error e) :
    genTranspile t = .error ⟨syErrName e⟩ := by
  rw [genTranspile_eq t hw, h]; rfl

theorem gen_error_inv {t : Mml} {e : PyErr} (hw : wfV t = true) (h : genTranspile t = .error e) :
    ∃ e', transpile t = .error e' ∧ e = ⟨syErrName e'⟩ := by
  rwa [genTranspile_eq t hw, errClass_eq_error] at h

/-! ## 1. The generated operator table, read through the generated `_simple_operator_handler` -/

/-- the class behind the value `_simple_operator_handler` returns: the class itself, the constant object, or the
    class wrapped by `_get_nary_relation_callback` -/
def classOfValue : Sy → Option String
  | .cls c | .const c | .rel c => some c
  | _ => none

/-- what the GENERATED `_simple_operator_handler` returns for `<tag/>` computes what MathML 2 says `tag` means -/
def entrySoundGen (tag : String) : Bool :=
  match Gen.Transpile.simpleOperatorHandler (.el tag .nil), mmlMeaning tag with
  | .ok v, some m => (match classOfValue v with | some c => syMeaning c == m | none => false)
  | _, _ => false

theorem entrySoundGen_eq (tag : String) : entrySoundGen tag = Cellml.Props.C02.entrySound tag := by
  unfold entrySoundGen Cellml.Props.C02.entrySound
  rw [simpleOperatorHandler_tie]
  unfold simpleOperator
  cases Gen.mathmlOps.lookup tag with
  | none => simp [syE, errClass]
  | some c =>
    by_cases h1 : tag ∈ Gen.naryRelations <;> by_cases h2 : c ∈ sympyConstants <;>
      simp only [h1, h2, syE, errClass, if_true, if_false] <;> cases mmlMeaning tag <;> rfl

/-- … and it is what the closed generated transpiler returns for the element, whatever its children -/
theorem table_gen_transpile (tag c : String) (kids : Mml) (h : Gen.mathmlOps.lookup tag = some c) :
    ∃ v, genTranspile (.el tag kids) = .ok v ∧ Gen.Transpile.simpleOperatorHandler (.el tag .nil) = .ok v ∧
      classOfValue v = some c := by
  have hw := wfV_simple kids h
  refine ⟨_, gen_ok hw (transpile_simple tag kids c h), ?_, ?_⟩
  · rw [simpleOperatorHandler_tie]
    by_cases h1 : tag ∈ Gen.naryRelations <;> by_cases h2 : c ∈ sympyConstants <;>
      simp [simpleOperator, h, h1, h2, syE, errClass]
  · by_cases h1 : tag ∈ Gen.naryRelations <;> by_cases h2 : c ∈ sympyConstants <;>
      simp [h1, h2, classOfValue]

/-- every entry except `rem`, over the generated handler (`table_sound`) -/
theorem table_sound_gen (tag : String) (v : Sy) (h : Gen.Transpile.simpleOperatorHandler (.el tag .nil) = .ok v)
    (hrem : tag ≠ "rem") : ∃ c, classOfValue v = some c ∧ mmlMeaning tag = some (syMeaning c) := by
  cases hc : Gen.mathmlOps.lookup tag with
  | none => simp [simpleOperatorHandler_tie, simpleOperator, hc, syE, errClass] at h
  | some c =>
    obtain ⟨v', _, hv', hcl⟩ := table_gen_transpile tag c .nil hc
    cases hv'.symm.trans h
    exact ⟨c, hcl, Cellml.Props.C02.table_sound tag c hc hrem⟩

macro "table_entry_gen " n:ident t:str m:ident : command =>
  `(theorem $n : entrySoundGen $t = true := (entrySoundGen_eq $t).trans $m)

open Cellml.Props.C02 in
section
table_entry_gen table_abs_gen "abs" table_abs
table_entry_gen table_and_gen "and" table_and
table_entry_gen table_arccos_gen "arccos" table_arccos
table_entry_gen table_arccosh_gen "arccosh" table_arccosh
table_entry_gen table_arccot_gen "arccot" table_arccot
table_entry_gen table_arccoth_gen "arccoth" table_arccoth
table_entry_gen table_arccsc_gen "arccsc" table_arccsc
table_entry_gen table_arccsch_gen "arccsch" table_arccsch
table_entry_gen table_arcsec_gen "arcsec" table_arcsec
table_entry_gen table_arcsech_gen "arcsech" table_arcsech
table_entry_gen table_arcsin_gen "arcsin" table_arcsin
table_entry_gen table_arcsinh_gen "arcsinh" table_arcsinh
table_entry_gen table_arctan_gen "arctan" table_arctan
table_entry_gen table_arctanh_gen "arctanh" table_arctanh
table_entry_gen table_ceiling_gen "ceiling" table_ceiling
table_entry_gen table_cos_gen "cos" table_cos
table_entry_gen table_cosh_gen "cosh" table_cosh
table_entry_gen table_cot_gen "cot" table_cot
table_entry_gen table_coth_gen "coth" table_coth
table_entry_gen table_csc_gen "csc" table_csc
table_entry_gen table_csch_gen "csch" table_csch
table_entry_gen table_eq_gen "eq" table_eq
table_entry_gen table_exp_gen "exp" table_exp
table_entry_gen table_exponentiale_gen "exponentiale" table_exponentiale
table_entry_gen table_false_gen "false" table_false
table_entry_gen table_floor_gen "floor" table_floor
table_entry_gen table_geq_gen "geq" table_geq
table_entry_gen table_gt_gen "gt" table_gt
table_entry_gen table_infinity_gen "infinity" table_infinity
table_entry_gen table_leq_gen "leq" table_leq
table_entry_gen table_ln_gen "ln" table_ln
table_entry_gen table_lt_gen "lt" table_lt
table_entry_gen table_max_gen "max" table_max
table_entry_gen table_min_gen "min" table_min
table_entry_gen table_neq_gen "neq" table_neq
table_entry_gen table_not_gen "not" table_not
table_entry_gen table_notanumber_gen "notanumber" table_notanumber
table_entry_gen table_or_gen "or" table_or
table_entry_gen table_pi_gen "pi" table_pi
table_entry_gen table_plus_gen "plus" table_plus
table_entry_gen table_sec_gen "sec" table_sec
table_entry_gen table_sech_gen "sech" table_sech
table_entry_gen table_sin_gen "sin" table_sin
table_entry_gen table_sinh_gen "sinh" table_sinh
table_entry_gen table_tan_gen "tan" table_tan
table_entry_gen table_tanh_gen "tanh" table_tanh
table_entry_gen table_times_gen "times" table_times
table_entry_gen table_true_gen "true" table_true
table_entry_gen table_xor_gen "xor" table_xor
end

/-- KNOWN FINDING (rem-sign) over the generated handler: `<rem/>` ↦ the class `Mod`, whose meaning differs -/
theorem table_rem_is_Mod_gen : Gen.Transpile.simpleOperatorHandler (.el "rem" .nil) = .ok (.cls "Mod") ∧
    entrySoundGen "rem" = false :=
  ⟨by rw [simpleOperatorHandler_tie]; decide +kernel,
   (entrySoundGen_eq "rem").trans Cellml.Props.C02.table_rem_differs⟩

/-- **transpile_sound (generated code; partial as the original: `noNullary`, `remFree`).** For every content-MathML
    tree of ANY depth that is the image of an XML tree (`wfV`) and every interpretation: if the closed generated
    transpiler returns `e` and MathML 2 assigns the tree the value `v`, then the SymPy term `e` evaluates to `v`. -/
theorem transpile_sound_partial_gen (I : Interp) (t : Mml) (e : Sy) (v : Val) (hw : wfV t = true)
    (hn : t.noNullary = true) (hr : t.remFree = true)
    (ht : genTranspile t = .ok e) (hv : evalMml I t = some v) : evalSy I e = some v :=
  Cellml.Props.C02.transpile_sound_partial I t e v hn hr (gen_ok_inv hw ht) hv

open Cellml.Props.C02 (ap op cnum I0 sample) in
/-- the full-strength statement is FALSE of the generated code too (KNOWN FINDING arity0) -/
theorem transpile_sound_fails_nullary_gen :
    genTranspile (ap [op "plus"]) = .ok (.cls "Add") ∧ evalMml I0 (ap [op "plus"]) = some (.num 0) ∧
    evalSy I0 (.cls "Add") = none := by
  have h := Cellml.Props.C02.transpile_sound_fails_nullary
  exact ⟨gen_ok (wfV_of_xmlOk _ (by decide +kernel)) h.1, h.2.1, h.2.2⟩

open Cellml.Props.C02 (ap op cnum I0 sample) in
/-- … and of `rem` (KNOWN FINDING rem-sign) -/
theorem transpile_sound_fails_rem_gen :
    genTranspile (ap [op "rem", cnum "-7", cnum "3"]) = .ok (.app "Mod" (.cons (.num (-7)) (.cons (.num 3) .nil))) ∧
    evalMml I0 (ap [op "rem", cnum "-7", cnum "3"]) = some (.num (-1)) ∧
    evalSy I0 (.app "Mod" (.cons (.num (-7)) (.cons (.num 3) .nil))) = some (.num 2) := by
  have h := Cellml.Props.C02.transpile_sound_fails_rem
  exact ⟨gen_ok (wfV_of_xmlOk _ (by decide +kernel)) h.1, h.2.1, h.2.2⟩

open Cellml.Props.C02 (ap op cnum I0 sample) in
/-- non-vacuity: the depth-4 sample tree meets every hypothesis, `wfV` included, and the generated transpiler
    accepts it -/
theorem sample_gen : wfV sample = true ∧ sample.noNullary = true ∧ sample.remFree = true ∧
    (∃ e, genTranspile sample = .ok e ∧ evalSy I0 e = some (.num 8)) ∧ evalMml I0 sample = some (.num 8) := by
  obtain ⟨hn, hr, hs, hv⟩ := Cellml.Props.C02.sample_ok
  have hw : wfV sample = true := wfV_of_xmlOk _ (by decide +kernel)
  refine ⟨hw, hn, hr, ?_, hv⟩
  cases h : transpile sample with
  | error e => rw [h] at hs; cases hs
  | ok e => exact ⟨e, gen_ok hw h, Cellml.Props.C02.transpile_sound_partial I0 sample e _ hn hr h hv⟩

/-- `wfV` is not implied by the other hypotheses of `transpile_sound_partial`: a `<piecewise>` whose child chain ends
    in `.ci "z"` instead of `nil` (no XML tree has this image) has a MathML value under `I0` (the first piece is
    taken), is `noNullary`, `remFree`, is accepted by the model — and is not `wfV`. -/
theorem wfV_not_implied :
    let t : Mml := .el "piecewise" (.cons (.el "piece" (Mml.ofList [.ci "x", .el "true" .nil])) (.ci "z"))
    wfV t = false ∧ t.noNullary = true ∧ t.remFree = true ∧ (transpile t).toOption.isSome = true ∧
    evalMml Cellml.Props.C02.I0 t = some (.num 3) := by
  obtain ⟨hw, _, ht⟩ := wfV_needed.1
  exact ⟨hw, by decide +kernel, by decide +kernel, by rw [ht]; rfl, by decide +kernel⟩

/-- derivatives: bound variable first, optional integer degree — for every `x`, `y` and every content `k` of
    `<diff>` (no hypothesis: the tree is `wfV` whatever `k` is) -/
theorem diff_shape_gen (x y : String) (k : Mml) :
    genTranspile (.el "apply" (.cons (.el "diff" k) (.cons (.el "bvar" (.cons (.ci x) .nil)) (.cons (.ci y) .nil)))) =
      .ok (.app "Derivative" (.cons (.sym y) (.cons (.sym x) (.cons (.int 1) .nil)))) := by
  refine gen_ok ?_ (Cellml.Props.C02.diff_shape x y k)
  have hb : wfV (.el "bvar" (Mml.ofList [.ci x])) = true :=
    wfV_container [.ci x] handlerOf_bvar (by decide) (by simp [isElement, wfV])
  have := wfV_apply (.el "diff" k) [.el "bvar" (Mml.ofList [.ci x]), .ci y]
    ⟨rfl, wfV_wrapped k handlerOf_diff (by decide)⟩ (by
      intro a ha
      simp only [List.mem_cons, List.mem_nil_iff, or_false] at ha
      rcases ha with rfl | rfl
      · exact ⟨rfl, hb⟩
      · exact ⟨rfl, rfl⟩)
  simpa [Mml.ofList] using this

/-- **unknown element ⇒ error**, wherever the transpiler visits it (`visitsUnknown`), at any depth -/
theorem transpile_rejects_unknown_gen (t : Mml) (hw : wfV t = true)
    (h : Cellml.Props.C02.visitsUnknown t = true) : ∃ err, genTranspile t = .error err := by
  obtain ⟨e, he⟩ := Cellml.Props.C02.transpile_rejects_unknown t h
  exact ⟨_, gen_error hw he⟩

/-- the class of that error at the element itself: ValueError (from the source text of the loop of
    `Transpiler.transpile`); no hypothesis — an element without handler is `wfV` whatever its children -/
theorem unknown_tag_is_ValueError_gen (tag : String) (kids : Mml) (h : handlerOf tag = none) :
    genTranspile (.el tag kids) = .error ⟨"ValueError"⟩ :=
  gen_error (by simp [wfV, h]) (Cellml.Props.C02.unknown_tag_is_ValueError tag kids h)

/-- the children of a container are transpiled first: their error is the container's error -/
theorem container_propagates_gen (tag m : String) (ks : List Mml) (e : PyErr) (h : handlerOf tag = some m)
    (hm : m ∈ containerHandlers) (hks : ∀ k ∈ ks, isElement k = true ∧ wfV k = true)
    (hk : genTranspile (Mml.ofList ks) = .error e) : genTranspile (.el tag (Mml.ofList ks)) = .error e := by
  obtain ⟨e', he', rfl⟩ := gen_error_inv (wfV_ofList ks hks).2 hk
  obtain ⟨f1, f2, f3⟩ := container_flags m hm
  exact gen_error (wfV_container ks h hm hks)
    (Cellml.Props.C02.container_propagates tag m _ e' h f1 f2 f3 he')

/-- `<piece>` without exactly 2 children, `<otherwise>` / `<degree>` without exactly 1, `<bvar>` with none or more than
    2 ⇒ ValueError; `<apply>` / `<logbase>` with none ⇒ IndexError -/
theorem transpile_rejects_containers_gen (ks : List Mml) (r : Sy)
    (hks : ∀ k ∈ ks, isElement k = true ∧ wfV k = true) (hr : genTranspile (Mml.ofList ks) = .ok r) :
    (ks.length ≠ 2 → genTranspile (.el "piece" (Mml.ofList ks)) = .error ⟨"ValueError"⟩) ∧
    (ks.length ≠ 1 → genTranspile (.el "otherwise" (Mml.ofList ks)) = .error ⟨"ValueError"⟩) ∧
    (ks.length ≠ 1 → genTranspile (.el "degree" (Mml.ofList ks)) = .error ⟨"ValueError"⟩) ∧
    (ks.length ≠ 1 → ks.length ≠ 2 → genTranspile (.el "bvar" (Mml.ofList ks)) = .error ⟨"ValueError"⟩) ∧
    (ks.length = 0 → genTranspile (.el "apply" (Mml.ofList ks)) = .error ⟨"IndexError"⟩) ∧
    (ks.length = 0 → genTranspile (.el "logbase" (Mml.ofList ks)) = .error ⟨"IndexError"⟩) := by
  have hm := Cellml.Props.C02.transpile_rejects_containers ks r (gen_ok_inv (wfV_ofList ks hks).2 hr)
  refine ⟨fun h => ?_, fun h => ?_, fun h => ?_, fun h1 h2 => ?_, fun h => ?_, fun h => ?_⟩
  · exact gen_error (wfV_container ks handlerOf_piece (by decide) hks) (hm.1 h)
  · exact gen_error (wfV_container ks handlerOf_otherwise (by decide) hks) (hm.2.1 h)
  · exact gen_error (wfV_container ks handlerOf_degree (by decide) hks) (hm.2.2.1 h)
  · exact gen_error (wfV_container ks handlerOf_bvar (by decide) hks) (hm.2.2.2.1 h1 h2)
  · exact gen_error (wfV_container ks handlerOf_apply (by decide) hks) (hm.2.2.2.2.1 h)
  · exact gen_error (wfV_container ks handlerOf_logbase (by decide) hks) (hm.2.2.2.2.2 h)

/-- `<cn>`: a `type` other than e-notation, e-notation without exactly one `<sep/>`, text that is not a number ⇒
    ValueError (no hypothesis beyond the original's) -/
theorem transpile_rejects_cn_gen (ty : String) (text : Option String) (kids : List (Bool × Option String))
    (s : String) :
    (ty ≠ "e-notation" → genTranspile (.cn (some ty) text kids) = .error ⟨"ValueError"⟩) ∧
    ((∀ k, kids ≠ [(true, k)]) → genTranspile (.cn (some "e-notation") text kids) = .error ⟨"ValueError"⟩) ∧
    (pyFloat s.toList = none → genTranspile (.cn none (some s) kids) = .error ⟨"ValueError"⟩) := by
  have hm := Cellml.Props.C02.transpile_rejects_cn ty text kids s
  exact ⟨fun h => gen_error rfl (hm.1 h), fun h => gen_error rfl (hm.2.1 h), fun h => gen_error rfl (hm.2.2 h)⟩

/-- operand counts the wrapped callbacks reject (python's TypeError) -/
theorem transpile_rejects_wrapped_arity_gen (opk : Mml) (ks : List Mml) (r : Sy)
    (hks : ∀ k ∈ ks, isElement k = true ∧ wfV k = true) (hr : genTranspile (Mml.ofList ks) = .ok r)
    (h0 : ks ≠ []) :
    (ks.length > 2 → genTranspile (.el "apply" (.cons (.el "minus" opk) (Mml.ofList ks))) = .error ⟨"TypeError"⟩) ∧
    (ks.length ≠ 2 → genTranspile (.el "apply" (.cons (.el "divide" opk) (Mml.ofList ks))) = .error ⟨"TypeError"⟩) ∧
    (ks.length ≠ 2 → genTranspile (.el "apply" (.cons (.el "power" opk) (Mml.ofList ks))) = .error ⟨"TypeError"⟩) ∧
    (ks.length > 2 → genTranspile (.el "apply" (.cons (.el "root" opk) (Mml.ofList ks))) = .error ⟨"TypeError"⟩) ∧
    (ks.length > 2 → genTranspile (.el "apply" (.cons (.el "log" opk) (Mml.ofList ks))) = .error ⟨"TypeError"⟩) ∧
    (ks.length ≠ 2 → ks.length ≠ 3 →
      genTranspile (.el "apply" (.cons (.el "diff" opk) (Mml.ofList ks))) = .error ⟨"TypeError"⟩) := by
  have hm := Cellml.Props.C02.transpile_rejects_wrapped_arity opk ks r (gen_ok_inv (wfV_ofList ks hks).2 hr) h0
  have w : ∀ (opn m : String), handlerOf opn = some m → m ∈ wrappedHandlers →
      wfV (.el "apply" (.cons (.el opn opk) (Mml.ofList ks))) = true :=
    fun opn m h hmem => wfV_apply _ ks ⟨rfl, wfV_wrapped opk h hmem⟩ hks
  refine ⟨fun h => ?_, fun h => ?_, fun h => ?_, fun h => ?_, fun h => ?_, fun h2 h3 => ?_⟩
  · exact gen_error (w _ _ handlerOf_minus (by decide)) (hm.1 h)
  · exact gen_error (w _ _ handlerOf_divide (by decide)) (hm.2.1 h)
  · exact gen_error (w _ _ handlerOf_power (by decide)) (hm.2.2.1 h)
  · exact gen_error (w _ _ handlerOf_root (by decide)) (hm.2.2.2.1 h)
  · exact gen_error (w _ _ handlerOf_log (by decide)) (hm.2.2.2.2.1 h)
  · exact gen_error (w _ _ handlerOf_diff (by decide)) (hm.2.2.2.2.2 h2 h3)

/-- **wrong operand count for a table operator ⇒ TypeError** -/
theorem transpile_rejects_class_arity_gen (tag c : String) (opk : Mml) (ks : List Mml) (r : Sy)
    (hc : Gen.mathmlOps.lookup tag = some c) (hnr : tag ∉ Gen.naryRelations)
    (hks : ∀ k ∈ ks, isElement k = true ∧ wfV k = true) (hr : genTranspile (Mml.ofList ks) = .ok r)
    (h0 : ks ≠ []) :
    (c ∈ sympyConstants →
      genTranspile (.el "apply" (.cons (.el tag opk) (Mml.ofList ks))) = .error ⟨"TypeError"⟩) ∧
    (∀ lo hi, c ∉ sympyConstants → sympyArity c = some (lo, hi) →
        (ks.length < lo ∨ (∃ h, hi = some h ∧ h < ks.length)) →
        genTranspile (.el "apply" (.cons (.el tag opk) (Mml.ofList ks))) = .error ⟨"TypeError"⟩) := by
  have hm := Cellml.Props.C02.transpile_rejects_class_arity tag c opk ks r hc hnr
    (gen_ok_inv (wfV_ofList ks hks).2 hr) h0
  have w : wfV (.el "apply" (.cons (.el tag opk) (Mml.ofList ks))) = true :=
    wfV_apply _ ks ⟨rfl, wfV_simple opk hc⟩ hks
  exact ⟨fun h => gen_error w (hm.1 h), fun lo hi h1 h2 h3 => gen_error w (hm.2 lo hi h1 h2 h3)⟩

/-- an n-ary relation with a single operand ⇒ TypeError (IndexError when that operand is `true`/`false` and the
    relation an inequality: the error message indexes the missing second operand) -/
theorem transpile_rejects_relation_unary_gen (tag c : String) (opk k : Mml) (a : Sy)
    (hc : Gen.mathmlOps.lookup tag = some c) (hnr : tag ∈ Gen.naryRelations)
    (hke : isElement k = true) (hkw : wfV k = true) (hk : genTranspile k = .ok a)
    (har : sympyArity c = some (2, some 2)) :
    genTranspile (.el "apply" (.cons (.el tag opk) (Mml.ofList [k]))) = .error ⟨"TypeError"⟩ ∨
    genTranspile (.el "apply" (.cons (.el tag opk) (Mml.ofList [k]))) = .error ⟨"IndexError"⟩ := by
  have w : wfV (.el "apply" (.cons (.el tag opk) (Mml.ofList [k]))) = true :=
    wfV_apply _ [k] ⟨rfl, wfV_simple opk hc⟩ (by simp [hke, hkw])
  rcases Cellml.Props.C02.transpile_rejects_relation_unary tag c opk k a hc hnr (gen_ok_inv hkw hk) har with h | h
  · exact Or.inl (gen_error w h)
  · exact Or.inr (gen_error w h)

open Cellml.Props.C02 (ap op cnum) in
/-- the concrete rejections of `Props/C02.lean`, on the generated code -/
theorem rejects_examples_gen :
    genTranspile (ap [op "sin", .ci "x", .ci "y"]) = .error ⟨"TypeError"⟩ ∧
    genTranspile (ap [op "rem", .ci "x"]) = .error ⟨"TypeError"⟩ ∧
    genTranspile (ap [op "neq", .ci "x", .ci "y", .ci "z"]) = .error ⟨"TypeError"⟩ ∧
    genTranspile (ap [op "pi", .ci "x"]) = .error ⟨"TypeError"⟩ ∧
    genTranspile (ap [op "eq", .ci "x"]) = .error ⟨"TypeError"⟩ ∧
    genTranspile (ap [op "lt", op "true"]) = .error ⟨"IndexError"⟩ ∧
    genTranspile (ap [op "not", .ci "p", .ci "q"]) = .error ⟨"TypeError"⟩ ∧
    genTranspile (.el "piece" (Mml.ofList [.ci "x"])) = .error ⟨"ValueError"⟩ := by
  obtain ⟨h1, h2, h3, h4, h5, h6, h7⟩ := Cellml.Props.C02.rejects_examples
  exact ⟨gen_error (wfV_of_xmlOk _ (by decide +kernel)) h1, gen_error (wfV_of_xmlOk _ (by decide +kernel)) h2, gen_error (wfV_of_xmlOk _ (by decide +kernel)) h3,
    gen_error (wfV_of_xmlOk _ (by decide +kernel)) h4, gen_error (wfV_of_xmlOk _ (by decide +kernel)) h5, gen_error (wfV_of_xmlOk _ (by decide +kernel)) h6,
    gen_error (wfV_of_xmlOk _ (by decide +kernel)) h7, gen_error (e := .value) (wfV_of_xmlOk _ (by decide +kernel)) (by decide +kernel)⟩

/-! ### what the generated code does NOT reject (KNOWN FINDINGS), transferred likewise -/

/-- arity0: an `<apply>` with the operator as its only child returns the operator itself — for EVERY operator -/
theorem nullary_apply_returns_operator_gen (tag : String) (opk : Mml) (f : Sy) (hw : wfV (.el tag opk) = true)
    (h : genTranspile (.el tag opk) = .ok f) : genTranspile (.el "apply" (.cons (.el tag opk) .nil)) = .ok f :=
  gen_ok (by simpa [Mml.ofList] using wfV_apply (.el tag opk) [] ⟨rfl, hw⟩ (by simp))
    (Cellml.Props.C02.nullary_apply_returns_operator tag opk f (gen_ok_inv hw h))

/-- qualifier-misplaced: `<degree>`, `<logbase>`, one-child `<bvar>` are transparent wherever they stand -/
theorem qualifiers_are_transparent_gen (d : Mml) (a : Sy) (hde : isElement d = true) (hdw : wfV d = true)
    (h : genTranspile d = .ok a) :
    genTranspile (.el "degree" (.cons d .nil)) = .ok a ∧ genTranspile (.el "logbase" (.cons d .nil)) = .ok a ∧
    genTranspile (.el "bvar" (.cons d .nil)) = .ok a := by
  have hm := Cellml.Props.C02.qualifiers_are_transparent d a (gen_ok_inv hdw h)
  have w : ∀ (tag m : String), handlerOf tag = some m → m ∈ containerHandlers →
      wfV (.el tag (.cons d .nil)) = true := fun tag m h1 h2 => by
    simpa [Mml.ofList] using wfV_container [d] h1 h2 (by simp [hde, hdw])
  exact ⟨gen_ok (w _ _ handlerOf_degree (by decide)) hm.1, gen_ok (w _ _ handlerOf_logbase (by decide)) hm.2.1,
    gen_ok (w _ _ handlerOf_bvar (by decide)) hm.2.2⟩

open Cellml.Props.C02 (ap op cnum I0) in
/-- ln/2, plain-operand-as-qualifier, logbase-arity:2, diff/3, diff degree truncation, cn leniency, cn children
    ignored (KNOWN FINDINGS): the concrete accepted inputs of `Props/C02.lean`, on the generated code -/
theorem accepted_malformed_inputs_gen :
    genTranspile (ap [op "ln", .ci "x", .ci "y"]) = .ok (.app "ln" (.cons (.sym "x") (.cons (.sym "y") .nil))) ∧
    genTranspile (ap [op "root", .ci "x", .ci "y"]) = .ok (.app "root" (.cons (.sym "y") (.cons (.sym "x") .nil))) ∧
    genTranspile (ap [op "log", .ci "x", .ci "y"]) = .ok (.app "logb" (.cons (.sym "y") (.cons (.sym "x") .nil))) ∧
    genTranspile (ap [op "diff", .ci "x", .ci "y"]) =
      .ok (.app "Derivative" (.cons (.sym "y") (.cons (.sym "x") (.cons (.int 1) .nil)))) ∧
    genTranspile (ap [op "log", .el "logbase" (Mml.ofList [cnum "3", cnum "4"]), .ci "x"]) =
      .ok (.app "logb" (.cons (.sym "x") (.cons (.num 3) .nil))) ∧
    genTranspile (ap [op "diff", .el "bvar" (Mml.ofList [.ci "t"]), .ci "x", op "true"]) =
      .ok (.app "DerivativeEval" (.cons (.sym "x") (.cons (.sym "t") (.cons (.int 1) (.cons (.const "true") .nil))))) ∧
    genTranspile (ap [op "diff", .el "bvar" (Mml.ofList [.ci "t", .el "degree" (Mml.ofList [cnum "2.5"])]), .ci "x"]) =
      .ok (.app "Derivative" (.cons (.sym "x") (.cons (.sym "t") (.cons (.int 2) .nil)))) ∧
    genTranspile (cnum "1_000") = .ok (.num 1000) ∧ genTranspile (cnum "inf") = .ok (.special "inf") ∧
    genTranspile (.cn none (some "1.5") [(true, some "3")]) = .ok (.num (3/2)) := by
  have hl := Cellml.Props.C02.ln_two_operands_accepted
  have hp := Cellml.Props.C02.plain_operand_as_qualifier
  have ho := Cellml.Props.C02.other_accepted_malformed_inputs
  exact ⟨gen_ok (wfV_of_xmlOk _ (by decide +kernel)) hl.1, gen_ok (wfV_of_xmlOk _ (by decide +kernel)) hp.1, gen_ok (wfV_of_xmlOk _ (by decide +kernel)) hp.2.1,
    gen_ok (wfV_of_xmlOk _ (by decide +kernel)) hp.2.2.1, gen_ok (wfV_of_xmlOk _ (by decide +kernel)) ho.1, gen_ok (wfV_of_xmlOk _ (by decide +kernel)) ho.2.1,
    gen_ok (wfV_of_xmlOk _ (by decide +kernel)) ho.2.2.1, gen_ok rfl ho.2.2.2.1, gen_ok rfl ho.2.2.2.2.1,
    gen_ok rfl ho.2.2.2.2.2.2.2.1⟩

end Cellml.Props.C02Gen
