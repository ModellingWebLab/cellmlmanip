import Cellml.Units.Local

/-! # C07 — conversion factors obey unit algebra, for every pair/triple of units of every registry.

    Model: `Units.factor`, `Units.convert`, `Units.conversionFactor`, `Units.isEquivalent` (mini-pint). A scale is a
    prime ↦ exponent map, so "f · g" is `PMap.add f g`, "1/f" is `PMap.neg f`, "1" is `[]`, and `≃` is equality of the
    positive reals denoted. Every theorem quantifies over ALL registries (any family of base, derived, scaled
    dimensionless units, shared by any number of stores) and ALL containers (any product / quotient / rational power of
    named units). Where python asks whether a factor is one or two scales agree (`get_conversion_factor`,
    `is_equivalent`) it uses `math.isclose` (relative 1e-9); the exact model asks for equality, and what happens inside
    that band is outside it. The tie to cellmlmanip is the correspondence check `harness/props/c07.py` and,
    from the source text, `Props/C07Gen.lean` over `Tie/Units.lean`. -/

namespace Cellml.Props.C07
open Units PMap

theorem factor_ok_iff (reg : Registry) (a b : Container) (f : Scale) :
    factor reg a b = .ok f ↔
      (allKnown reg a = true ∧ allKnown reg b = true ∧ beq (dimsOf reg a) (dimsOf reg b) = true ∧
        f = norm (sub (toRoot reg a).1 (toRoot reg b).1)) :=
  Units.factor_ok_iff reg a b f

/-- factor(a, a) = 1 -/
theorem factor_refl (reg : Registry) (a : Container) (h : allKnown reg a = true) :
    ∃ f, factor reg a a = .ok f ∧ f ≃ [] :=
  ⟨_, Units.factor_refl h, Equiv.refl _⟩

/-- the factor is the ratio of the units' SI scales (scales of the root expansion) -/
theorem factor_ratio (reg : Registry) (a b : Container) (f : Scale) (h : factor reg a b = .ok f) :
    f ≃ sub (toRoot reg a).1 (toRoot reg b).1 :=
  Units.factor_ratio reg a b f h

/-- factor(a, b) · factor(b, a) = 1 -/
theorem factor_inv (reg : Registry) (a b : Container) (f : Scale) (h : factor reg a b = .ok f) :
    ∃ g, factor reg b a = .ok g ∧ add f g ≃ [] := by
  refine ⟨_, factor_symm h, fun p => ?_⟩
  have := Units.factor_ratio reg a b f h p
  simp only [get_add, get_norm, get_sub, get_nil] at this ⊢; grind

/-- factor(a, c) = factor(a, b) · factor(b, c) -/
theorem factor_trans (reg : Registry) (a b c : Container) (f g : Scale)
    (h₁ : factor reg a b = .ok f) (h₂ : factor reg b c = .ok g) :
    ∃ k, factor reg a c = .ok k ∧ k ≃ add f g := by
  obtain ⟨ha, _, hd₁, rfl⟩ := (factor_ok_iff reg a b f).mp h₁
  obtain ⟨_, hc, hd₂, rfl⟩ := (factor_ok_iff reg b c g).mp h₂
  refine ⟨_, (factor_ok_iff reg a c _).mpr ⟨ha, hc, ?_, rfl⟩, ?_⟩
  · simp only [beq, decide_eq_true_eq] at hd₁ hd₂ ⊢; exact hd₁.trans hd₂
  · intro p; simp only [get_add, get_norm, get_sub]; grind

/-- a factor is only ever returned between units of the same dimension -/
theorem factor_ok_same_dims (reg : Registry) (a b : Container) (f : Scale) (h : factor reg a b = .ok f) :
    dimsOf reg a ≃ dimsOf reg b :=
  equiv_of_beq ((factor_ok_iff reg a b f).mp h).2.2.1

/-- a dimension mismatch between known units is reported as DimensionalityError, never as a number -/
theorem mismatch_is_error (reg : Registry) (a b : Container)
    (ha : allKnown reg a = true) (hb : allKnown reg b = true) (hd : beq (dimsOf reg a) (dimsOf reg b) = false) :
    factor reg a b = .error .dimensionality :=
  factor_error_iff.mpr (.inr ⟨ha, hb, hd, rfl⟩)

/-- `convert` answers in the unit asked for, and the multiplier of the magnitude is `factor(a, b)` -/
theorem convert_magnitude (reg : Registry) (a b : Container) (f : Scale) (u : Container)
    (h : convert reg a b = .ok (f, u)) : u = b ∧ factor reg a b = .ok f := by
  unfold convert at h
  split at h
  · rename_i f' hf; simp only [Except.ok.injEq, Prod.mk.injEq] at h; exact ⟨h.2.symm, h.1 ▸ hf⟩
  · cases h

/-- `get_conversion_factor` answers the int `1` exactly when the factor is one (python: within 1e-9 of one) -/
theorem conversionFactor_one (reg : Registry) (a b : Container) :
    conversionFactor reg a b = .ok none ↔ factor reg a b = .ok [] := by
  unfold conversionFactor
  cases hf : factor reg a b with
  | error e => simp
  | ok f => by_cases h : f = [] <;> simp [h]

/-! ### `is_equivalent` is an equivalence relation, and implies factor one -/

theorem equiv_refl (reg : Registry) (a : Container) : isEquivalent reg a a = true := isEquivalent_refl reg a

theorem equiv_symm (reg : Registry) (a b : Container) (h : isEquivalent reg a b = true) :
    isEquivalent reg b a = true := isEquivalent_symm h

theorem equiv_trans (reg : Registry) (a b c : Container) (h₁ : isEquivalent reg a b = true)
    (h₂ : isEquivalent reg b c = true) : isEquivalent reg a c = true := isEquivalent_trans h₁ h₂

/-- equivalent units convert into each other with factor exactly one -/
theorem equiv_factor_one (reg : Registry) (a b : Container) (ha : allKnown reg a = true)
    (hb : allKnown reg b = true) (h : isEquivalent reg a b = true) : factor reg a b = .ok [] :=
  factor_of_isEquivalent ha hb h

/-- `is_equivalent` holds exactly when the factor is one AND the two units expand to the same root units
    (the second conjunct is what `radian` violates; for units without dimensionless root units it is implied by
    the first, since conversion already requires equal dimensions). -/
theorem equiv_iff_factor_one (reg : Registry) (a b : Container) (ha : allKnown reg a = true)
    (hb : allKnown reg b = true) :
    isEquivalent reg a b = true ↔ (factor reg a b = .ok [] ∧ (toRoot reg a).2 ≃ (toRoot reg b).2) :=
  isEquivalent_iff_factor ha hb

/-- semantic form of `mismatch_is_error`: units whose dimensions differ in any exponent never convert -/
theorem mismatch_is_error' (reg : Registry) (a b : Container)
    (ha : allKnown reg a = true) (hb : allKnown reg b = true) (hd : ¬ dimsOf reg a ≃ dimsOf reg b) :
    factor reg a b = .error .dimensionality :=
  factor_mismatch ha hb hd

/-- known units of equal dimension always convert -/
theorem same_dims_convert (reg : Registry) (a b : Container)
    (ha : allKnown reg a = true) (hb : allKnown reg b = true) (hd : dimsOf reg a ≃ dimsOf reg b) :
    ∃ f, factor reg a b = .ok f :=
  ⟨_, factor_of_dims ha hb hd⟩

/-- the converse of `equiv_factor_one` fails, in the model as in cellmlmanip (finding `equiv-iff-factor-one:radian` of
    findings/C07.json): `radian` converts to `dimensionless` with factor one but is not `is_equivalent` to it, because
    `radian` is a root unit without a dimension. -/
theorem radian_factor_one_not_equivalent :
    factor builtinRegistry [("radian", 1)] [] = .ok [] ∧ isEquivalent builtinRegistry [("radian", 1)] [] = false := by
  rw [factor_restrict commonUnits_isClosed (by decide +kernel) (by decide +kernel),
    isEquivalent_restrict commonUnits_isClosed (within_of_test (by decide +kernel)) (within_of_test (by decide +kernel)),
    restrict_commonUnits]
  decide +kernel

/-! ### closure under product, quotient, rational power (so the laws above hold for every composite unit) -/

/-- scale and root units of a product are the products -/
theorem root_mul (reg : Registry) (a b : Container) :
    (toRoot reg (add a b)).1 ≃ add (toRoot reg a).1 (toRoot reg b).1 ∧
    (toRoot reg (add a b)).2 ≃ add (toRoot reg a).2 (toRoot reg b).2 := toRoot_add reg a b

/-- scale and root units of a rational power are the powers -/
theorem root_pow (reg : Registry) (q : Rat) (a : Container) :
    (toRoot reg (smul q a)).1 ≃ smul q (toRoot reg a).1 ∧
    (toRoot reg (smul q a)).2 ≃ smul q (toRoot reg a).2 := toRoot_smul reg q a

/-- factor(a·c, b·d) = factor(a, b) · factor(c, d) -/
theorem factor_mul (reg : Registry) (a b c d : Container) (f g k : Scale)
    (h₁ : factor reg a b = .ok f) (h₂ : factor reg c d = .ok g) (h₃ : factor reg (add a c) (add b d) = .ok k) :
    k ≃ add f g := by
  obtain ⟨_, hk, e⟩ := Units.factor_mul h₁ h₂
  exact Except.ok.inj (h₃.symm.trans hk) ▸ e

/-- factor(a^q, b^q) = factor(a, b)^q -/
theorem factor_pow (reg : Registry) (q : Rat) (a b : Container) (f k : Scale)
    (h₁ : factor reg a b = .ok f) (h₂ : factor reg (smul q a) (smul q b) = .ok k) : k ≃ smul q f := by
  obtain ⟨_, hk, e⟩ := Units.factor_pow q h₁
  exact Except.ok.inj (h₂.symm.trans hk) ▸ e

/-! ### non-vacuity: concrete units meet the hypotheses -/

theorem volt_is_joule_per_coulomb :
    factor builtinRegistry [("volt", 1)] [("joule", 1), ("coulomb", -1)] = .ok [] := by
  rw [factor_restrict commonUnits_isClosed (by decide +kernel) (by decide +kernel), restrict_commonUnits]; decide +kernel
theorem liter_in_cubic_meters : factor builtinRegistry [("liter", 1)] [("meter", 3)] = .ok [(2, -3), (5, -3)] := by
  rw [factor_restrict commonUnits_isClosed (by decide +kernel) (by decide +kernel), restrict_commonUnits]; decide +kernel
theorem volt_to_second_refused : factor builtinRegistry [("volt", 1)] [("second", 1)] = .error .dimensionality := by
  rw [factor_restrict commonUnits_isClosed (by decide +kernel) (by decide +kernel), restrict_commonUnits]; decide +kernel

example : factor builtinRegistry [("volt", 1)] [("joule", 1), ("coulomb", -1)] = .ok [] := volt_is_joule_per_coulomb
example : factor builtinRegistry [("liter", 1)] [("meter", 3)] = .ok [(2, -3), (5, -3)] := liter_in_cubic_meters
example : factor builtinRegistry [("volt", 1)] [("second", 1)] = .error .dimensionality := volt_to_second_refused

end Cellml.Props.C07
