import Cellml.Units.LocalRules

/-! # C19 — custom conversion rules apply the same way whatever units sit on either side.

    Model (`Cellml/Units/Rules.lean`): `add_conversion_rule` as pint 0.18 executes it — a transformation keyed by the pair
    (source DIMENSIONALITY, target DIMENSIONALITY), newest first; `convertWithRules` = pint's `Quantity.to` with the
    enabled contexts (shortest path in the graph of keys, every hop multiplies the quantity by the rule's κ, then the
    ordinary conversion); `convertQ` = `UnitStore.convert`, `conversionFactorR` = `get_conversion_factor`,
    `convertVariable` = the part of `Model.convert_variable` that depends on the factor.

    A factor is a pair (scale, symbols): the scale is a prime ↦ exponent map (`add` is multiplication, `sub` division,
    `[]` is one), the symbols a symbol ↦ exponent map (`Cs/Cm` is `[("Cs",1),("Cm",-1)]`); `≃` is equality of the
    numbers / monomials denoted. `(toRoot reg u).1` is the SI scale of the unit `u`.

    Every theorem quantifies over ALL registries, ALL rule lists (any number of rules, any shadowing), ALL unit
    expressions. The tie to cellmlmanip + pint is the correspondence check `harness/props/c19.py` and, from the source
    text, `Props/C19Gen.lean`, `Props/C19GenR.lean` over `Tie/Units.lean`, `Tie/ConvRule.lean`. -/

namespace Cellml.Props.C19
open Units PMap

/-! ### a rule is keyed by dimensions: the units it was registered with do not matter -/

/-- `add_conversion_rule(f, t, rule)` and `add_conversion_rule(f', t', rule)` enable the same transformation whenever
    `f, f'` have the same dimension and `t, t'` have the same dimension. -/
theorem rule_registration_units_irrelevant (reg : Registry) (f f' t t' : Container) (body : List RFactor)
    (hf : dimsOf reg f ≃ dimsOf reg f') (ht : dimsOf reg t ≃ dimsOf reg t') :
    mkRule reg f t body = mkRule reg f' t' body := by
  unfold mkRule
  rw [dimsOf_eq_of_equiv hf, dimsOf_eq_of_equiv ht]

/-- a respelling of a unit (same container up to order / splitting of exponents) has the same key -/
theorem rule_key_respelling (reg : Registry) {u u' : Container} (h : u ≃ u') : dimsOf reg u = dimsOf reg u' :=
  dimsOf_congr reg h

/-! ### `UnitStore.convert` / `get_conversion_factor` are pint's conversion -/

/-- the special case of `UnitStore.convert` for the unit `dimensionless` cannot be observed (after the repair recorded
    in findings/C19.json): `convert` is pint's conversion with the enabled rules, for every pair of units. -/
theorem convert_special_case_invisible (reg : Registry) (rules : List Rule) (a b : Container) :
    convertQ reg rules a b = convertWithRules reg rules a b := convertQ_eq reg rules a b

/-- `get_conversion_factor` is that multiplier, with exactly-one reported as the int `1` -/
theorem conversionFactorR_eq (reg : Registry) (rules : List Rule) (a b : Container) :
    conversionFactorR reg rules a b =
      match convertWithRules reg rules a b with
      | .ok (f, y) => .ok (if f = [] ∧ y = [] then none else some (f, y))
      | .error e => .error e := by
  unfold conversionFactorR
  rw [convertQ_eq]
  rfl

/-! ### conversion along the path found, any number of hops -/

/-- **any number of hops.** Along the path found, the conversion multiplies by every κ on the way and then by the
    ordinary factor: `scale(a) · ∏ |κᵢ| · scale(unit κᵢ) / scale(b)`, symbols of all κᵢ; it fails only if the rules do
    not lead to the target dimension (or use unknown units). -/
theorem rule_path (reg : Registry) (rules : List Rule) (a b : Container) (p : List Dims)
    (ha : allKnown reg a = true) (hb : allKnown reg b = true)
    (hp : findPath rules (dimsOf reg a) (dimsOf reg b) = some p) (f : Scale) (y : Syms)
    (h : convertWithRules reg rules a b = .ok (f, y)) :
    f ≃ add (sub (toRoot reg a).1 (toRoot reg b).1)
          (add (pathScale (rulesAlong rules (dimsOf reg a) p))
               (toRoot reg (pathUnit (rulesAlong rules (dimsOf reg a) p))).1) ∧
    y ≃ pathSyms (rulesAlong rules (dimsOf reg a) p) := by
  rw [convertWithRules_path ha hb hp] at h
  cases hf : factor reg (add a (pathUnit (rulesAlong rules (dimsOf reg a) p))) b with
  | error e => rw [hf] at h; cases h
  | ok g =>
      rw [hf] at h
      simp only [Except.ok.injEq, Prod.mk.injEq] at h
      obtain ⟨rfl, rfl⟩ := h
      have e := factor_with_kappa hf
      refine ⟨?_, norm_equiv _⟩
      intro q
      have := e q
      simp only [get_norm, get_add, get_sub] at this ⊢
      grind

/-- **any number of hops, total form.** Along the path found, when every rule used has a κ of known units and of the
    dimension (target / source), the conversion succeeds and multiplies by every κ on the way:
    `scale(a) · ∏ |κᵢ| · scale(unit κᵢ) / scale(b)`, symbols of all κᵢ. -/
theorem rule_path_total (reg : Registry) (rules : List Rule) (a b : Container) (p : List Dims)
    (ha : allKnown reg a = true) (hb : allKnown reg b = true)
    (hp : findPath rules (dimsOf reg a) (dimsOf reg b) = some p)
    (hk : ∀ r ∈ rulesAlong rules (dimsOf reg a) p, allKnown reg r.kunit = true ∧ dimsOf reg r.kunit ≃ sub r.dst r.src) :
    ∃ f y, convertWithRules reg rules a b = .ok (f, y) ∧
      f ≃ add (sub (toRoot reg a).1 (toRoot reg b).1)
            (add (pathScale (rulesAlong rules (dimsOf reg a) p))
                 (toRoot reg (pathUnit (rulesAlong rules (dimsOf reg a) p))).1) ∧
      y ≃ pathSyms (rulesAlong rules (dimsOf reg a) p) := by
  obtain ⟨hku, hdu⟩ := pathUnit_dims (rulesAlong_chain (findPath_mem hp)) hk
  have hdims : dimsOf reg (add a (pathUnit (rulesAlong rules (dimsOf reg a) p))) ≃ dimsOf reg b := by
    refine (dimsOf_add reg a _).trans ?_
    intro q
    have := hdu q
    simp only [get_add, get_sub] at this ⊢
    grind
  have hf := factor_of_dims (by rw [allKnown_add_eq, ha, hku]; rfl) hb hdims
  have h := convertWithRules_path ha hb hp
  rw [hf] at h
  exact ⟨_, _, h, (rule_path reg rules a b p ha hb hp _ _ h).1, (rule_path reg rules a b p ha hb hp _ _ h).2⟩

/-- **rule_unit_independent.** If the newest rule enabled for the key (dimension of `a`, dimension of `b`) is `r`
    (whatever units it was written for) and `r` is dimensionally a rule between these dimensions, then converting from
    ANY unit `a` of the source dimension to ANY unit `b` of the target dimension succeeds, and the multiplier is
    `scale(a) · |κ| · scale(unit κ) / scale(b)` with the symbols of κ: only the scales of `a` and `b` enter, not their
    spelling, and nothing of the units the rule was registered with. -/
theorem rule_unit_independent (reg : Registry) (rules : List Rule) (a b : Container) (r : Rule)
    (ha : allKnown reg a = true) (hb : allKnown reg b = true) (hk : allKnown reg r.kunit = true)
    (hne : ¬ dimsOf reg a ≃ dimsOf reg b)
    (hr : lookupRule rules (dimsOf reg a) (dimsOf reg b) = some r)
    (hdim : dimsOf reg r.kunit ≃ sub r.dst r.src) :
    ∃ f y, convertWithRules reg rules a b = .ok (f, y) ∧
      f ≃ add (sub (toRoot reg a).1 (toRoot reg b).1) (add r.kscale (toRoot reg r.kunit).1) ∧ y ≃ r.ksyms := by
  have hne' : dimsOf reg a ≠ dimsOf reg b := fun h => hne (h ▸ Equiv.refl _)
  have hp := findPath_direct hne' hr
  have hrs : rulesAlong rules (dimsOf reg a) [dimsOf reg b] = [r] := by simp only [rulesAlong, hr]
  obtain ⟨f, y, h, hf, hy⟩ := rule_path_total reg rules a b _ ha hb hp
    (by rw [hrs]; intro x hx; rw [List.mem_singleton.mp hx]; exact ⟨hk, hdim⟩)
  rw [hrs] at hf hy
  refine ⟨f, y, h, hf.trans ?_, hy.trans ?_⟩
  · simp only [pathScale, pathUnit, add_nil]; exact Equiv.refl _
  · simp only [pathSyms, add_nil]; exact Equiv.refl _

/-- A conversion depends on the two units through their dimensions (which path, which rules) and their scales only:
    replacing `a`, `b` by units `a'`, `b'` of the same dimensions multiplies the result by the two ordinary factors and
    leaves the symbols as they are. No hypothesis on the rules: any number of hops, any κ. -/
theorem convert_rescaled (reg : Registry) (rules : List Rule) (a a' b b' : Container) (g h f : Scale) (y : Syms)
    (hg : factor reg a' a = .ok g) (hh : factor reg b b' = .ok h)
    (hf : convertWithRules reg rules a b = .ok (f, y)) :
    ∃ f', convertWithRules reg rules a' b' = .ok (f', y) ∧ f' ≃ add g (add f h) := by
  obtain ⟨ha', ha, hda, rfl⟩ := (factor_ok_iff reg a' a g).mp hg
  obtain ⟨hb, hb', hdb, rfl⟩ := (factor_ok_iff reg b b' h).mp hh
  have eda : dimsOf reg a' = dimsOf reg a := dimsOf_eq_of_equiv (beq_iff_equiv.mp hda)
  have edb : dimsOf reg b = dimsOf reg b' := dimsOf_eq_of_equiv (beq_iff_equiv.mp hdb)
  -- the same dimensions, hence the same rules and the same unit `u` to multiply by; `a·u → b` converts, so `a'·u → b'` does
  rw [convertWithRules_eq] at hf
  rw [convertWithRules_eq, eda, ← edb]
  generalize pathRules rules (dimsOf reg a) (dimsOf reg b) = rs at hf ⊢
  cases hk : factor reg (add a (pathUnit rs)) b with
  | error e => rw [hk] at hf; cases hf
  | ok k =>
      rw [hk] at hf
      simp only [Except.ok.injEq, Prod.mk.injEq] at hf
      obtain ⟨rfl, rfl⟩ := hf
      obtain ⟨hau, _, hd, rfl⟩ := (factor_ok_iff reg _ b k).mp hk
      rw [allKnown_add_eq, ha, Bool.true_and] at hau
      have hd' : dimsOf reg (add a' (pathUnit rs)) ≃ dimsOf reg b' := by
        rw [← edb]
        refine ((dimsOf_add reg a' _).trans ?_).trans (beq_iff_equiv.mp hd)
        rw [eda]; exact (dimsOf_add reg a _).symm
      rw [(factor_ok_iff reg _ b' _).mpr ⟨by rw [allKnown_add_eq, ha', hau]; rfl, hb', beq_iff_equiv.mpr hd', rfl⟩]
      refine ⟨_, rfl, fun p => ?_⟩
      have := (toRoot_add reg a (pathUnit rs)).1 p; have := (toRoot_add reg a' (pathUnit rs)).1 p
      simp only [get_norm, get_add, get_sub] at *
      grind

set_option linter.unusedVariables false in
/-- **"rescaled by exactly the ordinary factors".** Let the rule's result be known for one pair of units `(a, b)` — say
    the units the rule was written for. For any other unit `a'` of the source dimension and `b'` of the target
    dimension the conversion succeeds with the same symbols and
    `factor(a' → b') = factor(a' → a) · result(a → b) · factor(b → b')`, the outer two being ordinary factors. -/
theorem rule_rescaled_by_ordinary_factors (reg : Registry) (rules : List Rule) (a a' b b' : Container) (r : Rule)
    (hk : allKnown reg r.kunit = true)
    (hne : ¬ dimsOf reg a ≃ dimsOf reg b)
    (hr : lookupRule rules (dimsOf reg a) (dimsOf reg b) = some r)
    (hdim : dimsOf reg r.kunit ≃ sub r.dst r.src)
    (g h f : Scale) (y : Syms)
    (hg : factor reg a' a = .ok g) (hh : factor reg b b' = .ok h)
    (hf : convertWithRules reg rules a b = .ok (f, y)) :
    ∃ f' y', convertWithRules reg rules a' b' = .ok (f', y') ∧ f' ≃ add g (add f h) ∧ y' ≃ y := by
  obtain ⟨f', h1, h2⟩ := convert_rescaled reg rules a a' b b' g h f y hg hh hf
  exact ⟨f', y, h1, h2, Equiv.refl _⟩

/-- a rule whose κ does not have the dimension (target / source) is refused at conversion time
    (pint's ordinary conversion after the transformation raises DimensionalityError) -/
theorem rule_of_wrong_dimension_refused (reg : Registry) (rules : List Rule) (a b : Container) (r : Rule)
    (ha : allKnown reg a = true) (hb : allKnown reg b = true) (hk : allKnown reg r.kunit = true)
    (hne : ¬ dimsOf reg a ≃ dimsOf reg b)
    (hr : lookupRule rules (dimsOf reg a) (dimsOf reg b) = some r)
    (hdim : ¬ dimsOf reg (add a r.kunit) ≃ dimsOf reg b) :
    convertWithRules reg rules a b = .error .dimensionality := by
  rw [convertWithRules_direct ha hb (fun h => hne (h ▸ Equiv.refl _)) hr,
    factor_mismatch (by rw [allKnown_add_eq, ha, hk]; rfl) hb hdim]

/-- **rule_chain.** No rule for the key (dim a, dim b); a rule `r₁` from dim a to an intermediate dimension `m` and a
    rule `r₂` from `m` to dim b, `m` being the only such intermediate: the conversion succeeds and multiplies by both
    κ's — `scale(a) · |κ₁| · scale(unit κ₁) · |κ₂| · scale(unit κ₂) / scale(b)`, symbols of both. -/
theorem rule_chain (reg : Registry) (rules : List Rule) (a b : Container) (m : Dims) (r₁ r₂ : Rule)
    (ha : allKnown reg a = true) (hb : allKnown reg b = true)
    (hk₁ : allKnown reg r₁.kunit = true) (hk₂ : allKnown reg r₂.kunit = true)
    (hne : ¬ dimsOf reg a ≃ dimsOf reg b)
    (hdirect : lookupRule rules (dimsOf reg a) (dimsOf reg b) = none)
    (h₁ : lookupRule rules (dimsOf reg a) m = some r₁) (h₂ : lookupRule rules m (dimsOf reg b) = some r₂)
    (huniq : ∀ r ∈ rules, r.src = dimsOf reg a → (∃ r' ∈ rules, r'.src = r.dst ∧ r'.dst = dimsOf reg b) → r.dst = m)
    (hdim₁ : dimsOf reg r₁.kunit ≃ sub r₁.dst r₁.src) (hdim₂ : dimsOf reg r₂.kunit ≃ sub r₂.dst r₂.src) :
    ∃ f y, convertWithRules reg rules a b = .ok (f, y) ∧
      f ≃ add (sub (toRoot reg a).1 (toRoot reg b).1)
            (add (add r₁.kscale (toRoot reg r₁.kunit).1) (add r₂.kscale (toRoot reg r₂.kunit).1)) ∧
      y ≃ add r₁.ksyms r₂.ksyms := by
  have hne' : dimsOf reg a ≠ dimsOf reg b := fun h => hne (h ▸ Equiv.refl _)
  have hp := findPath_chain hne' hdirect h₁ h₂ huniq
  have hrs : rulesAlong rules (dimsOf reg a) [m, dimsOf reg b] = [r₁, r₂] := by simp only [rulesAlong, h₁, h₂]
  obtain ⟨f, y, h, hf, hy⟩ := rule_path_total reg rules a b _ ha hb hp (by
    rw [hrs]; intro x hx
    simp only [List.mem_cons, List.not_mem_nil, or_false] at hx
    rcases hx with rfl | rfl
    · exact ⟨hk₁, hdim₁⟩
    · exact ⟨hk₂, hdim₂⟩)
  rw [hrs] at hf hy
  refine ⟨f, y, h, ?_, hy.trans ?_⟩
  · have m₁ := (toRoot_add reg r₁.kunit r₂.kunit).1
    intro q
    have := hf q; have := m₁ q
    simp only [pathScale, pathUnit, add_nil, get_add, get_sub] at *
    grind
  · simp only [pathSyms, add_nil]; exact Equiv.refl _

/-- the chain is the composition of its two rules: for ANY unit `c` of the intermediate dimension,
    `result(a → b) = result(a → c) · result(c → b)` (scales multiply, symbols multiply). -/
theorem rule_chain_composes (reg : Registry) (rules : List Rule) (a b c : Container) (r₁ r₂ : Rule)
    (ha : allKnown reg a = true) (hb : allKnown reg b = true) (hc : allKnown reg c = true)
    (hk₁ : allKnown reg r₁.kunit = true) (hk₂ : allKnown reg r₂.kunit = true)
    (hne : ¬ dimsOf reg a ≃ dimsOf reg b) (hac : ¬ dimsOf reg a ≃ dimsOf reg c) (hcb : ¬ dimsOf reg c ≃ dimsOf reg b)
    (hdirect : lookupRule rules (dimsOf reg a) (dimsOf reg b) = none)
    (h₁ : lookupRule rules (dimsOf reg a) (dimsOf reg c) = some r₁)
    (h₂ : lookupRule rules (dimsOf reg c) (dimsOf reg b) = some r₂)
    (huniq : ∀ r ∈ rules, r.src = dimsOf reg a → (∃ r' ∈ rules, r'.src = r.dst ∧ r'.dst = dimsOf reg b) →
      r.dst = dimsOf reg c)
    (hdim₁ : dimsOf reg r₁.kunit ≃ sub r₁.dst r₁.src) (hdim₂ : dimsOf reg r₂.kunit ≃ sub r₂.dst r₂.src) :
    ∃ f y f₁ y₁ f₂ y₂, convertWithRules reg rules a b = .ok (f, y) ∧
      convertWithRules reg rules a c = .ok (f₁, y₁) ∧ convertWithRules reg rules c b = .ok (f₂, y₂) ∧
      f ≃ add f₁ f₂ ∧ y ≃ add y₁ y₂ := by
  obtain ⟨f, y, h, hf, hy⟩ := rule_chain reg rules a b _ r₁ r₂ ha hb hk₁ hk₂ hne hdirect h₁ h₂ huniq hdim₁ hdim₂
  obtain ⟨f₁, y₁, h1, hf₁, hy₁⟩ := rule_unit_independent reg rules a c r₁ ha hc hk₁ hac h₁ hdim₁
  obtain ⟨f₂, y₂, h2, hf₂, hy₂⟩ := rule_unit_independent reg rules c b r₂ hc hb hk₂ hcb h₂ hdim₂
  refine ⟨f, y, f₁, y₁, f₂, y₂, h, h1, h2, ?_, ?_⟩
  · intro p
    have := hf p; have := hf₁ p; have := hf₂ p
    simp only [get_add, get_sub] at *
    grind
  · intro p
    have := hy p; have := hy₁ p; have := hy₂ p
    simp only [get_add] at *
    grind

/-! ### conversions that do not need a rule are unaffected -/

/-- **rule_noninterference.** Between units of the same dimension the result is the ordinary factor (no symbols),
    whatever rules are enabled — including rules from or to that very dimension, or from it to itself. -/
theorem rule_noninterference (reg : Registry) (rules : List Rule) (a b : Container)
    (hd : dimsOf reg a ≃ dimsOf reg b) :
    convertWithRules reg rules a b =
      match factor reg a b with
      | .ok f => .ok (f, [])
      | .error e => .error e :=
  convertWithRules_same_dims reg rules a b (dimsOf_eq_of_equiv hd)

/-- hence registering rules changes no same-dimension answer of `get_conversion_factor` … -/
theorem rule_noninterference_api (reg : Registry) (rules rules' : List Rule) (a b : Container)
    (hd : dimsOf reg a ≃ dimsOf reg b) :
    conversionFactorR reg rules a b = conversionFactorR reg rules' a b := by
  rw [conversionFactorR_eq, conversionFactorR_eq, rule_noninterference reg rules a b hd,
    rule_noninterference reg rules' a b hd]

/-- … and that answer is the one of C07's `get_conversion_factor` without rules -/
theorem rule_noninterference_is_plain_factor (reg : Registry) (rules : List Rule) (a b : Container)
    (hd : dimsOf reg a ≃ dimsOf reg b) :
    conversionFactorR reg rules a b =
      match conversionFactor reg a b with
      | .ok none => .ok none
      | .ok (some f) => .ok (some (f, []))
      | .error e => .error e := by
  rw [conversionFactorR_eq, rule_noninterference reg rules a b hd]
  unfold conversionFactor
  cases hf : factor reg a b with
  | error e => rfl
  | ok f => by_cases h : f = [] <;> simp [h]

/-- with no rule enabled every conversion is the ordinary one -/
theorem no_rules_plain (reg : Registry) (a b : Container) :
    convertWithRules reg [] a b =
      match factor reg a b with
      | .ok f => .ok (f, [])
      | .error e => .error e :=
  convertWithRules_no_rules reg a b

/-! ### dimensions that no rule path connects still fail -/

/-- **rule_unreachable.** If no sequence of enabled rules leads from the dimension of `a` to the dimension of `b`, the
    conversion is a DimensionalityError — before and after any registration (`rules` is arbitrary). -/
theorem rule_unreachable (reg : Registry) (rules : List Rule) (a b : Container)
    (ha : allKnown reg a = true) (hb : allKnown reg b = true)
    (hun : ¬ Reach rules (dimsOf reg a) (dimsOf reg b)) :
    convertWithRules reg rules a b = .error .dimensionality :=
  convertWithRules_unreachable ha hb hun

theorem rule_unreachable_api (reg : Registry) (rules : List Rule) (a b : Container)
    (ha : allKnown reg a = true) (hb : allKnown reg b = true)
    (hun : ¬ Reach rules (dimsOf reg a) (dimsOf reg b)) :
    conversionFactorR reg rules a b = .error .dimensionality ∧ convertQ reg rules a b = .error .dimensionality := by
  rw [conversionFactorR_eq, convertQ_eq, rule_unreachable reg rules a b ha hb hun]
  exact ⟨rfl, rfl⟩

/-- conversely a conversion between different dimensions only ever succeeds along a rule path: rules are directional,
    a rule D₁ → D₂ alone never converts D₂ → D₁ -/
theorem ok_across_dimensions_needs_path (reg : Registry) (rules : List Rule) (a b : Container) (f : Scale) (y : Syms)
    (hne : ¬ dimsOf reg a ≃ dimsOf reg b) (h : convertWithRules reg rules a b = .ok (f, y)) :
    Reach rules (dimsOf reg a) (dimsOf reg b) := by
  cases hk : (allKnown reg a && allKnown reg b) with
  | false => rw [convertWithRules_unknown hk] at h; cases h
  | true =>
      simp only [Bool.and_eq_true] at hk
      rw [convertWithRules_known hk.1 hk.2] at h
      cases hp : findPath rules (dimsOf reg a) (dimsOf reg b) with
      | some p => exact reach_of_findPath hp
      | none =>
          rw [hp, factor_mismatch hk.1 hk.2 hne] at h
          cases h

/-- a single rule D₁ → D₂ (D₁ ≠ D₂) does not make D₂ → D₁ convertible -/
theorem single_rule_is_directional (reg : Registry) (r : Rule) (a b : Container)
    (ha : allKnown reg a = true) (hb : allKnown reg b = true)
    (hsrc : r.src = dimsOf reg a) (hdst : r.dst = dimsOf reg b) (hne : ¬ dimsOf reg a ≃ dimsOf reg b) :
    convertWithRules reg [r] b a = .error .dimensionality :=
  -- the only rule starts at dim a
  convertWithRules_no_start hb ha (fun h => hne (h ▸ Equiv.refl _)) fun r' hr' hs => by
    rw [List.mem_singleton.mp hr', hsrc] at hs; exact hne (hs ▸ Equiv.refl _)

/-! ### the path search: complete, shortest; conversion along any path -/

/-- the bounded search finds a path exactly when the target dimension can be reached through enabled rules -/
theorem path_search_complete (rules : List Rule) (s d : Dims) :
    (∃ p, findPath rules s d = some p) ↔ Reach rules s d :=
  ⟨fun ⟨_, hp⟩ => reach_of_findPath hp, findPath_complete⟩

/-- and the path it returns has the least number of hops among all walks of the graph -/
theorem path_search_shortest (rules : List Rule) (s d : Dims) (p : List Dims) (h : findPath rules s d = some p)
    (k : Nat) (q : List Dims) (hq : q ∈ walks rules k s d) : p.length ≤ k ∧ p ∈ walks rules p.length s d :=
  ⟨findPath_shortest h k q hq, findPath_mem h⟩

/-- the exact converse of `rule_unreachable`: a DimensionalityError between reachable dimensions can only come from a
    rule that does not produce the target dimension -/
theorem error_between_reachable_dimensions (reg : Registry) (rules : List Rule) (a b : Container)
    (ha : allKnown reg a = true) (hb : allKnown reg b = true)
    (hreach : Reach rules (dimsOf reg a) (dimsOf reg b)) (e : UErr)
    (h : convertWithRules reg rules a b = .error e) :
    ∃ p, findPath rules (dimsOf reg a) (dimsOf reg b) = some p ∧
      factor reg (add a (pathUnit (rulesAlong rules (dimsOf reg a) p))) b = .error e := by
  obtain ⟨p, hp⟩ := findPath_complete hreach
  refine ⟨p, hp, ?_⟩
  rw [convertWithRules_path ha hb hp] at h
  cases hf : factor reg (add a (pathUnit (rulesAlong rules (dimsOf reg a) p))) b with
  | error e' => rw [hf] at h; simp only [Except.error.injEq] at h; rw [h]
  | ok g => rw [hf] at h; cases h

/-- `convert_variable` returns the original variable exactly when `get_conversion_factor` returns `1` -/
theorem cv_same_iff (reg : Registry) (rules : List Rule) (a b : Container) (dir : Dir) (kind : VarKind)
    (hasInit : Bool) (n : Nat) :
    convertVariable reg rules a b dir kind hasInit n = .same ↔ conversionFactorR reg rules a b = .ok none := by
  unfold convertVariable
  cases h : conversionFactorR reg rules a b with
  | error e => simp
  | ok o =>
      cases o with
      | none => simp
      | some fy =>
          obtain ⟨f, y⟩ := fy
          simp only
          split <;> simp

/-- it raises a unit error exactly when `get_conversion_factor` does (same error) -/
theorem cv_unit_error_iff (reg : Registry) (rules : List Rule) (a b : Container) (dir : Dir) (kind : VarKind)
    (hasInit : Bool) (n : Nat) (e : UErr) :
    convertVariable reg rules a b dir kind hasInit n = .error (.units e) ↔
      conversionFactorR reg rules a b = .error e := by
  unfold convertVariable
  cases h : conversionFactorR reg rules a b with
  | error e' => simp
  | ok o =>
      cases o with
      | none => simp
      | some fy =>
          obtain ⟨f, y⟩ := fy
          simp only
          split <;> simp

/-- when it converts, the factor placed in EVERY added equation is the one `get_conversion_factor` returned — the
    rule's result for the units actually used —, as `· cf` or `/ cf`, and the initial value is scaled by it -/
theorem cv_uses_rule_factor (reg : Registry) (rules : List Rule) (a b : Container) (dir : Dir) (kind : VarKind)
    (hasInit : Bool) (n : Nat) (fy : Scale × Syms) (initScaled : Bool) (eqs : List EqForm)
    (h : convertVariable reg rules a b dir kind hasInit n = .converted fy initScaled eqs) :
    conversionFactorR reg rules a b = .ok (some fy) ∧ eqs = cvEquations dir kind n ∧
      (∀ e ∈ eqs, e.exponent = 1 ∨ e.exponent = -1) ∧ eqs ≠ [] ∧
      (initScaled = true ↔ (dir = .input ∧ hasInit = true)) := by
  unfold convertVariable at h
  cases hc : conversionFactorR reg rules a b with
  | error e => rw [hc] at h; cases h
  | ok o =>
      rw [hc] at h
      cases o with
      | none => cases h
      | some fy' =>
          obtain ⟨f, y⟩ := fy'
          simp only at h
          split at h
          · cases h
          · simp only [CVOutcome.converted.injEq] at h
            obtain ⟨rfl, rfl, rfl⟩ := h
            refine ⟨rfl, rfl, ?_, ?_, ?_⟩
            · intro e _; cases e <;> simp [EqForm.exponent]
            · cases dir <;> simp [cvEquations]
            · simp

/-- **convert_variable alike (partial).** Whenever `get_conversion_factor` gives a factor different from one,
    `convert_variable` performs the conversion with it — provided the factor is numeric, or the direction is OUTPUT,
    or the variable has no initial value. -/
theorem cv_alike_partial (reg : Registry) (rules : List Rule) (a b : Container) (dir : Dir) (kind : VarKind)
    (hasInit : Bool) (n : Nat) (f : Scale) (y : Syms)
    (hcf : conversionFactorR reg rules a b = .ok (some (f, y)))
    (hex : y = [] ∨ dir = .output ∨ hasInit = false) :
    convertVariable reg rules a b dir kind hasInit n =
      .converted (f, y) (decide (dir = .input) && hasInit) (cvEquations dir kind n) := by
  unfold convertVariable
  rw [hcf]
  simp only
  split
  · rename_i hc
    rcases hex with h | h | h
    · exact absurd h hc.2.2
    · rw [h] at hc; exact absurd hc.1 (by decide)
    · rw [h] at hc; exact absurd hc.2.1 (by decide)
  · rfl

/-- the excluded configuration really fails (known finding `cv-symbolic-factor-initial-value`): symbolic factor,
    INPUT, initial value ⇒ TypeError, although `get_conversion_factor` succeeded -/
theorem cv_symbolic_input_initial_value_refused (reg : Registry) (rules : List Rule) (a b : Container)
    (kind : VarKind) (n : Nat) (f : Scale) (y : Syms)
    (hcf : conversionFactorR reg rules a b = .ok (some (f, y))) (hy : y ≠ []) :
    convertVariable reg rules a b .input kind true n = .error .typeError := by
  unfold convertVariable
  rw [hcf]
  simp [hy]

/-! ### non-vacuity: the chain of the docstring of `add_conversion_rule`
    (uA → uA_per_cm2 by `rhs * Cs / Cm`, uA_per_cm2 → A_per_F by `rhs / Cs`, Cm = 12 pF, Cs = 1.1 uF_per_cm2) -/

def docReg : Registry :=
  [("A_per_F", .derived [] [("ampere", 1), ("farad", -1)]),
   ("uF_per_cm2", .derived [] [("uF", 1), ("cm2", -1)]),
   ("uA_per_cm2", .derived [] [("uA", 1), ("cm2", -1)]),
   ("cm2", .derived (pow10 (-4)) [("meter", 2)]),
   ("pF", .derived (pow10 (-12)) [("farad", 1)]),
   ("uF", .derived (pow10 (-6)) [("farad", 1)]),
   ("pA", .derived (pow10 (-12)) [("ampere", 1)]),
   ("uA", .derived (pow10 (-6)) [("ampere", 1)])] ++ builtinRegistry

def s1_1 : Scale := [(2, -1), (5, -1), (11, 1)]   -- 1.1
def s12 : Scale := [(2, 2), (3, 1)]               -- 12

def docRule₁ : Rule :=
  mkRule docReg [("uA", 1)] [("uA_per_cm2", 1)]
    [⟨false, .num s1_1, [("uF_per_cm2", 1)]⟩, ⟨true, .num s12, [("pF", 1)]⟩]
def docRule₂ : Rule :=
  mkRule docReg [("uA_per_cm2", 1)] [("A_per_F", 1)] [⟨true, .num s1_1, [("uF_per_cm2", 1)]⟩]
def docRules : List Rule := [docRule₂, docRule₁]

def symRule₁ : Rule :=
  mkRule docReg [("uA", 1)] [("uA_per_cm2", 1)]
    [⟨false, .sym "Cs", [("uF_per_cm2", 1)]⟩, ⟨true, .sym "Cm", [("pF", 1)]⟩]
def symRule₂ : Rule :=
  mkRule docReg [("uA_per_cm2", 1)] [("A_per_F", 1)] [⟨true, .sym "Cs", [("uF_per_cm2", 1)]⟩]

/-! The examples below are evaluated by the kernel. Evaluation is by name: a `dimsOf docReg …` left inside a rule is
    expanded again at every comparison of a key, and every expansion sweeps the whole registry. So the dimensions of
    the four units that occur as keys are computed once, the rules are rewritten to their closed forms, and the
    registry is cut down to the fourteen entries these units reach (`Units/Local.lean`: `docUnits` is closed), before
    `decide +kernel` runs what is left. -/

/-- the units of the example and the built-in units they are made of -/
def docUnits : List String :=
  ["A_per_F", "uF_per_cm2", "uA_per_cm2", "cm2", "pF", "uF", "pA", "uA", "farad", "volt", "ampere", "kilogram", "meter",
   "second"]

theorem docUnits_closed : Closed docUnits docReg := closed_of_test (by rw [docReg, builtinRegistry_eq]; decide +kernel)

theorem restrict_docUnits : restrict docUnits docReg =
    [("A_per_F", .derived [] [("ampere", 1), ("farad", -1)]),
     ("uF_per_cm2", .derived [] [("uF", 1), ("cm2", -1)]),
     ("uA_per_cm2", .derived [] [("uA", 1), ("cm2", -1)]),
     ("cm2", .derived (pow10 (-4)) [("meter", 2)]),
     ("pF", .derived (pow10 (-12)) [("farad", 1)]),
     ("uF", .derived (pow10 (-6)) [("farad", 1)]),
     ("pA", .derived (pow10 (-12)) [("ampere", 1)]),
     ("uA", .derived (pow10 (-6)) [("ampere", 1)]),
     ("farad", .derived [] [("ampere", 2), ("kilogram", -1), ("meter", -2), ("second", 4)]),
     ("volt", .derived [] [("ampere", -1), ("kilogram", 1), ("meter", 2), ("second", -3)]),
     ("ampere", .base (some "current")), ("kilogram", .base (some "mass")), ("meter", .base (some "length")),
     ("second", .base (some "time"))] := by
  rw [docReg, builtinRegistry_eq]; decide +kernel

theorem docReg_dims {c : Container} (hc : withinB docUnits c = true) :
    dimsOf docReg c = dimsOf (restrict docUnits docReg) c := dimsOf_restrict docUnits_closed (within_of_test hc)

theorem docReg_dims_uA : dimsOf docReg [("uA", 1)] = [("current", 1)] := by
  rw [docReg_dims (by decide +kernel), restrict_docUnits]; decide +kernel
theorem docReg_dims_pA : dimsOf docReg [("pA", 1)] = [("current", 1)] := by
  rw [docReg_dims (by decide +kernel), restrict_docUnits]; decide +kernel
theorem docReg_dims_uA_per_cm2 : dimsOf docReg [("uA_per_cm2", 1)] = [("current", 1), ("length", -2)] := by
  rw [docReg_dims (by decide +kernel), restrict_docUnits]; decide +kernel
theorem docReg_dims_A_per_F :
    dimsOf docReg [("A_per_F", 1)] = [("current", -1), ("length", 2), ("mass", 1), ("time", -4)] := by
  rw [docReg_dims (by decide +kernel), restrict_docUnits]; decide +kernel

theorem docRule₁_eq : docRule₁ =
    ⟨[("current", 1)], [("current", 1), ("length", -2)], [(2, -3), (3, -1), (5, -1), (11, 1)], [],
      [("pF", -1), ("uF_per_cm2", 1)]⟩ := by
  rw [docRule₁, mkRule_eq, docReg_dims_uA, docReg_dims_uA_per_cm2]; decide +kernel
theorem docRule₂_eq : docRule₂ =
    ⟨[("current", 1), ("length", -2)], [("current", -1), ("length", 2), ("mass", 1), ("time", -4)],
      [(2, 1), (5, 1), (11, -1)], [], [("uF_per_cm2", -1)]⟩ := by
  rw [docRule₂, mkRule_eq, docReg_dims_uA_per_cm2, docReg_dims_A_per_F]; decide +kernel
theorem symRule₁_eq : symRule₁ =
    ⟨[("current", 1)], [("current", 1), ("length", -2)], [], [("Cm", -1), ("Cs", 1)],
      [("pF", -1), ("uF_per_cm2", 1)]⟩ := by
  rw [symRule₁, mkRule_eq, docReg_dims_uA, docReg_dims_uA_per_cm2]; decide +kernel
theorem symRule₂_eq : symRule₂ =
    ⟨[("current", 1), ("length", -2)], [("current", -1), ("length", 2), ("mass", 1), ("time", -4)], [],
      [("Cs", -1)], [("uF_per_cm2", -1)]⟩ := by
  rw [symRule₂, mkRule_eq, docReg_dims_uA_per_cm2, docReg_dims_A_per_F]; decide +kernel

/-- 1 pA ↦ 1/12 A/F through both rules; 1 uA/cm² ↦ 1/1.1 A/F through the second (the two printed lines of the
    docstring: 0.0833…, 0.909…) -/
theorem doc_chain : convertWithRules docReg docRules [("pA", 1)] [("A_per_F", 1)] = .ok ([(2, -2), (3, -1)], []) := by
  rw [docRules, docRule₁_eq, docRule₂_eq,
    convertWithRules_restrict docUnits_closed (by decide +kernel) (by decide +kernel) (by decide +kernel), restrict_docUnits]
  decide +kernel
example : convertWithRules docReg docRules [("pA", 1)] [("A_per_F", 1)] = .ok ([(2, -2), (3, -1)], []) := by
  exact doc_chain
example : convertWithRules docReg docRules [("uA_per_cm2", 1)] [("A_per_F", 1)] = .ok ([(2, 1), (5, 1), (11, -1)], []) := by
  rw [docRules, docRule₁_eq, docRule₂_eq,
    convertWithRules_restrict docUnits_closed (by decide +kernel) (by decide +kernel) (by decide +kernel), restrict_docUnits]
  decide +kernel
/-- through the first rule only, from pA (the rule was written for uA): 1e-6 · 1.1/12 · 1e6 … -/
example : convertWithRules docReg docRules [("pA", 1)] [("uA_per_cm2", 1)] =
    .ok ([(2, -3), (3, -1), (5, -1), (11, 1)], []) := by
  rw [docRules, docRule₁_eq, docRule₂_eq,
    convertWithRules_restrict docUnits_closed (by decide +kernel) (by decide +kernel) (by decide +kernel), restrict_docUnits]
  decide +kernel
/-- symbolic capacitances: the symbols cancel along the chain as in sympy (Cs/Cm · 1/Cs = 1/Cm) -/
theorem sym_chain : convertWithRules docReg [symRule₂, symRule₁] [("pA", 1)] [("A_per_F", 1)] = .ok ([], [("Cm", -1)]) := by
  rw [symRule₁_eq, symRule₂_eq,
    convertWithRules_restrict docUnits_closed (by decide +kernel) (by decide +kernel) (by decide +kernel), restrict_docUnits]
  decide +kernel
example : convertWithRules docReg [symRule₂, symRule₁] [("pA", 1)] [("A_per_F", 1)] = .ok ([], [("Cm", -1)]) := by
  exact sym_chain
example : convertWithRules docReg [symRule₂, symRule₁] [("pA", 1)] [("uA_per_cm2", 1)] =
    .ok ([], [("Cm", -1), ("Cs", 1)]) := by
  rw [symRule₁_eq, symRule₂_eq,
    convertWithRules_restrict docUnits_closed (by decide +kernel) (by decide +kernel) (by decide +kernel), restrict_docUnits]
  decide +kernel
/-- the hypotheses of `rule_unit_independent` / `rule_chain` are met by this instance -/
example : lookupRule docRules (dimsOf docReg [("pA", 1)]) (dimsOf docReg [("uA_per_cm2", 1)]) = some docRule₁ ∧
    allKnown docReg docRule₁.kunit = true ∧
    beq (dimsOf docReg docRule₁.kunit) (sub docRule₁.dst docRule₁.src) = true ∧
    beq (dimsOf docReg [("pA", 1)]) (dimsOf docReg [("uA_per_cm2", 1)]) = false := by
  have hk : docRule₁.kunit = [("pF", -1), ("uF_per_cm2", 1)] := by rw [docRule₁_eq]
  rw [hk, docReg_dims_pA, docReg_dims_uA_per_cm2, docReg_dims (by decide +kernel),
    allKnown_restrict docReg (S := docUnits) (by decide +kernel), restrict_docUnits, docRules, docRule₁_eq, docRule₂_eq]
  decide +kernel
example : lookupRule docRules (dimsOf docReg [("pA", 1)]) (dimsOf docReg [("A_per_F", 1)]) = none ∧
    lookupRule docRules (dimsOf docReg [("pA", 1)]) (dimsOf docReg [("uA_per_cm2", 1)]) = some docRule₁ ∧
    lookupRule docRules (dimsOf docReg [("uA_per_cm2", 1)]) (dimsOf docReg [("A_per_F", 1)]) = some docRule₂ ∧
    (∀ r ∈ docRules, r.src = dimsOf docReg [("pA", 1)] →
      (∃ r' ∈ docRules, r'.src = r.dst ∧ r'.dst = dimsOf docReg [("A_per_F", 1)]) →
      r.dst = dimsOf docReg [("uA_per_cm2", 1)]) := by
  rw [docReg_dims_pA, docReg_dims_uA_per_cm2, docReg_dims_A_per_F, docRules, docRule₁_eq, docRule₂_eq]
  decide +kernel
/-- same dimension: the ordinary factor, rules or not; reverse direction and unrelated dimensions: still an error -/
example : convertWithRules docReg docRules [("pA", 1)] [("uA", 1)] = .ok ([(2, -6), (5, -6)], []) ∧
    factor docReg [("pA", 1)] [("uA", 1)] = .ok [(2, -6), (5, -6)] := by
  have hf : factor docReg [("pA", 1)] [("uA", 1)] = .ok [(2, -6), (5, -6)] := by
    rw [factor_restrict docUnits_closed (by decide +kernel) (by decide +kernel), restrict_docUnits]; decide +kernel
  have hd : dimsOf docReg [("pA", 1)] ≃ dimsOf docReg [("uA", 1)] := by
    rw [docReg_dims_pA, docReg_dims_uA]; exact Equiv.refl _
  rw [rule_noninterference docReg docRules _ _ hd, hf]
  exact ⟨rfl, rfl⟩
example : convertWithRules docReg docRules [("A_per_F", 1)] [("pA", 1)] = .error .dimensionality ∧
    convertWithRules docReg docRules [("pA", 1)] [("volt", 1)] = .error .dimensionality := by
  rw [docRules, docRule₁_eq, docRule₂_eq,
    convertWithRules_restrict docUnits_closed (by decide +kernel) (by decide +kernel) (by decide +kernel),
    convertWithRules_restrict docUnits_closed (by decide +kernel) (by decide +kernel) (by decide +kernel),
    restrict_docUnits]
  decide +kernel
/-- convert_variable with the symbolic chain: OUTPUT converts, INPUT with an initial value is refused -/
example : convertVariable docReg [symRule₂, symRule₁] [("pA", 1)] [("A_per_F", 1)] .output .state true 1 =
      .converted ([], [("Cm", -1)]) false [.newFromOrig] ∧
    convertVariable docReg [symRule₂, symRule₁] [("pA", 1)] [("A_per_F", 1)] .input .state true 1 =
      .error .typeError ∧
    convertVariable docReg docRules [("pA", 1)] [("A_per_F", 1)] .input .state true 1 =
      .converted ([(2, -2), (3, -1)], []) true [.origFromNew, .odeOfNew] := by
  have hs : conversionFactorR docReg [symRule₂, symRule₁] [("pA", 1)] [("A_per_F", 1)] =
      .ok (some ([], [("Cm", -1)])) := by rw [conversionFactorR_eq, sym_chain]; rfl
  have hn : conversionFactorR docReg docRules [("pA", 1)] [("A_per_F", 1)] = .ok (some ([(2, -2), (3, -1)], [])) := by
    rw [conversionFactorR_eq, doc_chain]; rfl
  exact ⟨cv_alike_partial _ _ _ _ _ _ _ _ _ _ hs (Or.inr (Or.inl rfl)),
    cv_symbolic_input_initial_value_refused _ _ _ _ _ _ _ _ hs (by decide),
    cv_alike_partial _ _ _ _ _ _ _ _ _ _ hn (Or.inl rfl)⟩

/-! ### the defect repaired by the `fix:` commit, on the model of the code as it was -/

def voltRule : Rule := mkRule builtinRegistry [] [("volt", 1)] [⟨false, .num [(5, 1)], [("volt", 1)]⟩]
def perVoltRule : Rule := mkRule builtinRegistry [("volt", 1)] [] [⟨true, .num [(5, 1)], [("volt", 1)]⟩]

/-- before the repair: with a rule dimensionless → volt, `convert(x dimensionless, volt)` raised DimensionalityError
    although pint converts it (×5): the full `convert_special_case_invisible` was false of the code as it was -/
theorem convert_before_fix_source_counterexample :
    convertQ_before builtinRegistry [voltRule] [] [("volt", 1)] = .error .dimensionality ∧
    convertWithRules builtinRegistry [voltRule] [] [("volt", 1)] = .ok ([(5, 1)], []) := by
  rw [voltRule, mkRule_restrict commonUnits_isClosed (by decide +kernel) (by decide +kernel),
    convertQ_before_restrict commonUnits_isClosed (by decide +kernel) (by decide +kernel) (by decide +kernel),
    convertWithRules_restrict commonUnits_isClosed (by decide +kernel) (by decide +kernel) (by decide +kernel),
    restrict_commonUnits]
  decide +kernel

/-- … and with only a rule volt → dimensionless it succeeded, through the inverse of a rule that was registered for
    the other direction (`single_rule_is_directional` was false of the code as it was) -/
theorem convert_before_fix_target_counterexample :
    convertQ_before builtinRegistry [perVoltRule] [] [("volt", 1)] = .ok ([(5, 1)], []) ∧
    convertWithRules builtinRegistry [perVoltRule] [] [("volt", 1)] = .error .dimensionality := by
  rw [perVoltRule, mkRule_restrict commonUnits_isClosed (by decide +kernel) (by decide +kernel),
    convertQ_before_restrict commonUnits_isClosed (by decide +kernel) (by decide +kernel) (by decide +kernel),
    convertWithRules_restrict commonUnits_isClosed (by decide +kernel) (by decide +kernel) (by decide +kernel),
    restrict_commonUnits]
  decide +kernel

/-- after the repair both agree with pint on these inputs (instances of `convert_special_case_invisible`) -/
example : convertQ builtinRegistry [voltRule] [] [("volt", 1)] = .ok ([(5, 1)], []) ∧
    convertQ builtinRegistry [perVoltRule] [] [("volt", 1)] = .error .dimensionality := by
  rw [convertQ_eq, convertQ_eq]
  exact ⟨convert_before_fix_source_counterexample.2, convert_before_fix_target_counterexample.2⟩

end Cellml.Props.C19
