import Cellml.Props.C19GenR

/-! # C19, generated `add_conversion_rule`: adding the same rule twice changes NO conversion

    `C19GenR.add_twice_idempotent` is about single lookups. Here the whole conversion: pint's path search
    (`Units.findPath`: iterative deepening over `walks`, first walk of the smallest length) over the rule list with the
    rule behind a newer rule with the same key (in particular: the same rule enabled twice) finds the same path as
    without it, the same transformations are applied along
    it, so `convertWithRules`, `convertQ`, `conversionFactorR` and the GENERATED `convert` / `get_conversion_factor`
    return the same for all units (`later_rule_replaces_in_conversions`, `add_twice_converts_alike`). -/

namespace Cellml.Props.C19GenR
open Units PMap Cellml.Tie Cellml.Tie.PUnits Cellml.Tie.PConvRule

/-- two lists with the same first element (or both empty) and the same elements -/
def Same {α : Type} (l l' : List α) : Prop := l.head? = l'.head? ∧ ∀ p, p ∈ l ↔ p ∈ l'

theorem Same.refl {α : Type} (l : List α) : Same l l := ⟨rfl, fun _ => Iff.rfl⟩

theorem Same.trans {α : Type} {a b c : List α} (h₁ : Same a b) (h₂ : Same b c) : Same a c :=
  ⟨h₁.1.trans h₂.1, fun p => (h₁.2 p).trans (h₂.2 p)⟩

theorem Same.append {α : Type} {a a' b b' : List α} (h₁ : Same a a') (h₂ : Same b b') :
    Same (a ++ b) (a' ++ b') := by
  refine ⟨?_, fun p => ?_⟩
  · rw [List.head?_append, List.head?_append, h₁.1, h₂.1]
  · rw [List.mem_append, List.mem_append, h₁.2, h₂.2]

theorem Same.map {α β : Type} (f : α → β) {a a' : List α} (h : Same a a') : Same (a.map f) (a'.map f) := by
  refine ⟨?_, fun p => ?_⟩
  · rw [List.head?_map, List.head?_map, h.1]
  · simp only [List.mem_map, h.2]

theorem Same.flatMap {α β : Type} (xs : List α) {f g : α → List β} (h : ∀ x, Same (f x) (g x)) :
    Same (xs.flatMap f) (xs.flatMap g) := by
  induction xs with
  | nil => exact Same.refl _
  | cons x xs ih => rw [List.flatMap_cons, List.flatMap_cons]; exact Same.append (h x) ih

theorem Same.dup {α : Type} (a b : List α) : Same (a ++ (a ++ b)) (a ++ b) := by
  refine ⟨?_, fun p => ?_⟩
  · simp only [List.head?_append]
    cases a.head? <;> simp
  · simp only [List.mem_append]
    constructor
    · rintro (h | h | h)
      · exact Or.inl h
      · exact Or.inl h
      · exact Or.inr h
    · rintro (h | h)
      · exact Or.inl h
      · exact Or.inr (Or.inr h)

/-! ### a rule behind a newer rule with the same key (in particular: behind itself) is never seen -/

theorem walks_shadow (r' r : Rule) (rs : List Rule) (hs : r.src = r'.src) (hd : r.dst = r'.dst) :
    ∀ (n : Nat) (s d : Dims), Same (walks (r' :: r :: rs) n s d) (walks (r' :: rs) n s d) := by
  intro n
  induction n with
  | zero => intro s d; exact Same.refl _
  | succ n ih =>
    intro s d
    unfold walks
    by_cases h : r'.src = s
    · simp only [List.filter_cons, hs, hd, h, decide_true, if_true, List.flatMap_cons]
      exact Same.trans (Same.dup _ _)
        (Same.append (Same.map _ (ih _ _)) (Same.flatMap _ (fun x => Same.map _ (ih _ _))))
    · simp only [List.filter_cons, hs, h, decide_false, Bool.false_eq_true, if_false]
      exact Same.flatMap _ (fun x => Same.map _ (ih _ _))

theorem search_shadow (r' r : Rule) (rs : List Rule) (hs : r.src = r'.src) (hd : r.dst = r'.dst) (s d : Dims) :
    ∀ (fuel n : Nat), search (r' :: r :: rs) s d fuel n = search (r' :: rs) s d fuel n := by
  intro fuel
  induction fuel with
  | zero => intro n; rfl
  | succ fuel ih =>
    intro n
    rw [search_succ, search_succ, ih]
    have hS := (walks_shadow r' r rs hs hd n s d).1
    cases h2 : walks (r' :: r :: rs) n s d <;> cases h1 : walks (r' :: rs) n s d <;> simp_all

theorem search_more_fuel {rules : List Rule} {s d : Dims} : ∀ {fuel n : Nat} {p : List Dims},
    search rules s d fuel n = some p → search rules s d (fuel + 1) n = some p := by
  intro fuel
  induction fuel with
  | zero => intro n p h; simp [search] at h
  | succ fuel ih =>
    intro n p h
    rw [search_succ] at h
    rw [search_succ rules s d (fuel + 1) n]
    cases hw : walks rules n s d with
    | cons q t => rw [hw] at h; exact h
    | nil => rw [hw] at h; exact ih h

theorem reach_shadow {r' r : Rule} {rs : List Rule} (hs : r.src = r'.src) (hd : r.dst = r'.dst) {s d : Dims}
    (h : Reach (r' :: r :: rs) s d) : Reach (r' :: rs) s d := by
  induction h with
  | refl s => exact Reach.refl s
  | step x d hx _ ih =>
    simp only [List.mem_cons] at hx
    rcases hx with h | h | h
    · exact Reach.step x d (by simp [h]) ih
    · subst h
      rw [hs]; rw [hd] at ih
      exact Reach.step r' d (by simp) ih
    · exact Reach.step x d (by simp [h]) ih

theorem findPath_shadow (r' r : Rule) (rs : List Rule) (hs : r.src = r'.src) (hd : r.dst = r'.dst) (s d : Dims) :
    findPath (r' :: r :: rs) s d = findPath (r' :: rs) s d := by
  cases h : findPath (r' :: rs) s d with
  | none =>
    exact findPath_none_of_not_reach (fun hr => (findPath_none_iff.mp h) (reach_shadow hs hd hr))
  | some p =>
    unfold findPath at h ⊢
    rw [search_shadow r' r rs hs hd]
    exact search_more_fuel h

theorem lookupRule_shadow (r' r : Rule) (rs : List Rule) (hs : r.src = r'.src) (hd : r.dst = r'.dst) (s d : Dims) :
    lookupRule (r' :: r :: rs) s d = lookupRule (r' :: rs) s d := by
  rw [lookupRule_cons, lookupRule_cons, lookupRule_cons, hs, hd]
  split <;> rfl

theorem rulesAlong_shadow (r' r : Rule) (rs : List Rule) (hs : r.src = r'.src) (hd : r.dst = r'.dst) :
    ∀ (p : List Dims) (s : Dims), rulesAlong (r' :: r :: rs) s p = rulesAlong (r' :: rs) s p := by
  intro p
  induction p with
  | nil => intro s; rfl
  | cons d p ih => intro s; simp only [rulesAlong, lookupRule_shadow r' r rs hs hd, ih]

theorem convertWithRules_shadow (reg : Registry) (r' r : Rule) (rs : List Rule) (hs : r.src = r'.src)
    (hd : r.dst = r'.dst) (a b : Container) :
    convertWithRules reg (r' :: r :: rs) a b = convertWithRules reg (r' :: rs) a b := by
  unfold convertWithRules
  simp only [findPath_shadow r' r rs hs hd, rulesAlong_shadow r' r rs hs hd]

/-- the model functions of C19 likewise -/
theorem shadowed_rule_invisible_model (reg : Registry) (r' r : Rule) (rs : List Rule) (hs : r.src = r'.src)
    (hd : r.dst = r'.dst) (a b : Container) :
    convertQ reg (r' :: r :: rs) a b = convertQ reg (r' :: rs) a b ∧
    conversionFactorR reg (r' :: r :: rs) a b = conversionFactorR reg (r' :: rs) a b := by
  have h : convertQ reg (r' :: r :: rs) a b = convertQ reg (r' :: rs) a b := by
    unfold convertQ; simp only [convertWithRules_shadow reg r' r rs hs hd]
  exact ⟨h, by unfold conversionFactorR; rw [h]⟩

/-- **A later rule for the same pair of dimensionalities replaces the earlier one in every conversion.** After
    `add_conversion_rule(f, t, rule)` and then `add_conversion_rule(f', t', rule')` with `f'`, `t'` of the dimensions of
    `f`, `t` (any units of those dimensions), the generated `convert` / `get_conversion_factor` answer exactly as on the
    object on which only the second call was made - for all magnitudes and all units, result or exception class. -/
theorem later_rule_replaces_in_conversions (st : Store) (reg : Registry) (rules : List Rule) (f t f' t' : Container)
    (body body' : List RFactor) (hf : allKnown reg f = true) (ht : allKnown reg t = true)
    (hf' : allKnown reg f' = true) (ht' : allKnown reg t' = true)
    (h₁ : dimsOf reg f ≃ dimsOf reg f') (h₂ : dimsOf reg t ≃ dimsOf reg t')
    (m : MagObj) (a b : Container) :
    ∃ s₁ s₂ s₂', addR st reg rules f t body = .ok s₁ ∧
      Gen.ConvRule.addConversionRule s₁ ⟨f'⟩ ⟨t'⟩ body' = .ok s₂ ∧ addR st reg rules f' t' body' = .ok s₂' ∧
      Gen.Units.convert s₂ ⟨m, ⟨a⟩⟩ ⟨b⟩ = Gen.Units.convert s₂' ⟨m, ⟨a⟩⟩ ⟨b⟩ ∧
      Gen.Units.getConversionFactor s₂ ⟨a⟩ ⟨b⟩ = Gen.Units.getConversionFactor s₂' ⟨a⟩ ⟨b⟩ := by
  have hs : (mkRule reg f t body).src = (mkRule reg f' t' body').src := by
    rw [mkRule_src, mkRule_src, dimsOf_eq_of_equiv h₁]
  have hd : (mkRule reg f t body).dst = (mkRule reg f' t' body').dst := by
    rw [mkRule_dst, mkRule_dst, dimsOf_eq_of_equiv h₂]
  refine ⟨_, _, _, addConversionRule_ok st reg rules f t body hf ht,
    addConversionRule_ok st reg _ f' t' body' hf' ht', addConversionRule_ok st reg rules f' t' body' hf' ht', ?_, ?_⟩
  · rw [PGenB.genConvert_rules, PGenB.genConvert_rules, convertWithRules_shadow reg _ _ rules hs hd]
  · apply C19Gen.getConversionFactor_congr
    show Gen.Units.convert _ ⟨MagObj.one, ⟨a⟩⟩ ⟨b⟩ = Gen.Units.convert _ ⟨MagObj.one, ⟨a⟩⟩ ⟨b⟩
    rw [PGenB.genConvert_rules, PGenB.genConvert_rules, convertWithRules_shadow reg _ _ rules hs hd]

/-- **Adding the same rule twice changes no conversion.** The object after two identical calls of the generated
    `add_conversion_rule` and the object after one answer every `convert` and every `get_conversion_factor` (both
    generated) alike - same quantity, same exception class - for all magnitudes and all units. -/
theorem add_twice_converts_alike (st : Store) (reg : Registry) (rules : List Rule) (f t : Container)
    (body : List RFactor) (hf : allKnown reg f = true) (ht : allKnown reg t = true)
    (m : MagObj) (a b : Container) :
    ∃ s₁ s₂, addR st reg rules f t body = .ok s₁ ∧ Gen.ConvRule.addConversionRule s₁ ⟨f⟩ ⟨t⟩ body = .ok s₂ ∧
      Gen.Units.convert s₂ ⟨m, ⟨a⟩⟩ ⟨b⟩ = Gen.Units.convert s₁ ⟨m, ⟨a⟩⟩ ⟨b⟩ ∧
      Gen.Units.getConversionFactor s₂ ⟨a⟩ ⟨b⟩ = Gen.Units.getConversionFactor s₁ ⟨a⟩ ⟨b⟩ := by
  obtain ⟨s₁, s₂, s₂', e₁, e₂, e₂', hc, hg⟩ := later_rule_replaces_in_conversions st reg rules f t f t body body
    hf ht hf ht (Equiv.refl _) (Equiv.refl _) m a b
  rw [e₁] at e₂'
  cases e₂'
  exact ⟨s₁, s₂, e₁, e₂, hc, hg⟩

end Cellml.Props.C19GenR
