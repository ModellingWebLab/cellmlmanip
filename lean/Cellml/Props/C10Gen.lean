import Cellml.Props.C10
import Cellml.Props.C08Gen
import Cellml.Tie.RolesClosed
import Cellml.Tie.ModelState

/-! # C10, stated about the GENERATED code

    `Props/C10.lean` proves its theorems about the hand model `Model/Roles.lean`. Here its statements on the role
    queries, on `get_value` and on the history are made about the definitions GENERATED from `cellmlmanip/model.py`
    (`Generated/Code/Roles.lean`, `RolesValue.lean`, `ModelState.lean`) and proved as corollaries through the ties
    (`Tie/RolesQueries.lean`, `Tie/RolesValue.lean`, `Tie/RolesClosed.lean`, `Tie/ModelState.lean`). Not restated:
    `value_unique`, `roles_as_fresh`, the two statements on the order of the equations, the examples.
    `roles_history_independent` here speaks of the six role queries; the value is `value_history_independent`.

    `get_value` is recursive: `genGetValue` is the generated `get_value` over the generated `_get_value` and
    `expand_derivatives`, closed with python's call stack as a depth counter (`Tie/RolesClosed.lean`).
    The specification side (`Den`, `WF`, `derivLhs`, the equations) is unchanged. `fn : Interp` is the interpretation
    of the uninterpreted function applications on right-hand sides (`Model/Roles.lean`): a parameter of the generated
    `_get_value` (it reaches the leaf `float(...)` only) and of `Den`; every statement is for ALL interpretations, and
    none restricts the right-hand sides. -/

namespace Cellml.Props.C10Gen
open Model
open Cellml.Tie (PyErr errClass)
open Cellml.Tie.PRoles
open Cellml.Tie.PRolesClosed
open Cellml.Gen

/-- `C10.states_iff_ode` for the generated `get_state_variables(sort)`, both values of `sort`: it returns, and what it
    returns are exactly the variables defined by an ODE -/
theorem states_iff_ode (M : RModel) (W : WF M) (sort : Bool) :
    ∃ l, Roles.getStateVariables M sort = .ok l ∧
      ∀ v, v ∈ l ↔ ∃ e ∈ M.st.equations, ∃ t o, e.lhs = .deriv v t o := by
  rw [getStateVariables_tie]
  refine ⟨_, rfl, fun v => ?_⟩
  cases sort with
  | true => exact C10.states_iff_ode M W v
  | false =>
    simp only [Bool.false_eq_true, if_false]
    exact ((hasKey_iff_mem_keys v M.st.odeDef).symm).trans (isState_iff W.inv.eq v)

/-- the generated `get_state_variables()` lists the states in the order of introduction (`C10.states_in_order`), the
    filter being the generated `is_state` -/
theorem states_in_order (M : RModel) (W : WF M) :
    Roles.getStateVariables M true
        = .ok (M.st.live.filter (fun i => decide (((ModelState.isState i).run M.st).1 = .ok true))) ∧
    ∀ l, Roles.getStateVariables M true = .ok l → (l.map (orderOf M.st)).Pairwise (· < ·) := by
  obtain ⟨h1, h2⟩ := C10.states_in_order M W
  rw [getStateVariables_tie]
  refine ⟨?_, fun l hl => ?_⟩
  · simp only [if_true, h1]
    congr 1
    apply List.filter_congr
    intro i _
    rw [Cellml.Tie.PModelState.isState_tie]
    simp [isState]
  · simp only [if_true, Except.ok.injEq] at hl
    rw [← hl]; exact h2

/-- `C10.is_state_iff_ode` for the generated `is_state` -/
theorem is_state_iff_ode (M : RModel) (W : WF M) (v : Nat) :
    ∃ b, (ModelState.isState v).run M.st = (.ok b, M.st) ∧
      (b = true ↔ ∃ e ∈ M.st.equations, ∃ t o, e.lhs = .deriv v t o) :=
  ⟨_, Cellml.Tie.PModelState.isState_tie M.st v, C10.is_state_iff_ode M W v⟩

/-- `C10.free_is_bvar` for the generated `get_free_variable` -/
theorem free_is_bvar (M : RModel) (W : WF M) (e : Eqn) (he : e ∈ M.st.equations) (s t o : Nat)
    (hl : e.lhs = .deriv s t o) : Roles.getFreeVariable M = .ok t := by
  rw [getFreeVariable_tie M (odeLhsOk_of_inv M W.inv.eq),
    C10.free_is_bvar M W e he s t o hl]
  rfl

/-- `C10.free_none_iff`: the generated `get_free_variable` raises ValueError exactly when there is no ODE -/
theorem free_none_iff (M : RModel) (W : WF M) :
    Roles.getFreeVariable M = .error ⟨"ValueError"⟩ ↔ ∀ e ∈ M.st.equations, bvarOf e = none := by
  rw [getFreeVariable_tie M (odeLhsOk_of_inv M W.inv.eq), ← C10.free_none_iff M W]
  cases freeVar M <;> simp [optErr]

/-- `C10.derivs_exact` for the generated `get_derivatives()`: every element is a `Derivative` node; they are exactly the
    left-hand sides of the ODEs, sorted by the `order_added` of their state -/
theorem derivs_exact (M : RModel) (W : WF M) (l : List Node) (h : Roles.getDerivatives M true = .ok l) :
    (∀ n ∈ l, ∃ s t, n = .deriv s t) ∧
    (∀ s t, Node.deriv s t ∈ l ↔ ∃ e ∈ M.st.equations, ∃ o, e.lhs = .deriv s t o) ∧
    l.Pairwise (fun a b => orderOf M.st (nodeArg0 a) ≤ orderOf M.st (nodeArg0 b)) ∧
    l.Perm ((derivLhs M.st.equations).map derivNode) := by
  rw [getDerivatives_tie] at h
  obtain ⟨l0, h0, rfl⟩ := Except.map_eq_ok.mp h
  rw [Cellml.Tie.errClass_eq_ok] at h0
  obtain ⟨a, b, c⟩ := C10.derivs_exact M W l0 h0
  refine ⟨?_, fun s t => ?_, ?_, c.map derivNode⟩
  · intro n hn
    obtain ⟨p, _, rfl⟩ := List.mem_map.mp hn
    exact ⟨p.1, p.2, rfl⟩
  · rw [← a s t, List.mem_map]
    constructor
    · rintro ⟨p, hp, he⟩
      simp only [derivNode, Node.deriv.injEq] at he
      obtain ⟨p1, p2⟩ := p
      simp only at he
      obtain ⟨rfl, rfl⟩ := he
      exact hp
    · intro hp; exact ⟨(s, t), hp, rfl⟩
  · rw [List.pairwise_map]
    exact b

/-- `C10.derived_exact` for the generated `get_derived_quantities()` -/
theorem derived_exact (M : RModel) (W : WF M) (l : List Node) (h : Roles.getDerivedQuantities M true = .ok l) :
    (∀ n ∈ l, ∃ v, n = .var v) ∧
    (∀ v, Node.var v ∈ l ↔ ∃ e ∈ M.st.equations, e.lhs = .var v ∧ e.bareQuantity = false) ∧
    l.Pairwise (fun a b => nodeOrderAdded M a ≤ nodeOrderAdded M b) := by
  rw [getDerivedQuantities_tie] at h
  obtain ⟨l0, h0, rfl⟩ := Except.map_eq_ok.mp h
  rw [Cellml.Tie.errClass_eq_ok] at h0
  obtain ⟨a, b⟩ := C10.derived_exact M W l0 h0
  refine ⟨?_, fun v => ?_, ?_⟩
  · intro n hn
    obtain ⟨p, _, rfl⟩ := List.mem_map.mp hn
    exact ⟨p, rfl⟩
  · rw [← a v, List.mem_map]
    constructor
    · rintro ⟨p, hp, he⟩
      injection he with he
      subst he; exact hp
    · intro hp; exact ⟨v, hp, rfl⟩
  · rw [List.pairwise_map]
    exact b

/-- `C10.graph_queries_return` for the generated queries -/
theorem graph_queries_return (M : RModel) (W : WF M)
    (hstr : ((M.st.equations.filterMap (fun e => lhsNode e.lhs)).map (nodeStr (names M.st))).Nodup) :
    (∃ l, Roles.getDerivatives M true = .ok l) ∧ ∃ l, Roles.getDerivedQuantities M true = .ok l := by
  obtain ⟨⟨l1, h1⟩, ⟨l2, h2⟩⟩ := C10.graph_queries_return M W hstr
  rw [getDerivatives_tie, getDerivedQuantities_tie, h1, h2]
  exact ⟨⟨_, rfl⟩, ⟨_, rfl⟩⟩

/-- `C10.constant_iff_no_var` for the generated `is_constant` -/
theorem constant_iff_no_var (M : RModel) (W : WF M) (v : Nat) :
    Roles.isConstant M v = .ok true ↔ ∃ e ∈ M.st.equations, e.lhs = .var v ∧ (M.rhs e.tok).vars = [] := by
  rw [isConstant_tie, ← C10.constant_iff_no_var M W v]
  exact ⟨Except.ok.inj, congrArg Except.ok⟩

/-- the generated `get_value` over the closed generated `_get_value` / `expand_derivatives`, with the stack depth the
    hand model's `getValue` uses (`|variables| + 1`; `getValue_fuel` below: any larger depth gives the same) -/
def genGetValue (fn : Interp) (M : RModel) (v : Nat) : Except PyErr Rat :=
  genGetValueFuel fn M (M.st.live.length + 1) v

theorem expandsWithin_of_wf {M : RModel} (W : WF M) (F : Nat) (hF : M.st.live.length < F) : ExpandsWithin M F := by
  intro v eq hlk
  obtain ⟨rank, hr⟩ := W.acyclic
  have R := ranked_of_wf W hr
  have hvr : varRhs M v = some (M.rhs eq.tok) := by simp [varRhs, hlk]
  -- `expand` does not read the interpretation: any will do
  have hg := expand_good (fn := Interp.none) R F (M.rhs eq.tok) (fun s t hst =>
    ⟨Nat.lt_of_le_of_lt (measure_le (M := M) rank ((freeVar M).getD 0) _) hF, (R.varDec v _ hvr _ hst).2⟩)
  intro hc
  rw [hc] at hg
  exact hg.1 rfl

theorem genGetValueFuel_wf (fn : Interp) (M : RModel) (W : WF M) (F : Nat)
    (hF : M.st.live.length < F) (v : Nat) : genGetValueFuel fn M F v = errClass verrClass (getValueFuel fn M F v) :=
  genGetValueFuel_eq fn M F v (odeLhsOk_of_inv M W.inv.eq) W.inits (stateKeys_nodup W.inv.eq)
    (expandsWithin_of_wf W F hF)

/-- `C10.getValue_fuel` for the generated code: python never reaches `RecursionError` on a well-formed model, and a
    deeper stack changes no value -/
theorem getValue_fuel (fn : Interp) (M : RModel) (W : WF M) (v : Nat) :
    genGetValue fn M v ≠ .error ⟨"RecursionError"⟩ ∧
    ∀ F, M.st.live.length < F → ∀ q, genGetValueFuel fn M F v = .ok q ↔ genGetValue fn M v = .ok q := by
  obtain ⟨h1, h2⟩ := C10.getValue_fuel fn M W v
  unfold genGetValue
  refine ⟨?_, fun F hF q => ?_⟩
  · rw [genGetValueFuel_wf fn M W _ (Nat.lt_succ_self _) v]
    intro hc
    obtain ⟨e, hv, he⟩ := (Cellml.Tie.errClass_eq_error _ _ _).mp hc
    cases e <;> simp [verrClass] at he
    exact h1 hv
  · rw [genGetValueFuel_wf fn M W F hF v, genGetValueFuel_wf fn M W _ (Nat.lt_succ_self _) v, Cellml.Tie.errClass_eq_ok,
      Cellml.Tie.errClass_eq_ok]
    exact h2 F hF q

/-- **`C10.getValue_denotes` for the generated code**: for every interpretation of the opaque terms and every variable
    of every well-formed model, the generated `get_value` (over the generated `_get_value` and `expand_derivatives`)
    returns `q` iff the definitions denote `q` -/
theorem getValue_denotes (fn : Interp) (M : RModel) (W : WF M) (v : Nat) (q : Rat) :
    genGetValue fn M v = .ok q ↔ Den fn M (.v v) q := by
  unfold genGetValue
  rw [genGetValueFuel_wf fn M W _ (Nat.lt_succ_self _) v, Cellml.Tie.errClass_eq_ok]
  exact C10.getValue_denotes fn M W v q

/-- the answers of the generated role queries -/
structure GenRoles where
  states : Except PyErr (List Nat)
  free : Except PyErr Nat
  derivatives : Except PyErr (List Node)
  derivedQuantities : Except PyErr (List Node)
  isState : Nat → Except PyErr Bool
  isConstant : Nat → Except PyErr Bool

def genRoles (M : RModel) : GenRoles :=
  ⟨Roles.getStateVariables M true, Roles.getFreeVariable M, Roles.getDerivatives M true,
   Roles.getDerivedQuantities M true, fun v => ((ModelState.isState v).run M.st).1, fun v => Roles.isConstant M v⟩

def ofRoles (r : Model.Roles) : GenRoles :=
  ⟨.ok r.states, optErr "ValueError" r.free, (errClass gerrClass r.derivatives).map (List.map derivNode),
   (errClass gerrClass r.derivedQuantities).map (List.map Node.var), fun v => .ok (r.isState v),
   fun v => .ok (r.isConstant v)⟩

/-- (`ofRoles` leaves `value` out, so `fn` plays no part: the callers pass `Interp.none`) -/
theorem genRoles_eq (fn : Interp) (M : RModel) (h : Inv M.st) : genRoles M = ofRoles (roles fn M) := by
  unfold genRoles ofRoles roles
  congr 1
  · rw [getStateVariables_tie]; rfl
  · exact getFreeVariable_tie M (odeLhsOk_of_inv M h.eq)
  · exact getDerivatives_tie M
  · exact getDerivedQuantities_tie M
  · funext v; exact isConstant_tie M v

/-- **`C10.roles_history_independent` for the generated code, on histories run by the generated code**
    (`C08Gen.genRun`): two histories of python calls that arrive at the same variables and equations give the same
    answers to the six generated role queries -/
theorem roles_history_independent (mc₁ mc₂ : Option String) (ops₁ ops₂ : List C08Gen.GOp)
    (hd₁ : C08Gen.HistDom mc₁ ops₁) (hd₂ : C08Gen.HistDom mc₂ ops₂) (rhs : Nat → Expr)
    (h : content (C08Gen.genRun mc₁ ops₁) = content (C08Gen.genRun mc₂ ops₂)) :
    genRoles ⟨C08Gen.genRun mc₁ ops₁, rhs⟩ = genRoles ⟨C08Gen.genRun mc₂ ops₂, rhs⟩ := by
  rw [genRoles_eq Interp.none _ (C08Gen.inv_reachable mc₁ ops₁ hd₁),
    genRoles_eq Interp.none _ (C08Gen.inv_reachable mc₂ ops₂ hd₂)]
  rw [roles_of_content Interp.none (C08Gen.inv_reachable mc₁ ops₁ hd₁) (C08Gen.inv_reachable mc₂ ops₂ hd₂) h rhs]

/-- two histories with the same content give the same generated `get_value` for every variable, where the tie of
    `get_value` holds for both models (every state has an initial value, the expansions stay within the stack) — these
    two are NOT implied by the hypotheses of `C10.roles_history_independent` (which holds for every content). For every
    interpretation of the opaque terms. -/
theorem value_history_independent (fn : Interp) (mc₁ mc₂ : Option String) (ops₁ ops₂ : List C08Gen.GOp)
    (hd₁ : C08Gen.HistDom mc₁ ops₁) (hd₂ : C08Gen.HistDom mc₂ ops₂) (rhs : Nat → Expr)
    (h : content (C08Gen.genRun mc₁ ops₁) = content (C08Gen.genRun mc₂ ops₂))
    (hinit₁ : ∀ s ∈ stateKeys (C08Gen.genRun mc₁ ops₁), (initOf (C08Gen.genRun mc₁ ops₁) s).isSome = true)
    (hinit₂ : ∀ s ∈ stateKeys (C08Gen.genRun mc₂ ops₂), (initOf (C08Gen.genRun mc₂ ops₂) s).isSome = true)
    (hx₁ : ExpandsWithin ⟨C08Gen.genRun mc₁ ops₁, rhs⟩ ((C08Gen.genRun mc₁ ops₁).live.length + 1))
    (hx₂ : ExpandsWithin ⟨C08Gen.genRun mc₂ ops₂, rhs⟩ ((C08Gen.genRun mc₂ ops₂).live.length + 1)) (v : Nat) :
    genGetValue fn ⟨C08Gen.genRun mc₁ ops₁, rhs⟩ v = genGetValue fn ⟨C08Gen.genRun mc₂ ops₂, rhs⟩ v := by
  have i₁ := C08Gen.inv_reachable mc₁ ops₁ hd₁
  have i₂ := C08Gen.inv_reachable mc₂ ops₂ hd₂
  unfold genGetValue
  rw [genGetValueFuel_eq fn _ _ v (odeLhsOk_of_inv _ i₁.eq) hinit₁ (stateKeys_nodup i₁.eq) hx₁,
    genGetValueFuel_eq fn _ _ v (odeLhsOk_of_inv _ i₂.eq) hinit₂ (stateKeys_nodup i₂.eq) hx₂]
  have := congrArg Roles.value (roles_of_content fn i₁ i₂ h rhs)
  exact congrArg (errClass verrClass) (congrFun this v)

/-- `getValue_denotes` applies to the demo model of `Props/C10.lean`, whatever the interpretation -/
example (fn : Interp) : genGetValue fn C10.demoM 4 = .ok (17/2) :=
  (getValue_denotes fn C10.demoM C10.demo_wf 4 _).mpr
    ((C10.getValue_denotes fn C10.demoM C10.demo_wf 4 _).mp
      (by rw [C10.demoM_eq]; exact of_decide_eq_true (by with_unfolding_all rfl)))

/-- the restated theorems apply to the model with an opaque right-hand side (`b = exp(a) * 2`, `C10.opqM`): for EVERY
    interpretation under which `exp(a)` has a value `r` at `a = 3`, the GENERATED `get_value(b)` returns `r * 2` -/
example (fn : Interp) (r : Rat) (h : fn "exp(v0)" [3] = some r) : genGetValue fn C10.opqM 1 = .ok (r * 2) :=
  (getValue_denotes fn C10.opqM C10.opq_wf 1 _).mpr (C10.opaque_value fn r h).1

end Cellml.Props.C10Gen
