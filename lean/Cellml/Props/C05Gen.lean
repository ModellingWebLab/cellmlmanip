import Cellml.Props.C05
import Cellml.Tie.Convert

/-! # C05 for the GENERATED `convert_expression_recursively`, closed by recursion

    `Cellml/Generated/Code/Convert.lean` is the body of `UnitCalculator.convert_expression_recursively` (units.py) with
    open recursion (`rec`). Here the recursion is closed: `convGen` calls the generated functional on itself
    (well-founded recursion on the size of the expression, the recursive call guarded by `esize x < esize e`).
    `gen_congr` (Tie/Convert.lean): the functional calls `rec` only on `children e` (flat operands of n-ary nodes,
    pieces and conditions of a Piecewise, the Variables of a Derivative); `children_sub`: those are smaller, so the
    guard never fires; `convGen_eq`: on every hereditarily well-formed expression (`wfAll`) the closed generated function returns what the
    hand model `Convert.convert` returns (triple and exception class). The headline theorems of `Props/C05.lean` are
    then restated for `convGen`. -/

-- an expression is called `e` throughout, which is also the name of the constructor `E.e`
set_option linter.constructorNameAsVariable false

namespace Cellml.Props.C05Gen
open Units Convert Sem Cellml.Tie Cellml.Tie.PConvert

/-- size of an expression: the measure of the recursion (a `deriv` node counts its two Variables) -/
def esize : E → Nat
  | .add a b | .mul a b | .pow a b | .fnN _ a b | .rel _ a b | .and a b | .or a b => esize a + esize b + 1
  | .abs a | .floor a | .ceil a | .fn1 _ a | .not a => esize a + 1
  | .ite c t el => esize c + esize t + esize el + 1
  | .deriv .. => 2
  | _ => 1

/-- `UnitCalculator.convert_expression_recursively` as generated from units.py, with the recursive calls made by the
    function itself: well-founded recursion on the size of `expr`; a recursive call on something that is not smaller
    than the node would be python's RecursionError (there is none: `gen_congr` + `children_sub`). -/
def convGen (self : ConvView) (e : E) (t : PyUnit) : Except PyErr ConvRes :=
  Gen.Convert.convertExpressionRecursively self
    (fun x t' => if _h : esize x < esize e then convGen self x t' else throw ⟨"RecursionError"⟩) e t
termination_by esize e

/-- the decidable hereditary domain: EVERY sub-expression is in `wfTop` (Piecewise chains end in `undef`; the class
    names `floor` / `ceiling` / `Abs` are the constructors, never `fn1` / `fnN`) -/
def wfAll : E → Bool
  | .add a b | .mul a b | .pow a b | .rel _ a b | .and a b | .or a b => wfAll a && wfAll b
  | .fnN f a b => !Py.isIn f ["floor", "ceiling", "Abs"] && (wfAll a && wfAll b)
  | .fn1 f a => !Py.isIn f ["floor", "ceiling", "Abs"] && wfAll a
  | .abs a | .floor a | .ceil a | .not a => wfAll a
  | .ite c t el => isChain el && (wfAll c && (wfAll t && wfAll el))
  | _ => true

theorem wfAll_top (e : E) (h : wfAll e = true) : wfTop e = true := by
  cases e with
  | ite c t el => simp only [wfAll, Bool.and_eq_true] at h; exact h.1
  | fn1 f a => simp only [wfAll, Bool.and_eq_true] at h; exact h.1
  | fnN f a b => simp only [wfAll, Bool.and_eq_true] at h; exact h.1
  | _ => rfl

theorem addArgs_sub (e : E) : ∀ x ∈ addArgs e, esize x ≤ esize e ∧ (wfAll e = true → wfAll x = true) := by
  induction e with
  | add a b iha _ => exact fun x hx => (E.snoc_sub (.add a b) iha rfl Bool.and_eq_true_iff.mp x hx).imp_left Nat.le_of_lt
  | _ => exact fun x hx => List.mem_singleton.mp hx ▸ ⟨Nat.le_refl _, id⟩

theorem mulArgs_sub (e : E) : ∀ x ∈ mulArgs e, esize x ≤ esize e ∧ (wfAll e = true → wfAll x = true) := by
  induction e with
  | mul a b iha _ => exact fun x hx => (E.snoc_sub (.mul a b) iha rfl Bool.and_eq_true_iff.mp x hx).imp_left Nat.le_of_lt
  | _ => exact fun x hx => List.mem_singleton.mp hx ▸ ⟨Nat.le_refl _, id⟩

theorem andArgs_sub (e : E) : ∀ x ∈ andArgs e, esize x ≤ esize e ∧ (wfAll e = true → wfAll x = true) := by
  induction e with
  | and a b iha _ => exact fun x hx => (E.snoc_sub (.and a b) iha rfl Bool.and_eq_true_iff.mp x hx).imp_left Nat.le_of_lt
  | _ => exact fun x hx => List.mem_singleton.mp hx ▸ ⟨Nat.le_refl _, id⟩

theorem orArgs_sub (e : E) : ∀ x ∈ orArgs e, esize x ≤ esize e ∧ (wfAll e = true → wfAll x = true) := by
  induction e with
  | or a b iha _ => exact fun x hx => (E.snoc_sub (.or a b) iha rfl Bool.and_eq_true_iff.mp x hx).imp_left Nat.le_of_lt
  | _ => exact fun x hx => List.mem_singleton.mp hx ▸ ⟨Nat.le_refl _, id⟩

theorem fnArgs_sub (f : String) (e : E) :
    ∀ x ∈ fnArgs f e, esize x ≤ esize e ∧ (wfAll e = true → wfAll x = true) := by
  induction e with
  | fnN g a b iha _ =>
    intro x hx
    by_cases hfg : f = g
    · subst hfg
      rw [fnArgs, if_pos rfl] at hx
      exact (E.snoc_sub (.fnN f a b) iha rfl (fun h => Bool.and_eq_true_iff.mp (Bool.and_eq_true_iff.mp h).2) x hx).imp_left Nat.le_of_lt
    · rw [fnArgs, if_neg hfg] at hx
      exact List.mem_singleton.mp hx ▸ ⟨Nat.le_refl _, id⟩
  | _ => exact fun x hx => List.mem_singleton.mp hx ▸ ⟨Nat.le_refl _, id⟩

theorem pwArgs_sub (e : E) : ∀ p ∈ pwArgs e, (esize (pairOf p).1 < esize e ∧ esize (pairOf p).2 < esize e) ∧
    (wfAll e = true → wfAll (pairOf p).1 = true ∧ wfAll (pairOf p).2 = true) := by
  induction e with
  | ite c t el _ _ ih =>
    intro p hp
    simp only [pwArgs, List.mem_cons] at hp
    simp only [esize, wfAll, Bool.and_eq_true]
    rcases hp with rfl | hp
    · exact ⟨⟨by simp only [mkPair, pairOf]; omega, by simp only [mkPair, pairOf]; omega⟩, fun h => ⟨h.2.2.1, h.2.1⟩⟩
    · have := (ih p hp).1
      exact ⟨⟨by omega, by omega⟩, fun h => (ih p hp).2 h.2.2.2⟩
  | _ => intro p hp; cases hp

/-- every recursive call of the generated code is on a strictly smaller expression, well-formed if the node is -/
theorem children_sub (e : E) : ∀ x ∈ children e, esize x < esize e ∧ (wfAll e = true → wfAll x = true) := by
  intro x hx
  cases e with
  | add a b => exact E.snoc_sub (.add a b) (addArgs_sub a) rfl Bool.and_eq_true_iff.mp x hx
  | mul a b => exact E.snoc_sub (.mul a b) (mulArgs_sub a) rfl Bool.and_eq_true_iff.mp x hx
  | and a b => exact E.snoc_sub (.and a b) (andArgs_sub a) rfl Bool.and_eq_true_iff.mp x hx
  | or a b => exact E.snoc_sub (.or a b) (orArgs_sub a) rfl Bool.and_eq_true_iff.mp x hx
  | fnN f a b =>
    simp only [children, args, fnArgs, if_true] at hx
    exact E.snoc_sub (.fnN f a b) (fnArgs_sub f a) rfl (fun h => Bool.and_eq_true_iff.mp (Bool.and_eq_true_iff.mp h).2) x hx
  | ite c t el =>
    simp only [children, List.mem_flatMap] at hx
    obtain ⟨p, hp, hx⟩ := hx
    have := pwArgs_sub _ p hp
    simp only [List.mem_cons, List.mem_nil_iff, or_false] at hx
    rcases hx with rfl | rfl
    · exact ⟨this.1.1, fun h => (this.2 h).1⟩
    · exact ⟨this.1.2, fun h => (this.2 h).2⟩
  | pow a b | rel _ a b =>
    simp only [children, args, List.mem_cons, List.mem_nil_iff, or_false] at hx
    simp only [esize, wfAll, Bool.and_eq_true]
    rcases hx with rfl | rfl
    · exact ⟨by omega, fun h => h.1⟩
    · exact ⟨by omega, fun h => h.2⟩
  | deriv v t =>
    simp only [children, List.mem_cons, List.mem_nil_iff, or_false] at hx
    rcases hx with rfl | rfl <;> exact ⟨Nat.lt_succ_self _, fun _ => rfl⟩
  | abs a | floor a | ceil a | not a =>
    simp only [children, args, List.mem_singleton] at hx
    subst hx
    exact ⟨Nat.lt_succ_self _, id⟩
  | fn1 f a =>
    simp only [children, args, List.mem_singleton] at hx
    subst hx
    exact ⟨Nat.lt_succ_self _, fun h => (Bool.and_eq_true_iff.mp h).2⟩
  | _ => cases hx

/-- **closed generated `convert_expression_recursively` = `Convert.convert`** for every hereditarily well-formed
    expression, every registry, environment and target (or `None`): same triple, same exception class. Induction on the
    size, `gen_congr` (the calls are on children only), `convert_tie` (the model is a fixpoint). -/
theorem convGen_eq (reg : Registry) (Γ : VarEnv) (e : E) (h : wfAll e = true) (t : Option Container) :
    convGen (convView reg Γ) e t = encConv (convert reg Γ e t) := by
  suffices H : ∀ n e, esize e < n → wfAll e = true → ∀ t,
      convGen (convView reg Γ) e t = encConv (convert reg Γ e t) from H (esize e + 1) e (Nat.lt_succ_self _) h t
  intro n
  induction n with
  | zero => intro e h; exact absurd h (Nat.not_lt_zero _)
  | succ n ih =>
    intro e hn he t
    rw [convGen, gen_congr _ _ (modelRec reg Γ) e t ?_, convert_tie reg Γ e t (wfAll_top e he)]
    intro x hx t'
    obtain ⟨hlt, hw⟩ := children_sub e x hx
    simp only [dif_pos hlt]
    exact ih x (by omega) (hw he) t'

/-! ## the headline theorems of `Props/C05.lean`, for the closed GENERATED function -/

theorem convGen_ok_inv {reg : Registry} {Γ : VarEnv} {ex : E} (hw : wfAll ex = true) {tgt : Option Container}
    {e' : E} {wc : Bool} {u' : PyUnit} (h : convGen (convView reg Γ) ex tgt = .ok (e', wc, u')) :
    ∃ r, convert reg Γ ex tgt = .ok r ∧ e' = r.e ∧ wc = r.wc ∧ u' = some r.u := by
  rw [convGen_eq reg Γ ex hw tgt] at h
  cases hc : convert reg Γ ex tgt with
  | error err => rw [hc] at h; cases h
  | ok r =>
    rw [hc, encConv_ok] at h
    simp only [Except.ok.injEq, Prod.mk.injEq] at h
    exact ⟨r, rfl, h.1.symm, h.2.1.symm, h.2.2.symm⟩

theorem convGen_error {reg : Registry} {Γ : VarEnv} {ex : E} (hw : wfAll ex = true) {tgt : Option Container}
    {err : UnitErr} (h : convert reg Γ ex tgt = .error err) :
    convGen (convView reg Γ) ex tgt = .error ⟨convCls err⟩ := by
  rw [convGen_eq reg Γ ex hw tgt, h]; rfl

section transfer
variable {K : Type} [Field K] [LinearOrder K] [IsStrictOrderedRing K]
variable (I : Interp K) (reg : Registry) (Γ : VarEnv) (ρ : Nat → K) (δ : Nat → Nat → K)

/-- `C05.convert_value` for the generated function: if the expression denotes the physical quantity `(x, d)` and the
    generated `convert_expression_recursively` returns `(new_expr, was_converted, actual_units)`, then `actual_units` is
    a unit `u`, and `new_expr` read as plain numbers in `u` IS that quantity -/
theorem gen_convert_value {ex : E} (hw : wfAll ex = true) {tgt : Option Container} {e' : E} {wc : Bool} {u' : PyUnit}
    {x : K} {d : Dims} (h : convGen (convView reg Γ) ex tgt = .ok (e', wc, u'))
    (hp : evalPhys I reg Γ ρ δ ex = some (x, d)) :
    ∃ u, u' = some u ∧ evalNum I ρ δ e' * I.φ (scaleOf reg u) = x ∧ dimsOf reg u ≃ d := by
  obtain ⟨r, hr, rfl, rfl, rfl⟩ := convGen_ok_inv hw h
  exact ⟨r.u, rfl, C05.convert_value I reg Γ ρ δ hr hp⟩

/-- `C05.convert_preserves` (headline form of (a)) for the generated function -/
theorem gen_convert_preserves {ex : E} (hw : wfAll ex = true) (hs : C05.arithS ex = true) {tgt : Option Container}
    {e' : E} {wc : Bool} {u' : PyUnit} (h : convGen (convView reg Γ) ex tgt = .ok (e', wc, u')) :
    ∃ u x d, u' = some u ∧ evalPhys I reg Γ ρ δ ex = some (x, d) ∧
      evalNum I ρ δ e' * I.φ (scaleOf reg u) = x ∧ dimsOf reg u ≃ d := by
  obtain ⟨r, hr, rfl, rfl, rfl⟩ := convGen_ok_inv hw h
  obtain ⟨x, d, hp, hv⟩ := C05.convert_preserves I reg Γ ρ δ hs hr
  exact ⟨r.u, x, d, rfl, hp, hv⟩

/-- `C05.convert_rejects` for the generated function: an expression (of the operators with a physical value) that
    denotes no physical quantity is never converted - the generated function raises, for every target -/
theorem gen_convert_rejects {ex : E} (hw : wfAll ex = true) (hs : C05.arithS ex = true)
    (hn : evalPhys I reg Γ ρ δ ex = none) (tgt : Option Container) :
    ∃ err, convGen (convView reg Γ) ex tgt = .error err ∧
      ∃ uerr, err = ⟨convCls uerr⟩ ∧ Convert.errClass uerr = true := by
  obtain ⟨uerr, he⟩ := C05.convert_rejects I reg Γ ρ δ hs hn tgt
  exact ⟨⟨convCls uerr⟩, convGen_error hw he, uerr, rfl, C05.convert_error_class he⟩

end transfer

/-- `C05.convert_target` for the generated function: with an explicit target the returned `actual_units` is the
    target -/
theorem gen_convert_target {reg : Registry} {Γ : VarEnv} {ex : E} (hw : wfAll ex = true) {t : Container}
    {e' : E} {wc : Bool} {u' : PyUnit} (h : convGen (convView reg Γ) ex (some t) = .ok (e', wc, u')) : u' = some t := by
  obtain ⟨r, hr, rfl, rfl, rfl⟩ := convGen_ok_inv hw h
  rw [C05.convert_target hr]

/-- `C05.convert_identity` for the generated function: `was_converted = False` ⇒ the returned expression is the
    argument. (The model's fourth field `same` - python object identity - has no counterpart in the returned triple;
    by `C05.convert_identity` it is `!was_converted`.) -/
theorem gen_convert_identity {reg : Registry} {Γ : VarEnv} {ex : E} (hw : wfAll ex = true) {tgt : Option Container}
    {e' : E} {wc : Bool} {u' : PyUnit} (h : convGen (convView reg Γ) ex tgt = .ok (e', wc, u')) (hwc : wc = false) :
    e' = ex := by
  obtain ⟨r, hr, rfl, rfl, rfl⟩ := convGen_ok_inv hw h
  exact ((C05.convert_identity hr).1 hwc).1

/-! examples: the generated loops see flat operand lists -/
example : args (.add (.add (.var 0) (.var 1)) (.var 2)) = [.var 0, .var 1, .var 2] := rfl
example : args (.fnN "Max" (.fnN "Max" (.var 0) (.var 1)) (.var 2)) = [.var 0, .var 1, .var 2] := by decide
example : args (.fnN "Max" (.fnN "Min" (.var 0) (.var 1)) (.var 2)) = [.fnN "Min" (.var 0) (.var 1), .var 2] := by decide

end Cellml.Props.C05Gen
