import Cellml.C12.Forms
-- `K` is an ordered field throughout; the theorems that use the field alone would each be reported
set_option linter.unusedSectionVars false

/-! # C12 — singularity removal only repairs: equal outside the window, accurate inside.

    Model: `Cellml/C12/*.lean` — `Window` (singular point and fix range of an affine exponent argument, the swap, the
    two merges), `Piecewise` (`_generate_piecewise` on values, for an arbitrary function), `Fix` (`_fix_expr_parts`,
    `_remove_singularities`: which subterm is wrapped with which range, for an arbitrary detector), `Detect`
    (`_get_singularity` on the affine fragment), `Traverse` (`remove_fixable_singularities`). The theorems hold over
    EVERY ordered field `K` (all slopes, offsets, factors, voltages), every function `f` / every interpretation of
    `exp`, every expression tree, every detector, every model, every exclusion set. The ties to cellmlmanip: the
    correspondence check `harness/props/c12.py`, and the source ties `Tie/Sing*.lean` with the restatements over the
    generated definitions in `Props/C12Gen.lean`.

    NOT proved (needs real analysis over `exp`): the distance between the interpolated value and the analytic limit of
    `U/(exp U − 1)`. The theorems carry the algebraic part — the range brackets the singular point and is exactly
    `|U| ≤ δ`; equality outside; inside a convex combination of the two edge values, equal to them at the edges — the
    numeric accuracy is checked by the oracle of the harness on every generated equation. -/

namespace Cellml.Props.C12
open _root_.C12 _root_.C12.Expr
variable {K : Type} [Field K] [LinearOrder K] [IsStrictOrderedRing K]

/-- The range produced for `U = k·V + c` (`k ≠ 0`, `δ > 0`): the singular point lies strictly between the two bounds
    (whichever of them is called `Vmin`), and after the swap of `_generate_piecewise` a voltage is inside the range
    exactly when `|U(V)| ≤ δ`. -/
theorem window_brackets (k c δ : K) (hk : k ≠ 0) (hδ : 0 < δ) :
    (min (vminOf k c δ) (vmaxOf k c δ) < spOf k c ∧ spOf k c < max (vminOf k c δ) (vmaxOf k c δ)) ∧
    ∀ V : K, (lo (vminOf k c δ) (vmaxOf k c δ) ≤ V ∧ V ≤ hi (vminOf k c δ) (vmaxOf k c δ)) ↔ |k * V + c| ≤ δ := by
  obtain ⟨hlo, hhi⟩ := lo_window k c δ hδ.le
  have hd : 0 < δ / |k| := div_pos hδ (abs_pos.mpr hk)
  refine ⟨⟨?_, ?_⟩, window_mem_iff k c δ hk hδ.le⟩
  · rw [← lo_eq_min, hlo]; exact sub_lt_self _ hd
  · rw [← hi_eq_max, hhi]; exact lt_add_of_pos_right _ hd

/-- non-vacuity: `U = V/2 − 5/2`, `δ = 10⁻⁷`: `Vmin = 5.0000002 > Vmax = 4.9999998` (the swap is needed), `sp = 5` -/
example : (0 : ℚ) < 1 / 10000000 ∧ (1 / 2 : ℚ) ≠ 0 ∧
    vminOf (1 / 2 : ℚ) (-5 / 2) (1 / 10000000) = 50000002 / 10000000 ∧
    vmaxOf (1 / 2 : ℚ) (-5 / 2) (1 / 10000000) = 49999998 / 10000000 ∧ spOf (1 / 2 : ℚ) (-5 / 2) = 5 ∧
    lo (vminOf (1 / 2 : ℚ) (-5 / 2) (1 / 10000000)) (vmaxOf (1 / 2 : ℚ) (-5 / 2) (1 / 10000000)) = 49999998 / 10000000 := by
  decide +kernel

/-- Outside the range the repaired expression evaluates to the original one — for ANY `f`, any bounds. -/
theorem outside_equal (f : K → K) (V vmin vmax : K)
    (h : ¬ (lo vmin vmax ≤ V ∧ V ≤ hi vmin vmax)) : generate f V vmin vmax = f V := by
  unfold generate interp; rw [if_neg h]

set_option linter.unusedVariables false in
/-- `_generate_piecewise` itself (with its swap), at a voltage inside the range: the value is a convex combination
    `(1 − t)·f(lo) + t·f(hi)` of the two edge values, hence between them and within
    `|f(hi) − f(lo)|` of either, and equal to them at the edges — the repaired expression is continuous where it switches.
    (`C12.generate_between`; `hne` is not used.) -/
theorem inside_between (f : K → K) (V vmin vmax : K) (hne : vmin ≠ vmax)
    (h : lo vmin vmax ≤ V ∧ V ≤ hi vmin vmax) :
    (∃ t : K, 0 ≤ t ∧ t ≤ 1 ∧
      generate f V vmin vmax = (1 - t) * f (lo vmin vmax) + t * f (hi vmin vmax)) ∧
    min (f (lo vmin vmax)) (f (hi vmin vmax)) ≤ generate f V vmin vmax ∧
    generate f V vmin vmax ≤ max (f (lo vmin vmax)) (f (hi vmin vmax)) ∧
    |generate f V vmin vmax - f (lo vmin vmax)| ≤ |f (hi vmin vmax) - f (lo vmin vmax)| ∧
    |generate f V vmin vmax - f (hi vmin vmax)| ≤ |f (hi vmin vmax) - f (lo vmin vmax)| ∧
    generate f (lo vmin vmax) vmin vmax = f (lo vmin vmax) ∧ generate f (hi vmin vmax) vmin vmax = f (hi vmin vmax) :=
  generate_between f V vmin vmax h

/-- non-vacuity: `f = x²` on the range `[1, 3]` given as `(Vmin, Vmax) = (3, 1)`: at `V = 2` the line gives 5 (not 4),
    outside (`V = 4`) the function itself -/
example : generate (fun x : ℚ => x * x) 2 3 1 = 5 ∧ generate (fun x : ℚ => x * x) 4 3 1 = 16 ∧
    (3 : ℚ) ≠ 1 ∧ (lo (3 : ℚ) 1 ≤ 2 ∧ (2 : ℚ) ≤ hi 3 1) ∧ ¬ (lo (3 : ℚ) 1 ≤ 4 ∧ (4 : ℚ) ≤ hi 3 1) := by
  decide +kernel

/-- The result does not depend on which of the two bounds is called `Vmin`. -/
theorem swap_irrelevant (f : K → K) (V vmin vmax : K) : generate f V vmin vmax = generate f V vmax vmin := by
  unfold generate
  rw [lo_eq_min, hi_eq_max, lo_eq_min, hi_eq_max, min_comm, max_comm]

/-- The widest range of two (what `_fix_expr_parts` builds for the terms of a sum) contains both, keeps the singular
    point, and is ordered. -/
theorem merge_widest (s t : Win K) :
    Within s (mergeWide s t) ∧ Within t (mergeWide s t) ∧ (mergeWide s t).sp = s.sp ∧
    (mergeWide s t).vmin ≤ (mergeWide s t).vmax := by
  -- inequalities among the four bounds: the adjunctions of `min` and `max` decide them
  simp only [within_iff, Win.lo_eq, Win.hi_eq, mergeWide, min2_eq, max2_eq, le_min_iff, max_le_iff, min_le_iff, le_max_iff,
    le_refl, true_or, or_true, and_self]

/-- The same for any number of terms of a sum (`min(range)`, `max(range)` over all bounds). -/
theorem merge_all_widest (s : Win K) (ts : List (Win K)) :
    Within s (mergeAll s ts) ∧ (∀ t ∈ ts, Within t (mergeAll s ts)) ∧ (mergeAll s ts).sp = s.sp ∧
    (mergeAll s ts).vmin ≤ (mergeAll s ts).vmax := by
  induction ts generalizing s with
  | nil =>
    simp only [mergeAll, Within, Win.lo_eq, Win.hi_eq, min2_eq, max2_eq]
    have h : min s.vmin s.vmax ≤ max s.vmin s.vmax := le_trans (min_le_left _ _) (le_max_left _ _)
    refine ⟨⟨?_, ?_⟩, ?_, trivial, h⟩
    · rw [min_eq_left h]
    · rw [max_eq_right h]
    · intro t ht; cases ht
  | cons t ts ih =>
    obtain ⟨hs, ht, hsp, _⟩ := merge_widest s t
    obtain ⟨i1, i2, i3, i4⟩ := ih (mergeWide s t)
    simp only [mergeAll]
    refine ⟨within_trans hs i1, ?_, by rw [i3, hsp], i4⟩
    intro u hu
    rcases List.mem_cons.mp hu with rfl | hu
    · exact within_trans ht i1
    · exact i2 u hu

/-- `_get_singularity` assigns `sing[0]` and then `sing[1]` in sequence. The result still covers the
    new range and the lower end of the old one, and the whole old one when that was stored in order … -/
theorem merge_seq_partial (s : Win K) (vmin vmax : K) :
    Within ⟨vmin, vmax, s.sp⟩ (mergeSeq s vmin vmax) ∧ (mergeSeq s vmin vmax).lo ≤ s.lo ∧
    (s.vmin ≤ s.vmax → Within s (mergeSeq s vmin vmax)) := by
  simp only [within_iff, Win.lo_eq, Win.hi_eq, mergeSeq, min2_eq, max2_eq, le_min_iff, max_le_iff, min_le_iff, le_max_iff,
    le_refl, true_or, or_true, and_self, true_and, and_true]
  -- what is left: `s.vmin` lies below the new maximum because it lies below `s.vmax` (the hypothesis), one of its terms
  exact fun h => .inr (.inl (.inl (.inr h)))

/-- … but NOT always its upper end: the full statement "the merged range contains both" is false of the code as it is.
    A range found first from a positive slope is stored as `(Vmin, Vmax) = (4, −4)`; merging `(−1, 1)` gives `(−4, 1)`.
    (The merged range still brackets the singular point and the property C12 is not affected: what lies outside the
    narrower range is evaluated by the original formula.) -/
theorem merge_seq_not_widest :
    ¬ ((⟨4, -4, 0⟩ : Win ℚ).hi ≤ (mergeSeq (⟨4, -4, 0⟩ : Win ℚ) (-1) 1).hi) := by
  decide +kernel

/-- non-vacuity of `merge_widest`: ranges of slopes 1/2 and −1/4 around 5 (in units of 10⁻⁷: ±2 and ∓4) -/
example : mergeWide (⟨52, 48, 50⟩ : Win ℚ) ⟨46, 54, 50⟩ = ⟨46, 54, 50⟩ := by decide +kernel

/-- The defined variables are unchanged: the list of left-hand sides of `Model.equations` after the call is a
    permutation of the one before (a replaced equation keeps its left-hand side), for any `fix`, any exclusions. -/
theorem defined_vars_unchanged (fix : Expr → Option Expr) (excl : List String) (order eqs : List Eqn)
    (hn : (lhss eqs).Nodup) (hm : ∀ e ∈ order, e.lhs ∈ lhss eqs) :
    (lhss (traverse fix excl order eqs).eqs).Perm (lhss eqs) :=
  foldl_perm fix excl order ⟨eqs, []⟩ hn hm

/-- An equation stays when every visited equation with its left-hand side is skipped or reported unchanged: no
    assumption on the model, none on the order. -/
theorem survives_of (fix : Expr → Option Expr) (excl : List String) (order eqs : List Eqn) (e0 : Eqn) (h0 : e0 ∈ eqs)
    (h : ∀ e ∈ order, e.lhs = e0.lhs →
      e.rhs.isPiecewise = true ∨ excl.contains e.lhs = true ∨ ∀ env, fix (subst env e.rhs) = none) :
    e0 ∈ (traverse fix excl order eqs).eqs := by
  refine List.foldl_inv _ (fun st : TState => e0 ∈ st.eqs) order ⟨eqs, []⟩ h0 fun st e he hmem => ?_
  apply step_keeps fix excl st e e0 hmem
  by_cases hl : e.lhs = e0.lhs
  · exact Or.inr ((h e he hl).imp_right (Or.imp_right (· _)))
  · exact Or.inl hl

/-- An equation is still there, unchanged, when its right-hand side is a `Piecewise`, or its variable is excluded,
    or `_remove_singularities` reports no change for it (whatever was substituted into it). -/
theorem survives (fix : Expr → Option Expr) (excl : List String) (order eqs : List Eqn) (e0 : Eqn)
    (hn : (lhss eqs).Nodup) (hsub : ∀ e ∈ order, e ∈ eqs) (h0 : e0 ∈ eqs)
    (h : e0.rhs.isPiecewise = true ∨ excl.contains e0.lhs = true ∨ ∀ env, fix (subst env e0.rhs) = none) :
    e0 ∈ (traverse fix excl order eqs).eqs :=
  -- the only visited equation with the left-hand side of `e0` is `e0`
  survives_of fix excl order eqs e0 h0 fun e he hl => List.inj_of_nodup_map _ eqs hn e (hsub e he) e0 h0 hl ▸ h

/-- Equations of excluded variables are left unchanged (no assumption on the model at all). -/
theorem excluded_unchanged (fix : Expr → Option Expr) (excl : List String) (order eqs : List Eqn) (e0 : Eqn)
    (h0 : e0 ∈ eqs) (hx : e0.lhs ∈ excl) : e0 ∈ (traverse fix excl order eqs).eqs :=
  survives_of fix excl order eqs e0 h0 fun e _ hl => .inr (.inl (by rw [hl]; simpa using hx))

/-- An equation whose right-hand side is a `Piecewise` is left unchanged. -/
theorem piecewise_rhs_unchanged (fix : Expr → Option Expr) (excl : List String) (order eqs : List Eqn) (e0 : Eqn)
    (hn : (lhss eqs).Nodup) (hsub : ∀ e ∈ order, e ∈ eqs) (h0 : e0 ∈ eqs) (hp : e0.rhs.isPiecewise = true) :
    e0 ∈ (traverse fix excl order eqs).eqs :=
  survives fix excl order eqs e0 hn hsub h0 (Or.inl hp)

theorem all_unchanged (fix : Expr → Option Expr) (excl : List String) (order eqs : List Eqn)
    (h : ∀ r, fix r = none) : (traverse fix excl order eqs).eqs = eqs := by
  refine List.foldl_inv _ (fun st : TState => st.eqs = eqs) order ⟨eqs, []⟩ rfl fun st e _ hst => ?_
  unfold step
  split
  · exact hst
  · dsimp only; rw [h]; exact hst

/-- `_remove_singularities` leaves an expression without `exp` alone. -/
theorem removeSing_noexp (det : List Expr → List (Win Rat)) (e : Expr) (h : e.hasExp = false) :
    removeSing det e = none := by
  unfold removeSing; simp [h]

theorem fixParts_nodet (det : List Expr → List (Win Rat)) (hdet : ∀ as, det as = []) :
    ∀ (n : Nat) (e : Expr), (fixParts det n e).win = none ∧ (fixParts det n e).changed = false := by
  intro n
  induction n with
  | zero => intro e; exact ⟨rfl, rfl⟩
  | succ n ih =>
    intro e
    unfold fixParts
    split
    · exact ⟨rfl, rfl⟩
    · have htouch : ∀ as : List Expr, (as.map (fixParts det n)).any Res.touched = false := by
        intro as
        rw [List.any_eq_false]
        intro r hr
        obtain ⟨a, _, rfl⟩ := List.mem_map.mp hr
        simp [Res.touched, (ih a).1, (ih a).2]
      cases dropOnes e with
      | add as =>
        simp only [fixBody]
        rw [sameSp_none _ (by
          intro r hr
          obtain ⟨a, _, rfl⟩ := List.mem_map.mp hr
          exact (ih a).1)]
        exact ⟨rfl, htouch as⟩
      | pow a k =>
        simp only [fixBody]
        split
        · refine ⟨rfl, ?_⟩
          simp [Res.touched, (ih _).1, (ih _).2]
        · exact ⟨rfl, rfl⟩
      | mul as =>
        simp only [fixBody]
        rw [hdet as]
        exact ⟨rfl, htouch as⟩
      | _ => exact ⟨rfl, rfl⟩

theorem removeSing_nodet (det : List Expr → List (Win Rat)) (hdet : ∀ as, det as = []) (e : Expr) :
    removeSing det e = none := by
  unfold removeSing
  split
  · rfl
  · simp [Res.touched, (fixParts_nodet det hdet _ e).1, (fixParts_nodet det hdet _ e).2]

/-- A product (free of factors one) on whose arguments the detector answers `w :: ws` is replaced: the first range goes
    around the whole product, the others are nested inside (`_fix_expr_parts`, the `Mul` branch) — every detector. -/
theorem removeSing_mul_of_det (det : List Expr → List (Win Rat)) (as : List Expr) (w : Win Rat) (ws : List (Win Rat))
    (hexp : (mul as).hasExp = true) (hd : dropOnes (mul as) = mul as) (hdet : det as = w :: ws) :
    removeSing det (mul as) = some (wrapWin w (ws.foldl (fun e w' => wrapWin w' e) (mul as))) := by
  unfold removeSing
  rw [hexp]
  simp only [Bool.not_true, Bool.false_eq_true, if_false]
  unfold fixParts
  rw [hexp, hd]
  simp only [Bool.not_true, Bool.false_eq_true, if_false, fixBody, hdet]
  simp [Res.touched, wrap]

/-- Equations without such a pattern are left unchanged: no `exp` in the (partially evaluated) right-hand side. -/
theorem no_pattern_unchanged (det : List Expr → List (Win Rat)) (excl : List String) (order eqs : List Eqn) (e0 : Eqn)
    (hn : (lhss eqs).Nodup) (hsub : ∀ e ∈ order, e ∈ eqs) (h0 : e0 ∈ eqs)
    (hx : ∀ env, (subst env e0.rhs).hasExp = false) :
    e0 ∈ (traverse (removeSing det) excl order eqs).eqs :=
  survives _ excl order eqs e0 hn hsub h0 (Or.inr (Or.inr (fun env => removeSing_noexp det _ (hx env))))

/-- When no product of the model matches, `Model.equations` is literally unchanged. -/
theorem no_match_model_unchanged (det : List Expr → List (Win Rat)) (hdet : ∀ as, det as = [])
    (excl : List String) (order eqs : List Eqn) : (traverse (removeSing det) excl order eqs).eqs = eqs :=
  all_unchanged _ excl order eqs (removeSing_nodet det hdet)

/-! ## The four documented forms are always detected and repaired (affine exponent argument)

    `form n P k c` (`Cellml/C12/Forms.lean`): the arguments of the product `P·U/(exp U − 1)` (n = 0), `P·U/(1 − exp U)`
    (1), `P·(exp U − 1)/U` (2), `P·(1 − exp U)/U` (3) with `U = k·V + c`, in either order of the factors: detected for
    all rational `P`, `k ≠ 0`, `c` (`forms_detected_all`); `forms_repaired` needs `P ≠ 1` (a factor one is dropped before the
    detector looks) and carries `c ≠ 0`, which its proof does not use. -/

/-- exactly one range, the one of `U`: `Vmin = (δ − c)/k`, `Vmax = (−δ − c)/k`, `sp = −c/k` — for every offset `c`
    (zero included: SymPy holds `k·V` as a product, and the factor `V` is what matches) -/
theorem forms_detected_all (δ : Rat) (P k c : Rat) (hk : k ≠ 0) (n : Nat) (rev : Bool) :
    detect δ rev (form n P k c) = [window k c δ] := by
  have e1 := classify_num P
  have e2 := classify_U k c hk
  have e3 := classify_Upow k c hk
  match n with
  | 0 => exact detect_of_factors δ (q := P) (p := true) (Or.inl rfl) (by
      cases rev <;> simp [form, classifyAll, e1, e2, factor_emPos k c hk])
  | 1 => exact detect_of_factors δ (q := P) (p := false) (Or.inl rfl) (by
      cases rev <;> simp [form, classifyAll, e1, e2, factor_emNeg k c hk])
  | 2 => exact detect_of_factors δ (q := P) (p := true) (Or.inr rfl) (by
      cases rev <;> simp [form, classifyAll, e1, e3, factor_emPos1 k c hk])
  | n + 3 => exact detect_of_factors δ (q := P) (p := false) (Or.inr rfl) (by
      cases rev <;> simp [form, classifyAll, e1, e3, factor_emNeg1 k c hk])

set_option linter.unusedVariables false in
theorem forms_detected (δ : Rat) (P k c : Rat) (hk : k ≠ 0) (hc : c ≠ 0) (n : Nat) (rev : Bool) :
    detect δ rev (form n P k c) = [window k c δ] :=
  forms_detected_all δ P k c hk n rev

set_option linter.unusedVariables false in
/-- offset zero (`U = k·V`): SymPy holds `k·V` as a product, the factor `V` is what matches -/
theorem forms_detected_zero_offset (δ : Rat) (P k : Rat) (hk : k ≠ 0) (hk1 : k ≠ 1) (n : Nat) (rev : Bool) :
    detect δ rev (form n P k 0) = [window k 0 δ] :=
  forms_detected_all δ P k 0 hk n rev

/-- every equation `x = P·(one of the four forms)` with an affine exponent argument IS repaired, with exactly the
    range `|U| ≤ δ` around the whole product -/
theorem forms_repaired (δ : Rat) (P k c : Rat) (hk : k ≠ 0) (hc : c ≠ 0) (hP : P ≠ 1) (n : Nat) (rev : Bool) :
    removeSing (detect δ rev) (mul (form n P k c)) = some (wrapWin (window k c δ) (mul (form n P k c))) :=
  removeSing_mul_of_det _ _ _ [] (form_hasExp n P k c) (form_dropOnes n P k c hP) (forms_detected δ P k c hk hc n rev)

/-- non-vacuity: the hypotheses are met by `P = 3, k = 1/2, c = −5/2` (and `k = −3, c = 0`) -/
example : (1 / 2 : Rat) ≠ 0 ∧ (-5 / 2 : Rat) ≠ 0 ∧ (3 : Rat) ≠ 1 ∧ (-3 : Rat) ≠ 0 ∧ (-3 : Rat) ≠ 1 := by decide +kernel

/-- A generated piecewise in a tree IS `_generate_piecewise` on values, with `f` the wrapped subterm read as a function
    of the voltage — so `outside_equal` / `inside_between` speak about the trees the model produces. -/
theorem pw_is_generate (I : Interp K) (v : K) (w : Win Rat) (f : Expr) :
    eval I v (wrapWin w f) = interp (fun x => eval I x f) v ((w.lo : ℚ) : K) ((w.hi : ℚ) : K) := by
  simp [wrapWin, eval]

/-- Outside every generated range the expression returned by `_fix_expr_parts` (+ the final wrap) has the value of
    the original one: every expression, every fuel, every detector, every interpretation of `exp`/functions/variables. -/
theorem fix_outside_equal (I : Interp K) (v : K) (det : List Expr → List (Win Rat)) (n : Nat) (e : Expr)
    (h : clear v (wrap (fixParts det n e))) : eval I v (wrap (fixParts det n e)) = eval I v e :=
  fixParts_outside I v det n e h

/-- The same for `_remove_singularities`. -/
theorem remove_outside_equal (I : Interp K) (v : K) (det : List Expr → List (Win Rat)) (e new : Expr)
    (h : removeSing det e = some new) (hc : clear v new) : eval I v new = eval I v e :=
  removeSing_outside I v det e new h hc

/-- **Only repairs.** Every solution of the original model (an interpretation under which every equation holds at
    every voltage) satisfies every equation of the model after `remove_fixable_singularities` at every voltage outside
    the generated ranges of that equation. -/
theorem traverse_sound (I : Interp K) (det : List Expr → List (Win Rat)) (excl : List String) (order eqs : List Eqn)
    (hsub : ∀ e ∈ order, e ∈ eqs) (hs : Solves I eqs) :
    SolvesOutside I (traverse (removeSing det) excl order eqs).eqs := by
  refine (List.foldl_inv _ (fun st : TState => EnvOK I st.env ∧ SolvesOutside I st.eqs) order ⟨eqs, []⟩
    ⟨by intro n r hl; simp [lookup] at hl, fun e he v _ => hs e he v⟩ fun st e he hst => ?_).2
  exact step_sound I det excl st e (hs e (hsub e he)) hst.1 hst.2

/-! ## Non-vacuity on a concrete model: `x = 3·U/(exp U − 1)`, `U = V/2 − 5/2`; `y = 2`; `z = 3·V` excluded -/

def exU : Expr := add [mul [num (1 / 2), volt], num (-5 / 2)]
def exX : Expr := mul [num 3, exU, pow (add [num (-1), exp exU]) (-1)]
def exEqs : List Eqn := [⟨"x", exX⟩, ⟨"y", num 2⟩, ⟨"z", mul [num 3, volt]⟩]
def exδ : Rat := 1 / 10000000

/-- the detector finds exactly the range `[4.9999998, 5.0000002]` around 5; `x` is replaced (and moves to the end of
    `Model.equations`), `y` and the excluded `z` stay; the hypotheses of the traversal theorems hold -/
example : detect exδ false [num 3, exU, pow (add [num (-1), exp exU]) (-1)] = [window (1 / 2) (-5 / 2) exδ] ∧
    (removeSing (detect exδ false) exX).isSome = true ∧
    lhss (traverse (removeSing (detect exδ false)) ["z"] exEqs exEqs).eqs = ["y", "z", "x"] ∧
    (lhss exEqs).Nodup ∧ (∀ e ∈ exEqs, e ∈ exEqs) ∧
    (∀ env, (subst env (num 2)).hasExp = false) := by
  refine ⟨by decide +kernel, by decide +kernel, by decide +kernel, by decide +kernel, fun e h => h, fun env => rfl⟩

/-- a solution of the concrete model exists for any interpretation of `exp` (the hypothesis of `traverse_sound`) -/
example (ex : ℚ → ℚ) : ∃ I : Interp ℚ, I.ex = ex ∧ Solves I exEqs := by
  let I0 : Interp ℚ := ⟨ex, fun _ _ => 0, fun _ _ => 0⟩
  refine ⟨⟨ex, fun _ _ => 0, fun n v => if n = "x" then eval I0 v exX else if n = "y" then 2 else 3 * v⟩, rfl, ?_⟩
  intro e he v
  simp only [exEqs, List.mem_cons, List.not_mem_nil, or_false] at he
  rcases he with rfl | rfl | rfl <;> simp [eval, evalProd, evalSum, exX, exU, I0]

end Cellml.Props.C12
