import Cellml.C10.Builds
import Cellml.Props.C08

/-! # C10 — variable roles and initial-state values follow from the equations alone

    Model: `Cellml/Model/Roles.lean` (`RModel` = the C08 model state + the right-hand side of every equation;
    `stateVars`, `freeVar`, `derivatives`, `derivedQuantities`, `isState`, `isConstant`, `getValue`), the code of
    cellmlmanip/model.py 96-176 and 334-388 after the two `fix:` commits recorded in findings/C10.json.
    Specification: `Cellml/C10/Den.lean` (`Den fn M (.v v) q`: the definition closure of `v` denotes `q` at the initial
    state — an inductive relation, no fuel, no memo, no evaluation order); `Cellml/C10/WF.lean` (`WF`: well-formed).

    Every theorem is for ALL well-formed models / all histories of API calls (no bound on the number of variables,
    the depth of the definitions or the length of the history). The model is tied to the Python source by `Cellml/Tie/Roles*.lean`
    (restated over the generated code in `Props/C10Gen.lean`) and tested against it by the correspondence check
    `harness/props/c10.py`. -/

namespace Cellml.Props.C10
open Model

/-- the state variables are exactly the variables defined by an ODE -/
theorem states_iff_ode (M : RModel) (W : WF M) (v : Nat) :
    v ∈ stateVars M ↔ ∃ e ∈ M.st.equations, ∃ t o, e.lhs = .deriv v t o :=
  (mem_stateVars v).trans (isState_iff W.inv.eq v)

/-- the state variables are listed in the order in which they were introduced: `get_state_variables()` is `variables()` filtered by
    `is_state`, and `order_added` strictly increases along it -/
theorem states_in_order (M : RModel) (W : WF M) :
    stateVars M = M.st.live.filter (isState M) ∧ ((stateVars M).map (orderOf M.st)).Pairwise (· < ·) := by
  have h := stateVars_filter W
  refine ⟨h, ?_⟩
  rw [h]
  have := W.inv.reg.orderInc
  rw [List.pairwise_map] at this ⊢
  exact this.filter _

/-- `is_state` says the same -/
theorem is_state_iff_ode (M : RModel) (W : WF M) (v : Nat) :
    isState M v = true ↔ ∃ e ∈ M.st.equations, ∃ t o, e.lhs = .deriv v t o := isState_iff W.inv.eq v

/-- the free variable is the variable all ODEs differentiate by (whichever ODE comes first in the dictionary) -/
theorem free_is_bvar (M : RModel) (W : WF M) (e : Eqn) (he : e ∈ M.st.equations) (s t o : Nat)
    (hl : e.lhs = .deriv s t o) : freeVar M = some t := freeVar_of_ode W he hl

/-- there is no free variable (`ValueError`) exactly when there is no ODE -/
theorem free_none_iff (M : RModel) (W : WF M) : freeVar M = none ↔ ∀ e ∈ M.st.equations, bvarOf e = none := by
  refine ⟨fun h e he => ?_, freeVar_none W.inv.eq⟩
  cases hl : e.lhs with
  | deriv s t o => rw [(freeVar_iff W).mpr ⟨e, he, s, o, hl⟩] at h; cases h
  | var v | other => simp [bvarOf, hl]

/-- the derivatives are exactly the left-hand sides of the ODEs, sorted by the `order_added` of their state -/
theorem derivs_exact (M : RModel) (W : WF M) (l : List (Nat × Nat)) (h : derivatives M = .ok l) :
    (∀ s t, (s, t) ∈ l ↔ ∃ e ∈ M.st.equations, ∃ o, e.lhs = .deriv s t o) ∧
    l.Pairwise (fun a b => orderOf M.st a.1 ≤ orderOf M.st b.1) ∧
    l.Perm (derivLhs M.st.equations) := by
  rw [derivatives_spec W.inv h]
  exact ⟨fun s t => ((sortBy_perm _ _).mem_iff).trans (mem_derivLhs _ s t), sortBy_sorted _ _, sortBy_perm _ _⟩

/-- the derived quantities are exactly the variables defined by an assignment whose right-hand side is not a bare
    number with units, sorted by `order_added` -/
theorem derived_exact (M : RModel) (W : WF M) (l : List Nat) (h : derivedQuantities M = .ok l) :
    (∀ v, v ∈ l ↔ ∃ e ∈ M.st.equations, e.lhs = .var v ∧ e.bareQuantity = false) ∧
    l.Pairwise (fun a b => orderOf M.st a ≤ orderOf M.st b) := by
  rw [derivedQuantities_spec W.inv h]
  exact ⟨fun v => ((sortBy_perm _ _).mem_iff).trans (mem_computedLhs W v), sortBy_sorted _ _⟩

/-- `get_derivatives` and `get_derived_quantities` do return (the graph builds) for a well-formed model, provided the
    left-hand sides print differently — the builder's own sanity assertion; a variable may legally be *named* `Derivative(_x, _t)` -/
theorem graph_queries_return (M : RModel) (W : WF M)
    (hstr : ((M.st.equations.filterMap (fun e => lhsNode e.lhs)).map (nodeStr (names M.st))).Nodup) :
    (∃ l, derivatives M = .ok l) ∧ ∃ l, derivedQuantities M = .ok l := by
  obtain ⟨g, hg⟩ := graph_builds W hstr
  exact ⟨⟨_, by unfold derivatives; rw [hg]⟩, ⟨_, by unfold derivedQuantities; rw [hg]⟩⟩

/-- the constants are the variables whose definition mentions no variable -/
theorem constant_iff_no_var (M : RModel) (W : WF M) (v : Nat) :
    isConstant M v = true ↔ ∃ e ∈ M.st.equations, e.lhs = .var v ∧ (M.rhs e.tok).vars = [] :=
  isConstant_iff W.inv.eq v

/-- `get_value` terminates: with `|variables| + 1` levels of recursion (or more) it never runs out of fuel — the Python
    code never reaches `RecursionError` on a well-formed model — and more fuel changes no value -/
theorem getValue_fuel (fn : Interp) (M : RModel) (W : WF M) (v : Nat) :
    getValue fn M v ≠ .error .fuel ∧
    ∀ F, M.st.live.length < F → ∀ q, getValueFuel fn M F v = .ok q ↔ getValue fn M v = .ok q := by
  have h0 := getValueFuel_good fn W (M.st.live.length + 1) (Nat.lt_succ_self _) v
  refine ⟨fun hc => ?_, fun F hF q => ((getValueFuel_good fn W F hF v).ok_iff q).trans (h0.ok_iff q).symm⟩
  unfold getValue at hc; rw [hc] at h0; exact h0.1 rfl

/-- **`get_value` returns exactly what the definitions denote**: for every variable of every well-formed model,
    `get_value(v)` returns `q` iff evaluating the definition of `v` recursively — states at their initial values, the
    free variable at 0, a derivative standing for the right-hand side of its ODE — gives `q`; and when the definitions
    give no number (no definition, a state without initial value, a division by zero) it raises. For every
    interpretation `fn` of the uninterpreted applications (`Expr.opq`; see `opaque_value`, `opaque_no_value`). -/
theorem getValue_denotes (fn : Interp) (M : RModel) (W : WF M) (v : Nat) (q : Rat) :
    getValue fn M v = .ok q ↔ Den fn M (.v v) q :=
  (getValueFuel_good fn W (M.st.live.length + 1) (Nat.lt_succ_self _) v).ok_iff q

/-- the value does not depend on the order in which `_get_value` visits the dependencies, on the memo, or on which
    equation comes first: it is a function of the definitions (`Den` is single-valued) -/
theorem value_unique (fn : Interp) (M : RModel) (v : Nat) (q q' : Rat) (h : Den fn M (.v v) q) (h' : Den fn M (.v v) q') : q = q' :=
  den_unique h h'

/-- **none of this depends on how the model was reached**: two histories of API calls (valid edits, rejected edits,
    graph reads, in any order) that arrive at the same variables and equations give the same answers to all six role
    queries and the same `get_value` for every variable. Corollary of the C08 invariant (`inv_reachable`): the
    definition maps and a cached graph are functions of the content. -/
theorem roles_history_independent (fn : Interp) (mc₁ mc₂ : Option String) (ops₁ ops₂ : List Op) (rhs : Nat → Expr)
    (h : content (run mc₁ ops₁) = content (run mc₂ ops₂)) :
    roles fn ⟨run mc₁ ops₁, rhs⟩ = roles fn ⟨run mc₂ ops₂, rhs⟩ :=
  roles_of_content fn (C08.inv_reachable mc₁ ops₁) (C08.inv_reachable mc₂ ops₂) h rhs

/-- in particular every answer is the one a freshly built model with the same content gives -/
theorem roles_as_fresh (fn : Interp) (mc : Option String) (ops : List Op) (rhs : Nat → Expr) :
    roles fn ⟨run mc ops, rhs⟩ = roles fn ⟨fresh (content (run mc ops)), rhs⟩ := by
  have i₁ := C08.inv_reachable mc ops
  refine roles_congr fn rhs rfl i₁.eq.varDef i₁.eq.odeDef ?_ ?_ ?_
  · exact ((sameButTypes_eraseTypes _).initOf (s := run mc ops) (s' := fresh (content (run mc ops)))).symm
  · exact ((sameButTypes_eraseTypes _).orderOf (s := run mc ops) (s' := fresh (content (run mc ops)))).symm
  · have := congrArg Obs.graph (C08.coherent mc ops)
    exact this

/-- **… nor on the order of the equations**: two well-formed models holding the same variables and the same SET of
    equations (`SameSet`: equation lists that are permutations of each other — what histories that add, remove and
    re-add equations in different orders produce) give the same states in the same order, the same free variable, the
    same `is_state` / `is_constant`, the same lists of derivatives and derived quantities, and `get_value` returns the
    same number for every variable. -/
theorem roles_equation_order_independent (fn : Interp) (M₁ M₂ : RModel) (W₁ : WF M₁) (W₂ : WF M₂) (h : SameSet M₁ M₂) :
    stateVars M₁ = stateVars M₂ ∧ freeVar M₁ = freeVar M₂ ∧ isState M₁ = isState M₂ ∧ isConstant M₁ = isConstant M₂ ∧
    (∀ l₁ l₂, derivatives M₁ = .ok l₁ → derivatives M₂ = .ok l₂ → l₁ = l₂) ∧
    (∀ l₁ l₂, derivedQuantities M₁ = .ok l₁ → derivedQuantities M₂ = .ok l₂ → l₁ = l₂) ∧
    (∀ v q, getValue fn M₁ v = .ok q ↔ getValue fn M₂ v = .ok q) ∧
    (∀ i q, Den fn M₁ i q ↔ Den fn M₂ i q) :=
  ⟨stateVars_sameSet W₁ W₂ h, freeVar_sameSet W₁ W₂ h, isState_sameSet W₁.inv.eq W₂.inv.eq h,
   isConstant_sameSet W₁ W₂ h, fun _ _ => derivatives_sameSet W₁ W₂ h, fun _ _ => derivedQuantities_sameSet W₁ W₂ h,
   getValue_sameSet W₁ W₂ h, den_sameSet W₁ W₂ h⟩

/-- **the role of every variable is a function of the SET of equations — well-formed or not**: `Model.graph` types all
    left-hand sides first and assigns STATE, then FREE, for every ODE afterwards (the roles that come from the ODEs
    win), so permuting the equation list changes the `Variable.type` (and with it the `variable_type` of the graph
    node) of NO variable — in particular not of a free variable that has a defining equation, which `WF` excludes
    (`freeOk`). Hypothesis: no variable is assigned both a bare number and something else
    (`Model.graph` refuses two equations with the same left-hand side). -/
theorem variable_types_equation_order_independent (eqs eqs' : List Eqn) (hp : eqs'.Perm eqs)
    (hfun : ∀ e₁ ∈ eqs, ∀ e₂ ∈ eqs, ∀ v, e₁.lhs = .var v → e₂.lhs = .var v → e₁.bareQuantity = e₂.bareQuantity)
    (x : Nat) : tyOf (typeMap eqs') x = tyOf (typeMap eqs) x :=
  tyOf_typeMap_perm hp hfun x

/-- with the single loop of the earlier code, in which the last write stays (`typeMapOld`), `t = …` and `dx/dt = …` in
    the two orders make `t` FREE or COMPUTED; `typeMap` answers FREE in both -/
theorem variable_types_order_dependent_before_fix :
    tyOf (typeMapOld [⟨0, .var 0, [], [], false⟩, ⟨1, .deriv 1 0 1, [], [], false⟩]) 0 = some .free ∧
    tyOf (typeMapOld [⟨1, .deriv 1 0 1, [], [], false⟩, ⟨0, .var 0, [], [], false⟩]) 0 = some .computed ∧
    tyOf (typeMap [⟨0, .var 0, [], [], false⟩, ⟨1, .deriv 1 0 1, [], [], false⟩]) 0 = some .free ∧
    tyOf (typeMap [⟨1, .deriv 1 0 1, [], [], false⟩, ⟨0, .var 0, [], [], false⟩]) 0 = some .free := by
  decide +kernel

/-- x (2.5), z (1), t, a, y, w with `a = 3`, `dx/dt = a*x + t`, `dz/dt = dx/dt * 2` (an ODE whose right-hand side
    mentions another derivative), `y = dx/dt + 1`, `w = dz/dt + y`; the graph is read in between -/
def demoOps : List Op :=
  [.addVariable "x" none (some (5/2)), .addVariable "z" none (some 1), .addVariable "t" none none,
   .addVariable "a" none none, .addVariable "y" none none, .addVariable "w" none none,
   .addEquation ⟨0, .var 3, [], [], true⟩,
   .addEquation ⟨1, .deriv 0 2 1, [.var 3, .var 0, .var 2], [.var 3, .var 0, .var 2], false⟩,
   .qGraph,
   .addEquation ⟨2, .deriv 1 2 1, [.deriv 0 2], [.deriv 0 2], false⟩,
   .addEquation ⟨3, .var 4, [.deriv 0 2], [.deriv 0 2], false⟩,
   .addEquation ⟨4, .var 5, [.deriv 1 2, .var 4], [.deriv 1 2, .var 4], false⟩]

def demoRhs : Nat → Expr
  | 0 => .num 3
  | 1 => .bin .add (.bin .mul (.var 3) (.var 0)) (.var 2)
  | 2 => .bin .mul (.deriv 0 2) (.num 2)
  | 3 => .bin .add (.deriv 0 2) (.num 1)
  | 4 => .bin .add (.deriv 1 2) (.var 4)
  | _ => .num 0

def demoM : RModel := ⟨run none demoOps, demoRhs⟩

def demoRank : Node → Nat
  | .deriv 0 2 => 1
  | .deriv 1 2 => 2
  | .var 4 => 2
  | .var 5 => 3
  | _ => 0

def demoSt : MState :=
  let e0 : Eqn := ⟨0, .var 3, [], [], true⟩
  let e1 : Eqn := ⟨1, .deriv 0 2 1, [.var 3, .var 0, .var 2], [.var 3, .var 0, .var 2], false⟩
  let e2 : Eqn := ⟨2, .deriv 1 2 1, [.deriv 0 2], [.deriv 0 2], false⟩
  let e3 : Eqn := ⟨3, .var 4, [.deriv 0 2], [.deriv 0 2], false⟩
  let e4 : Eqn := ⟨4, .var 5, [.deriv 1 2, .var 4], [.deriv 1 2, .var 4], false⟩
  { heap := [⟨"x", 0, none, some (5/2), some .state⟩, ⟨"z", 1, none, some 1, none⟩,
      ⟨"t", 2, none, none, some .free⟩, ⟨"a", 3, none, none, some .parameter⟩, ⟨"y", 4, none, none, none⟩,
      ⟨"w", 5, none, none, none⟩],
    live := [0, 1, 2, 3, 4, 5], equations := [e0, e1, e2, e3, e4], varDef := [(3, e0), (4, e3), (5, e4)],
    odeDef := [(0, e1), (1, e2)], nextOrder := 6 }

theorem demoOps_run : run none demoOps = demoSt := by decide +kernel

/-- the history is run once; every evaluation below starts from the state it ends in -/
theorem demoM_eq : demoM = ⟨demoSt, demoRhs⟩ := congrArg (RModel.mk · demoRhs) demoOps_run

theorem demo_wf : WF demoM := by
  have inv := C08.inv_reachable none demoOps
  rw [demoOps_run] at inv
  rw [demoM_eq]
  exact
    { inv := inv, refs := by decide +kernel, oneBvar := by decide +kernel, freeOk := by decide +kernel,
      live := by decide +kernel, closed := by decide +kernel, acyclic := ⟨demoRank, by decide +kernel⟩,
      inits := by decide +kernel }

example : ((demoM.st.equations.filterMap (fun e => lhsNode e.lhs)).map (nodeStr (names demoM.st))).Nodup := by
  rw [demoM_eq]; decide +kernel

/-- all six roles and every value of the demo model, computed by the model of the code -/
example : stateVars demoM = [0, 1] ∧ freeVar demoM = some 2 ∧ derivatives demoM = .ok [(0, 2), (1, 2)] ∧
    derivedQuantities demoM = .ok [4, 5] ∧ (demoM.st.live.filter (isConstant demoM)) = [3] := by
  rw [demoM_eq]; decide +kernel

example (fn : Interp) : (demoM.st.live.map (getValue fn demoM)) =
    [.ok (5/2), .ok 1, .ok 0, .ok 3, .ok (17/2), .ok (47/2)] := by
  -- `decide` gets stuck on the free `fn`; the decision itself still reduces to `true` by `rfl`, because evaluation
  -- never asks `fn` (no opaque term in the demo). The same step closes the closed facts with a free `fn` below.
  rw [demoM_eq]
  exact of_decide_eq_true (by with_unfolding_all rfl)

/-- hence (by `getValue_denotes`) `y = dx/dt + 1` denotes 3·2.5 + 0 + 1 = 8.5 and `w = dz/dt + y` denotes 2·7.5 + 8.5 -/
example (fn : Interp) : Den fn demoM (.v 4) (17/2) ∧ Den fn demoM (.v 5) (47/2) :=
  ⟨(getValue_denotes fn demoM demo_wf 4 _).mp (by rw [demoM_eq]; exact of_decide_eq_true (by with_unfolding_all rfl)),
   (getValue_denotes fn demoM demo_wf 5 _).mp (by rw [demoM_eq]; exact of_decide_eq_true (by with_unfolding_all rfl))⟩

/-- a second history: equations in another order, the ODE of `x` removed and added again, a rejected duplicate
    definition — the same role answers for the variables both models share -/
def demoOps2 : List Op :=
  [.addVariable "x" none (some (5/2)), .addVariable "z" none (some 1), .addVariable "t" none none,
   .addVariable "a" none none, .addVariable "y" none none, .addVariable "w" none none,
   .addEquation ⟨3, .var 4, [.deriv 0 2], [.deriv 0 2], false⟩,
   .addEquation ⟨2, .deriv 1 2 1, [.deriv 0 2], [.deriv 0 2], false⟩,
   .addEquation ⟨1, .deriv 0 2 1, [.var 3, .var 0, .var 2], [.var 3, .var 0, .var 2], false⟩,
   .addEquation ⟨0, .var 3, [], [], true⟩,
   .addEquation ⟨9, .var 3, [], [], true⟩,
   .qGraphNum,
   .removeEquation ⟨1, .deriv 0 2 1, [.var 3, .var 0, .var 2], [.var 3, .var 0, .var 2], false⟩,
   .addEquation ⟨1, .deriv 0 2 1, [.var 3, .var 0, .var 2], [.var 3, .var 0, .var 2], false⟩,
   .addEquation ⟨4, .var 5, [.deriv 1 2, .var 4], [.deriv 1 2, .var 4], false⟩]

def demoSt2 : MState :=
  let e0 : Eqn := ⟨0, .var 3, [], [], true⟩
  let e1 : Eqn := ⟨1, .deriv 0 2 1, [.var 3, .var 0, .var 2], [.var 3, .var 0, .var 2], false⟩
  let e2 : Eqn := ⟨2, .deriv 1 2 1, [.deriv 0 2], [.deriv 0 2], false⟩
  let e3 : Eqn := ⟨3, .var 4, [.deriv 0 2], [.deriv 0 2], false⟩
  let e4 : Eqn := ⟨4, .var 5, [.deriv 1 2, .var 4], [.deriv 1 2, .var 4], false⟩
  { heap := [⟨"x", 0, none, some (5/2), some .state⟩, ⟨"z", 1, none, some 1, some .state⟩,
      ⟨"t", 2, none, none, some .free⟩, ⟨"a", 3, none, none, some .parameter⟩, ⟨"y", 4, none, none, some .computed⟩,
      ⟨"w", 5, none, none, none⟩],
    live := [0, 1, 2, 3, 4, 5], equations := [e3, e2, e0, e1, e4], varDef := [(4, e3), (3, e0), (5, e4)],
    odeDef := [(1, e2), (0, e1)], nextOrder := 6 }

theorem demoOps2_run : run none demoOps2 = demoSt2 := by decide +kernel

example (fn : Interp) : let M2 : RModel := ⟨run none demoOps2, demoRhs⟩
    stateVars M2 = [0, 1] ∧ freeVar M2 = some 2 ∧ derivatives M2 = .ok [(0, 2), (1, 2)] ∧
    derivedQuantities M2 = .ok [4, 5] ∧ M2.st.live.map (getValue fn M2) = demoM.st.live.map (getValue fn demoM) := by
  rw [demoOps2_run, demoM_eq]
  exact of_decide_eq_true (by with_unfolding_all rfl)

/-- the second history satisfies the hypotheses of `roles_equation_order_independent` together with the first -/
example : WF ⟨run none demoOps2, demoRhs⟩ ∧ SameSet demoM ⟨run none demoOps2, demoRhs⟩ := by
  have inv := C08.inv_reachable none demoOps2
  rw [demoOps2_run] at inv ⊢
  rw [demoM_eq]
  have heap : SameButTypes demoSt2.heap demoSt.heap := .of_map (by decide +kernel)
  exact
    ⟨{ inv := inv, refs := by decide +kernel, oneBvar := by decide +kernel, freeOk := by decide +kernel,
       live := by decide +kernel, closed := by decide +kernel, acyclic := ⟨demoRank, by decide +kernel⟩,
       inits := by decide +kernel },
     { rhs := rfl, live := by decide +kernel, init := heap.initOf, order := heap.orderOf, eqs := by decide +kernel }⟩

/-- a (3), b with `a = 3` and `b = exp(a) * 2`: the right-hand side of `b` holds an uninterpreted application (what the
    harness sends for `exp(a)`: its printed form and its one reference) -/
def opqOps : List Op :=
  [.addVariable "a" none none, .addVariable "b" none none,
   .addEquation ⟨0, .var 0, [], [], true⟩, .addEquation ⟨1, .var 1, [.var 0], [.var 0], false⟩]

def opqRhs : Nat → Expr
  | 1 => .bin .mul (Expr.ofWire "exp(v0)" [.var 0]) (.num 2)
  | _ => .num 3

def opqM : RModel := ⟨run none opqOps, opqRhs⟩

theorem opq_wf : WF opqM where
  inv := C08.inv_reachable none opqOps
  refs := by decide +kernel
  oneBvar := by decide +kernel
  freeOk := by decide +kernel
  live := by decide +kernel
  closed := by decide +kernel
  acyclic := ⟨fun n => match n with | .var 1 => 1 | _ => 0, by decide +kernel⟩
  inits := by decide +kernel

/-- **for EVERY interpretation** under which `exp(a)` has a value `r` at `a = 3`, the definitions denote `r * 2` for `b`,
    and hence (by `getValue_denotes`, right to left) the model of the code returns it - `fn` stays unknown -/
theorem opaque_value (fn : Interp) (r : Rat) (h : fn "exp(v0)" [3] = some r) :
    Den fn opqM (.v 1) (r * 2) ∧ getValue fn opqM 1 = .ok (r * 2) := by
  have ha : Den fn opqM (.v 0) 3 :=
    Den.defn (r := .num 3) (by decide +kernel) (by with_unfolding_all rfl) (Den.num 3)
  have hb : Den fn opqM (.v 1) (r * 2) :=
    Den.defn (r := opqRhs 1) (by decide +kernel) (by with_unfolding_all rfl)
      (Den.bin (den_opq_iff.mpr ⟨[3], Dens.cons (Den.var ha) Dens.nil, h⟩) (Den.num 2) rfl)
  exact ⟨hb, (getValue_denotes fn opqM opq_wf 1 _).mpr hb⟩

/-- where the interpretation has no value for `exp(a)` at `a = 3` (SymPy: `zoo`, `nan`, a complex number)
    `get_value(b)` raises -/
theorem opaque_no_value (fn : Interp) (h : fn "exp(v0)" [3] = none) (q : Rat) : getValue fn opqM 1 ≠ .ok q := by
  intro hq
  have hd := (getValue_denotes fn opqM opq_wf 1 q).mp hq
  have ha : Den fn opqM (.v 0) 3 :=
    Den.defn (r := .num 3) (by decide +kernel) (by with_unfolding_all rfl) (Den.num 3)
  have hr : varRhs opqM 1 = some (opqRhs 1) := by with_unfolding_all rfl
  cases hd with
  | state hs _ => exact absurd hs (by decide +kernel)
  | free _ hr' _ => rw [hr] at hr'; cases hr'
  | defn _ hr' hd =>
    rw [hr] at hr'; cases hr'
    obtain ⟨p, _, hp, _, _⟩ := den_bin_iff.mp hd
    obtain ⟨vals, hv, hf⟩ := den_opq_iff.mp hp
    obtain ⟨p0, ps, rfl, h0, hs⟩ := dens_cons_iff.mp hv
    rw [dens_nil_iff.mp hs, den_unique (den_var_iff.mp h0) ha, h] at hf
    cases hf

/-- `_get_value` as it was: a definition that mentions a derivative raises (`Can't calculate derivative wrt 0`) although
    the definitions denote 8.5 — the repaired evaluator returns it -/
theorem today_derivative_raises (fn : Interp) :
    getValueToday fn demoM 4 = .error .derivativeWrtNumber ∧ getValueToday fn demoM 5 = .error .derivativeWrtNumber ∧
    getValue fn demoM 4 = .ok (17/2) := by
  rw [demoM_eq]; exact of_decide_eq_true (by with_unfolding_all rfl)

/-- `_get_value` as it was: a variable defined as another variable (`y = x`) raises `AttributeError` although it denotes 2.5 -/
theorem today_alias_raises (fn : Interp) :
    let ops : List Op := [.addVariable "x" none (some (5/2)), .addVariable "t" none none, .addVariable "y" none none,
      .addEquation ⟨0, .deriv 0 1 1, [], [], true⟩, .addEquation ⟨1, .var 2, [.var 0], [.var 0], false⟩]
    let M : RModel := ⟨run none ops, fun tok => if tok = 1 then .var 0 else .num 1⟩
    getValueToday fn M 2 = .error .floatHasNoAtoms ∧ getValue fn M 2 = .ok (5/2) := by
  exact of_decide_eq_true (by with_unfolding_all rfl)

/-- outside well-formedness the answers need not fit the definitions: with a definition `t = 5` for the free variable,
    `get_value(t)` is that definition while every other right-hand side sees `t = 0` (the preloaded memo), so
    `y = t + 1` evaluates to 1 -/
theorem free_variable_with_definition (fn : Interp) :
    let ops : List Op := [.addVariable "x" none (some 1), .addVariable "t" none none, .addVariable "y" none none,
      .addEquation ⟨0, .deriv 0 1 1, [.var 1], [.var 1], false⟩, .addEquation ⟨1, .var 1, [], [], true⟩,
      .addEquation ⟨2, .var 2, [.var 1], [.var 1], false⟩]
    let M : RModel := ⟨run none ops, fun tok => if tok = 0 then .var 1 else if tok = 1 then .num 5 else
      .bin .add (.var 1) (.num 1)⟩
    getValue fn M 1 = .ok 5 ∧ getValue fn M 2 = .ok 1 := by exact of_decide_eq_true (by with_unfolding_all rfl)

end Cellml.Props.C10
