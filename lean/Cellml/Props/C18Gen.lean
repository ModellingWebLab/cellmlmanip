import Cellml.Props.C18
import Cellml.Props.C12Gen

/-! # C18 — `allunits_reachable` for the singularity step as the GENERATED `remove_fixable_singularities` performs it.

    `C18/Model.lean` models an operation as a `Step` that says which creation sites it uses; for
    `remove_fixable_singularities` that is `op := .removeSingularities` with `creates` all `.singQuantity`, and
    `creatorRef` says which unit such a site hangs on the new atom. Here the units are the ones the definition generated
    from the source of `remove_fixable_singularities` (`Gen.SingTrav.removeFixableSingularities`, run with the generated
    `_remove_singularities`) really hands to `Model.create_quantity` and gets back (`created`, tie
    `removeFixable_tie`): the pool after the abstract step IS the pool before plus `created`, so the theorems of
    `Props/C18.lean` speak about what the generated code creates. -/

namespace Cellml.Props.C18Gen
open _root_.C18 Cellml.Props.C18 Cellml.Props.C12Gen

/-- the abstract step for a run of the generated function that re-created `created.length` quantities and left the
    equations `shapes` -/
def singStep (created : List UnitRef) (shapes : List EqShape) : Step :=
  { op := .removeSingularities, creates := List.replicate created.length .singQuantity, eqs := shapes }

/-- every unit the generated function hangs on a re-created quantity is the one the C18 model assigns to the
    `singQuantity` creation site after the repair (a unit of the model's own store) -/
theorem created_is_site {det : List C12.Expr → List (C12.Win Rat)} {sid : Nat} {vUnits : UnitArg}
    {order : List (Option C12.Eqn)} {excl : List String} {eqs eqs' : List C12.Eqn} {env' : C12.Expr.Env}
    {created : List UnitRef} (hc : Call vUnits order)
    (hrun : genRun det sid vUnits order excl eqs = .ok (eqs', env', created)) :
    created = (List.replicate created.length Creator.singQuantity).map (creatorRef .fixed sid) := by
  have h := (result_gen hc hrun).2
  apply List.ext_getElem (by simp)
  intro i h1 h2
  simp [creatorRef, h _ (List.getElem_mem h1)]

theorem step_pool_gen {det : List C12.Expr → List (C12.Win Rat)} {vUnits : UnitArg}
    {order : List (Option C12.Eqn)} {excl : List String} {eqs eqs' : List C12.Eqn} {env' : C12.Expr.Env}
    {created : List UnitRef} (s : MState) (shapes : List EqShape) (hc : Call vUnits order)
    (hrun : genRun det s.storeId vUnits order excl eqs = .ok (eqs', env', created))
    (hok : (singStep created shapes).ok s = true) :
    (step .fixed s (singStep created shapes)).pool = s.pool ++ created ∧
    (step .fixed s (singStep created shapes)).eqs = shapes.map (resolveEq s.eqs) := by
  unfold step
  rw [if_pos hok]
  refine ⟨?_, rfl⟩
  show s.pool ++ (List.replicate created.length Creator.singQuantity).map (creatorRef .fixed s.storeId) = _
  rw [← created_is_site hc hrun]

/-- **the singularity step keeps `AllUnits`, with the units the generated code creates**: for a model state satisfying
    the invariant, the state whose pool is extended by the units the generated `remove_fixable_singularities` hung on
    the quantities it re-created (and whose equations mention existing objects only — `Step.ok`) satisfies the
    invariant and `AllUnits`; no contract hypothesis (a library operation) -/
theorem allunits_sing_step_gen {det : List C12.Expr → List (C12.Win Rat)} {vUnits : UnitArg}
    {order : List (Option C12.Eqn)} {excl : List String} {eqs eqs' : List C12.Eqn} {env' : C12.Expr.Env}
    {created : List UnitRef} (s : MState) (hs : Inv s) (shapes : List EqShape) (hc : Call vUnits order)
    (hrun : genRun det s.storeId vUnits order excl eqs = .ok (eqs', env', created))
    (hok : (singStep created shapes).ok s = true) :
    AllUnits { s with pool := s.pool ++ created, eqs := shapes.map (resolveEq s.eqs) } := by
  have hinv : Inv (step .fixed s (singStep created shapes)) := inv_step_library hs (by simp [singStep])
  have hp := step_pool_gen s shapes hc hrun hok
  intro e he i hi
  have := allunits_of_inv hinv e (by rw [hp.2]; exact he) i hi
  rw [hp.1, step_storeId] at this
  exact this

/-- **`allunits_reachable` with the generated singularity step inside a history**: load, any steps (user edits obeying
    the contract of `add_equation`), the singularity removal as the generated function performs it on the state
    reached (its `created` units), any further steps: every atom of every equation carries a unit of the model's store -/
theorem allunits_reachable_gen {det : List C12.Expr → List (C12.Win Rat)} {vUnits : UnitArg}
    {order : List (Option C12.Eqn)} {excl : List String} {eqs12 eqs' : List C12.Eqn} {env' : C12.Expr.Env}
    {created : List UnitRef} (sid : Nat) (creates : List Creator) (eqs : List (List Nat)) (before after : List Step)
    (shapes : List EqShape) (hc : Call vUnits order)
    (hrun : genRun det sid vUnits order excl eqs12 = .ok (eqs', env', created))
    (hb : ∀ st ∈ before, st.op = .userEdit → st.contract sid = true)
    (ha : ∀ st ∈ after, st.op = .userEdit → st.contract sid = true) :
    AllUnits (run .fixed (load .fixed sid creates eqs) (before ++ [singStep created shapes] ++ after)) ∧
    (let s := run .fixed (load .fixed sid creates eqs) before
     (singStep created shapes).ok s = true →
       (step .fixed s (singStep created shapes)).pool = s.pool ++ created) := by
  refine ⟨allunits_reachable sid creates eqs _ ?_, ?_⟩
  · intro st hst hop
    simp only [List.mem_append, List.mem_singleton] at hst
    rcases hst with (h | h) | h
    · exact hb st h hop
    · subst h; simp [singStep] at hop
    · exact ha st h hop
  · intro s hok
    have hsid : s.storeId = sid := (run_storeId .fixed before _).trans (by simp [load, init])
    exact (step_pool_gen s shapes hc (by rw [hsid]; exact hrun) hok).1

/-- non-vacuity: the demo model of `Props/C18.lean`; the generated function on the concrete C12 model of
    `Props/C12.lean` re-creates two quantities with units of store 0; the step is admissible -/
example : ∃ eqs' env' created,
    genRun (C12.detect Cellml.Props.C12.exδ false) demo.storeId .ownUnit (Cellml.Props.C12.exEqs.map some) ["z"]
      Cellml.Props.C12.exEqs = .ok (eqs', env', created) ∧ created = [.ofStore 0, .ofStore 0] ∧
    (singStep created [.atoms [0, 5, 1, 6, 2, 3, 4]]).ok demo = true := by
  obtain ⟨created, hcr, h⟩ := genRun_eq (C12.detect Cellml.Props.C12.exδ false) demo.storeId .ownUnit
    (Cellml.Props.C12.exEqs.map some) ["z"] Cellml.Props.C12.exEqs ⟨Or.inl rfl, by decide +kernel⟩
  have hlen : ((genRun (C12.detect Cellml.Props.C12.exδ false) demo.storeId .ownUnit
      (Cellml.Props.C12.exEqs.map some) ["z"] Cellml.Props.C12.exEqs).toOption.map (fun r => r.2.2))
      = some [.ofStore 0, .ofStore 0] := by decide +kernel
  rw [h] at hlen
  have hcreated : created = [.ofStore 0, .ofStore 0] := by simpa [Except.toOption] using hlen
  exact ⟨_, _, created, h, hcreated, by subst hcreated; decide⟩

end Cellml.Props.C18Gen
