import Cellml.Tie.GenDGraph
import Cellml.Props.C09

/-! # C09 — the property theorems of `Props/C09.lean`, stated about the GENERATED code

    `Props/C09.lean` proves its theorems about the hand model `C09.getEquationsFor`. Here the headline theorems are
    restated (all but `strip_keeps_plain_equation` and `strip_noop_without_quantities`, for which the example `skewPy`
    stands) with the hand model replaced by `genEquationsFor` (`Tie/GenDGraph.lean`): the definition generated from the
    source of `Model.get_equations_for`, reading `self.graph` / `self.graph_with_sympy_numbers` as the definitions
    generated from the source of those two properties. Each is a corollary of the theorem of the same name (without
    `_gen`) through the closed tie `genEquationsFor_tie`.

    * Python returns the `equation` attributes (`List (Option Eqn)`); `lhsList res` is the list of their left-hand sides,
      which is what the original theorems speak about; `eqsfor_shape_gen` says that nothing is lost: `res` is the list
      of the model's equations filed under those left-hand sides.
    * The tie has no domain hypothesis, so none is carried over: the guard `if subs_dict:` of the code is the model's
      `Eqn.hasQ` (`skewPy` below is an example).
    * `lexTopo_*`: `nx.lexicographical_topological_sort` is a networkx function — there is no source in /repo to generate
      from. The generated `get_equations_for` calls it through the leaf binding `nxLexTopo` (`Tie/GraphView.lean`); the
      `lexTopo_*_gen` theorems restate the originals for that binding (they are about the MODEL of networkx, as the
      originals are). What the sort contributes to the generated code is in `eqsfor_relative_order_gen`,
      `eqsfor_order_gen`, `eqsfor_insertion_independent_gen`. -/

namespace Cellml.Props.C09Gen
open _root_.C09 Cellml.Tie Cellml.Tie.PGraph Cellml.Tie.GenD Cellml.Props.C09

/-! ## The sort, as called by the generated code (`nxLexTopo`) -/

theorem lexTopo_perm_gen (key : Node → String) (g : Graph) (hwf : WF g) (hac : Acyclic g) :
    ∃ l, nxLexTopo key g = .ok l ∧ l.Perm g.nodes := by
  simpa only [nxLexTopo_ok_iff] using lexTopo_perm key g hwf hac

theorem lexTopo_ok_is_perm_gen (key : Node → String) (g : Graph) (l : List Node) (h : nxLexTopo key g = .ok l) :
    l.Perm g.nodes := lexTopo_ok_is_perm key g l ((nxLexTopo_ok_iff key g l).mp h)

theorem lexTopo_topological_gen (key : Node → String) (g : Graph) (l : List Node) (h : nxLexTopo key g = .ok l) :
    ∀ (i : Nat) (v : Node), l[i]? = some v → ∀ u, (u, v) ∈ g.edges → u ∈ l.take i :=
  lexTopo_topological key g l ((nxLexTopo_ok_iff key g l).mp h)

theorem lexTopo_least_gen (key : Node → String) (g : Graph) (l : List Node) (h : nxLexTopo key g = .ok l)
    (i : Nat) (v : Node) (hi : l[i]? = some v) (w : Node) (hw : w ∈ g.nodes) (hnot : w ∉ l.take i)
    (hready : ∀ u, (u, w) ∈ g.edges → u ∈ l.take i) : ¬ key w < key v :=
  lexTopo_least key g l ((nxLexTopo_ok_iff key g l).mp h) i v hi w hw hnot hready

/-- the call returns exactly on the acyclic graphs, and raises `NetworkXUnfeasible` otherwise -/
theorem lexTopo_ok_iff_acyclic_gen (key : Node → String) (g : Graph) (hwf : WF g) :
    ((∃ l, nxLexTopo key g = .ok l) ↔ Acyclic g) ∧
    (nxLexTopo key g = .error ⟨"NetworkXUnfeasible"⟩ ↔ ¬ Acyclic g) := by
  have hiff := lexTopo_ok_iff_acyclic key g hwf
  refine ⟨by simpa only [nxLexTopo_ok_iff] using hiff, ?_⟩
  · rw [nxLexTopo_error_iff, ← hiff]
    cases lexTopo key g <;> simp

theorem lexTopo_perm_of_no_cycle_gen (key : Node → String) (g : Graph) (hwf : WF g)
    (hno : ∀ v, ¬ TC (Edge' g) v v) : ∃ l, nxLexTopo key g = .ok l ∧ l.Perm g.nodes :=
  lexTopo_perm_gen key g hwf ((_root_.C09.acyclic_iff_no_cycle g).mpr hno)

theorem lexTopo_insertion_independent_gen (key : Node → String) (g g' : Graph)
    (hnodes : g'.nodes.Perm g.nodes) (hedges : ∀ e, e ∈ g'.edges ↔ e ∈ g.edges) (hinj : KeyInj key g.nodes) :
    nxLexTopo key g' = nxLexTopo key g := by
  unfold nxLexTopo
  rw [lexTopo_insertion_independent key g g' hnodes hedges hinj]

theorem lexTopo_tie_by_insertion_gen :
    nxLexTopo (fun _ => "k") ⟨[0, 1], []⟩ = .ok [0, 1] ∧ nxLexTopo (fun _ => "k") ⟨[1, 0], []⟩ = .ok [1, 0] :=
  ⟨(nxLexTopo_ok_iff _ _ _).mpr lexTopo_tie_by_insertion.1, (nxLexTopo_ok_iff _ _ _).mpr lexTopo_tie_by_insertion.2⟩

/-! ## `get_equations_for` (generated, over the generated `graph` and `graph_with_sympy_numbers`) -/

/-- what python returns is determined by the left-hand sides: each entry is an equation of the model (never `None`),
    and it is the equation filed under its own left-hand side -/
theorem eqsfor_shape_gen (m : PyModel) (vars : List Node) (recurse strip : Bool)
    (res : List (Option Eqn)) (h : genEquationsFor m vars recurse strip = .ok res) :
    res = (lhsList res).map (eqnOf m.eqs) ∧ ∀ o ∈ res, ∃ e ∈ m.eqs, o = some e ∧ eqnOf m.eqs e.lhs = some e :=
  ⟨(gen_ok h).2, gen_entries h⟩

/-- **Complete and minimal, each equation exactly once** (`eqsfor_exact` for the generated code) -/
theorem eqsfor_exact_gen (m : PyModel) (vars : List Node) (recurse strip : Bool)
    (res : List (Option Eqn)) (h : genEquationsFor m vars recurse strip = .ok res) :
    (lhsList res).Nodup ∧ ∀ v, v ∈ lhsList res ↔ (hasEq m.eqs v = true ∧ Needed m.eqs vars recurse strip v) :=
  eqsfor_exact m.key m.eqs vars recurse strip _ (gen_ok h).1

theorem eqsfor_count_gen (m : PyModel) (vars : List Node) (recurse strip : Bool)
    (res : List (Option Eqn)) (h : genEquationsFor m vars recurse strip = .ok res) (v : Node)
    (hv : v ∈ lhsList res) : (lhsList res).count v = 1 :=
  eqsfor_count m.key m.eqs vars recurse strip _ (gen_ok h).1 v hv

theorem eqsfor_relative_order_gen (m : PyModel) (vars : List Node) (recurse strip : Bool)
    (res : List (Option Eqn)) (h : genEquationsFor m vars recurse strip = .ok res)
    (i : Nat) (v : Node) (hi : (lhsList res)[i]? = some v) (u : Node) (huv : DepOn m.eqs strip u v)
    (hu : u ∈ lhsList res) : u ∈ (lhsList res).take i :=
  eqsfor_relative_order m.key m.eqs vars recurse strip _ (gen_ok h).1 i v hi u huv hu

/-- **Evaluable order** (`eqsfor_order` for the generated code) -/
theorem eqsfor_order_gen (m : PyModel) (vars : List Node) (strip : Bool)
    (res : List (Option Eqn)) (h : genEquationsFor m vars true strip = .ok res)
    (i : Nat) (v : Node) (hi : (lhsList res)[i]? = some v) (u : Node) (huv : DepOn m.eqs strip u v) :
    u ∈ (lhsList res).take i ∨ (hasEq m.eqs u = false ∧ isStateOrFree m.eqs u = true) :=
  eqsfor_order m.key m.eqs vars strip _ (gen_ok h).1 i v hi u huv

theorem eqsfor_order_all_gen (m : PyModel) (vars : List Node) (strip : Bool)
    (res : List (Option Eqn)) (h : genEquationsFor m vars true strip = .ok res)
    (i : Nat) (e : Eqn) (he : e ∈ m.eqs) (hi : (lhsList res)[i]? = some e.lhs) :
    ∀ u ∈ e.refs, (strip = true → u ∈ e.numRefs) →
      u ∈ (lhsList res).take i ∨ (hasEq m.eqs u = false ∧ isStateOrFree m.eqs u = true) :=
  eqsfor_order_all m.key m.eqs vars strip _ (gen_ok h).1 i e he hi

/-- **The call returns on every valid acyclic system** (`eqsfor_total` for the generated code): python raises
    nothing -/
theorem eqsfor_total_gen (m : PyModel) (vars : List Node) (recurse strip : Bool)
    (hvalid : Valid m.key m.eqs)
    (hvars : ∀ v ∈ vars, hasEq m.eqs v = true ∨ isStateOrFree m.eqs v = true)
    (hno : ∀ v, ¬ TC (DepOn m.eqs strip) v v) :
    ∃ res, genEquationsFor m vars recurse strip = .ok res := by
  obtain ⟨r, hr⟩ := eqsfor_total m.key m.eqs vars recurse strip hvalid hvars hno
  exact ⟨_, gen_of_ok hr⟩

theorem eqsfor_total_of_rank_gen (m : PyModel) (vars : List Node) (recurse strip : Bool)
    (hvalid : Valid m.key m.eqs)
    (hvars : ∀ v ∈ vars, hasEq m.eqs v = true ∨ isStateOrFree m.eqs v = true)
    (hac : ∃ rank : Node → Nat, ∀ u v, DepOn m.eqs strip u v → rank u < rank v) :
    ∃ res, genEquationsFor m vars recurse strip = .ok res := by
  obtain ⟨r, hr⟩ := eqsfor_total_of_rank m.key m.eqs vars recurse strip hvalid hvars hac
  exact ⟨_, gen_of_ok hr⟩

theorem eqsfor_ok_only_if_gen (m : PyModel) (vars : List Node) (recurse strip : Bool)
    (res : List (Option Eqn)) (h : genEquationsFor m vars recurse strip = .ok res) :
    Valid m.key m.eqs ∧ (∀ v ∈ vars, hasEq m.eqs v = true ∨ isStateOrFree m.eqs v = true) ∧
      ∃ rank : Node → Nat, ∀ u v, DepOn m.eqs strip u v → rank u < rank v :=
  eqsfor_ok_only_if m.key m.eqs vars recurse strip _ (gen_ok h).1

theorem eqsfor_ok_no_cycle_gen (m : PyModel) (vars : List Node) (recurse strip : Bool)
    (res : List (Option Eqn)) (h : genEquationsFor m vars recurse strip = .ok res) :
    ∀ v, ¬ TC (DepOn m.eqs strip) v v :=
  eqsfor_ok_no_cycle m.key m.eqs vars recurse strip _ (gen_ok h).1

/-- which exception python raises when it does not return: `AssertionError` for an invalid system, `NetworkXError`
    (recursing) / `KeyError` (not recursing) for a request that is not a node, `NetworkXUnfeasible` for a cycle — the
    classes `errName` assigns to the hand model's errors -/
theorem eqsfor_error_gen (m : PyModel) (vars : List Node) (recurse strip : Bool)
    (e : PyErr) (h : genEquationsFor m vars recurse strip = .error e) :
    ∃ x, getEquationsFor m.key m.eqs vars recurse strip = .error x ∧ e = ⟨errName recurse x⟩ := by
  cases hm : getEquationsFor m.key m.eqs vars recurse strip with
  | ok r => rw [gen_of_ok hm] at h; cases h
  | error x => rw [gen_of_error hm] at h; cases h; exact ⟨x, rfl, rfl⟩

theorem strip_subset_gen (m : PyModel) (vars : List Node) (recurse : Bool)
    (resS resP : List (Option Eqn))
    (hS : genEquationsFor m vars recurse true = .ok resS)
    (hP : genEquationsFor m vars recurse false = .ok resP) :
    (∀ v ∈ vars, hasEq m.eqs v = true → v ∈ lhsList resS) ∧
    ((lhsList resS).Nodup ∧ ∀ v, v ∈ lhsList resS ↔ (hasEq m.eqs v = true ∧ Needed m.eqs vars recurse true v)) ∧
    (∀ v ∈ lhsList resS, v ∈ lhsList resP) ∧
    (∀ v ∈ lhsList resP, v ∉ lhsList resS → ¬ Needed m.eqs vars recurse true v) :=
  strip_subset m.key m.eqs vars recurse _ _ (gen_ok hS).1 (gen_ok hP).1

/-- `strip_subset` at the level of the returned equation objects: every equation of the stripped result is in the
    unstripped one -/
theorem strip_subset_entries_gen (m : PyModel) (vars : List Node) (recurse : Bool)
    (resS resP : List (Option Eqn))
    (hS : genEquationsFor m vars recurse true = .ok resS)
    (hP : genEquationsFor m vars recurse false = .ok resP) : ∀ o ∈ resS, o ∈ resP := by
  have hsub := (strip_subset_gen m vars recurse resS resP hS hP).2.2.1
  have h1 := (gen_ok hS).2
  have h2 := (gen_ok hP).2
  intro o ho
  rw [h1] at ho
  obtain ⟨v, hv, rfl⟩ := List.mem_map.mp ho
  rw [h2]
  exact List.mem_map.mpr ⟨v, hsub v hv, rfl⟩

theorem strip_ok_of_plain_ok_gen (m : PyModel) (vars : List Node) (recurse : Bool)
    (resP : List (Option Eqn)) (hP : genEquationsFor m vars recurse false = .ok resP) :
    ∃ resS, genEquationsFor m vars recurse true = .ok resS := by
  obtain ⟨r, hr⟩ := strip_ok_of_plain_ok m.key m.eqs vars recurse _ (gen_ok hP).1
  exact ⟨_, gen_of_ok hr⟩

/-- `eqsfor_evaluable` for the generated code -/
theorem eqsfor_evaluable_gen {K : Type} (m : PyModel) (vars : List Node) (strip : Bool)
    (res : List (Option Eqn)) (h : genEquationsFor m vars true strip = .ok res)
    (f : Node → (Node → K) → K) (hloc : ReadsOnly m.eqs strip f) (ρ₀ : Node → K) :
    (∀ v ∈ lhsList res, run f (lhsList res) ρ₀ v = f v (run f (lhsList res) ρ₀)) ∧
    (∀ u, hasEq m.eqs u = false → run f (lhsList res) ρ₀ u = ρ₀ u) :=
  eqsfor_evaluable m.key m.eqs vars strip _ (gen_ok h).1 f hloc ρ₀

/-- `strip_values_partial` for the generated code (PARTIAL exactly as the original: `hsame`, `hlocN` are hypotheses
    about SymPy) -/
theorem strip_values_partial_gen {K : Type} (m : PyModel) (vars : List Node)
    (resS resP : List (Option Eqn))
    (hS : genEquationsFor m vars true true = .ok resS)
    (hP : genEquationsFor m vars true false = .ok resP)
    (f fN : Node → (Node → K) → K) (hloc : ReadsOnly m.eqs false f) (hlocN : ReadsOnly m.eqs true fN)
    (hsame : ∀ v ρ, hasEq m.eqs v = true → fN v ρ = f v ρ) (ρ₀ : Node → K) :
    ∀ v ∈ lhsList resS, run fN (lhsList resS) ρ₀ v = run f (lhsList resP) ρ₀ v :=
  strip_values_partial m.key m.eqs vars _ _ (gen_ok hS).1 (gen_ok hP).1
    f fN hloc hlocN hsame ρ₀

/-- `eqsfor_insertion_independent` for the generated code: two python models holding the same system (entered in any
    order, reference sets iterated in any order, any `Variable.type` left-overs, any variable lists) return equations
    with the same left-hand sides in the same order -/
theorem eqsfor_insertion_independent_gen (m m' : PyModel) (hkey : m'.key = m.key) (vars : List Node)
    (recurse strip : Bool)
    (res res' : List (Option Eqn)) (hsame : SameSystem m.eqs m'.eqs)
    (hinj : ∀ a b, (hasEq m.eqs a = true ∨ isStateOrFree m.eqs a = true) →
      (hasEq m.eqs b = true ∨ isStateOrFree m.eqs b = true) → m.key a = m.key b → a = b)
    (h : genEquationsFor m vars recurse strip = .ok res)
    (h' : genEquationsFor m' vars recurse strip = .ok res') : lhsList res' = lhsList res := by
  have h1 := (gen_ok h).1
  have h2 := (gen_ok h').1
  rw [hkey] at h2
  exact eqsfor_insertion_independent m.key m.eqs m'.eqs vars recurse strip _ _ hsame hinj h1 h2

/-! ## Non-vacuity: the diamond of `Props/C09.lean` run through the generated code
    (`c = 0·a + 1` is the one equation with a `Quantity` whose reference vanishes) -/

def diamondPy : PyModel := { key := diamondKey, eqs := diamond }

/-- the generated code, evaluated by the kernel -/
example : (genEquationsFor diamondPy [0] true false).map lhsList = .ok [3, 1, 2, 0] := by decide +kernel
example : (genEquationsFor diamondPy [0] false false).map lhsList = .ok [1, 2, 0] := by decide +kernel
example : (genEquationsFor diamondPy [2] true false).map lhsList = .ok [3, 2] := by decide +kernel
example : (genEquationsFor diamondPy [2] true true).map lhsList = .ok [2] := by decide +kernel
example : genEquationsFor diamondPy [7] true false = .error ⟨"NetworkXError"⟩ := by decide +kernel
example : genEquationsFor diamondPy [7] false false = .error ⟨"KeyError"⟩ := by decide +kernel
/-- the hypotheses of `eqsfor_total_gen` are met by the diamond -/
example : ∃ res, genEquationsFor diamondPy [0] true true = .ok res :=
  eqsfor_total_gen diamondPy [0] true true
    (eqsfor_ok_only_if diamondKey diamond [0] true true [3, 1, 2, 0] (by decide +kernel)).1
    (eqsfor_ok_only_if diamondKey diamond [0] true true [3, 1, 2, 0] (by decide +kernel)).2.1
    (eqsfor_ok_no_cycle diamondKey diamond [0] true true [3, 1, 2, 0] (by decide +kernel))

/-- **The guard `if subs_dict:`**: `b = a` without any `Quantity`, handed an empty `refsNum` — the code skips the
    equation and returns `[a, b]` for the request `[b]`, and so does the hand model (`Eqn.hasQ`). With a `Quantity` in
    the equation both prune. -/
def skewPy : PyModel :=
  { key := diamondKey,
    eqs := [{ lhs := 1, refs := [3], refsNum := [], hasQ := false }, { lhs := 3, refs := [], refsNum := [] }] }

example : getEquationsFor skewPy.key skewPy.eqs [1] true true = .ok [3, 1] := by decide +kernel
example : (genEquationsFor skewPy [1] true true).map lhsList = .ok [3, 1] := by decide +kernel
example : (genEquationsFor { skewPy with eqs := [{ lhs := 1, refs := [3], refsNum := [] },
    { lhs := 3, refs := [], refsNum := [] }] } [1] true true).map lhsList = .ok [1] := by decide +kernel

end Cellml.Props.C09Gen

/-- info: 'Cellml.Props.C09Gen.eqsfor_exact_gen' depends on axioms: [propext, Classical.choice, Quot.sound] -/
#guard_msgs in
#print axioms Cellml.Props.C09Gen.eqsfor_exact_gen
/-- info: 'Cellml.Props.C09Gen.eqsfor_order_gen' depends on axioms: [propext, Classical.choice, Quot.sound] -/
#guard_msgs in
#print axioms Cellml.Props.C09Gen.eqsfor_order_gen
/-- info: 'Cellml.Props.C09Gen.eqsfor_evaluable_gen' depends on axioms: [propext, Classical.choice, Quot.sound] -/
#guard_msgs in
#print axioms Cellml.Props.C09Gen.eqsfor_evaluable_gen
/-- info: 'Cellml.Props.C09Gen.eqsfor_total_gen' depends on axioms: [propext, Classical.choice, Quot.sound] -/
#guard_msgs in
#print axioms Cellml.Props.C09Gen.eqsfor_total_gen
/-- info: 'Cellml.Props.C09Gen.eqsfor_insertion_independent_gen' depends on axioms: [propext, Classical.choice, Quot.sound] -/
#guard_msgs in
#print axioms Cellml.Props.C09Gen.eqsfor_insertion_independent_gen
/-- info: 'Cellml.Props.C09Gen.strip_subset_gen' depends on axioms: [propext, Classical.choice, Quot.sound] -/
#guard_msgs in
#print axioms Cellml.Props.C09Gen.strip_subset_gen
/-- info: 'Cellml.Props.C09Gen.eqsfor_shape_gen' depends on axioms: [propext, Classical.choice, Quot.sound] -/
#guard_msgs in
#print axioms Cellml.Props.C09Gen.eqsfor_shape_gen
/-- info: 'Cellml.Props.C09Gen.eqsfor_error_gen' depends on axioms: [propext, Classical.choice, Quot.sound] -/
#guard_msgs in
#print axioms Cellml.Props.C09Gen.eqsfor_error_gen
/-- info: 'Cellml.Props.C09Gen.lexTopo_perm_gen' depends on axioms: [propext, Classical.choice, Quot.sound] -/
#guard_msgs in
#print axioms Cellml.Props.C09Gen.lexTopo_perm_gen
/-- info: 'Cellml.Props.C09Gen.lexTopo_least_gen' depends on axioms: [propext, Classical.choice, Quot.sound] -/
#guard_msgs in
#print axioms Cellml.Props.C09Gen.lexTopo_least_gen
/-- info: 'Cellml.Props.C09Gen.lexTopo_ok_iff_acyclic_gen' depends on axioms: [propext, Classical.choice, Quot.sound] -/
#guard_msgs in
#print axioms Cellml.Props.C09Gen.lexTopo_ok_iff_acyclic_gen
/-- info: 'Cellml.Props.C09Gen.lexTopo_insertion_independent_gen' depends on axioms: [propext, Classical.choice, Quot.sound] -/
#guard_msgs in
#print axioms Cellml.Props.C09Gen.lexTopo_insertion_independent_gen
