import Cellml.Props.C14Gen

/-! # C14 — the unit-stripped equations of a WHOLE model (generated `graph_with_sympy_numbers`, any graph)

    `Props/C14Gen.lean` section 6 observes the model of ONE literal. Here: any model — any number of equations, each
    with any number of numbers, in any expression. `Tie/NumPipeAll.lean` (`graphNum_all`) says what the generated
    `Model.graph_with_sympy_numbers` returns for it; this file restates it in C14's vocabulary (`C14.strippedValue`,
    `widen_narrow_id`, the finding `negative-zero-sign-lost`), last with the hypothesis on the generated code only
    (`stripped_all_created`). -/

namespace Cellml.Props.C14GenAll
open _root_.C14 Cellml.Tie Cellml.Tie.PNumPipe Cellml.Gen.NumPipe

/-- **every number of every equation, C14's stage function.** `m` any model, `g` what its `graph` leaf answers
    (`UniqueIds`, `EdgesOK`, `FloatAtoms`: see `Tie/NumPipeAll.lean`), `(n, eq)` any node with an equation, `i` any
    position of its right-hand side holding a Quantity `q` that stores the double `b`: the generated
    `graph_with_sympy_numbers` returns a graph (and caches it) in which that position of that equation holds a number
    `s` = `q.evalf(FLOAT_PRECISION)` with `float(s) = C14.strippedValue (C14.quantityValue b)`. -/
theorem stripped_all (m : NModel) (g : NGraph) (hg : m.graph = .ok g) (hu : UniqueIds g) (he : EdgesOK g)
    (hf : FloatAtoms g) (n : Nat) (eq : NEq) (hp : (n, some eq) ∈ g.nodes) (i : Nat) (q : QObj) (b : Nat)
    (hl : eq.rhs.leaves[i]? = some (.qty q)) (hq : q._value = some (.flt b)) :
    ∃ r eq' s, graphWithSympyNumbers m none = .ok (r, some r) ∧ nodeEquation r n = .ok (some eq') ∧
      eq'.lhs = eq.lhs ∧ eq'.rhs.leaves[i]? = some (.num s) ∧
      sympyEvalf (quantityEvalEvalf q) Cellml.Gen.floatPrecision = .ok s ∧
      floatOfSNum s = strippedValue (quantityValue b) := by
  refine ⟨_, substEq eq, strippedNum q, graphNum_all m g hg hu he hf, substGraph_node g hu n _ hp, rfl, ?_,
    strippedNum_spec q b hq⟩
  simp only [substEq, substExpr, List.getElem?_map, hl, Option.map_some, substLeaf]

/-- **… hence the double itself** (`widen_narrow_id`): for a finite non-zero double the number in the stripped equation
    reads back as `b`, bit for bit, and the generated `_print_Float` emits `str(b)` -/
theorem stripped_all_id (v : PView) (m : NModel) (g : NGraph) (hg : m.graph = .ok g) (hu : UniqueIds g)
    (he : EdgesOK g) (hf : FloatAtoms g) (n : Nat) (eq : NEq) (hp : (n, some eq) ∈ g.nodes) (i : Nat) (q : QObj)
    (b : Nat) (hl : eq.rhs.leaves[i]? = some (.qty q)) (hq : q._value = some (.flt b))
    (hb : b < 2 ^ 64) (hfin : isFiniteBits b = true) (hnz : magOf b ≠ 0) :
    ∃ r eq' s, graphWithSympyNumbers m none = .ok (r, some r) ∧ nodeEquation r n = .ok (some eq') ∧
      eq'.rhs.leaves[i]? = some (.num s) ∧ floatOfSNum s = b ∧ printFloatS v s = .ok (v.reprF b) := by
  obtain ⟨r, eq', s, hrun, hne, _, hli, _, hfl⟩ := stripped_all m g hg hu he hf n eq hp i q b hl hq
  have : floatOfSNum s = b := by
    rw [hfl]; exact Cellml.Props.C14.widen_narrow_id b hb hfin hnz
  exact ⟨r, eq', s, hrun, hne, hli, this, by rw [printFloatS_tie, this]⟩

/-- `+0.0` stays `+0.0` … -/
theorem stripped_all_zero (m : NModel) (g : NGraph) (hg : m.graph = .ok g) (hu : UniqueIds g)
    (he : EdgesOK g) (hf : FloatAtoms g) (n : Nat) (eq : NEq) (hp : (n, some eq) ∈ g.nodes) (i : Nat) (q : QObj)
    (hl : eq.rhs.leaves[i]? = some (.qty q)) (hq : q._value = some (.flt 0)) :
    ∃ r eq' s, graphWithSympyNumbers m none = .ok (r, some r) ∧ nodeEquation r n = .ok (some eq') ∧
      eq'.rhs.leaves[i]? = some (.num s) ∧ floatOfSNum s = 0 := by
  obtain ⟨r, eq', s, hrun, hne, _, hli, _, hfl⟩ := stripped_all m g hg hu he hf n eq hp i q 0 hl hq
  exact ⟨r, eq', s, hrun, hne, hli, hfl.trans Cellml.Props.C14.widen_narrow_zero⟩

/-- … and `-0.0` loses its sign in every equation of every model (known finding `negative-zero-sign-lost`) -/
theorem stripped_all_negzero (m : NModel) (g : NGraph) (hg : m.graph = .ok g) (hu : UniqueIds g)
    (he : EdgesOK g) (hf : FloatAtoms g) (n : Nat) (eq : NEq) (hp : (n, some eq) ∈ g.nodes) (i : Nat) (q : QObj)
    (hl : eq.rhs.leaves[i]? = some (.qty q)) (hq : q._value = some (.flt signBit)) :
    ∃ r eq' s, graphWithSympyNumbers m none = .ok (r, some r) ∧ nodeEquation r n = .ok (some eq') ∧
      eq'.rhs.leaves[i]? = some (.num s) ∧ floatOfSNum s = 0 := by
  obtain ⟨r, eq', s, hrun, hne, _, hli, _, hfl⟩ := stripped_all m g hg hu he hf n eq hp i q signBit hl hq
  exact ⟨r, eq', s, hrun, hne, hli, by rw [hfl]; decide +kernel⟩

set_option linter.unusedVariables false in
/-- a graph whose Quantities all came out of the generated `create_quantity` called with doubles (what the parser's
    number generator and `transform_constants` do) -/
def CreatedAtoms (v : PView) (g : NGraph) : Prop :=
  ∀ p ∈ g.nodes, ∀ eq, p.2 = some eq → ∀ q, NLeaf.qty q ∈ eq.rhs.leaves →
    ∃ v' b u, createQuantity v' (.flt b) u = .ok q

theorem floatAtoms_of_created (v : PView) (g : NGraph) (h : CreatedAtoms v g) : FloatAtoms g := by
  intro p hp eq he q hq
  obtain ⟨v', b, u, hc⟩ := h p hp eq he q hq
  exact ⟨b, createQuantity_value _ _ _ _ hc⟩

/-- **loaded models**: the `<cn>` element `cn` was read by the generated `_cn_handler` (`genCn`) to the double `b`, the
    generated `create_quantity` made `q` of it, and `q` stands at position `i` of some equation of a graph all of whose
    Quantities were made that way: in the stripped graph that position holds `b` — if it is finite and not a zero —
    with NO further hypothesis on `b` (`genCn_lt`). -/
theorem stripped_all_created (v : PView) (m : NModel) (g : NGraph) (hg : m.graph = .ok g) (hu : UniqueIds g)
    (he : EdgesOK g) (hc : CreatedAtoms v g) (n : Nat) (eq : NEq) (hp : (n, some eq) ∈ g.nodes) (i : Nat)
    (cn : PTranspile.CnNode) (b : Nat) (u : UArg) (q : QObj) (hcn : C14Gen.genCn cn = .ok b)
    (hmk : createQuantity v (.flt b) u = .ok q) (hl : eq.rhs.leaves[i]? = some (.qty q))
    (hfin : isFiniteBits b = true) (hnz : magOf b ≠ 0) :
    ∃ r eq' s, graphWithSympyNumbers m none = .ok (r, some r) ∧ nodeEquation r n = .ok (some eq') ∧
      eq'.rhs.leaves[i]? = some (.num s) ∧ floatOfSNum s = b ∧ printFloatS v s = .ok (v.reprF b) :=
  stripped_all_id v m g hg hu he (floatAtoms_of_created v g hc) n eq hp i q b hl
    (createQuantity_value _ _ _ _ hmk) (C14Gen.genCn_lt cn b hcn) hfin hnz

/-- non-vacuity: two equations, three numbers, a shared variable, an edge:
    `x1 = q1 * x2 + q2` (node 1), `x2 = q3` (node 2), edge 2 → 1 -/
example (q1 q2 q3 : QObj) (b1 b2 b3 : Nat) (h1 : q1._value = some (.flt b1)) (h2 : q2._value = some (.flt b2))
    (h3 : q3._value = some (.flt b3)) (m : NModel)
    (hg : m.graph = .ok ⟨[(1, some ⟨1, ⟨7, [.qty q1, .var 2, .qty q2]⟩⟩), (2, some ⟨2, ⟨0, [.qty q3]⟩⟩)], [(2, 1)]⟩) :
    graphWithSympyNumbers m none =
      .ok (⟨[(1, some ⟨1, ⟨7, [.num (strippedNum q1), .var 2, .num (strippedNum q2)]⟩⟩),
              (2, some ⟨2, ⟨0, [.num (strippedNum q3)]⟩⟩)], [(2, 1)]⟩,
           some ⟨[(1, some ⟨1, ⟨7, [.num (strippedNum q1), .var 2, .num (strippedNum q2)]⟩⟩),
              (2, some ⟨2, ⟨0, [.num (strippedNum q3)]⟩⟩)], [(2, 1)]⟩) := by
  refine graphNum_all m _ hg (UniqueIds.of_nodup _ (by simp [NGraph.nodeIds])) ?_ ?_
  · intro ed hed p hp eq hpe hl
    simp only [List.mem_singleton] at hed
    subst hed
    simp only [List.mem_cons, List.not_mem_nil, or_false] at hp
    cases hp with
    | inl hp => subst hp; simp only [Option.some.injEq] at hpe; subst hpe; simp [varRefs]
    | inr hp => subst hp; simp only [Option.some.injEq] at hpe; subst hpe; simp at hl
  · intro p hp eq hpe q hq
    simp only [List.mem_cons, List.not_mem_nil, or_false] at hp
    cases hp with
    | inl hp =>
      subst hp; simp only [Option.some.injEq] at hpe; subst hpe
      simp only [List.mem_cons, NLeaf.qty.injEq, List.not_mem_nil, or_false, reduceCtorEq, false_or] at hq
      cases hq with
      | inl hq => subst hq; exact ⟨_, h1⟩
      | inr hq => subst hq; exact ⟨_, h2⟩
    | inr hp =>
      subst hp; simp only [Option.some.injEq] at hpe; subst hpe
      simp only [List.mem_singleton, NLeaf.qty.injEq] at hq
      subst hq; exact ⟨_, h3⟩

end Cellml.Props.C14GenAll
