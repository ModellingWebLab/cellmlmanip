import Cellml.Props.C01
import Cellml.Props.C17
import Cellml.Tie.ConnDir
import Cellml.Tie.ConnLoopClosed
import Cellml.Tie.LoaderGen
import Cellml.Tie.LoaderUnitsOrder

/-! # C01 — the headline theorems of `Props/C01.lean`, stated about the code GENERATED from parser.py

    Subjects (all written by `harness/translate_code.py` from the source text of /repo on every run):
    * `Gen.ConnDir.determineConnectionDirection`  — `Parser._determine_connection_direction`;
    * `Gen.ConnLoop.addConnectionsBody(_test)`    — body and test of `while connections_to_process:` in
      `Parser._add_connections`, closed to the loop `Tie.GenA.genConnectLoop` / `genConnect` (well-founded recursion on
      the measure of the hand model; `Tie/ConnLoopClosed.lean`);
    * `Gen.LoaderSym.symbolGenerator`             — the closure `symbol_generator` of `Parser._add_maths`;
    * `Gen.LoaderParse.parse`                     — `Parser.parse`, as `Tie.GenA.genParse fd us`: run over the stages
      `genStages fd`, which are GENERATED code down to the leaves — `_add_units` (closed loop `genAddUnits`),
      `_add_components`, `_add_relationships` / `_handle_component_ref` (recursion closed), `_add_connections` (generated
      set-up part handing its start values to the closed loop), the symbol resolution of `_add_maths`,
      `transform_constants` (`Tie/LoaderStagesA…D.lean`, `Tie/LoaderGen.lean`).
    Every theorem is a corollary of the theorem of the same name in `Props/C01.lean` through the ties
    (`connDir_tie`, `genConnect_eq` ⇐ `connLoop_body_tie` / `connectLoop_cons`, `symbolGenerator_fuel` ⇐
    `whileUpTo_resolve`, `genParse_tie`, and — for the units — `LoaderClose.addUnits_buildUnits`). -/

namespace Cellml.Props.C01Gen
open Load Cellml.Tie Cellml.Tie.GenA Cellml.Gen
open Cellml.Props.C01
open Cellml.Tie.PMathsWalk (BadWF)

/-! ## 1. The work list terminates and builds a forest -/

/-- `connect_terminates` for the generated loop: `genConnect` is a total function — Lean accepted the recursion
    `while <generated test>: <generated body>` on the measure `(|deque|, |deque| + 1 − unchanged_loop_count)`, the decrease
    being PROVED of the generated body (`Tie.GenA.body_decreases`) — so it returns a state or an exception. -/
theorem connect_terminates_gen (reg : Registry) (vt : VarTable) (l : List (VRef × VRef)) :
    (∃ st, genConnect reg vt l = .ok st) ∨ (∃ e, genConnect reg vt l = .error e) := by
  cases h : genConnect reg vt l with
  | ok st => exact .inl ⟨st, rfl⟩
  | error e => exact .inr ⟨e, rfl⟩

/-- `connect_terminates` for the generated loop as a python `while` with an iteration budget: after at most `stepBound n 0 = n(n+1)/2 + n + 2` runs of the
    generated body (`n` = number of connections) the generated test is false — the loop has stopped — and the state
    is the one `genConnect` returns (or the body has raised). -/
theorem connect_terminates_gen_while (reg : Registry) (vt : VarTable) (l : List (VRef × VRef)) :
    ∃ u, genConnectWhile reg vt (C17.stepBound l.length 0) (l, 0, initState vt) =
      (genConnect reg vt l).map (fun st => (([] : List (VRef × VRef)), u, st)) :=
  whileUpTo_genConnectLoop reg vt _ l 0 (initState vt) (Nat.zero_le _) (Nat.le_refl _)

/-- unfolding equations of the generated loop: it is the `while` of the source -/
theorem genConnectLoop_nil (reg : Registry) (vt : VarTable) (unch : Nat) (st : CState) :
    genConnectLoop reg vt [] unch st = .ok st := by
  rw [genConnectLoop, if_neg (by simp [test_nil])]

theorem genConnectLoop_cons (reg : Registry) (vt : VarTable) (c : VRef × VRef) (rest : List (VRef × VRef)) (unch : Nat)
    (st : CState) :
    genConnectLoop reg vt (c :: rest) unch st =
      match ConnLoop.addConnectionsBody (connLoopView reg vt) (c :: rest) unch st with
      | .error e => .error e
      | .ok (dq', unch', st') => genConnectLoop reg vt dq' unch' st' := by
  rw [genConnectLoop, if_pos (test_cons c rest)]
  split <;> rename_i heq <;> simp only [heq]

/-- `connect_forest` for the generated code. Hypothesis: the closed generated loop succeeds with state `st`.
    Conclusion: the ten facts of `Props.C01.connect_forest` about `st.mapping` (`connected_variable_mapping`) and
    `st.asg` (`assigned_to`), where `rootOf st` is now the function the GENERATED `symbol_generator` computes:
    (G1) on a declared identifier the generated closure, its loop bounded by `|mapping|`, returns `rootOf st`;
    (G2) with any larger bound it returns the same — the python `while` has terminated;
    (G3) on an undeclared identifier it raises AssertionError. -/
theorem connect_forest_gen {reg : Registry} {vt : VarTable} {l : List (VRef × VRef)} {st : CState}
    (h : genConnect reg vt l = .ok st) :
    ((∀ c x, (vt.lookup (c, x)).isSome → ∀ k,
        LoaderSym.symbolGenerator ⟨c⟩ (varToSymbol vt) ⟨st.mapping⟩ (st.mapping.length + k) x
          = .ok (some (rootOf st (c, x)))) ∧
     (∀ c x, vt.lookup (c, x) = none → ∀ n,
        LoaderSym.symbolGenerator ⟨c⟩ (varToSymbol vt) ⟨st.mapping⟩ n x = .error ⟨"AssertionError"⟩)) ∧
    (keys st.mapping).Nodup ∧
    (∀ t s, st.mapping.lookup t = some s ↔ (s, t) ∈ l) ∧
    (∀ t s, (s, t) ∈ l → rank st.mapping s < rank st.mapping t) ∧
    (∀ v, rootOf st v = root st.mapping v) ∧
    (∀ v, v ∈ keys st.mapping → Src vt (rootOf st v)) ∧
    (∀ v, rootOf st v = v ↔ v ∉ keys st.mapping) ∧
    (∀ v, Src vt v → rootOf st v = v) ∧
    (∀ v, rootOf st (rootOf st v) = rootOf st v) ∧
    (∀ v, (st.asg v).isSome ↔ (Src vt v ∨ v ∈ keys st.mapping)) ∧
    (∀ v a, st.asg v = some a → rootOf st a = rootOf st v ∧ st.asg a = some a) := by
  have hm := (genConnect_ok_iff reg vt l st).mp h
  have hf := connect_forest hm
  refine ⟨⟨?_, ?_⟩, hf⟩
  · intro c x hx k
    rw [symbolGenerator_fuel]
    have hc : checkIdent vt c x = .ok () := by unfold checkIdent; rw [if_pos hx]
    rw [hc]
    simp only
    obtain ⟨_, _, _, _, _, hfix, _, hidem, _⟩ := hf
    have hnk : rootOf st (c, x) ∉ keys st.mapping := (hfix _).mp (hidem (c, x))
    have hnone : (st.mapping.lookup (resolve st.mapping st.mapping.length (c, x))).isNone := by
      have := List.lookup_eq_none_iff_not_mem_keys.mpr hnk
      unfold rootOf at this
      rw [this]; rfl
    rw [resolve_stable st.mapping st.mapping.length (c, x) hnone k]
    rfl
  · intro c x hx n
    rw [symbolGenerator_fuel]
    have hc : checkIdent vt c x = .error (.assertion (c ++ "$" ++ x ++ " not found in symbol dict")) := by
      unfold checkIdent; rw [hx]; rfl
    rw [hc]
    rfl

/-! ## 2. Order independence -/

/-- `direction_swap` for the generated `_determine_connection_direction`: called with (component_1, variable_1) and
    (component_2, variable_2) exchanged it returns the same (source, target) — the same Variable identities — or raises
    an exception of the same class. Same hypotheses as the original, read on the generated function's view: both
    variables exist (`getVar` succeeds), the two components are not each other's `parent`. -/
theorem direction_swap_gen (par : ParentMap) (vt : VarTable) (c : Conn) (i1 i2 : VarInfo)
    (h1 : (loaderView par vt).getVar c.c1 c.v1 = .ok (c.end1, i1))
    (h2 : (loaderView par vt).getVar c.c2 c.v2 = .ok (c.end2, i2))
    (hmut : ¬ ((loaderView par vt).parent c.c2 = some c.c1 ∧ (loaderView par vt).parent c.c1 = some c.c2)) :
    (ConnDir.determineConnectionDirection (loaderView par vt) c.c2 c.v2 c.c1 c.v1).map (fun p => (p.1.1, p.2.1)) =
    (ConnDir.determineConnectionDirection (loaderView par vt) c.c1 c.v1 c.c2 c.v2).map (fun p => (p.1.1, p.2.1)) := by
  have look : ∀ {cn v r i}, (loaderView par vt).getVar cn v = .ok (r, i) → vt.lookup (cn, v) = some i := by
    intro cn v r i h
    simp only [loaderView] at h
    split at h
    · rename_i hl
      cases h
      exact hl
    · cases h
  have := connDir_tie par vt c.swap
  have e : (ConnDir.determineConnectionDirection (loaderView par vt) c.c2 c.v2 c.c1 c.v1) =
      (ConnDir.determineConnectionDirection (loaderView par vt) c.swap.c1 c.swap.v1 c.swap.c2 c.swap.v2) := rfl
  rw [e, this, connDir_tie par vt c, direction_swap par vt c i1 i2 (look h1) (look h2) hmut]

/-- `connect_ok_iff_resolvable` for the generated loop -/
theorem connect_ok_iff_resolvable_gen (reg : Registry) (vt : VarTable) (cs : List (VRef × VRef)) :
    (∃ st, genConnect reg vt cs = .ok st) ↔ Resolvable reg vt cs := by
  rw [genConnect_eq, errClass_isOk_iff]
  exact connect_ok_iff_resolvable reg vt cs

/-- `connect_perm_outcome` for the generated loop: whether the closed generated `while` succeeds does not depend on
    the order of the connections in the deque. -/
theorem connect_perm_outcome_gen {reg : Registry} {vt : VarTable} {cs₁ cs₂ : List (VRef × VRef)} (hp : cs₁.Perm cs₂) :
    (∃ st, genConnect reg vt cs₁ = .ok st) ↔ (∃ st, genConnect reg vt cs₂ = .ok st) := by
  rw [genConnect_eq, genConnect_eq, errClass_isOk_iff, errClass_isOk_iff]
  exact connect_perm_outcome hp

/-- `connect_perm_total` for the generated loop (outcome and roots together) -/
theorem connect_perm_total_gen {reg : Registry} {vt : VarTable} {cs₁ cs₂ : List (VRef × VRef)} {st₁ : CState}
    (hp : cs₁.Perm cs₂) (h : genConnect reg vt cs₁ = .ok st₁) :
    ∃ st₂, genConnect reg vt cs₂ = .ok st₂ ∧ ∀ v, rootOf st₁ v = rootOf st₂ v := by
  simp only [genConnect_ok_iff] at h ⊢
  exact connect_perm_total hp h

/-- the classes of two refusals of the generated loop (`Props.C01.relay_refused` read through `genConnect_eq`): two
    sources for one target is a ValueError, an unfed relay the AssertionError of the loop's `assert` -/
example : genConnect relayUnits.1 relayVt twoSources = .error ⟨"ValueError"⟩ ∧
    genConnect relayUnits.1 relayVt [(("channel", "V"), ("gate", "v"))] = .error ⟨"AssertionError"⟩ := by
  obtain ⟨h1, -, -, h2⟩ := relay_refused
  rw [genConnect_eq, genConnect_eq, h1, h2]
  exact ⟨rfl, rfl⟩

/-! ## 3. Soundness of loading, about the generated `Parser.parse`

    `genParse_tie` ties the generated `parse` to `C17.loadFull` (the document as written: unit definitions `fd.udefs` in
    file order through the work list of `_add_units`), while `load_sound` / `load_complete` speak about `Load.load`
    (unit definitions `doc.units` already sorted). The two are RELATED BY THEOREM
    (`Tie/LoaderUnitsOrder.lean`, `addUnits_buildUnits`): when the work list succeeds, `Load.load` on the same
    `<units>` elements in the order the work list added them (a permutation of `fd.udefs`, base units first) returns
    the same registry and unit store, hence IS the loader `loadFull` runs. The theorems below do not look at the
    independent field `fd.doc.units` at all; the `Loaded` they speak about is the one built on the units of the work list
    (`C17.prepareFrom reg ust`, the function `Load.prepare` is after its unit stage: `C17.prepare_eq`). -/

open Cellml.Tie.LoaderClose (SortedFrom withUnits load_agrees)

/-- the hypothesis `InitOnSources` of `load_sound` / `load_complete` is IMPLIED by the generated `parse` succeeding
    (`self._validate`, bound to `C17.schemaVars`): it is not carried by the `…_gen` theorems -/
theorem initOnSources_of_schemaVars {doc : Doc} (h : C17.schemaVars doc = true) : InitOnSources doc :=
  fun _ hc _ hd hi => (C17.schemaVars_ok h hc hd).2 hi

theorem docSat_withUnits {doc : Doc} {us : List UnitDecl} {L : Loaded} {den : Scale → Rat} {σ : VRef → Rat}
    {δ : VRef → VRef → Rat} : DocSat (withUnits doc us) L den σ δ ↔ DocSat doc L den σ δ :=
  ⟨fun h => ⟨h.eqs, h.conns, h.dconn₁, h.dconn₂, h.inits⟩, fun h => ⟨h.eqs, h.conns, h.dconn₁, h.dconn₂, h.inits⟩⟩

/-- a successful run of the generated `parse` is a successful `Load.load` of the same document, its `<units>`
    elements taken in the order the work list added them (`fd.doc.units` is not read: `withUnits` replaces it) -/
theorem load_of_parse_gen {fd : C17.FaultDoc} (hb : BadWF fd = true) {us : Option Unit} {F : Flat}
    (hgen : (genParse fd us).map (·.flat) = .ok (some F)) :
    ∃ reg ust srt, Units.addUnits 0 fd.udefs = .ok (reg, ust) ∧ SortedFrom fd.udefs srt ∧
      load (withUnits fd.doc srt) = .ok F ∧
      prepare (withUnits fd.doc srt) = C17.prepareFrom reg ust fd.doc ∧ InitOnSources fd.doc := by
  have hfull := (parse_ok_iff fd hb us F).mp hgen
  obtain ⟨hs, _, _, _⟩ := loadFull_ok_parts hfull
  obtain ⟨reg, ust, hu, hF⟩ := loadFull_ok_loadFrom hfull
  obtain ⟨srt, hsrt, hl, hp⟩ := load_agrees fd.doc hu
  exact ⟨reg, ust, srt, hu, hsrt, hl.trans hF, hp, initOnSources_of_schemaVars hs⟩

/-- `load_sound` for the generated `parse`: if it returns the flat model `F`, every physical solution of `F`, read
    through `rootOf`, is a physical solution of the document. (`L` is what the loader computed on the units of the
    work list; the statement is `load_sound`'s, with `Load.prepare` replaced by the same function after its unit
    stage.) -/
theorem load_sound_gen {fd : C17.FaultDoc} (hb : BadWF fd = true) {us : Option Unit} {F : Flat} {den : Scale → Rat}
    (hgen : (genParse fd us).map (·.flat) = .ok (some F))
    (τ : VRef → Rat) (δ : VRef → VRef → Rat) (hsat : FlatSat den F τ δ) :
    ∃ reg ust L, Units.addUnits 0 fd.udefs = .ok (reg, ust) ∧ C17.prepareFrom reg ust fd.doc = .ok L ∧
      DocSat fd.doc L den (fun v => τ (rootOf L.st v)) (fun x t => δ (rootOf L.st x) (rootOf L.st t)) := by
  obtain ⟨reg, ust, srt, hu, _, hload, hprep, hvalid⟩ := load_of_parse_gen hb hgen
  obtain ⟨L, hL, hsatD⟩ := load_sound (doc := withUnits fd.doc srt) hload hvalid τ δ hsat
  exact ⟨reg, ust, L, hu, hprep ▸ hL, docSat_withUnits.mp hsatD⟩

/-- `load_sound_gen` in the words of `Load.load` itself: the same conclusion for `Load.prepare` on the document whose units are
    in the work list's order -/
theorem load_sound_gen_sorted {fd : C17.FaultDoc} (hb : BadWF fd = true) {us : Option Unit} {F : Flat} {den : Scale → Rat}
    (hgen : (genParse fd us).map (·.flat) = .ok (some F))
    (τ : VRef → Rat) (δ : VRef → VRef → Rat) (hsat : FlatSat den F τ δ) :
    ∃ srt L, SortedFrom fd.udefs srt ∧ load (withUnits fd.doc srt) = .ok F ∧ prepare (withUnits fd.doc srt) = .ok L ∧
      DocSat fd.doc L den (fun v => τ (rootOf L.st v)) (fun x t => δ (rootOf L.st x) (rootOf L.st t)) := by
  obtain ⟨reg, ust, srt, hu, hsrt, hload, hprep, hvalid⟩ := load_of_parse_gen hb hgen
  obtain ⟨L, hL, hsatD⟩ := load_sound (doc := withUnits fd.doc srt) hload hvalid τ δ hsat
  exact ⟨srt, L, hsrt, hload, hL, docSat_withUnits.mp hsatD⟩

/-- `load_complete` for the generated `parse`: every physical solution of the document solves the flat model it
    returns. -/
theorem load_complete_gen {fd : C17.FaultDoc} (hb : BadWF fd = true) {us : Option Unit} {F : Flat} {den : Scale → Rat}
    (hden : DenOK den)
    (hgen : (genParse fd us).map (·.flat) = .ok (some F))
    (σ : VRef → Rat) (δ : VRef → VRef → Rat) (reg : Registry) (ust : Units.Store) (L : Loaded)
    (hu : Units.addUnits 0 fd.udefs = .ok (reg, ust)) (hprep : C17.prepareFrom reg ust fd.doc = .ok L)
    (hsat : DocSat fd.doc L den σ δ) : FlatSat den F σ δ := by
  obtain ⟨reg', ust', srt, hu', _, hload, hprep', hvalid⟩ := load_of_parse_gen hb hgen
  rw [hu] at hu'
  simp only [Except.ok.injEq, Prod.mk.injEq] at hu'
  obtain ⟨rfl, rfl⟩ := hu'
  exact load_complete hden hload hvalid σ δ L (hprep'.trans hprep) (docSat_withUnits.mpr hsat)

/-! ## 4. Non-vacuity: the relay document of `Props/C01.lean` goes through the generated code -/

open Cellml.Props.C17 (relayFd relay_loadFull)

/-- the generated `parse` returns the flat model of the relay document -/
theorem relay_parse_gen (us : Option Unit) :
    (genParse relayFd us).map (·.flat) = .ok (some (relayL.flat relayDoc)) :=
  parse_ok_of_loadFull us relay_loadFull

/-- the closed generated loop resolves its two connections (with one rotation of the deque) -/
example : genConnect relayUnits.1 relayVt relayDl = .ok relaySt :=
  (genConnect_ok_iff _ _ _ _).mpr relay_connect

/-- `load_sound_gen` applied -/
example : ∃ reg ust L, Units.addUnits 0 relayFd.udefs = .ok (reg, ust) ∧ C17.prepareFrom reg ust relayDoc = .ok L ∧
    DocSat relayDoc L denInt (fun v => relayτ (rootOf L.st v)) (fun _ _ => 0) :=
  load_sound_gen (fd := relayFd) rfl (relay_parse_gen none) relayτ (fun _ _ => 0) relay_flatSat

/-- `direction_swap_gen` is not vacuous -/
example : (ConnDir.determineConnectionDirection (loaderView relayPar relayVt) "channel" "V" "gate" "v").map
      (fun p => (p.1.1, p.2.1)) =
    (ConnDir.determineConnectionDirection (loaderView relayPar relayVt) "gate" "v" "channel" "V").map
      (fun p => (p.1.1, p.2.1)) := by
  obtain ⟨-, -, -, -, hV, -, -⟩ := relay_run
  exact direction_swap_gen relayPar relayVt ⟨"gate", "v", "channel", "V"⟩
    ⟨[("store0_mV", 1)], .inn, .none, none, none, "mV"⟩ ⟨[("volt", 1)], .inn, .out, none, none, "volt"⟩
    (by rw [hV]; decide +kernel) (by rw [hV]; decide +kernel) (by decide +kernel)

end Cellml.Props.C01Gen
