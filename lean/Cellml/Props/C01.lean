import Cellml.Load.Lemmas
import Cellml.Load.PermOutcome
import Cellml.Units.Lemmas
import Cellml.Units.Builtin

/-! # C01 — loading a CellML document preserves its mathematics (flattening fidelity)

    Model: `Load.load` (Cellml/Load/{Doc,Connect,Loader}.lean) = `Parser.parse` after schema validation: variable
    table, encapsulation, `_determine_connection_direction`, the `_add_connections` work list with `assigned_to` and
    `connected_variable_mapping`, `symbol_generator`, conversion equations, `transform_constants`.

    Semantics. Values are PHYSICAL: a valuation gives every variable its SI magnitude (`Rat`), and every derivative
    its SI magnitude; a number `q [u]` denotes `q · ⟦scale of u⟧`. Scales are prime ↦ exponent maps; their
    interpretation `den : Scale → Rat` is a PARAMETER of every theorem, constrained only by `DenOK` (respects equality of
    scales, `den 1 = 1`). `Load.denInt` is an instance, exact for integer exponents (`denOK_denInt`).

    Everything is proved for ALL documents: any number of components, any nesting, any chain length.
    Order independence of the OUTCOME of the work list: `connect_ok_iff_resolvable`, `connect_perm_outcome`
    (from `resolvable_of_connect`, `connect_of_resolvable` of Cellml/Load/PermOutcome.lean). -/

namespace Cellml.Props.C01
open Load PMap

/-! ## 1. The work list terminates and builds a forest -/

/-- `connect` is a total function: Lean accepted the well-founded definition on the measure
    `(|deque|, |deque| + 1 − unchanged_loop_count)`. (The statement itself holds of any value of an `Except` type.) -/
theorem connect_terminates (reg : Registry) (vt : VarTable) (l : List (VRef × VRef)) :
    (∃ st, connect reg vt l = .ok st) ∨ (∃ e, connect reg vt l = .error e) := by
  cases h : connect reg vt l with
  | ok st => exact Or.inl ⟨st, rfl⟩
  | error e => exact Or.inr ⟨e, rfl⟩

/-- the two unfolding equations of `Load.connectLoop` (this one and `connectLoop_cons`): it is the `while` loop of the source -/
theorem connectLoop_nil (reg : Registry) (vt : VarTable) (unch : Nat) (h : unch ≤ ([] : List (VRef × VRef)).length)
    (st : CState) : connectLoop reg vt [] unch h st = .ok st := by
  unfold connectLoop; rfl

theorem connectLoop_cons (reg : Registry) (vt : VarTable) (c : VRef × VRef) (rest : List (VRef × VRef)) (unch : Nat)
    (h : unch ≤ (c :: rest).length) (st : CState) :
    connectLoop reg vt (c :: rest) unch h st =
      match stepConn reg vt st c with
      | .error e => .error e
      | .ok none =>
          if hlt : unch + 1 ≤ (rest ++ [c]).length then connectLoop reg vt (rest ++ [c]) (unch + 1) hlt st
          else .error (.assertion "Unable to add connections to the model")
      | .ok (some st') => connectLoop reg vt rest 0 (Nat.zero_le _) st' := by
  rw [connectLoop.eq_2]
  cases stepConn reg vt st c with
  | error e => rfl
  | ok o => cases o <;> rfl

/-- When the work list succeeds, `connected_variable_mapping` is a function whose graph is exactly the set of
    connections (target ↦ source), it is acyclic (`rank` strictly decreases from target to source), the `while` loop of
    `symbol_generator` computes the structural `root`, every target's chain ends at a variable with no `in` interface,
    the roots are exactly the non-targets, sources are their own roots, a variable has an `assigned_to` iff it is a
    source or a target, and `assigned_to` always lies on the variable's own chain. -/
theorem connect_forest {reg : Registry} {vt : VarTable} {l : List (VRef × VRef)} {st : CState}
    (h : connect reg vt l = .ok st) :
    (keys st.mapping).Nodup ∧
    (∀ t s, st.mapping.lookup t = some s ↔ (s, t) ∈ l) ∧
    (∀ t s, (s, t) ∈ l → rank st.mapping s < rank st.mapping t) ∧
    (∀ v, rootOf st v = root st.mapping v) ∧
    (∀ v, v ∈ keys st.mapping → Src vt (rootOf st v)) ∧
    (∀ v, rootOf st v = v ↔ v ∉ keys st.mapping) ∧
    (∀ v, Src vt v → rootOf st v = v) ∧
    (∀ v, rootOf st (rootOf st v) = rootOf st v) ∧
    (∀ v, (st.asg v).isSome ↔ (Src vt v ∨ v ∈ keys st.mapping)) ∧
    (∀ v a, st.asg v = some a → rootOf st a = rootOf st v ∧ st.asg a = some a) := by
  have inv := connect_inv h
  have hroot := connect_rootOf h
  have hmem := inv.mem_mapping_iff
  refine ⟨inv.wf.keys_nodup, ?_, ?_, hroot, ?_, ?_, ?_, ?_, inv.asg_iff, ?_⟩
  · intro t s; rw [inv.wf.lookup_iff, hmem]
  · intro t s hl; exact inv.wf.rank_lt t s ((hmem t s).mpr hl)
  · intro v hv; rw [hroot]; exact inv.wf.root_is_src v hv
  · intro v
    rw [hroot]
    constructor
    · intro e hk
      exact inv.wf.key_not_src v hk (e ▸ inv.wf.root_is_src v hk)
    · exact root_of_not_key
  · intro v hv; rw [hroot]; exact inv.wf.root_src hv
  · intro v; rw [hroot, hroot]; exact root_of_not_key (inv.wf.root_not_key v)
  · intro v a hv; rw [hroot, hroot]; exact ⟨inv.asg_root v a hv, inv.asg_self v a hv⟩

/-! ## 2. Order independence -/

/-- Swapping (component_1, variable_1) with (component_2, variable_2) does not change the direction — nor whether the
    connection is refused — for ANY two declared variables, whatever their interfaces and wherever the components sit:
    siblings need one `public_interface` `out` and the other `in`, and components that are neither siblings nor parent
    and child are refused. (cellmlmanip as handed over looked at `variable_1.public_interface` alone for siblings
    and tested only `_parent_of(comp_1, comp_2)`; both tests came with `fix:` commits of /repo, found through C17.)
    The one hypothesis excludes two components that are each other's parent, which `_add_relationships` does not
    refuse. -/
theorem direction_swap (par : ParentMap) (vt : VarTable) (c : Conn) (i1 i2 : VarInfo)
    (h1 : vt.lookup c.end1 = some i1) (h2 : vt.lookup c.end2 = some i2)
    (hmut : ¬ (par.lookup c.c2 = some c.c1 ∧ par.lookup c.c1 = some c.c2)) :
    direction par vt c.swap = direction par vt c := by
  -- swapped, the facing interfaces are the same two in the other order
  have hf : faces par c.swap i2 i1 = (faces par c i1 i2).map Prod.swap := by
    unfold faces
    show (if par.lookup c.c2 = par.lookup c.c1 then _ else if par.lookup c.c1 = some c.c2 then _
      else if par.lookup c.c2 = some c.c1 then _ else _) = _
    by_cases hs : par.lookup c.c1 = par.lookup c.c2
    · rw [if_pos hs, if_pos hs.symm]; rfl
    rw [if_neg hs, if_neg (Ne.symm hs)]
    by_cases hP : par.lookup c.c2 = some c.c1
    · rw [if_pos hP, if_neg fun q => hmut ⟨hP, q⟩, if_pos hP]; rfl
    · rw [if_neg hP]; split <;> rfl
  rw [direction_eq, direction_eq]
  show (match vt.lookup c.end2, vt.lookup c.end1 with | none, _ => _ | _, none => _ | some i1, some i2 => _) = _
  rw [h1, h2]
  dsimp only
  rw [hf]
  cases faces par c i1 i2 with
  | none => rfl
  | some p => obtain ⟨a, b⟩ := p; cases a <;> cases b <;> rfl

/-- A grandparent's private `out` variable and a grandchild's public `in` variable, not adjacent in the encapsulation
    hierarchy, are refused in both attribute orders. (cellmlmanip as handed over tested only `_parent_of(comp_1, comp_2)`
    and connected one of the two orders.) -/
theorem direction_nonadjacent_refused :
    let par : ParentMap := [("C", "P"), ("P", "G")]
    let vt : VarTable := [(("G", "x"), ⟨[], .none, .out, none, none, ""⟩), (("C", "x"), ⟨[], .inn, .none, none, none, ""⟩)]
    direction par vt ⟨"C", "x", "G", "x"⟩ = .error (.valueError "Cannot determine the source & target for connection") ∧
    direction par vt ⟨"G", "x", "C", "x"⟩ = .error (.valueError "Cannot determine the source & target for connection") := by
  decide

theorem connect_perm {reg : Registry} {vt : VarTable} {l l' : List (VRef × VRef)} {st st' : CState}
    (hp : l.Perm l') (h : connect reg vt l = .ok st) (h' : connect reg vt l' = .ok st') :
    ∀ v, rootOf st v = rootOf st' v :=
  connect_perm_root (fun _ => hp.mem_iff) h h'

/-- THE CHARACTERISATION of the connection sets the work list accepts (`Load.Resolvable`, stated without any order):
    (i) no variable is the target of two connections and no variable without `in` interface is a target,
    (ii) every source is fed from a variable without `in` interface through the connections (no unfed relay, no cycle),
    (iii) the two ends of every connection have convertible units, (iv) among the variables sharing one `assigned_to`
    at most one carries a cmeta id. `connect` succeeds iff the set is resolvable — in whatever order it is given. -/
theorem connect_ok_iff_resolvable (reg : Registry) (vt : VarTable) (cs : List (VRef × VRef)) :
    (∃ st, connect reg vt cs = .ok st) ↔ Resolvable reg vt cs :=
  ⟨fun ⟨_, h⟩ => resolvable_of_connect h, connect_of_resolvable⟩

/-- Success or failure of the work list is the same for every order of the connections. Only success against failure
    is compared: which exception a failing set raises depends on which fault the loop meets first (a target with two
    sources of which one has incompatible units: DimensionalityError or the "Target already assigned" ValueError); no
    example of this file exhibits two orders with different classes. -/
theorem connect_perm_outcome {reg : Registry} {vt : VarTable} {cs₁ cs₂ : List (VRef × VRef)} (hp : cs₁.Perm cs₂) :
    (∃ st, connect reg vt cs₁ = .ok st) ↔ (∃ st, connect reg vt cs₂ = .ok st) := by
  rw [connect_ok_iff_resolvable, connect_ok_iff_resolvable]
  exact ⟨Resolvable.perm hp, Resolvable.perm hp.symm⟩

/-- Outcome and roots together: if one order is resolved, every other order is resolved too and gives every variable
    the same root. -/
theorem connect_perm_total {reg : Registry} {vt : VarTable} {cs₁ cs₂ : List (VRef × VRef)} {st₁ : CState}
    (hp : cs₁.Perm cs₂) (h : connect reg vt cs₁ = .ok st₁) :
    ∃ st₂, connect reg vt cs₂ = .ok st₂ ∧ ∀ v, rootOf st₁ v = rootOf st₂ v :=
  connect_of_perm hp h

/-- the hypotheses of `direction_swap` for one connection: both variables exist, and the two components are not each
    other's parent -/
def SwapOK (par : ParentMap) (vt : VarTable) (c : Conn) : Prop :=
  ∃ i1 i2, vt.lookup c.end1 = some i1 ∧ vt.lookup c.end2 = some i2 ∧
    ¬ (par.lookup c.c2 = some c.c1 ∧ par.lookup c.c1 = some c.c2)

/-- Writing any subset of the connections of a document the other way round (component_1 ↔ component_2 together with
    variable_1 ↔ variable_2) gives the same list of directed connections, hence the same model. -/
theorem directAll_swap (comps : List String) (par : ParentMap) (vt : VarTable) (flip : Conn → Bool) :
    ∀ (ks : List Conn) (dl : List (VRef × VRef)), (∀ k ∈ ks, SwapOK par vt k) → directAll comps par vt ks = .ok dl →
      directAll comps par vt (ks.map (fun k => if flip k then k.swap else k)) = .ok dl := by
  intro ks dl hok h
  obtain ⟨hm, hc⟩ := directAll_ok h
  apply directAll_of_map
  · intro k' hk'
    obtain ⟨k, hk, rfl⟩ := List.mem_map.mp hk'
    split
    · exact ⟨(hc k hk).2, (hc k hk).1⟩
    · exact hc k hk
  · rw [List.map_map, ← hm]
    apply List.map_congr_left
    intro k hk
    obtain ⟨i1, i2, h1, h2, hmut⟩ := hok k hk
    show direction par vt (if flip k then k.swap else k) = direction par vt k
    split
    · exact direction_swap par vt k i1 i2 h1 h2 hmut
    · rfl

/-- The order of the `<connection>` / `<map_variables>` elements does not matter: two connection lists with the same
    members, both resolved, give every variable the same root. -/
theorem conns_order_irrelevant {comps : List String} {par : ParentMap} {vt : VarTable} {reg : Registry}
    {ks ks' : List Conn} {dl dl' : List (VRef × VRef)} {st st' : CState}
    (hk : ∀ k, k ∈ ks ↔ k ∈ ks') (h1 : directAll comps par vt ks = .ok dl) (h2 : directAll comps par vt ks' = .ok dl')
    (c1 : connect reg vt dl = .ok st) (c2 : connect reg vt dl' = .ok st') :
    ∀ v, rootOf st v = rootOf st' v :=
  connect_perm_root (directAll_mem_iff hk h1 h2) c1 c2

/-! ## 3. Substitution -/

/-- evaluating a renamed expression = evaluating the expression under the composed valuation -/
theorem eval_rename {α β υ φ : Type} (f : α → β) (g : υ → φ) (usc : φ → Rat) (σ : β → Rat) (δ : β → β → Rat)
    (e : Expr α υ) :
    (e.map f g).eval usc σ δ = e.eval (fun u => usc (g u)) (fun a => σ (f a)) (fun x t => δ (f x) (f t)) := by
  induction e with
  | num | var | diff => rfl
  | add a b iha ihb | sub a b iha ihb | mul a b iha ihb | div a b iha ihb => simp only [Expr.map, Expr.eval, iha, ihb]
  | neg a iha | powi a n iha => simp only [Expr.map, Expr.eval, iha]

theorem sat_rename {α β υ φ : Type} (f : α → β) (g : υ → φ) (usc : φ → Rat) (σ : β → Rat) (δ : β → β → Rat)
    (e : Eqn α υ) :
    (e.map f g).Sat usc σ δ ↔ e.Sat (fun u => usc (g u)) (fun a => σ (f a)) (fun x t => δ (f x) (f t)) := by
  unfold Eqn.Sat Eqn.map
  simp only [eval_rename]
  cases e.lhs <;> exact Iff.rfl

/-! ## 4. Soundness of loading -/

/-- what the theorems need of the interpretation of scales as numbers -/
structure DenOK (den : Scale → Rat) : Prop where
  congr : ∀ a b : Scale, a ≃ b → den a = den b
  one   : den [] = 1

/-- the executable interpretation (exact for integer exponents) is an instance -/
theorem denOK_denInt : DenOK denInt where
  congr a b h := by unfold denInt; rw [norm_eq_of_equiv h]
  one := by decide

/-- SI value of one document unit -/
def uscD (den : Scale → Rat) (L : Loaded) (u : String) : Rat := uscF den L.reg (unitF L.ust u)

/-- the document differentiates this variable (or one connected to it) -/
def IsState (doc : Doc) (L : Loaded) (v : VRef) : Prop :=
  ∃ c ∈ doc.comps, ∃ e ∈ c.eqs, ∃ x t, e.lhs = .diff x t ∧ rootOf L.st (c.name, x) = rootOf L.st v

/-- DOCUMENT SEMANTICS. `σ` (SI value of every (component, variable)) and `δ` (SI value of every derivative) satisfy the
    document: every equation of every component holds physically over the component's own variables; every
    connection equates its two ends (as functions of time: also under derivatives); a variable with an initial value
    that is not a state is that constant. -/
structure DocSat (doc : Doc) (L : Loaded) (den : Scale → Rat) (σ : VRef → Rat) (δ : VRef → VRef → Rat) : Prop where
  eqs    : ∀ c ∈ doc.comps, ∀ e ∈ c.eqs,
             e.Sat (uscD den L) (fun x => σ (c.name, x)) (fun x t => δ (c.name, x) (c.name, t))
  conns  : ∀ k ∈ doc.conns, σ k.end1 = σ k.end2
  dconn₁ : ∀ k ∈ doc.conns, ∀ y, δ k.end1 y = δ k.end2 y
  dconn₂ : ∀ k ∈ doc.conns, ∀ x, δ x k.end1 = δ x k.end2
  inits  : ∀ c ∈ doc.comps, ∀ d ∈ c.vars, ∀ q, d.init = some q → ¬ IsState doc L (c.name, d.name) →
             σ (c.name, d.name) = q * uscD den L d.units

/-- FLAT SEMANTICS: every equation of the flat model holds physically. -/
def FlatSat (den : Scale → Rat) (F : Flat) (τ : VRef → Rat) (δ : VRef → VRef → Rat) : Prop :=
  ∀ e ∈ F.eqs, e.Sat (uscF den F.reg) τ δ

/-- what RELAX NG validation guarantees and the theorems use: an initial value only on a variable without an `in`
    interface (cellml_1_0.rnc, `cellml.variable`) -/
def InitOnSources (doc : Doc) : Prop :=
  ∀ c ∈ doc.comps, ∀ d ∈ c.vars, d.init.isSome → d.pub ≠ .inn ∧ d.priv ≠ .inn

theorem load_flat {doc : Doc} {F : Flat} (h : load doc = .ok F) : ∃ L, prepare doc = .ok L ∧ F = L.flat doc :=
  load_prepare h

/-- the conversion factor of a connection equation, read with its unit `target.units / source.units`, is physically 1 -/
theorem conv_factor_one {reg : Registry} {su tu : Container} {cf : Scale} (h : Units.factor reg su tu = .ok cf) :
    PMap.add cf (Units.toRoot reg (PMap.sub tu su)).1 ≃ [] := by
  have hcf := Units.factor_ratio reg su tu cf h
  have h1 := (Units.toRoot_add reg tu (PMap.smul (-1) su)).1
  have h2 := (Units.toRoot_smul reg (-1) su).1
  intro p
  have e1 := h1 p
  have e2 := h2 p
  have e3 := hcf p
  simp only [PMap.sub, PMap.neg, get_add, get_smul, get_nil] at *
  rw [e3, e1, e2]
  -- exponent of the prime `p`, with `a`, `b` those of the scales of `su`, `tu`: `(a − b) + (b + (−1)·a) = 0`
  grind

theorem mem_mathsOf {ust : Units.Store} {st : CState} {comps : List Comp} {e : FlatEq} :
    e ∈ mathsOf ust st comps ↔ ∃ c ∈ comps, ∃ e0 ∈ c.eqs, e = transcribe ust st c.name e0 :=
  Load.mem_mathsOf

theorem state_iff {doc : Doc} {L : Loaded} {v : VRef} (hv : rootOf L.st v = v) :
    v ∈ L.states doc ↔ IsState doc L v := by
  unfold Loaded.states Loaded.maths IsState
  rw [mem_statesOf]
  constructor
  · rintro ⟨e, he, hd, hdef⟩
    obtain ⟨c, hc, e0, he0, rfl⟩ := mem_mathsOf.mp he
    refine ⟨c, hc, e0, he0, ?_⟩
    rw [transcribe_isDiff] at hd
    rw [transcribe_defines, lhsRoot] at hdef
    cases hl : e0.lhs with
    | var a => rw [hl] at hd; cases hd
    | diff x t => rw [hl] at hdef; exact ⟨x, t, rfl, hdef.trans hv.symm⟩
  · rintro ⟨c, hc, e0, he0, x, t, hl, hr⟩
    refine ⟨transcribe L.ust L.st c.name e0, mem_mathsOf.mpr ⟨c, hc, e0, he0, rfl⟩, ?_, ?_⟩
    · rw [transcribe_isDiff, hl]; rfl
    · rw [transcribe_defines, lhsRoot, hl]; exact hr.trans hv

theorem init_root_self {doc : Doc} {L : Loaded} (hprep : prepare doc = .ok L) (hvalid : InitOnSources doc)
    {c : Comp} (hc : c ∈ doc.comps) {d : VarDecl} (hd : d ∈ c.vars) (hi : d.init.isSome) :
    rootOf L.st (c.name, d.name) = (c.name, d.name) := by
  obtain ⟨_, _, hvt, _, _, hconn⟩ := prepare_parts hprep
  apply rootOf_src hconn
  have hm : entry L.ust c.name d ∈ L.vt := by rw [hvt]; exact mem_varTable.mpr ⟨c, hc, d, hd, rfl⟩
  obtain ⟨h1, h2⟩ := hvalid c hc d hd hi
  exact src_of_mem hm (isSrc_of_ne_inn h1 h2)

/-- **Soundness at the level of `prepare`**: every physical solution of the flat model `L.flat doc`, read through
    `root`, is a physical solution of the document. The two checks `load` makes after `prepare` play no part. -/
theorem prepare_sound {doc : Doc} {L : Loaded} {den : Scale → Rat} (hprep : prepare doc = .ok L)
    (hvalid : InitOnSources doc) (τ : VRef → Rat) (δ : VRef → VRef → Rat) (hsat : FlatSat den (L.flat doc) τ δ) :
    DocSat doc L den (fun v => τ (rootOf L.st v)) (fun x t => δ (rootOf L.st x) (rootOf L.st t)) := by
  obtain ⟨hconns, _⟩ := loaded_facts hprep
  obtain ⟨_, _, hvt, _⟩ := prepare_parts hprep
  have hF : ∀ e, e ∈ L.st.convs.map ConvEq.toEq ++ L.maths doc ++ constsOf (L.states doc) L.vt →
      e.Sat (uscF den L.reg) τ δ := hsat
  refine ⟨?_, ?_, ?_, ?_, ?_⟩
  · intro c hc e he
    have hm : transcribe L.ust L.st c.name e ∈ L.maths doc := mem_mathsOf.mpr ⟨c, hc, e, he, rfl⟩
    have := hF _ (List.mem_append_left _ (List.mem_append_right _ hm))
    exact (sat_rename (fun x => rootOf L.st (c.name, x)) (unitF L.ust) (uscF den L.reg) τ δ e).mp this
  · intro k hk; simp only [hconns k hk]
  · intro k hk y; simp only [hconns k hk]
  · intro k hk x; simp only [hconns k hk]
  · intro c hc d hd q hq hns
    have hself := init_root_self hprep hvalid hc hd (by rw [hq]; rfl)
    have hnot : (c.name, d.name) ∉ L.states doc := fun hs => hns ((state_iff hself).mp hs)
    have hm : entry L.ust c.name d ∈ L.vt := by rw [hvt]; exact mem_varTable.mpr ⟨c, hc, d, hd, rfl⟩
    have hcm : (⟨.var (c.name, d.name), .num q (unitF L.ust d.units)⟩ : FlatEq) ∈ constsOf (L.states doc) L.vt :=
      mem_constsOf.mpr ⟨_, _, q, hm, hnot, hq, rfl⟩
    have := hF _ (List.mem_append_right _ hcm)
    simp only [Eqn.Sat, Lhs.eval, Expr.eval] at this
    show τ (rootOf L.st (c.name, d.name)) = q * uscD den L d.units
    rw [hself]; exact this

/-- `prepare_sound` for a document that `load` accepts -/
theorem load_sound {doc : Doc} {F : Flat} {den : Scale → Rat} (hload : load doc = .ok F) (hvalid : InitOnSources doc)
    (τ : VRef → Rat) (δ : VRef → VRef → Rat) (hsat : FlatSat den F τ δ) :
    ∃ L, prepare doc = .ok L ∧
      DocSat doc L den (fun v => τ (rootOf L.st v)) (fun x t => δ (rootOf L.st x) (rootOf L.st t)) := by
  obtain ⟨L, hprep, rfl⟩ := load_prepare hload
  exact ⟨L, hprep, prepare_sound hprep hvalid τ δ hsat⟩

/-- `load_sound` in magnitudes: if `ν` gives every flat variable its magnitude in its declared unit (`sc x ≠ 0` the SI
    scale of that unit) then the magnitude of a document variable `(c, v)` in ITS declared unit is
    `ν (root (c,v)) · sc (root (c,v)) / sc (c,v)` — the value of its ultimate source times the ratio of the unit scales. -/
theorem load_sound_numeric {doc : Doc} {F : Flat} {den : Scale → Rat} (hload : load doc = .ok F)
    (hvalid : InitOnSources doc) (ν sc : VRef → Rat) (hsc : ∀ v, sc v ≠ 0) (δ : VRef → VRef → Rat)
    (hsat : FlatSat den F (fun x => ν x * sc x) δ) :
    ∃ L, prepare doc = .ok L ∧
      DocSat doc L den (fun v => (ν (rootOf L.st v) * sc (rootOf L.st v) / sc v) * sc v)
        (fun x t => δ (rootOf L.st x) (rootOf L.st t)) := by
  obtain ⟨L, hprep, h⟩ := load_sound hload hvalid (fun x => ν x * sc x) δ hsat
  refine ⟨L, hprep, ?_⟩
  have e : (fun v => (ν (rootOf L.st v) * sc (rootOf L.st v) / sc v) * sc v) =
      (fun v => ν (rootOf L.st v) * sc (rootOf L.st v)) := by
    funext v
    exact Rat.div_mul_cancel (hsc v)
  rw [e]; exact h

/-- **Completeness at the level of `prepare`**, the converse of `prepare_sound`: every physical solution of the document
    is, as it stands, a physical solution of the flat model `L.flat doc` (the flat variables ARE document variables). -/
theorem prepare_complete {doc : Doc} {L : Loaded} {den : Scale → Rat} (hden : DenOK den) (hprep : prepare doc = .ok L)
    (hvalid : InitOnSources doc) (σ : VRef → Rat) (δ : VRef → VRef → Rat) (hsat : DocSat doc L den σ δ) :
    FlatSat den (L.flat doc) σ δ := by
  obtain ⟨_, hmap⟩ := loaded_facts hprep
  obtain ⟨_, _, hvt, _, _, hconn⟩ := prepare_parts hprep
  have inv := connect_inv hconn
  have hroot := connect_rootOf hconn
  -- a function that agrees on the two ends of every connection (as `σ` and `δ` do) agrees on a variable and its root
  have resp : ∀ {β : Type} (f : VRef → β), (∀ k ∈ doc.conns, f k.end1 = f k.end2) → ∀ v, f (rootOf L.st v) = f v := by
    intro β f hf v
    rw [hroot]
    apply root_respects f
    intro t s hm
    obtain ⟨k, hk, h | h⟩ := hmap t s hm
    · rw [h.1, h.2]; exact hf k hk
    · rw [h.1, h.2]; exact (hf k hk).symm
  have hσ := resp σ hsat.conns
  have hδ₁ : ∀ x y, δ (rootOf L.st x) y = δ x y := fun x y => resp (fun x => δ x y) (fun k hk => hsat.dconn₁ k hk y) x
  have hδ₂ : ∀ x y, δ x (rootOf L.st y) = δ x y := fun x y => resp (fun y => δ x y) (fun k hk => hsat.dconn₂ k hk x) y
  intro e he
  have he' : e ∈ L.st.convs.map ConvEq.toEq ++ L.maths doc ++ constsOf (L.states doc) L.vt := he
  simp only [List.mem_append] at he'
  rcases he' with (he' | he') | he'
  · obtain ⟨ce, hce, rfl⟩ := List.mem_map.mp he'
    obtain ⟨_, _, hr, hf⟩ := inv.conv_ok ce hce
    have h1 : uscF den L.reg (ce.cf, PMap.sub ce.tu ce.su) = 1 := by
      unfold uscF; rw [hden.congr _ _ (conv_factor_one hf), hden.one]
    have h2 : σ ce.src = σ ce.target := by
      rw [← hσ ce.src, ← hσ ce.target, hroot, hroot, hr]
    show σ ce.target = σ ce.src * (1 * uscF den L.reg (ce.cf, PMap.sub ce.tu ce.su))
    rw [h1, h2]; grind  -- `x = x * (1 * 1)`
  · obtain ⟨c, hc, e0, he0, rfl⟩ := mem_mathsOf.mp he'
    apply (sat_rename (fun x => rootOf L.st (c.name, x)) (unitF L.ust) (uscF den L.reg) σ δ e0).mpr
    have := hsat.eqs c hc e0 he0
    simp only [hσ, hδ₁, hδ₂]
    exact this
  · obtain ⟨v, i, q, hm, hns, hi, rfl⟩ := mem_constsOf.mp he'
    rw [hvt] at hm
    obtain ⟨c, hc, d, hd, hentry⟩ := mem_varTable.mp hm
    cases hentry
    have hq : d.init = some q := hi
    have hself := init_root_self hprep hvalid hc hd (by rw [hq]; rfl)
    have hnot : ¬ IsState doc L (c.name, d.name) := fun hs => hns ((state_iff hself).mpr hs)
    exact hsat.inits c hc d hd q hq hnot

/-- `prepare_complete` for a document that `load` accepts (the `L` of the hypothesis is the one `load` went through) -/
theorem load_complete {doc : Doc} {F : Flat} {den : Scale → Rat} (hden : DenOK den) (hload : load doc = .ok F)
    (hvalid : InitOnSources doc) (σ : VRef → Rat) (δ : VRef → VRef → Rat)
    (L : Loaded) (hprep : prepare doc = .ok L) (hsat : DocSat doc L den σ δ) :
    FlatSat den F σ δ := by
  obtain ⟨L', hprep', rfl⟩ := load_prepare hload
  cases hprep.symm.trans hprep'
  exact prepare_complete hden hprep hvalid σ δ hsat

/-! ## 5. Non-vacuity: a 3-component relay with mV → V -/

/-- membrane (owns `V` in mV, `V = 2 mV + 0.5 V`) ⊃ channel (relays `V` in volt to its child) ⊃ gate (reads `v` in mV,
    `y = v + 1 mV`). Connections are written child-first and the file order is reversed. -/
def relayDoc : Doc :=
  { units := [.derived "mV" [{ units := "volt", pfx := some "milli" }]]
    comps := [
      ⟨"gate", [⟨"v", "mV", .inn, .none, none, none⟩, ⟨"y", "mV", .none, .none, none, none⟩],
        [⟨.var "y", .add (.var "v") (.num 1 "mV")⟩]⟩,
      ⟨"channel", [⟨"V", "volt", .inn, .out, none, none⟩], []⟩,
      ⟨"membrane", [⟨"V", "mV", .none, .out, none, none⟩],
        [⟨.var "V", .add (.num 2 "mV") (.num (1/2) "volt")⟩]⟩]
    encaps := [(none, "membrane"), (some "membrane", "channel"), (some "channel", "gate")]
    conns := [⟨"gate", "v", "channel", "V"⟩, ⟨"channel", "V", "membrane", "V"⟩] }

def relayUnits : Registry × Units.Store :=
  match buildUnits relayDoc.units (Units.builtinRegistry, { id := 0, known := [] }) with
  | .ok p => p
  | .error _ => ([], { id := 0, known := [] })
def relayNames : List String := relayDoc.comps.map (·.name)
def relayVt : VarTable := varTable relayUnits.2 relayDoc.comps
def relayPar : ParentMap :=
  match buildParents relayNames relayDoc.encaps [] [] with
  | .ok p => p
  | .error _ => []
def relayDl : List (VRef × VRef) :=
  match directAll relayNames relayPar relayVt relayDoc.conns with
  | .ok d => d
  | .error _ => []
def relaySt : CState :=
  match connectLoopF relayUnits.1 relayVt 10 relayDl 0 (initState relayVt) with
  | some (.ok st) => st
  | _ => initState relayVt
def relayL : Loaded := ⟨relayUnits.1, relayUnits.2, relayVt, relayPar, relayDl, relaySt⟩

/-- The stages of the loader run once on the relay document, the work list in both orders of the two connections. All
    seven facts are one kernel evaluation, because the kernel runs `buildUnits` and the unit conversions of the work list
    again for every statement that mentions `relayUnits` or `relaySt`: the stage results
    that `relay_prepare` and `relay_connect` need, and the values of the four definitions that rest on the units (`relayPar`
    does not), so that every later evaluation about the relay starts from literals (`rw` with them first).
    The first connection of the file (gate ← channel) cannot be resolved before the second: the deque is rotated once;
    in the other order it is not, and the final state is the same.
    The fuel `10` (`20` in `relay_refused`) is any number not below `C17.stepBound n 0`, 7 for two connections and 16 for
    four: a run of `connectLoopF` that returns is a run of `connect` (`connect_of_fuel`). -/
theorem relay_run :
    buildUnits relayDoc.units (Units.builtinRegistry, { id := 0, known := [] }) = .ok (relayUnits.1, relayUnits.2) ∧
    connectLoopF relayUnits.1 relayVt 10 relayDl 0 (initState relayVt) = some (.ok relaySt) ∧
    connectLoopF relayUnits.1 relayVt 10 relayDl.reverse 0 (initState relayVt) = some (.ok relaySt) ∧
    relayUnits = (("store0_mV", .derived [(2, -3), (5, -3)] [("volt", 1)]) :: Units.builtinRegistry, ⟨0, ["mV"]⟩) ∧
    relayVt = [(("gate", "v"), ⟨[("store0_mV", 1)], .inn, .none, none, none, "mV"⟩),
      (("gate", "y"), ⟨[("store0_mV", 1)], .none, .none, none, none, "mV"⟩),
      (("channel", "V"), ⟨[("volt", 1)], .inn, .out, none, none, "volt"⟩),
      (("membrane", "V"), ⟨[("store0_mV", 1)], .none, .out, none, none, "mV"⟩)] ∧
    relayDl = [(("channel", "V"), ("gate", "v")), (("membrane", "V"), ("channel", "V"))] ∧
    relaySt =
      { assigned := [(("gate", "v"), ("gate", "v")), (("channel", "V"), ("channel", "V")), (("gate", "y"), ("gate", "y")),
          (("membrane", "V"), ("membrane", "V"))]
        mapping := [(("gate", "v"), ("channel", "V")), (("channel", "V"), ("membrane", "V"))]
        convs := [⟨("channel", "V"), ("membrane", "V"), [(2, -3), (5, -3)], [("volt", 1)], [("store0_mV", 1)]⟩,
          ⟨("gate", "v"), ("channel", "V"), [(2, 3), (5, 3)], [("store0_mV", 1)], [("volt", 1)]⟩]
        cmeta := [(("gate", "v"), none), (("gate", "y"), none), (("channel", "V"), none), (("membrane", "V"), none)] } := by
  decide +kernel

theorem relay_connect : connect relayUnits.1 relayVt relayDl = .ok relaySt :=
  connect_of_fuel 10 relay_run.2.1

theorem relay_prepare : prepare relayDoc = .ok relayL := by
  obtain ⟨hb, -, -, hU, hV, hD, -⟩ := relay_run
  refine prepare_of_parts (chk := ([("membrane", "V"), ("channel", "V"), ("gate", "y"), ("gate", "v")], []))
    hb ?_ (by decide +kernel) ?_ relay_connect
  · rw [hU]; decide +kernel
  · show directAll relayNames relayPar relayVt relayDoc.conns = .ok relayDl
    rw [hV, hD]; decide +kernel

theorem relay_load : load relayDoc = .ok (relayL.flat relayDoc) := by
  obtain ⟨-, -, -, hU, hV, hD, hS⟩ := relay_run
  refine load_of_parts (defined := [("membrane", "V"), ("gate", "y"), ("channel", "V"), ("gate", "v")])
    relay_prepare ?_ ?_ <;>
  · rw [relayL, hS, hD, hV, hU]; decide +kernel

/-- the flat model: two conversion equations (mV → volt with factor 10⁻³, volt → mV with factor 10³), and the two
    component equations, in which `gate$v` has been replaced by its ultimate source `membrane$V` -/
example : (relayL.flat relayDoc).eqs =
    [⟨.var ("channel", "V"), .mul (.var ("membrane", "V")) (.num 1 ([(2, -3), (5, -3)], [("volt", 1), ("store0_mV", -1)]))⟩,
     ⟨.var ("gate", "v"), .mul (.var ("channel", "V")) (.num 1 ([(2, 3), (5, 3)], [("store0_mV", 1), ("volt", -1)]))⟩,
     ⟨.var ("gate", "y"), .add (.var ("membrane", "V")) (.num 1 ([], [("store0_mV", 1)]))⟩,
     ⟨.var ("membrane", "V"), .add (.num 2 ([], [("store0_mV", 1)])) (.num (1/2) ([], [("volt", 1)]))⟩] := by
  obtain ⟨-, -, -, hU, hV, hD, hS⟩ := relay_run
  rw [relayL, hS, hD, hV, hU]; decide +kernel

example : rootOf relaySt ("gate", "v") = ("membrane", "V") ∧ rootOf relaySt ("channel", "V") = ("membrane", "V") ∧
    relaySt.asg ("gate", "v") = some ("gate", "v") ∧
    (initAssigned relayVt).lookup ("membrane", "V") = some ("membrane", "V") := by
  obtain ⟨-, -, -, -, hV, -, hS⟩ := relay_run
  rw [hS, hV]; decide +kernel

/-- `connect_perm` is not vacuous: the other order of the two connections is resolved too (without rotation) -/
example : ∃ st', connect relayUnits.1 relayVt relayDl.reverse = .ok st' ∧ relayDl.Perm relayDl.reverse :=
  ⟨_, connect_of_fuel 10 relay_run.2.2.1, (List.reverse_perm _).symm⟩

/-- `direction_swap` is not vacuous: the parent-child connection gate–channel satisfies its hypotheses -/
example : direction relayPar relayVt (Conn.swap ⟨"gate", "v", "channel", "V"⟩) =
    direction relayPar relayVt ⟨"gate", "v", "channel", "V"⟩ := by
  obtain ⟨-, -, -, -, hV, -, -⟩ := relay_run
  rw [hV]; decide +kernel

theorem relay_valid : InitOnSources relayDoc := by
  unfold InitOnSources; decide +kernel

/-- a physical solution of the flat model: V = 2 mV + 0.5 V = 0.502 V everywhere, y = 0.503 V -/
def relayτ (v : VRef) : Rat := if v = ("gate", "y") then 503 / 1000 else 502 / 1000

theorem relay_flatSat : FlatSat denInt (relayL.flat relayDoc) relayτ (fun _ _ => 0) := by
  obtain ⟨-, -, -, hU, hV, hD, hS⟩ := relay_run
  unfold FlatSat
  rw [relayL, hS, hD, hV, hU, Units.builtinRegistry_eq]; decide +kernel

/-- `load_sound` applied: the document's own equations and connections hold of the flat solution read through `root` -/
example : ∃ L, prepare relayDoc = .ok L ∧
    DocSat relayDoc L denInt (fun v => relayτ (rootOf L.st v)) (fun _ _ => 0) :=
  load_sound relay_load relay_valid relayτ (fun _ _ => 0) relay_flatSat

/-- and back (`load_complete`): that document solution solves the flat model -/
example (σ : VRef → Rat) (δ : VRef → VRef → Rat) (h : DocSat relayDoc relayL denInt σ δ) :
    FlatSat denInt (relayL.flat relayDoc) σ δ :=
  load_complete denOK_denInt relay_load relay_valid σ δ relayL relay_prepare h

/-- `connect_ok_iff_resolvable`, both sides inhabited: the relay is resolvable … -/
example : Resolvable relayUnits.1 relayVt relayDl :=
  (connect_ok_iff_resolvable _ _ _).mp ⟨_, relay_connect⟩

/-- a second source for `channel$V`: `gate$y` -/
def twoSources : List (VRef × VRef) := [(("membrane", "V"), ("channel", "V")), (("gate", "y"), ("channel", "V"))]

/-- the two units of the relay document on their own -/
def relaySmall : Registry := [("store0_mV", .derived [(2, -3), (5, -3)] [("volt", 1)]), ("volt", .base none)]

/-- The factors between the units of the relay are the same in `relaySmall`. On the built-in registry they are not
    evaluated again: they are read off the conversion equations of `relaySt` (`Inv.conv_ok`). -/
theorem relay_fac (c : VRef × VRef) (hc : c ∈ twoSources ++ relayDl) :
    Units.factor relayUnits.1 (unitsOf relayVt c.1) (unitsOf relayVt c.2) =
      Units.factor relaySmall (unitsOf relayVt c.1) (unitsOf relayVt c.2) := by
  obtain ⟨-, -, -, -, hV, hD, hS⟩ := relay_run
  have inv := connect_inv relay_connect
  rw [hS] at inv
  have h1 := (inv.conv_ok _ List.mem_cons_self).2.2.2
  have h2 := (inv.conv_ok _ (List.mem_cons_of_mem _ List.mem_cons_self)).2.2.2
  have hu : ∀ c ∈ twoSources ++ relayDl,
      (unitsOf relayVt c.1 = [("store0_mV", 1)] ∧ unitsOf relayVt c.2 = [("volt", 1)]) ∨
      (unitsOf relayVt c.1 = [("volt", 1)] ∧ unitsOf relayVt c.2 = [("store0_mV", 1)]) := by
    rw [hD, hV]; decide +kernel
  rcases hu c hc with ⟨e1, e2⟩ | ⟨e1, e2⟩ <;> rw [e1, e2]
  · exact h1.trans (by decide +kernel)
  · exact h2.trans (by decide +kernel)

/-- … so the work list on connections of the relay may be run over `relaySmall` (`loopF_congr`) -/
theorem relay_loop (n : Nat) (l : List (VRef × VRef)) (hl : ∀ c ∈ l, c ∈ twoSources ++ relayDl) :
    connectLoopF relayUnits.1 relayVt n l 0 (initState relayVt) =
      connectLoopF relaySmall relayVt n l 0 (initState relayVt) := by
  rw [← loopF_stepConn, ← loopF_stepConn]
  exact loopF_congr _ _ _ _ fun c hc => stepConn_reg (relay_fac c (hl c hc))

/-- the refused work lists of the examples below, run in one evaluation -/
theorem relay_refused :
    connect relayUnits.1 relayVt twoSources = .error (.valueError "Target already assigned") ∧
    connect relayUnits.1 relayVt twoSources.reverse = .error (.valueError "Target already assigned") ∧
    connect relayUnits.1 relayVt (twoSources ++ relayDl) = .error (.valueError "Target already assigned") ∧
    connect relayUnits.1 relayVt [(("channel", "V"), ("gate", "v"))] =
      .error (.assertion "Unable to add connections to the model") := by
  obtain ⟨-, -, -, -, hV, hD, -⟩ := relay_run
  suffices h : _ ∧ _ ∧ _ ∧ _ from
    ⟨connect_of_fuel 10 h.1, connect_of_fuel 10 h.2.1, connect_of_fuel 20 h.2.2.1, connect_of_fuel 10 h.2.2.2⟩
  rw [relay_loop 10 twoSources fun c hc => List.mem_append_left _ hc,
    relay_loop 10 twoSources.reverse fun c hc => List.mem_append_left _ (List.mem_reverse.mp hc),
    relay_loop 20 (twoSources ++ relayDl) fun _ hc => hc,
    relay_loop 10 [(("channel", "V"), ("gate", "v"))] fun c hc => by
      rw [List.mem_singleton.mp hc, hD]; decide]
  rw [hD, hV]; decide +kernel

/-- … while a second source for `channel$V` is refused in both orders (ValueError in both), -/
example : connect relayUnits.1 relayVt twoSources = .error (.valueError "Target already assigned") ∧
    connect relayUnits.1 relayVt twoSources.reverse = .error (.valueError "Target already assigned") ∧
    ¬ Resolvable relayUnits.1 relayVt twoSources := by
  obtain ⟨h1, h2, -, -⟩ := relay_refused
  refine ⟨h1, h2, fun R => ?_⟩
  obtain ⟨st, hst⟩ := (connect_ok_iff_resolvable _ _ _).mpr R
  rw [h1] at hst; cases hst

/-- … and a relay nobody feeds (`channel$V` has an `in` interface and no incoming connection) stops the loop with the
    `assert` (AssertionError): not resolvable either. -/
example : connect relayUnits.1 relayVt [(("channel", "V"), ("gate", "v"))] =
      .error (.assertion "Unable to add connections to the model") ∧
    ¬ Resolvable relayUnits.1 relayVt [(("channel", "V"), ("gate", "v"))] := by
  have h1 := relay_refused.2.2.2
  refine ⟨h1, fun R => ?_⟩
  obtain ⟨st, hst⟩ := (connect_ok_iff_resolvable _ _ _).mpr R
  rw [h1] at hst; cases hst

/-- `connect_perm_outcome` applied: a refused set is refused in the reversed order too (no evaluation of that order) -/
example (st : CState) : connect relayUnits.1 relayVt (twoSources ++ relayDl).reverse ≠ .ok st := by
  intro h
  obtain ⟨st', h'⟩ := (connect_perm_outcome (List.reverse_perm _)).mp ⟨st, h⟩
  rw [relay_refused.2.2.1] at h'; cases h'

end Cellml.Props.C01
