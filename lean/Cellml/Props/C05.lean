import Cellml.Expr.Semantics
import Cellml.Expr.Local
import Cellml.Props.C07

/-! # C05 — converting an expression to other units preserves its physical value

    The property: the result of `convert_expression_recursively` (a) read as plain numbers in the reported unit has the
    physical value of the original, (b) passes strict unit inference with a unit equivalent to the reported one,
    (c) is the very same object when nothing needed converting; invalid expressions and unreachable targets raise.
    Model: `Convert.convert` (`UnitCalculator.convert_expression_recursively` of units.py, branch by branch) over
    the mini-pint of C07. Semantics: `Sem.evalNum` (plain arithmetic on magnitudes) and `Sem.evalPhys` (the physical
    quantity denoted) over ANY ordered field with an interpretation `Sem.Interp` of scales, rational powers and
    functions whose laws are hypotheses (fields of the structure). Every theorem quantifies over all registries, all
    variable environments, all expressions (induction on the expression; no bound on size or depth), all targets
    (or none), all valuations of variables and derivatives. The tie to cellmlmanip: `Cellml/Tie/Convert.lean` (the
    generated function is the model), `Cellml/Props/C05Gen.lean` (these theorems for the generated function), and the
    correspondence check `harness/props/c05.py`. -/

namespace Cellml.Props.C05
open Units Infer Convert Sem PMap

variable {K : Type} [Field K] [LinearOrder K] [IsStrictOrderedRing K]

/-- registry with `mV = 10⁻³ volt` on top of the built-in units -/
def regMV : Registry := ("mV", .derived (pow10 (-3)) [("volt", 1)]) :: builtinRegistry

/-- the closed examples over `regMV` are evaluated over `mV` and the entries of `commonUnits` (`Expr/Local.lean`) -/
theorem regMV_closed : closedB ("mV" :: commonUnits) regMV = true := by rw [regMV, builtinRegistry_eq]; decide +kernel
theorem restrict_regMV : restrict ("mV" :: commonUnits) regMV =
    ("mV", .derived (pow10 (-3)) [("volt", 1)]) :: restrict commonUnits builtinRegistry := by
  rw [regMV, restrict_commonUnits, builtinRegistry_eq]; decide +kernel

/-! ## 1. `maybe_convert_expr` -/

theorem maybeConv_spec {reg : Registry} {ex : E} {wc : Bool} {frm : Container} {tgt : Option Container} {same : Bool}
    {r : CR} (h : maybeConv reg ex wc frm tgt same = .ok r) :
    (tgt = none ∧ r = ⟨ex, wc, frm, same⟩) ∨
    (∃ t, tgt = some t ∧ factor reg frm t = .ok [] ∧ r = ⟨ex, wc, t, same⟩) ∨
    (∃ t f, tgt = some t ∧ factor reg frm t = .ok f ∧ f ≠ [] ∧ f ≃ sub (toRoot reg frm).1 (toRoot reg t).1 ∧
        r = ⟨.mul (.cf f (divC t frm)) ex, true, t, false⟩) := by
  rcases Convert.maybeConv_spec h with h1 | h2 | ⟨t, f, ht, hf, hne, hr⟩
  · exact Or.inl h1
  · exact Or.inr (Or.inl h2)
  · exact Or.inr (Or.inr ⟨t, f, ht, hf, hne, factor_ratio reg frm t f hf, hr⟩)

/-- `maybe_convert_expr` preserves the physical value: magnitude × SI scale of the unit is unchanged, and so is the
    dimension -/
theorem maybeConv_value (I : Interp K) (ρ : Nat → K) (δ : Nat → Nat → K) {reg : Registry} {ex : E} {wc : Bool}
    {frm : Container} {tgt : Option Container} {same : Bool} {r : CR}
    (h : maybeConv reg ex wc frm tgt same = .ok r) :
    evalNum I ρ δ r.e * I.φ (scaleOf reg r.u) = evalNum I ρ δ ex * I.φ (scaleOf reg frm) ∧
    dimsOf reg r.u ≃ dimsOf reg frm := by
  rcases maybeConv_spec h with ⟨_, rfl⟩ | ⟨t, _, hf, rfl⟩ | ⟨t, f, _, hf, _, hrat, rfl⟩
  · exact ⟨rfl, PMap.Equiv.refl _⟩
  · have hrat := factor_ratio reg frm t [] hf
    refine ⟨?_, (equiv_of_beq ((factor_ok_iff reg frm t []).mp hf).2.2.1).symm⟩
    simp only
    rw [φ_scaleOf, φ_scaleOf, I.φ_eq_of_sub_nil hrat.symm]
  · refine ⟨?_, (equiv_of_beq ((factor_ok_iff reg frm t f).mp hf).2.2.1).symm⟩
    simp only [evalNum]
    rw [φ_scaleOf, φ_scaleOf, I.φ_congr hrat, I.φ_sub]
    have := I.φ_ne (toRoot reg t).1
    field_simp

/-! ## 2. with an explicit target the result is in the target unit -/

/-- every construct returns the target itself; those that can only be dimensionless (relations, functions, `And`/`Or`/
    `Not`, numbers) return `dimensionless` and accept no other target, so `actual_units == to_units` in every case -/
theorem convert_target {reg : Registry} {Γ : VarEnv} {ex : E} {t : Container} {r : CR}
    (h : convert reg Γ ex (some t) = .ok r) : r.u = t := Convert.convert_target ex t r h

theorem convert_target_root {reg : Registry} {Γ : VarEnv} {ex : E} {t : Container} {r : CR}
    (h : convert reg Γ ex (some t) = .ok r) : Units.toRoot reg r.u ≃₂ Units.toRoot reg t := by
  rw [convert_target h]; exact Equiv₂.refl _

theorem convert_target_dimless {reg : Registry} {Γ : VarEnv} {ex : E} {t : Container} {r : CR}
    (hex : (∃ rr a b, ex = .rel rr a b) ∨ (∃ f a, ex = .fn1 f a) ∨ (∃ f a b, ex = .fnN f a b) ∨
           (∃ a b, ex = .and a b) ∨ (∃ a b, ex = .or a b) ∨ (∃ a, ex = .not a) ∨ isNumLeaf ex = true)
    (h : convert reg Γ ex (some t) = .ok r) : r.u = [] ∧ t = [] := by
  have ht : t = [] := by
    rcases hex with ⟨rr, a, b, rfl⟩ | ⟨f, a, rfl⟩ | ⟨f, a, b, rfl⟩ | ⟨a, b, rfl⟩ | ⟨a, b, rfl⟩ | ⟨a, rfl⟩ | hl
    · exact dimlessTarget_some (convert_rel_inv h).1
    · exact dimlessTarget_some (convert_fn1_inv h).1
    · exact dimlessTarget_some (convert_fnN_inv h).1
    · exact dimlessTarget_some (convert_and_inv h).1
    · exact dimlessTarget_some (convert_or_inv h).1
    · exact dimlessTarget_some (convert_not_inv h).1
    · exact dimlessTarget_some (convert_numLeaf_inv hl h).1
  exact ⟨(convert_target h).trans ht, ht⟩

/-! ## 3. (a) the physical value is preserved -/

/-! Sorts: `arithS` — terms built from the operators that have a physical value (everything except `floor`/`ceiling`,
    `oo`/`nan`, an empty Piecewise and unknown constructs), with conditions in condition position; `boolS` — conditions
    (relations between such terms, `And`/`Or`/`Not`, `true`/`false`). One induction over these sorts: a successful
    conversion certifies that the expression denotes, and its result read in the reported unit is what it denotes. -/

mutual
def arithS : E → Bool
  | .qty _ _ | .cf _ _ | .var _ | .deriv _ _ | .int _ | .rat _ | .flt _ | .pi | .e => true
  | .add a b | .mul a b | .pow a b | .fnN _ a b => arithS a && arithS b
  | .abs a | .fn1 _ a => arithS a
  | .ite c t el => boolS c && arithS t && (decide (el = .undef) || arithS el)
  | _ => false
def boolS : E → Bool
  | .rel _ a b => arithS a && arithS b
  | .and a b | .or a b => boolS a && boolS b
  | .not a => boolS a
  | .tt | .ff => true
  | _ => false
end

section value
variable (I : Interp K) (reg : Registry) (Γ : VarEnv) (ρ : Nat → K) (δ : Nat → Nat → K)

/-- a converted term denotes a physical quantity, and the result read as plain numbers in the reported unit is it -/
def DenA (ex : E) : Prop :=
  arithS ex = true → ∀ (tgt : Option Container) (r : CR), convert reg Γ ex tgt = .ok r →
    ∃ x d, evalPhys I reg Γ ρ δ ex = some (x, d) ∧
      evalNum I ρ δ r.e * I.φ (scaleOf reg r.u) = x ∧ dimsOf reg r.u ≃ d

/-- a converted condition has a truth value, and the result has it -/
def DenB (ex : E) : Prop :=
  boolS ex = true → ∀ (tgt : Option Container) (r : CR), convert reg Γ ex tgt = .ok r →
    ∃ p, physB I reg Γ ρ δ ex = some p ∧ evalB I ρ δ r.e = p

variable {I reg Γ ρ δ}

theorem sound_leaf {ex : E} {frm : Container} {x : K} {d : Dims}
    (hx : evalNum I ρ δ ex * I.φ (scaleOf reg frm) = x) (hd : dimsOf reg frm ≃ d)
    {tgt : Option Container} {r : CR} (h : maybeConv reg ex false frm tgt true = .ok r) :
    evalNum I ρ δ r.e * I.φ (scaleOf reg r.u) = x ∧ dimsOf reg r.u ≃ d := by
  obtain ⟨h1, h2⟩ := maybeConv_value I ρ δ h
  exact ⟨h1.trans hx, h2.trans hd⟩

theorem den_dimless {ex : E} {r : CR} {x : K} {d : Dims} (h : convert reg Γ ex (some []) = .ok r)
    (hx : evalNum I ρ δ r.e * I.φ (scaleOf reg r.u) = x) (hd : dimsOf reg r.u ≃ d) :
    evalNum I ρ δ r.e = x ∧ r.u = [] ∧ PMap.isZero d = true := by
  have hu : r.u = [] := convert_target h
  rw [hu] at hd
  rw [hu, φ_scaleOf_nil, mul_one] at hx
  exact ⟨hx, hu, (PMap.isZero_iff d).mpr (hd.symm.trans (dimsOf_nil reg))⟩

variable (I reg Γ ρ δ)

/-- the quantity of every node is computed forwards from those of its operands (`evalPhys` is never inverted); the
    dimension tests of `evalPhys` hold because the later operands come back in the unit of the first -/
theorem convert_denotes : ∀ ex : E, DenA I reg Γ ρ δ ex ∧ DenB I reg Γ ρ δ ex := by
  intro ex
  induction ex with
  | qty _ _ | cf _ _ =>
      refine ⟨fun _ tgt r h => ?_, nofun⟩
      simp only [Convert.convert] at h
      exact ⟨_, _, rfl, sound_leaf (by simp only [evalNum]) (PMap.Equiv.refl _) h⟩
  | var i =>
      refine ⟨fun _ tgt r h => ?_, nofun⟩
      obtain ⟨vi, hvi, h'⟩ := convert_var_inv h
      exact ⟨_, _, by simp only [evalPhys, hvi, evalNum], sound_leaf rfl (PMap.Equiv.refl _) h'⟩
  | deriv v t =>
      refine ⟨fun _ tgt r h => ?_, nofun⟩
      obtain ⟨vv, vt, hvv, hvt, h'⟩ := convert_deriv_inv h
      exact ⟨δ v t * (I.φ (scaleOf reg vv.unit) / I.φ (scaleOf reg vt.unit)), _, by simp only [evalPhys, hvv, hvt],
        sound_leaf (by simp only [evalNum, φ_scaleOf_divC]) (dimsOf_divC reg _ _) h'⟩
  | int _ | rat _ | flt _ | pi | e =>
      refine ⟨fun _ tgt r h => ?_, nofun⟩
      obtain ⟨_, rfl⟩ := convert_numLeaf_inv rfl h
      exact ⟨_, _, rfl, by simp only [evalNum, φ_scaleOf_nil, mul_one], dimsOf_nil reg⟩
  | tt | ff =>
      refine ⟨nofun, fun _ tgt r h => ?_⟩
      obtain ⟨_, rfl⟩ := convert_numLeaf_inv rfl h
      exact ⟨_, rfl, rfl⟩
  | mul a b iha ihb =>
      refine ⟨fun hs tgt r h => ?_, nofun⟩
      simp only [arithS, Bool.and_eq_true] at hs
      obtain ⟨ra, rb, hra, hrb, h'⟩ := convert_mul_inv h
      rw [rebuild2 (mk := E.mul) (convert_ident hra).2 (convert_ident hrb).2] at h'
      obtain ⟨x, d, ha, hxa, hda⟩ := iha.1 hs.1 _ _ hra
      obtain ⟨y, d', hb, hxb, hdb⟩ := ihb.1 hs.2 _ _ hrb
      obtain ⟨h1, h2⟩ := maybeConv_value I ρ δ h'
      refine ⟨x * y, PMap.add d d', by simp only [evalPhys, ha, hb], ?_,
        h2.trans ((dimsOf_mulC reg _ _).trans (add_congr hda hdb))⟩
      rw [h1, φ_scaleOf_mulC, ← hxa, ← hxb]
      simp only [evalNum]; ring
  | add a b iha ihb =>
      refine ⟨fun hs tgt r h => ?_, nofun⟩
      simp only [arithS, Bool.and_eq_true] at hs
      obtain ⟨ra, rb, hra, hrb, rfl⟩ := convert_add_inv h
      rw [rebuild2 (mk := E.add) (convert_ident hra).2 (convert_ident hrb).2]
      rw [getD_target hra] at hrb
      have hu : rb.u = ra.u := convert_target hrb
      obtain ⟨x, d, ha, hxa, hda⟩ := iha.1 hs.1 _ _ hra
      obtain ⟨y, d', hb, hxb, hdb⟩ := ihb.1 hs.2 _ _ hrb
      simp only [hu] at hxb hdb ⊢
      have hdd : PMap.beq d d' = true := beq_iff_equiv.mpr (hda.symm.trans hdb)
      refine ⟨x + y, d, by simp only [evalPhys, ha, hb, hdd, if_true], ?_, hda⟩
      rw [← hxa, ← hxb]
      simp only [evalNum]; ring
  | pow b x ihb ihx =>
      refine ⟨fun hs tgt r h => ?_, nofun⟩
      simp only [arithS, Bool.and_eq_true] at hs
      obtain ⟨rx, q, rb, hrx, hq, hrb, h'⟩ := convert_pow_inv h
      -- an exponent that `float()` evaluates was not converted
      have hex : rx.e = x := (convert_ident hrx).2 (closed_not_converted x _ rx q hrx hq)
      rw [rebuild2 (mk := fun x' b' => E.pow b' x') (convert_ident hrx).2 (convert_ident hrb).2, hex] at h'
      rw [hex] at hq
      obtain ⟨xb, db, hb, hxb, hdb⟩ := ihb.1 hs.1 _ _ hrb
      obtain ⟨xx, dx, hx, hxx, hdx⟩ := ihx.1 hs.2 _ _ hrx
      obtain ⟨hnx, _, hz⟩ := den_dimless hrx hxx hdx
      have hv : xx = (q : K) := by rw [← hnx, hex]; exact evalClosed_evalNum I ρ δ x q hq
      obtain ⟨h1, h2⟩ := maybeConv_value I ρ δ h'
      refine ⟨I.pw xb q, PMap.smul q db, by simp only [evalPhys, hb, hx, hq, hz, hv, and_self, if_true], ?_,
        h2.trans ((dimsOf_powC reg _ _).trans (smul_congr q hdb))⟩
      rw [h1, φ_scaleOf_powC, ← hxb, I.pw_cov]
      simp only [evalNum, hq]
  | abs a iha =>
      refine ⟨fun hs tgt r h => ?_, nofun⟩
      simp only [arithS] at hs
      obtain ⟨ra, hra, rfl⟩ := convert_abs_inv h
      rw [rebuild1 (mk := E.abs) (convert_ident hra).2]
      obtain ⟨x, d, ha, hxa, hda⟩ := iha.1 hs _ _ hra
      refine ⟨|x|, d, by simp only [evalPhys, ha], ?_, hda⟩
      simp only [evalNum]
      rw [← hxa, abs_mul, abs_of_pos (I.φ_pos _)]
  | fn1 f a iha =>
      refine ⟨fun hs tgt r h => ?_, nofun⟩
      simp only [arithS] at hs
      obtain ⟨_, ra, hra, rfl⟩ := convert_fn1_inv h
      rw [rebuild1 (mk := E.fn1 f) (convert_ident hra).2]
      obtain ⟨x, d, ha, hxa, hda⟩ := iha.1 hs _ _ hra
      obtain ⟨hx, hu, hz⟩ := den_dimless hra hxa hda
      refine ⟨I.fn f x, [], by simp only [evalPhys, ha, hz, if_true], ?_, by rw [hu]; exact dimsOf_nil reg⟩
      simp only [evalNum, hx, hu, φ_scaleOf_nil, mul_one]
  | fnN f a b iha ihb =>
      refine ⟨fun hs tgt r h => ?_, nofun⟩
      simp only [arithS, Bool.and_eq_true] at hs
      obtain ⟨_, ra, rb, hra, hrb, rfl⟩ := convert_fnN_inv h
      rw [rebuild2 (mk := E.fnN f) (convert_ident hra).2 (convert_ident hrb).2]
      obtain ⟨x, d, ha, hxa, hda⟩ := iha.1 hs.1 _ _ hra
      obtain ⟨y, d', hb, hxb, hdb⟩ := ihb.1 hs.2 _ _ hrb
      obtain ⟨hx, _, hz⟩ := den_dimless hra hxa hda
      obtain ⟨hy, hu, hz'⟩ := den_dimless hrb hxb hdb
      refine ⟨I.fn2 f x y, [], by simp only [evalPhys, ha, hb, hz, hz', and_self, if_true], ?_,
        by rw [hu]; exact dimsOf_nil reg⟩
      simp only [evalNum, hx, hy, hu, φ_scaleOf_nil, mul_one]
  | ite c t el ihc iht ihe =>
      refine ⟨fun hs tgt r h => ?_, nofun⟩
      simp only [arithS, Bool.and_eq_true, Bool.or_eq_true, decide_eq_true_eq] at hs
      obtain ⟨rt, rc, hrt, hrc, hcase⟩ := convert_ite_inv h
      obtain ⟨bc, hc, hbc⟩ := ihc.2 hs.1.1 _ _ hrc
      obtain ⟨x, d, ht, hxt, hdt⟩ := iht.1 hs.1.2 _ _ hrt
      rcases hcase with ⟨hel, rfl⟩ | ⟨hel, re, hre, rfl⟩
      · rw [rebuild2 (mk := fun t' c' => E.ite c' t' .undef) (convert_ident hrt).2 (convert_ident hrc).2]
        refine ⟨if bc then x else 0, d, by simp only [evalPhys, hc, ht, hel, if_true], ?_, hdt⟩
        simp only [evalNum, hbc]
        cases bc
        · simp
        · simpa using hxt
      · rw [rebuild3 (mk := fun t' c' e' => E.ite c' t' e') (convert_ident hrt).2 (convert_ident hrc).2
          (convert_ident hre).2]
        rw [getD_target hrt] at hre
        have hu : re.u = rt.u := convert_target hre
        obtain ⟨y, d', he, hxe, hde⟩ := ihe.1 (hs.2.resolve_left hel) _ _ hre
        simp only [hu] at hxe hde ⊢
        have hdd : PMap.beq d d' = true := beq_iff_equiv.mpr (hdt.symm.trans hde)
        refine ⟨if bc then x else y, d, by simp only [evalPhys, hc, ht, hel, if_false, he, hdd, if_true], ?_, hdt⟩
        simp only [evalNum, hbc]
        cases bc
        · simpa using hxe
        · simpa using hxt
  | rel rr a b iha ihb =>
      refine ⟨nofun, fun hs tgt r h => ?_⟩
      simp only [boolS, Bool.and_eq_true] at hs
      obtain ⟨_, ra, rb, hra, hrb, rfl⟩ := convert_rel_inv h
      rw [rebuild2 (mk := E.rel rr) (convert_ident hra).2 (convert_ident hrb).2]
      have hu : rb.u = ra.u := convert_target hrb
      obtain ⟨x, d, ha, hxa, hda⟩ := iha.1 hs.1 _ _ hra
      obtain ⟨y, d', hb, hxb, hdb⟩ := ihb.1 hs.2 _ _ hrb
      rw [hu] at hxb hdb
      have hdd : PMap.beq d d' = true := beq_iff_equiv.mpr (hda.symm.trans hdb)
      refine ⟨relHolds rr x y, by simp only [physB, ha, hb, hdd, if_true], ?_⟩
      simp only [evalB]
      rw [← hxa, ← hxb, relHolds_scale _ _ _ _ (I.φ_pos _)]
  | and a b iha ihb | or a b iha ihb =>
      refine ⟨nofun, fun hs tgt r h => ?_⟩
      simp only [boolS, Bool.and_eq_true] at hs
      obtain ⟨_, ra, rb, hra, hrb, rfl⟩ := convert_dimless2_inv h
      rw [rebuild2 (convert_ident hra).2 (convert_ident hrb).2]
      obtain ⟨p, ha, hpa⟩ := iha.2 hs.1 _ _ hra
      obtain ⟨p', hb, hpb⟩ := ihb.2 hs.2 _ _ hrb
      simp only [physB, ha, hb, evalB, hpa, hpb, Option.some.injEq]
      exact ⟨_, rfl, rfl⟩
  | not a iha =>
      refine ⟨nofun, fun hs tgt r h => ?_⟩
      simp only [boolS] at hs
      obtain ⟨_, ra, hra, rfl⟩ := convert_not_inv h
      rw [rebuild1 (mk := E.not) (convert_ident hra).2]
      obtain ⟨p, ha, hpa⟩ := iha.2 hs _ _ hra
      exact ⟨!p, by simp only [physB, ha], by simp only [evalB, hpa]⟩
  | _ => exact ⟨nofun, nofun⟩

theorem sort_of_denotes : ∀ ex : E,
    (∀ x d, evalPhys I reg Γ ρ δ ex = some (x, d) → arithS ex = true) ∧
    (∀ p, physB I reg Γ ρ δ ex = some p → boolS ex = true) := by
  intro ex
  induction ex with
  | add a b iha ihb | mul a b iha ihb | fnN _ a b iha ihb =>
      refine ⟨fun x d h => ?_, nofun⟩
      simp only [evalPhys] at h
      split at h
      · rename_i ha hb; simp only [arithS, iha.1 _ _ ha, ihb.1 _ _ hb, Bool.and_self]
      · cases h
  | pow a b iha ihb =>
      refine ⟨fun x d h => ?_, nofun⟩
      simp only [evalPhys] at h
      split at h
      · rename_i ha hb _; simp only [arithS, iha.1 _ _ ha, ihb.1 _ _ hb, Bool.and_self]
      · cases h
  | abs a iha | fn1 _ a iha =>
      refine ⟨fun x d h => ?_, nofun⟩
      simp only [evalPhys] at h
      split at h
      · rename_i ha; simp only [arithS, iha.1 _ _ ha]
      · cases h
  | ite c t el ihc iht ihe =>
      refine ⟨fun x d h => ?_, nofun⟩
      simp only [evalPhys] at h
      split at h
      · rename_i hc ht
        simp only [arithS, ihc.2 _ hc, iht.1 _ _ ht, Bool.and_self, Bool.true_and, Bool.or_eq_true, decide_eq_true_eq]
        split at h
        · rename_i hel; exact Or.inl hel
        · split at h
          · rename_i he; exact Or.inr (ihe.1 _ _ he)
          · cases h
      · cases h
  | rel _ a b iha ihb =>
      refine ⟨nofun, fun p h => ?_⟩
      simp only [physB] at h
      split at h
      · rename_i ha hb; simp only [boolS, iha.1 _ _ ha, ihb.1 _ _ hb, Bool.and_self]
      · cases h
  | and a b iha ihb | or a b iha ihb =>
      refine ⟨nofun, fun p h => ?_⟩
      simp only [physB] at h
      split at h
      · rename_i ha hb; simp only [boolS, iha.2 _ ha, ihb.2 _ hb, Bool.and_self]
      · cases h
  | not a iha =>
      refine ⟨nofun, fun p h => ?_⟩
      simp only [physB] at h
      split at h
      · rename_i ha; simp only [boolS, iha.2 _ ha]
      · cases h
  | qty _ _ | cf _ _ | var _ | deriv _ _ | int _ | rat _ | flt _ | pi | e => exact ⟨fun _ _ _ => rfl, nofun⟩
  | tt | ff => exact ⟨nofun, fun _ _ => rfl⟩
  | _ => exact ⟨nofun, nofun⟩

/-- **(a)** For every registry, environment, expression, target (or none), valuation of the variables `ρ` and of the
    derivatives `δ`, and every interpretation: if the expression denotes the physical quantity `(x, d)` and the
    conversion succeeds with `r`, then the result read as plain numbers (`evalNum`) in the reported unit `r.u` IS that
    quantity: magnitude × SI scale of `r.u` = `x`, dimension of `r.u` = `d`. (Expressions containing `floor`/`ceiling`
    have no `evalPhys`: known finding, see `floor_value_changes`.) -/
theorem convert_value {ex : E} {tgt : Option Container} {r : CR} {x : K} {d : Dims}
    (h : convert reg Γ ex tgt = .ok r) (hp : evalPhys I reg Γ ρ δ ex = some (x, d)) :
    evalNum I ρ δ r.e * I.φ (scaleOf reg r.u) = x ∧ dimsOf reg r.u ≃ d := by
  obtain ⟨x', d', hp', hv⟩ := (convert_denotes I reg Γ ρ δ ex).1 ((sort_of_denotes I reg Γ ρ δ ex).1 x d hp) tgt r h
  rw [hp] at hp'; cases hp'; exact hv

/-- (a) for conditions: the converted condition has the truth value of the comparison of the physical quantities -/
theorem convert_cond {ex : E} {tgt : Option Container} {r : CR} {p : Bool}
    (h : convert reg Γ ex tgt = .ok r) (hp : physB I reg Γ ρ δ ex = some p) : evalB I ρ δ r.e = p := by
  obtain ⟨p', hp', hv⟩ := (convert_denotes I reg Γ ρ δ ex).2 ((sort_of_denotes I reg Γ ρ δ ex).2 p hp) tgt r h
  rw [hp] at hp'; cases hp'; exact hv

/-- (a), original against result: both sides read as plain numbers in their own units. With an explicit target `t`
    the right-hand unit is `t` itself. -/
theorem convert_value_target {ex : E} {t : Container} {r : CR} {x : K} {d : Dims}
    (h : convert reg Γ ex (some t) = .ok r) (hp : evalPhys I reg Γ ρ δ ex = some (x, d)) :
    evalNum I ρ δ r.e * I.φ (scaleOf reg t) = x ∧ dimsOf reg t ≃ d := by
  have := convert_value I reg Γ ρ δ h hp
  rwa [convert_target h] at this

end value

/-! ## 4. (b) the result passes strict unit inference with a unit equivalent to the reported one

    Partial in two declared ways. (1) Fragment `strictFrag`: every operator that has a unit except `oo`/`nan`
    (leaves, derivatives, numbers, `*`, `+`, `**` with a numeric exponent = product of numeric leaves, `abs`, `floor`,
    `ceiling`, one-argument functions, `Piecewise` with arbitrary conditions). Outside it `traverse` itself always
    fails (relations and boolean terms: BooleanUnitsError; `Max`/`Min`/`Mod`: UnexpectedMathUnitsError) or the exponent
    magnitude is not tracked. (2) Units range over a class `UClass` on which "factor one" implies `is_equivalent`; this
    excludes pint's dimensionless root units (`radian`), for which clause (b) is FALSE in cellmlmanip
    (`radian_not_strict`, a consequence of the known finding of C07). Python exceptions raised by arithmetic on the
    MAGNITUDES that `traverse` carries along, and the model's `unsupported` for a power of a magnitude it does not track
    (`magErr`), are not UnitErrors and are the only other outcome. -/

/-- **(b)** strict inference of the result either succeeds with a unit `is_equivalent` to the reported one, or stops
    with a Python arithmetic exception on magnitudes (or at a power of a magnitude the exact model does not track:
    `magErr`) — never with a UnitError -/
theorem convert_strict_partial {reg : Registry} {Γ : VarEnv} (C : UClass reg)
    (hΓ : ∀ (i : Nat) (vi : VarInfo), Γ[i]? = some vi → C.P vi.unit) {ex : E} (hf : strictFrag ex = true)
    (hu : unitsIn C.P ex) {tgt : Option Container} (ht : ∀ t, tgt = some t → C.P t) {r : CR}
    (h : convert reg Γ ex tgt = .ok r) :
    (∃ m u', traverse reg Γ r.e = .ok (m, u') ∧ isEquivalent reg u' r.u = true) ∨
    (∃ err, traverse reg Γ r.e = .error err ∧ magErr err = true) := by
  have hg := (convert_strict_aux C hΓ ex hf hu tgt r ht h).1
  cases hq : traverse reg Γ r.e with
  | ok q => rw [hq] at hg; exact Or.inl ⟨q.1, q.2, rfl, hg⟩
  | error err => rw [hq] at hg; exact Or.inr ⟨err, rfl, hg⟩

/-- (b), success form: whenever inference of the result succeeds its unit is equivalent to the reported unit, and to
    the target when one was given -/
theorem convert_strict_ok {reg : Registry} {Γ : VarEnv} (C : UClass reg)
    (hΓ : ∀ (i : Nat) (vi : VarInfo), Γ[i]? = some vi → C.P vi.unit) {ex : E} (hf : strictFrag ex = true)
    (hu : unitsIn C.P ex) {tgt : Option Container} (ht : ∀ t, tgt = some t → C.P t) {r : CR}
    (h : convert reg Γ ex tgt = .ok r) {m : M} {u' : Container} (hq : traverse reg Γ r.e = .ok (m, u')) :
    isEquivalent reg u' r.u = true ∧ (∀ t, tgt = some t → isEquivalent reg u' t = true) := by
  have hg := (convert_strict_aux C hΓ ex hf hu tgt r ht h).1
  rw [hq] at hg
  refine ⟨hg, ?_⟩
  intro t htt; subst htt
  have := convert_target h
  rw [this] at hg; exact hg

/-- (b), failure form: inference of the result never raises a UnitError -/
theorem convert_strict_no_unit_error {reg : Registry} {Γ : VarEnv} (C : UClass reg)
    (hΓ : ∀ (i : Nat) (vi : VarInfo), Γ[i]? = some vi → C.P vi.unit) {ex : E} (hf : strictFrag ex = true)
    (hu : unitsIn C.P ex) {tgt : Option Container} (ht : ∀ t, tgt = some t → C.P t) {r : CR}
    (h : convert reg Γ ex tgt = .ok r) {err : UnitErr} (hq : traverse reg Γ r.e = .error err) :
    magErr err = true ∧ isUnitError err = false := by
  have hg := (convert_strict_aux C hΓ ex hf hu tgt r ht h).1
  rw [hq] at hg
  have hm : magErr err = true := hg
  refine ⟨hm, ?_⟩
  -- `magErr` is `false` on every constructor on which `isUnitError` is `true`
  cases err <;> first | rfl | cases hm

/-- the class hypothesis is consistent for every registry (degenerate instance: the dimensionless unit) -/
def dimlessClass (reg : Registry) : UClass reg where
  P c := c = []
  nil := rfl
  mul := by intro a b ha hb; subst ha; subst hb; rfl
  div := by intro a b ha hb; subst ha; subst hb; rfl
  pow := by intro a q ha; subst ha; rfl
  faithful := by intro a b ha hb _; subst ha; subst hb; exact Cellml.Props.C07.equiv_refl reg []

/-- a non-degenerate instance: in the built-in registry (and `regMV`) the dimensioned root units have pairwise
    different dimensions, so `dimClass` — all units none of whose root units is dimensionless — is a `UClass` -/
theorem builtin_dimsDistinct : dimsDistinct builtinRegistry = true := by rw [builtinRegistry_eq]; decide +kernel
theorem regMV_dimsDistinct : dimsDistinct regMV = true := by rw [regMV, builtinRegistry_eq]; decide +kernel

/-- executable form of the hypothesis on the environment -/
theorem env_rootsDim {reg : Registry} {Γ : VarEnv} (h : Γ.all (fun vi => rootsDimB reg vi.unit) = true) :
    ∀ (i : Nat) (vi : VarInfo), Γ[i]? = some vi → RootsDim reg vi.unit := by
  intro i vi hi
  have hm : vi ∈ Γ := List.mem_of_getElem? hi
  exact rootsDim_of_test (List.all_eq_true.mp h vi hm)

theorem env_rootsDim_restrict {S : List String} {reg : Registry} {Γ : VarEnv} (hS : closedB S reg = true)
    (hΓ : envB S Γ = true) (h : Γ.all (fun vi => rootsDimB (restrict S reg) vi.unit) = true) :
    ∀ (i : Nat) (vi : VarInfo), Γ[i]? = some vi → RootsDim reg vi.unit := fun i vi hi =>
  rootsDim_restrict (closed_of_test hS) (within_of_test (List.all_eq_true.mp hΓ vi (List.mem_of_getElem? hi)))
    (env_rootsDim h i vi hi)

/-- (b) instantiated on real units: `x [mV] + y [V]` (first-operand rule, a real conversion of `y`), any target among
    units with dimensioned roots -/
example {tgt : Option Container} (ht : ∀ t, tgt = some t → RootsDim regMV t) {r : CR}
    (h : convert regMV [⟨[("mV", 1)], none⟩, ⟨[("volt", 1)], none⟩] (.add (.var 0) (.var 1)) tgt = .ok r) :
    (∃ m u', traverse regMV [⟨[("mV", 1)], none⟩, ⟨[("volt", 1)], none⟩] r.e = .ok (m, u') ∧
        isEquivalent regMV u' r.u = true) ∨
    (∃ err, traverse regMV [⟨[("mV", 1)], none⟩, ⟨[("volt", 1)], none⟩] r.e = .error err ∧ magErr err = true) :=
  convert_strict_partial (dimClass regMV regMV_dimsDistinct)
    (env_rootsDim_restrict regMV_closed (by decide +kernel) (by rw [restrict_regMV, restrict_commonUnits]; decide +kernel))
    (ex := .add (.var 0) (.var 1)) rfl (by simp [unitsIn]) ht h

/-- clause (b) fails for `radian` in cellmlmanip itself (same root cause as the known finding of C07: `radian` is a
    root unit without a dimension, so it converts to `dimensionless` with factor one without being `is_equivalent`):
    `x [radian] + y [dimensionless]` is returned unchanged, in radian, and strict inference rejects it -/
theorem radian_not_strict :
    convert builtinRegistry [⟨[("radian", 1)], none⟩, ⟨[], none⟩] (.add (.var 0) (.var 1)) none =
      .ok ⟨.add (.var 0) (.var 1), false, [("radian", 1)], true⟩ ∧
    traverse builtinRegistry [⟨[("radian", 1)], none⟩, ⟨[], none⟩] (.add (.var 0) (.var 1)) =
      .error .argsInvalidUnits := by
  rw [convert_restrict commonUnits_closed (by decide +kernel), traverse_restrict commonUnits_closed (by decide +kernel),
    restrict_commonUnits]
  exact ⟨by decide +kernel, by decide +kernel⟩

/-- non-vacuity of (b) on real units: the converted sum `x [mV] + 10³·y [V]` infers to mV -/
example : traverse regMV [⟨[("mV", 1)], none⟩, ⟨[("volt", 1)], none⟩]
    (.add (.var 0) (.mul (.cf [(2, 3), (5, 3)] [("mV", 1), ("volt", -1)]) (.var 1))) = .ok (.sym, [("mV", 1)]) := by
  rw [traverse_restrict regMV_closed (by decide +kernel), restrict_regMV, restrict_commonUnits]; decide +kernel

/-! ## 5. (c) the very same object when no conversion is needed -/

/-- `was_converted = False` ⇒ the returned expression is the argument and it is the same object (`same`); and
    conversely the same object is only ever returned when nothing was converted. `same` records whether
    `expr.func(*new_args)` or `cf * expr` ran, which is what Python object identity depends on. -/
theorem convert_identity {reg : Registry} {Γ : VarEnv} {ex : E} {tgt : Option Container} {r : CR}
    (h : convert reg Γ ex tgt = .ok r) :
    (r.wc = false → r.e = ex ∧ r.same = true) ∧ (r.same = true → r.e = ex ∧ r.wc = false) := by
  obtain ⟨hs, he⟩ := convert_ident h
  constructor
  · intro hw; exact ⟨he hw, by rw [hs, hw]; rfl⟩
  · intro hsame
    have hw : r.wc = false := by rw [hs] at hsame; simpa using hsame
    exact ⟨he hw, hw⟩

/-- when something was converted a factor Quantity was inserted somewhere, so the object is new -/
theorem convert_changed {reg : Registry} {Γ : VarEnv} {ex : E} {tgt : Option Container} {r : CR}
    (h : convert reg Γ ex tgt = .ok r) (hw : r.wc = true) : r.same = false := by
  rw [(convert_ident h).1, hw]; rfl

/-- the `Mul` branch as it was before the repair (findings/C05.json, `identity:mul-explicit-target`): the product was
    rebuilt whenever a target was given -/
def convertMulToday (reg : Registry) (Γ : VarEnv) (a b : E) (tgt : Option Container) : Except UnitErr CR := do
  let ra ← convert reg Γ a none
  let rb ← convert reg Γ b none
  let wc := ra.wc || rb.wc
  let rebuilt := tgt.isSome || wc
  maybeConv reg (if rebuilt then .mul ra.e rb.e else .mul a b) wc (mulC ra.u rb.u) tgt (!rebuilt)

theorem convertMulToday_restrict {S : List String} {reg : Registry} {Γ : VarEnv} {a b : E} {tgt : Option Container}
    (hS : closedB S reg = true) (he : (unitsB S (.mul a b) && envB S Γ && tgt.all (withinB S)) = true) :
    convertMulToday reg Γ a b tgt = convertMulToday (restrict S reg) Γ a b tgt := by
  simp only [unitsB, Bool.and_eq_true] at he
  have hC := closed_of_test hS
  exact ((convert_agree hC he.1.2 a he.1.1.1 none rfl).bind fun ra hra =>
    (convert_agree hC he.1.2 b he.1.1.2 none rfl).bind fun rb hrb =>
      maybeConv_agree hC (withinB_norm (withinB_add hra hrb)) he.2).1

/-- the defect that was repaired: a product with an explicit, already satisfied target came back as a NEW object
    although nothing was converted -/
theorem mulToday_not_identical :
    convertMulToday builtinRegistry [] (.qty 2 [("volt", 1)]) (.qty 3 [("second", 1)])
        (some [("second", 1), ("volt", 1)]) =
      .ok ⟨.mul (.qty 2 [("volt", 1)]) (.qty 3 [("second", 1)]), false, [("second", 1), ("volt", 1)], false⟩ := by
  rw [convertMulToday_restrict commonUnits_closed (by decide +kernel), restrict_commonUnits]; decide +kernel

/-- … and the repaired branch returns the same object on that input -/
theorem mulFixed_identical :
    convert builtinRegistry [] (.mul (.qty 2 [("volt", 1)]) (.qty 3 [("second", 1)]))
        (some [("second", 1), ("volt", 1)]) =
      .ok ⟨.mul (.qty 2 [("volt", 1)]) (.qty 3 [("second", 1)]), false, [("second", 1), ("volt", 1)], true⟩ := by
  rw [convert_restrict commonUnits_closed (by decide +kernel), restrict_commonUnits]; decide +kernel

/-! ## known finding `value-changed:floor-ceil`: `floor`/`ceiling` are not scale-covariant -/

/-- `floor(x)` with `x = 1500 mV`, brought to volt: the conversion is pushed into the argument, `floor(10⁻³·x)` V = 1 V,
    whereas the original denotes `floor(1500)` mV = 1.5 V. (Pinned by tests/test_units.py::test_abs_ceil_floor.) -/
theorem floor_value_changes :
    convert regMV [⟨[("mV", 1)], none⟩] (.floor (.var 0)) (some [("volt", 1)]) =
      .ok ⟨.floor (.mul (.cf [(2, -3), (5, -3)] [("mV", -1), ("volt", 1)]) (.var 0)), true, [("volt", 1)], false⟩ ∧
    evalQ (fun _ => 1500) (.floor (.mul (.cf [(2, -3), (5, -3)] [("mV", -1), ("volt", 1)]) (.var 0))) *
        scaleQ (scaleOf regMV [("volt", 1)]) = 1 ∧
    evalQ (fun _ => 1500) (.floor (.var 0)) * scaleQ (scaleOf regMV [("mV", 1)]) = 3 / 2 := by
  have hS := closed_of_test regMV_closed
  rw [convert_restrict regMV_closed (by decide +kernel), scaleOf_restrict hS (within_of_test (by decide +kernel)),
    scaleOf_restrict hS (c := [("mV", 1)]) (within_of_test (by decide +kernel)), restrict_regMV, restrict_commonUnits]
  exact ⟨by decide +kernel, by decide +kernel, by decide +kernel⟩

/-! ## 6. invalid expressions and unreachable targets are rejected, and only with the documented errors -/

section rejects
variable (I : Interp K) (reg : Registry) (Γ : VarEnv) (ρ : Nat → K) (δ : Nat → Nat → K)

/-- the target cannot be reached: an expression of dimension `d` is never returned in a unit of another dimension -/
theorem convert_rejects_target {ex : E} {t : Container} {x : K} {d : Dims}
    (hp : evalPhys I reg Γ ρ δ ex = some (x, d)) (hne : ¬ dimsOf reg t ≃ d) :
    ∃ err, convert reg Γ ex (some t) = .error err :=
  error_of_not_ok fun _ hc => hne (convert_value_target I reg Γ ρ δ hc hp).2

/-- **the first-operand rule on physical quantities**: an operand that converts to the unit reported for another has
    that operand's dimension (the rejections of a sum, a relation and a Piecewise below are its contrapositives) -/
theorem dims_agree {a b : E} {ta : Option Container} {ra rb : CR} {x y : K} {d d' : Dims}
    (hra : convert reg Γ a ta = .ok ra) (hrb : convert reg Γ b (some ra.u) = .ok rb)
    (ha : evalPhys I reg Γ ρ δ a = some (x, d)) (hb : evalPhys I reg Γ ρ δ b = some (y, d')) : d ≃ d' := by
  have h2 := (convert_value I reg Γ ρ δ hrb hb).2
  rw [convert_target hrb] at h2
  exact (convert_value I reg Γ ρ δ hra ha).2.symm.trans h2

/-- two operands of a sum with different dimensions -/
theorem convert_rejects_add {a b : E} {tgt : Option Container} {x y : K} {d d' : Dims}
    (ha : evalPhys I reg Γ ρ δ a = some (x, d)) (hb : evalPhys I reg Γ ρ δ b = some (y, d')) (hne : ¬ d ≃ d') :
    ∃ err, convert reg Γ (.add a b) tgt = .error err :=
  error_of_not_ok fun _ hc => let ⟨_, _, hra, hrb, _⟩ := convert_add_inv hc
    hne (dims_agree I reg Γ ρ δ hra (getD_target hra ▸ hrb) ha hb)

/-- two comparands with different dimensions -/
theorem convert_rejects_rel {rr : Rel} {a b : E} {tgt : Option Container} {x y : K} {d d' : Dims}
    (ha : evalPhys I reg Γ ρ δ a = some (x, d)) (hb : evalPhys I reg Γ ρ δ b = some (y, d')) (hne : ¬ d ≃ d') :
    ∃ err, convert reg Γ (.rel rr a b) tgt = .error err :=
  error_of_not_ok fun _ hc => let ⟨_, _, _, hra, hrb, _⟩ := convert_rel_inv hc
    hne (dims_agree I reg Γ ρ δ hra hrb ha hb)

/-- two pieces of a Piecewise with different dimensions -/
theorem convert_rejects_ite {c t el : E} {tgt : Option Container} {x y : K} {d d' : Dims} (hel : el ≠ .undef)
    (ht : evalPhys I reg Γ ρ δ t = some (x, d)) (he : evalPhys I reg Γ ρ δ el = some (y, d')) (hne : ¬ d ≃ d') :
    ∃ err, convert reg Γ (.ite c t el) tgt = .error err :=
  error_of_not_ok fun _ hc => let ⟨_, _, hrt, _, hcase⟩ := convert_ite_inv hc
    hcase.elim (fun h => hel h.1) fun ⟨_, _, hre, _⟩ =>
      hne (dims_agree I reg Γ ρ δ hrt (getD_target hrt ▸ hre) ht he)

/-- the argument of a function that is not dimensionless -/
theorem convert_rejects_fn1 {f : String} {a : E} {tgt : Option Container} {x : K} {d : Dims}
    (ha : evalPhys I reg Γ ρ δ a = some (x, d)) (hne : ¬ d ≃ []) :
    ∃ err, convert reg Γ (.fn1 f a) tgt = .error err :=
  error_of_not_ok fun _ hc => let ⟨_, _, hra, _⟩ := convert_fn1_inv hc
    hne ((convert_value_target I reg Γ ρ δ hra ha).2.symm.trans (dimsOf_nil reg))

end rejects

/-! ### every dimensionally invalid expression is rejected (general form)

    over the sorts `arithS` / `boolS` of § 3 -/

section valid
variable (I : Interp K) (reg : Registry) (Γ : VarEnv) (ρ : Nat → K) (δ : Nat → Nat → K)

/-- a successful conversion certifies that the expression denotes a physical quantity (a condition: a truth value) -/
theorem convert_ok_valid : ∀ ex : E,
    (arithS ex = true → ∀ tgt r, convert reg Γ ex tgt = .ok r → ∃ x d, evalPhys I reg Γ ρ δ ex = some (x, d)) ∧
    (boolS ex = true → ∀ tgt r, convert reg Γ ex tgt = .ok r → ∃ p, physB I reg Γ ρ δ ex = some p) :=
  fun ex => ⟨fun hs tgt r h => let ⟨x, d, hp, _⟩ := (convert_denotes I reg Γ ρ δ ex).1 hs tgt r h; ⟨x, d, hp⟩,
    fun hs tgt r h => let ⟨p, hp, _⟩ := (convert_denotes I reg Γ ρ δ ex).2 hs tgt r h; ⟨p, hp⟩⟩

/-- **rejection, general form**: an expression (of the operators with a physical value) that denotes no physical
    quantity — operands of a sum, pieces of a Piecewise or comparands of different dimension anywhere inside it, a
    function or exponent argument that is not dimensionless — is never converted: the call raises -/
theorem convert_rejects {ex : E} (hs : arithS ex = true) (hn : evalPhys I reg Γ ρ δ ex = none)
    (tgt : Option Container) : ∃ err, convert reg Γ ex tgt = .error err :=
  error_of_not_ok fun r hc => let ⟨_, _, hp⟩ := (convert_ok_valid I reg Γ ρ δ ex).1 hs tgt r hc
    Option.some_ne_none _ (hp.symm.trans hn)

/-- **headline form of (a)**: for every expression of the operators that have a physical value, a successful
    conversion certifies that the expression denotes a physical quantity, and the result read as plain numbers in
    the reported unit is that quantity — no side condition left -/
theorem convert_preserves {ex : E} (hs : arithS ex = true) {tgt : Option Container} {r : CR}
    (h : convert reg Γ ex tgt = .ok r) :
    ∃ x d, evalPhys I reg Γ ρ δ ex = some (x, d) ∧
      evalNum I ρ δ r.e * I.φ (scaleOf reg r.u) = x ∧ dimsOf reg r.u ≃ d :=
  (convert_denotes I reg Γ ρ δ ex).1 hs tgt r h

end valid

/-- at a leaf between known units the error is exactly UnitConversionError -/
theorem convert_rejects_leaf {reg : Registry} {Γ : VarEnv} {v : Rat} {u t : Container}
    (hk : allKnown reg u = true) (hk' : allKnown reg t = true) (hne : ¬ dimsOf reg u ≃ dimsOf reg t) :
    convert reg Γ (.qty v u) (some t) = .error .cannotConvert := by
  simp only [Convert.convert]; exact (maybeConv_cannotConvert_iff hk hk').mpr hne

/-- every error is one of the documented UnitError classes (UnexpectedMathUnitsError,
    InputArgumentsMustBeDimensionlessError, InputArgumentMustBeNumberError, BooleanUnitsError, UnitConversionError),
    or pint's UndefinedUnitError (a unit name the registry does not know: `maybeConv_error`), or one of the two
    situations outside the modelled fragment: a variable index outside the environment, an exponent whose numeric
    value the exact model does not track (irrational, or a conversion factor ≠ 1 inside the exponent) -/
theorem convert_error_class {reg : Registry} {Γ : VarEnv} {ex : E} {tgt : Option Container} {err : UnitErr}
    (h : convert reg Γ ex tgt = .error err) : errClass err = true := convert_errClass ex tgt err h

/-- the UndefinedUnitError comes from pint only when a unit name is unknown to the registry -/
theorem undefinedUnit_only_unknown {reg : Registry} {ex : E} {wc : Bool} {frm t : Container} {same : Bool}
    (h : maybeConv reg ex wc frm (some t) same = .error (.otherException "UndefinedUnitError")) :
    (allKnown reg frm && allKnown reg t) = false := by
  obtain ⟨t', ht', hc⟩ := maybeConv_error h
  cases ht'
  rcases hc with ⟨h1, _⟩ | ⟨_, e', hf, hne⟩
  · cases h1
  · rcases factor_error_iff.mp hf with ⟨hk, _⟩ | ⟨_, _, _, he⟩
    · exact hk
    · exact (hne he).elim

/-! ## non-vacuity: concrete conversions on the built-in registry -/

/-- volt + joule/coulomb with no target: equivalent units, nothing converted, the same object -/
example : convert builtinRegistry []
    (.add (.qty 1 [("volt", 1)]) (.qty 2 [("coulomb", -1), ("joule", 1)])) none =
    .ok ⟨.add (.qty 1 [("volt", 1)]) (.qty 2 [("coulomb", -1), ("joule", 1)]), false, [("volt", 1)], true⟩ := by
  rw [convert_restrict commonUnits_closed (by decide +kernel), restrict_commonUnits]; decide +kernel

/-- litre to cubic metre: factor 10⁻³ as a Quantity in m³/l -/
example : convert builtinRegistry [] (.qty 1 [("liter", 1)]) (some [("meter", 3)]) =
    .ok ⟨.mul (.cf [(2, -3), (5, -3)] [("liter", -1), ("meter", 3)]) (.qty 1 [("liter", 1)]), true, [("meter", 3)],
         false⟩ := by
  rw [convert_restrict commonUnits_closed (by decide +kernel), restrict_commonUnits]; decide +kernel

/-- first-operand rule with a real conversion, inside a Piecewise with a condition between different scales -/
example : convert regMV [⟨[("mV", 1)], none⟩, ⟨[("volt", 1)], none⟩]
    (.ite (.rel .lt (.var 0) (.var 1)) (.add (.var 0) (.var 1)) .undef) none =
    .ok ⟨.ite (.rel .lt (.var 0) (.mul (.cf [(2, 3), (5, 3)] [("mV", 1), ("volt", -1)]) (.var 1)))
           (.add (.var 0) (.mul (.cf [(2, 3), (5, 3)] [("mV", 1), ("volt", -1)]) (.var 1))) .undef,
         true, [("mV", 1)], false⟩ := by
  rw [convert_restrict regMV_closed (by decide +kernel), restrict_regMV, restrict_commonUnits]; decide +kernel

example : convert builtinRegistry [] (.add (.qty 1 [("volt", 1)]) (.qty 2 [("second", 1)])) none =
    .error .cannotConvert := by
  rw [convert_restrict commonUnits_closed (by decide +kernel), restrict_commonUnits]; decide +kernel

example : convert builtinRegistry [] (.qty 1 [("volt", 1)]) (some [("furlong", 1)]) =
    .error (.otherException "UndefinedUnitError") := by
  rw [convert_restrict (S := "furlong" :: commonUnits) (by rw [builtinRegistry_eq]; decide +kernel) (by decide +kernel),
    builtinRegistry_eq]
  decide +kernel

/-- the semantic hypotheses are satisfiable (`Sem.ratInterp`), and the headline theorem applies to a concrete conversion
    with a real factor -/
example : ∃ x d, evalPhys ratInterp regMV [⟨[("mV", 1)], none⟩, ⟨[("volt", 1)], none⟩] (fun _ => 7) (fun _ _ => 0)
      (.add (.var 0) (.var 1)) = some (x, d) :=
  have h : convert regMV [⟨[("mV", 1)], none⟩, ⟨[("volt", 1)], none⟩] (.add (.var 0) (.var 1)) none =
      .ok ⟨.add (.var 0) (.mul (.cf [(2, 3), (5, 3)] [("mV", 1), ("volt", -1)]) (.var 1)), true, [("mV", 1)], false⟩ := by
    rw [convert_restrict regMV_closed (by decide +kernel), restrict_regMV, restrict_commonUnits]; decide +kernel
  let ⟨x, d, hp, _⟩ := convert_preserves ratInterp regMV _ (fun _ => 7) (fun _ _ => 0) (ex := .add (.var 0) (.var 1))
    (by simp [arithS]) h
  ⟨x, d, hp⟩

end Cellml.Props.C05
