import Cellml.Props.C05
import Cellml.Props.C04

/-! # C04 — the inferred unit is the unit in which the plain numbers ARE the physical value

    `Infer.traverse` (strict unit inference, `UnitCalculator.traverse`) reports a unit `u` for an expression `e`.
    Why is that the right unit? Because, for a STRICTLY consistent `e`, the plain numbers computed from the magnitudes
    (`Sem.evalNum`) multiplied by the SI scale of `u` are the physical quantity `e` denotes (`Sem.evalPhys`), and the
    dimension of `u` is its dimension — over any ordered field and any interpretation `Sem.Interp` of scales, powers
    and functions (laws as hypotheses), for every valuation of variables and derivatives.

    Strict consistency ("every function argument and exponent is exactly `dimensionless`, comparands / operands /
    pieces have units of the same scale") is phrased operationally: converting `e` with no target changes nothing,
    `Convert.convert reg Γ e none = .ok r ∧ r.wc = false`. Route: `convert_identity` gives `r.e = e`, `convert_value`
    (C05) gives `evalNum e · φ(scale r.u) =` physical value, and `convert_none_unit` below shows that the unit
    `traverse` reports is `is_equivalent` to `r.u` (no hypothesis on `radian`-like units is needed here: with no target,
    the reported unit is computed by the same unit arithmetic in both traversals). -/

namespace Cellml.Props.C04Denotes
open Units Infer Convert Sem Spec

variable {K : Type} [Field K] [LinearOrder K] [IsStrictOrderedRing K]

theorem isEq_scale_dims (I : Interp K) {reg : Registry} {a b : Container} (h : isEquivalent reg a b = true) :
    I.φ (scaleOf reg a) = I.φ (scaleOf reg b) ∧ dimsOf reg a ≃ dimsOf reg b := by
  rw [isEq_iff] at h
  refine ⟨?_, ?_⟩
  · rw [φ_scaleOf, φ_scaleOf]; exact I.φ_congr h.1
  · exact (dimsOf_equiv reg a).trans ((dimsOfRoot_congr reg h.2).trans (dimsOf_equiv reg b).symm)

section unit
variable {reg : Registry} {Γ : VarEnv}

/-- With no target, the unit reported by the converter is (equivalent to) the unit reported by strict inference,
    whenever both succeed — whether or not anything was converted inside. Exponents are numeric (`SimpleExps`, C04's
    hypothesis: products of numeric leaves), because `traverse` carries the magnitude of the first operand of a sum.
    The conversion is taken apart node by node; the recursion equation of `traverse` is walked forwards (`Post.bind`). -/
theorem convert_none_unit : ∀ (ex : E), SimpleExps ex = true → ∀ (r : CR), convert reg Γ ex none = .ok r →
    Post (fun q => isEquivalent reg q.2 r.u = true) (traverse reg Γ ex) := by
  have refl : ∀ {m : M} {u : Container}, Post (fun q => isEquivalent reg q.2 u = true) (.ok (m, u)) :=
    .ok (isEquivalent_refl reg _)
  intro ex
  induction ex with
  | qty _ _ | cf _ _ =>
      intro _ r h
      cases h
      exact refl
  | var i =>
      intro _ r h
      obtain ⟨vi, hvi, h'⟩ := convert_var_inv h
      cases h'
      obtain ⟨m', hm'⟩ := varQ_some (Γ := Γ) hvi
      rw [traverse_var, hm']; exact refl
  | deriv v t =>
      intro _ r h
      obtain ⟨vv, vt, hvv, hvt, h'⟩ := convert_deriv_inv h
      cases h'
      obtain ⟨mv, hmv⟩ := varQ_some (Γ := Γ) hvv
      obtain ⟨mt, hmt⟩ := varQ_some (Γ := Γ) hvt
      rw [traverse_deriv, hmv, hmt]
      show Post _ (divM mv mt >>= fun m => pure (m, divC vv.unit vt.unit))
      exact Post.any.bind fun m _ => refl
  | int _ | rat _ | flt _ | pi | e =>
      intro _ r h
      obtain ⟨_, rfl⟩ := convert_numLeaf_inv rfl h
      exact refl
  | oo | nan => intro _ r _; exact .error
  | tt | ff | undef | other _ | rel _ _ _ _ _ | and _ _ _ _ | or _ _ _ _ | not _ _ | fnN _ _ _ _ _ =>
      intro _ r _ q ht
      exact (Cellml.Props.C04.not_ok_of_noUnitHead ht rfl).elim
  | mul a b iha ihb =>
      intro hs r h
      simp only [SimpleExps, Bool.and_eq_true] at hs
      obtain ⟨ra, rb, hra, hrb, h'⟩ := convert_mul_inv h
      cases h'
      rw [traverse_mul]
      exact (iha hs.1 ra hra).bind fun qa ha => (ihb hs.2 rb hrb).bind fun qb hb => .ok (isEq_mulC ha hb)
  | pow b x ihb _ =>
      intro hs r h
      simp only [SimpleExps, Bool.and_eq_true] at hs
      obtain ⟨rx, q, rb, hrx, hq, hrb, h'⟩ := convert_pow_inv h
      rw [convert_numProd hs.2 (some []) (Or.inr rfl)] at hrx
      cases hrx
      obtain ⟨q', hc, hq'⟩ := evalClosed_numProd hs.2
      rw [hq'] at hq; cases hq
      obtain ⟨q'', f, htx, hc'⟩ := numProd_traverse reg Γ x hs.2
      rw [hc] at hc'; cases hc'
      cases h'
      rw [traverse_pow, htx]
      refine (ihb hs.1 rb hrb).bind fun qb hb => ?_
      show Post _ (powStep qb (.num q f, []))
      rw [powStep_num]
      exact Post.any.bind fun m _ => .ok (isEq_powC _ hb)
  | add a b iha _ =>
      intro hs r h q ht
      simp only [SimpleExps, Bool.and_eq_true] at hs
      obtain ⟨ra, rb, hra, hrb, rfl⟩ := convert_add_inv h
      have hub : rb.u = ra.u := by
        rw [Option.getD_none] at hrb; exact Convert.convert_target b _ rb hrb
      simp only [hub]
      exact iha hs.1 ra hra q (traverse_add_ok reg Γ a b q ht).1
  | abs a iha =>
      intro hs r h
      obtain ⟨ra, hra, rfl⟩ := convert_abs_inv h
      rw [traverse_abs]
      exact (iha hs ra hra).bind fun qa ha => .ok ha
  | floor a iha | ceil a iha =>
      intro hs r h
      obtain ⟨ra, hra, rfl⟩ := convert_pass_inv h
      simp only [traverse_floor, traverse_ceil]
      exact (iha hs ra hra).bind fun qa ha => Post.any.bind fun m _ => .ok ha
  | fn1 f a _ =>
      intro _ r h
      obtain ⟨_, ra, hra, rfl⟩ := convert_fn1_inv h
      have hua : ra.u = [] := Convert.convert_target a _ ra hra
      rw [traverse_fn1]
      refine Post.any.bind fun qa _ q ht => ?_
      simp only [hua, (fn1Step_ok reg f qa q ht).2]
      exact isEquivalent_refl reg []
  | ite c t el _ iht _ =>
      intro hs r h
      simp only [SimpleExps, Bool.and_eq_true] at hs
      obtain ⟨rt, rc, hrt, _, hcase⟩ := convert_ite_inv h
      have hbt := iht hs.1 rt hrt
      rw [traverse_ite]
      rcases hcase with ⟨hel, rfl⟩ | ⟨hel, re, hre, rfl⟩
      · simp only [hel, if_true]
        exact hbt.bind fun qt ht => .ok ht
      · have hue : re.u = rt.u := by
          rw [Option.getD_none] at hre; exact Convert.convert_target el _ re hre
        simp only [hel, if_false, hue]
        refine hbt.bind fun qt ht => Post.any.bind fun qe _ => ?_
        split
        · exact .ok ht
        · exact .error

end unit

/-- strict consistency, operationally: bringing the expression to its own units requires no conversion anywhere —
    every function argument and exponent is exactly `dimensionless`, the second comparand / operand / piece already
    has a unit with the dimension and scale of the first -/
def Strict (reg : Registry) (Γ : VarEnv) (ex : E) : Prop :=
  ∃ r, convert reg Γ ex none = .ok r ∧ r.wc = false

/-- the same thing said with object identity: the converter hands back its argument -/
theorem strict_iff_same {reg : Registry} {Γ : VarEnv} {ex : E} :
    Strict reg Γ ex ↔ ∃ r, convert reg Γ ex none = .ok r ∧ r.same = true := by
  constructor
  · rintro ⟨r, h, hw⟩; exact ⟨r, h, ((Cellml.Props.C05.convert_identity h).1 hw).2⟩
  · rintro ⟨r, h, hs⟩; exact ⟨r, h, ((Cellml.Props.C05.convert_identity h).2 hs).2⟩

section denotes
variable (I : Interp K) (reg : Registry) (Γ : VarEnv) (ρ : Nat → K) (δ : Nat → Nat → K)

/-- **Value form** of what DESIGN.md (section 3) plans under the name `hasUnit_denotes`, with `Strict` where the plan
    has `HasUnit`. If strict inference reports the unit `u` for a strictly consistent expression (numeric exponents),
    then wherever the expression denotes a physical quantity `(x, d)`, the plain numbers read in `u` are that quantity: `evalNum e · ⟦scale u⟧ = x` and `dim u = d` — for every valuation and interpretation. -/
theorem infer_denotes_of_defined {ex : E} (hs : SimpleExps ex = true) {m : M} {u : Container}
    (ht : traverse reg Γ ex = .ok (m, u)) (hst : Strict reg Γ ex) {x : K} {d : Dims}
    (hp : evalPhys I reg Γ ρ δ ex = some (x, d)) :
    evalNum I ρ δ ex * I.φ (scaleOf reg u) = x ∧ dimsOf reg u ≃ d := by
  obtain ⟨r, hc, hw⟩ := hst
  have he : r.e = ex := ((Cellml.Props.C05.convert_identity hc).1 hw).1
  obtain ⟨hv, hd⟩ := Cellml.Props.C05.convert_value I reg Γ ρ δ hc hp
  obtain ⟨hsc, hdim⟩ := isEq_scale_dims I (convert_none_unit ex hs r hc (m, u) ht)
  rw [he] at hv
  exact ⟨by rw [hsc]; exact hv, hdim.trans hd⟩

/-- **The inferred unit denotes** (the `hasUnit_denotes` of DESIGN.md section 3, with `Strict` for its `HasUnit`;
    partial: exponents are numeric — C04's `SimpleExps` — and the expression is built from the operators that have a
    physical value, `arithS`: no `floor`/`ceiling`, conditions in condition position). For a strictly consistent
    expression whose inferred unit is `u`, the physical quantity IS DEFINED and equals the plain numbers read in `u`: `evalPhys e = some (evalNum e · ⟦scale u⟧, d)` with `d` the dimension of `u`. -/
theorem infer_denotes_partial {ex : E} (hs : SimpleExps ex = true) (ha : Cellml.Props.C05.arithS ex = true)
    {m : M} {u : Container} (ht : traverse reg Γ ex = .ok (m, u)) (hst : Strict reg Γ ex) :
    ∃ d, evalPhys I reg Γ ρ δ ex = some (evalNum I ρ δ ex * I.φ (scaleOf reg u), d) ∧ dimsOf reg u ≃ d := by
  obtain ⟨r, hc, hw⟩ := hst
  obtain ⟨x, d, hp, _⟩ := Cellml.Props.C05.convert_preserves I reg Γ ρ δ ha hc
  obtain ⟨hv, hd⟩ := infer_denotes_of_defined I reg Γ ρ δ hs ht ⟨r, hc, hw⟩ hp
  exact ⟨d, by rw [hv]; exact hp, hd⟩

/-- the conditions inside a strictly consistent expression are decided correctly by plain numbers: e.g. for a
    Piecewise, the truth value of its condition between physical quantities is the one computed from the magnitudes -/
theorem cond_denotes {c t el : E} (hst : Strict reg Γ (.ite c t el)) {p : Bool}
    (hp : physB I reg Γ ρ δ c = some p) : evalB I ρ δ c = p := by
  obtain ⟨r, hc, hw⟩ := hst
  obtain ⟨rt, rc, hrt, hrc, hcase⟩ := convert_ite_inv hc
  have hwc : rc.wc = false := by
    rcases hcase with ⟨_, rfl⟩ | ⟨_, re, _, rfl⟩
    · simp only [Bool.or_eq_false_iff] at hw; exact hw.2
    · simp only [Bool.or_eq_false_iff] at hw; exact hw.1.2
  have he : rc.e = c := (convert_ident hrc).2 hwc
  have := Cellml.Props.C05.convert_cond I reg Γ ρ δ hrc hp
  rwa [he] at this

end denotes

/-! ## strictness is necessary: without it the numbers read in the inferred unit are NOT the physical value -/

/-- `sin(x)` with `x` in a percent-like unit (`pc = 10⁻² dimensionless`): inference accepts it (dimension zero) and reports `dimensionless`, but the
    expression is not strictly consistent — the converter has to insert the factor -/
theorem not_strict_example :
    traverse (("pc", .derived (pow10 (-2)) []) :: builtinRegistry) [⟨[("pc", 1)], none⟩] (.fn1 "sin" (.var 0)) =
      .ok (.num 1 false, []) ∧
    convert (("pc", .derived (pow10 (-2)) []) :: builtinRegistry) [⟨[("pc", 1)], none⟩] (.fn1 "sin" (.var 0)) none =
      .ok ⟨.fn1 "sin" (.mul (.cf [(2, -2), (5, -2)] [("pc", -1)]) (.var 0)), true, [], false⟩ := by
  have hS : closedB ("pc" :: commonUnits) (("pc", .derived (pow10 (-2)) []) :: builtinRegistry) = true := by
    rw [Units.builtinRegistry_eq]; decide +kernel
  rw [traverse_restrict hS (by decide +kernel), convert_restrict hS (by decide +kernel), Units.builtinRegistry_eq]
  refine ⟨by decide +kernel, by decide +kernel⟩

/-! ## non-vacuity on the built-in registry -/

/-- volt + joule/coulomb: inferred unit volt; the sum of the plain numbers, read in volt, is the physical value -/
example (I : Interp K) (ρ : Nat → K) (δ : Nat → Nat → K) :
    ∃ d, evalPhys I builtinRegistry [] ρ δ (.add (.qty 1 [("volt", 1)]) (.qty 2 [("coulomb", -1), ("joule", 1)])) =
        some (evalNum I ρ δ (.add (.qty 1 [("volt", 1)]) (.qty 2 [("coulomb", -1), ("joule", 1)])) *
                I.φ (scaleOf builtinRegistry [("volt", 1)]), d) ∧
      dimsOf builtinRegistry [("volt", 1)] ≃ d := by
  refine infer_denotes_partial I _ [] ρ δ (m := .num 1 true) rfl (by simp [Cellml.Props.C05.arithS]) ?_
    ⟨⟨.add (.qty 1 [("volt", 1)]) (.qty 2 [("coulomb", -1), ("joule", 1)]), false, [("volt", 1)], true⟩, ?_, rfl⟩
  · rw [traverse_restrict commonUnits_closed (by decide +kernel), restrict_commonUnits]; decide +kernel
  · rw [convert_restrict commonUnits_closed (by decide +kernel), restrict_commonUnits]; decide +kernel

/-- a Piecewise with a comparison between a variable in volt and one in joule/coulomb, a sum in one piece and a square
    divided by a variable in the other -/
example (I : Interp K) (ρ : Nat → K) (δ : Nat → Nat → K) :
    ∃ d, evalPhys I builtinRegistry [⟨[("volt", 1)], none⟩, ⟨[("coulomb", -1), ("joule", 1)], none⟩] ρ δ
          (.ite (.rel .lt (.var 0) (.var 1)) (.add (.var 0) (.var 1))
            (.mul (.pow (.var 0) (.int 2)) (.pow (.var 1) (.int (-1))))) =
        some (evalNum I ρ δ (.ite (.rel .lt (.var 0) (.var 1)) (.add (.var 0) (.var 1))
                (.mul (.pow (.var 0) (.int 2)) (.pow (.var 1) (.int (-1))))) *
              I.φ (scaleOf builtinRegistry [("volt", 1)]), d) ∧
      dimsOf builtinRegistry [("volt", 1)] ≃ d := by
  refine infer_denotes_partial I _ _ ρ δ (m := .sym) rfl
    (by simp [Cellml.Props.C05.arithS, Cellml.Props.C05.boolS]) ?_
    ⟨⟨.ite (.rel .lt (.var 0) (.var 1)) (.add (.var 0) (.var 1))
        (.mul (.pow (.var 0) (.int 2)) (.pow (.var 1) (.int (-1)))), false, [("volt", 1)], true⟩, ?_, rfl⟩
  · rw [traverse_restrict commonUnits_closed (by decide +kernel), restrict_commonUnits]; decide +kernel
  · rw [convert_restrict commonUnits_closed (by decide +kernel), restrict_commonUnits]; decide +kernel

end Cellml.Props.C04Denotes
