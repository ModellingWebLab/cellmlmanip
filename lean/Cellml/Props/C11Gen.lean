import Cellml.Props.C11
import Cellml.Tie.PrinterSign
import Cellml.Tie.PrinterReject

/-! # C11 for the GENERATED printer

  `Props/C11.lean` states the headline theorems about the hand-written model `C11.pr` / `printDoc`. Here they are stated
  about `genPrint` / `genDoprint` (`Tie/PrinterClosed.lean`): the Lean definitions that `harness/translate_code.py`
  writes from the source text of every method of `cellmlmanip/printer.py` on each run, closed over SymPy's dispatch
  `Printer._print`. The bridge is `print_closed` (the closing induction over the per-method ties) and `addOK_of_symOK`.

  Domain: `C11.wf` (as in Props/C11.lean), plus `genDom`: every product has at least two factors (SymPy's constructor
  never builds another one; the model does not look) and no symbol name starts with `-` (`Symbol('-x')` in a sum is
  the one input on which the code and the model differ). -/

namespace Cellml.Props.C11Gen
open _root_.C11 Cellml.Tie.PPrinter Cellml.Tie.PPrinter2

/-- the extra domain conditions of the generated printer -/
def genDom (e : E) : Bool := genOK e && symOK e

/-- the bridge: on the domain, the generated printer returns the text of the model's tree -/
theorem gen_print_model (e : E) (s : Srt) (hs : s ≠ .P) (hl : isList e = false) (hw : wf s e = true)
    (hd : genDom e = true) (d : Doc) (h : printDoc e = some d) : genPrint e = .ok (flatten d) := by
  simp only [genDom, Bool.and_eq_true] at hd
  exact (print_closed e s hs hw hl hd.1 (addOK_of_symOK e s hw hd.1 hd.2) d h).1

/-- **print_groups** for the generated printer: whatever the model prints for an expression of the domain, the code
    generated from printer.py returns a string `flatten d` that Python parses to exactly the tree `d` the printer
    built: no operand regroups, no sign moves, no comparison chains. -/
theorem gen_print_groups (e : E) (s : Srt) (hs : s ≠ .P) (hl : isList e = false) (hw : wf s e = true)
    (hd : genDom e = true) (d : Doc) (h : printDoc e = some d) :
    genPrint e = .ok (flatten d) ∧ PyOK d = true :=
  ⟨gen_print_model e s hs hl hw hd d h, Cellml.Props.C11.print_groups e s hl hw d h⟩

/-- **print_means** (numbers) for the generated printer: the string it returns is the text of a tree that evaluates
    to the value of the expression, for every assignment of the symbols and every interpretation of the functions. -/
theorem gen_print_means {K : Type} [Field K] (S : Sem K) (hL : Laws S) (e : E) (hl : isList e = false)
    (hw : wf .A e = true) (hd : genDom e = true) (d : Doc) (h : printDoc e = some d) :
    genPrint e = .ok (flatten d) ∧ PyOK d = true ∧ (evD S d).num = (ev S e).num :=
  ⟨gen_print_model e .A (by decide) hl hw hd d h, Cellml.Props.C11.print_groups e .A hl hw d h,
    Cellml.Props.C11.print_means S hL e hl hw d h⟩

/-- **print_means** (truth values) for the generated printer -/
theorem gen_print_means_bool {K : Type} [Field K] (S : Sem K) (hL : Laws S) (e : E) (hl : isList e = false)
    (hw : wf .B e = true) (hd : genDom e = true) (d : Doc) (h : printDoc e = some d) :
    genPrint e = .ok (flatten d) ∧ PyOK d = true ∧ (evD S d).bool = (ev S e).bool ∧ (evD S d).num = (ev S e).num :=
  ⟨gen_print_model e .B (by decide) hl hw hd d h, Cellml.Props.C11.print_groups e .B hl hw d h,
    Cellml.Props.C11.print_means_bool S hL e hl hw d h⟩

/-- **doprint_means** for the generated `doprint`: rewriting the secondary trigonometric functions, then printing -/
theorem gen_doprint_means {K : Type} [Field K] (S : Sem K) (hL : Laws S) (hT : TrigDefs S) (e e' : E)
    (hE : isExpr e = true) (hr : rewriteTrig e = some e') (hl : isList e' = false) (hw : wf .A e' = true)
    (hd : genDom e' = true) (d : Doc) (h : printDoc e' = some d) :
    genDoprint e = .ok (flatten d) ∧ PyOK d = true ∧ (evD S d).num = (ev S e).num := by
  simp only [genDom, Bool.and_eq_true] at hd
  exact ⟨doprint_closed e e' hE hr hw hl hd.1 (addOK_of_symOK e' .A hw hd.1 hd.2) d h,
    Cellml.Props.C11.print_groups e' .A hl hw d h, Cellml.Props.C11.doprint_means S hL hT e e' hr hl hw d h⟩

/-- **print_groups**, read from the generated printer's side: whatever string the generated printer RETURNS for an
    expression of the domain inside the modelled fragment of SymPy (`(pr e).st ≠ unsup`: no empty sum, no held exponent that evaluates to a constant, no coefficient arithmetic beyond integers in
    `_keep_coeff`), is the text of the tree the model built, and Python parses it to exactly that tree. -/
theorem gen_print_returns (e : E) (s : Srt) (hs : s ≠ .P) (hl : isList e = false) (hw : wf s e = true)
    (hd : genDom e = true) (hnu : (pr e).st ≠ .unsup) (str : String) (h : genPrint e = .ok str) :
    ∃ d, printDoc e = some d ∧ str = flatten d ∧ PyOK d = true := by
  simp only [genDom, Bool.and_eq_true] at hd
  obtain ⟨d, h1, h2⟩ := print_returns e s hs hw hl hd.1 (addOK_of_symOK e s hw hd.1 hd.2) hnu str h
  exact ⟨d, h1, h2, Cellml.Props.C11.print_groups e s hl hw d h1⟩

/-- where the model answers ValueError, the generated printer raises it -/
theorem gen_print_rejects_verr (e : E) (s : Srt) (hs : s ≠ .P) (hl : isList e = false) (hw : wf s e = true)
    (hd : genDom e = true) (hv : (pr e).st = .verr) : genPrint e = .error ⟨"ValueError"⟩ := by
  simp only [genDom, Bool.and_eq_true] at hd
  exact print_rejected e s hs hw hl hd.1 (addOK_of_symOK e s hw hd.1 hd.2) hv

/-- **print_rejects** for the generated printer: an expression of the domain containing, anywhere the printer looks, a
    construct without a `_print_` method (`Not`, `nan`, `oo`, matrices, `Max`, …) or a function outside the name
    table makes the generated `_print` raise `ValueError` (python evaluates the operands in order; the first failing
    one raises) — and the model prints nothing. (`(pr e).st ≠ unsup`: the rest of what the printer looks at is inside
    the modelled fragment of SymPy, so that the code's behaviour on it is known.) -/
theorem gen_print_rejects (e : E) (s : Srt) (hs : s ≠ .P) (hl : isList e = false) (hw : wf s e = true)
    (hd : genDom e = true) (h : bad false e = true) (hnu : (pr e).st ≠ .unsup) :
    genPrint e = .error ⟨"ValueError"⟩ ∧ printDoc e = none := by
  have hno := rejSt_false e ▸ bad_rejects e false h
  exact ⟨gen_print_rejects_verr e s hs hl hw hd ((st_cases _ hnu).resolve_left hno), Cellml.Props.C11.print_rejects e h⟩

/-! ## non-vacuity: the generated printer run on the concrete expressions of Props/C11.lean (kernel evaluation of the
    definitions generated from printer.py) -/

open Cellml.Props.C11 in
example : genDom sample = true ∧ wf .A sample = true := by decide +kernel
open Cellml.Props.C11 in
example : genPrint sample = .ok "x - (y + 1 / math.sqrt(x**y))" := by decide +kernel
open Cellml.Props.C11 in
/-- the three families of the `fix:` commits (`(x**y)**z`, `x - (y + z)`, `z / (1 / x)`), printed by the generated code -/
example : genPrint (.pow (.pow x y) z) = .ok "(x**y)**z" := by decide +kernel
open Cellml.Props.C11 in
example : genPrint (.add (lst [x, .mul (lst [.int (-1), .add (lst [y, z])])])) = .ok "x - (y + z)" := by decide +kernel
open Cellml.Props.C11 in
example : genPrint (.mul (lst [z, .pow (.pow x (.int (-1))) (.int (-1))])) = .ok "z / (1 / x)" := by decide +kernel
open Cellml.Props.C11 in
example : genPrint (.mul (lst [.int (-2), x, .pow (.mul (lst [y, y])) (.int (-1))])) = .ok "-2 * x / (y * y)" := by
  decide +kernel
open Cellml.Props.C11 in
example : genPrint cond = .ok "x < y and (x == z or y >= 2)" := by decide +kernel
open Cellml.Props.C11 in
example : genDoprint (.mul (lst [y, .fn "sec" (lst [x])])) = .ok "y / math.cos(x)" := by decide +kernel
open Cellml.Props.C11 in
example : genPrint (.add (lst [x, .fn "gamma" (lst [y])])) = .error ⟨"ValueError"⟩ ∧
    bad false (.add (lst [x, .fn "gamma" (lst [y])])) = true ∧
    (pr (.add (lst [x, .fn "gamma" (lst [y])]))).st = .verr := by decide +kernel
open Cellml.Props.C11 in
/-- a Piecewise is read up to its first `True` condition only -/
example : genPrint (.pw (.cons (.pair x .tt) (.cons (.pair (.other "Matrix") (.other "Not")) .nil))) = .ok "(x)" := by
  decide +kernel
open Cellml.Props.C11 in
/-- the input on which code and model differ (outside `genDom`): the generated code does what python does -/
example : genPrint (.add (lst [y, .sym "-x" true])) = .ok "y - x" ∧
    printStr (.add (lst [y, .sym "-x" true])) = some "y + -x" ∧ genDom (.add (lst [y, .sym "-x" true])) = false := by
  decide +kernel

end Cellml.Props.C11Gen
