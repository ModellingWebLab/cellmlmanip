import Cellml.Tie.InferNary
import Cellml.Props.C04

-- expressions are called `e`, which is also the constructor `E.e` (Euler's number)
set_option linter.constructorNameAsVariable false

/-! # C04 for the GENERATED `UnitCalculator.traverse`, closed by recursion

    `Props/C04.lean` states the property about the hand model `Infer.traverse`; `Tie/Infer.lean` (with the congruence
    `gen_congr` of `Tie/InferNary.lean`) shows that the hand model is a fixpoint of the functional
    `Gen.Infer.traverse self rec` that the code translator writes from the source text of units.py. Here the recursion
    is closed on the generated side (`genTraverse`, by well-founded recursion on the size of the expression), shown
    equal to the hand model on the hereditary tie domain (`genTraverse_eq`), and the headline theorems of C04 are
    restated for it. -/

namespace Cellml.Props.C04Gen
open Units Spec Infer Cellml.Tie Cellml.Tie.PInfer Cellml.Props.C04

/-- size of an expression (a `deriv` counts its two variables) -/
def sz : E → Nat
  | .add a b | .mul a b | .pow a b | .fnN _ a b | .rel _ a b | .and a b | .or a b => sz a + sz b + 1
  | .abs a | .floor a | .ceil a | .fn1 _ a | .not a => sz a + 1
  | .ite c t el => sz c + sz t + sz el + 1
  | .deriv _ _ => 2
  | _ => 1

section
-- the bound `h` of `genTraverse` is read by the termination proof only
set_option linter.unusedVariables false
/-- **The generated `traverse`, closed.** The body generated from units.py, its recursive calls answered by the
    function itself (on smaller expressions - the only ones it is asked for; anything else would be a
    `RecursionError`, which `genTraverse_eq` shows never happens on the domain). -/
def genTraverse (reg : Registry) (Γ : VarEnv) (e : E) : Except PyErr Q :=
  Cellml.Gen.Infer.traverse (TravView.mk reg Γ)
    (fun o => match o with
      | .ex x => if h : sz x < sz e then genTraverse reg Γ x else .error ⟨"RecursionError"⟩
      | .tup _ => .error ⟨"AttributeError"⟩)
    (.ex e)
termination_by sz e
end

/-- **Hereditary domain**: every node that `traverse` visits (all but the conditions of a Piecewise, which it
    ignores) is in the node domain of the tie; what that excludes in python terms is said at `inDomainN`
    (Tie/Infer.lean). -/
def hdom (reg : Registry) (Γ : VarEnv) : E → Bool
  | .add a b => hdom reg Γ a && hdom reg Γ b
  | .mul a b => hdom reg Γ a && hdom reg Γ b
  | .pow b x => hdom reg Γ b && hdom reg Γ x
  | .abs a => hdom reg Γ a
  | .floor a => hdom reg Γ a
  | .ceil a => hdom reg Γ a
  | .not a => hdom reg Γ a
  | .fn1 f a => inDomainN reg Γ (.fn1 f a) && hdom reg Γ a
  | .fnN f a b => inDomainN reg Γ (.fnN f a b) && hdom reg Γ a && hdom reg Γ b
  | .ite c t el => inDomainN reg Γ (.ite c t el) && hdom reg Γ t && (el == .undef || hdom reg Γ el)
  | .deriv v t => Γ[v]?.isSome && Γ[t]?.isSome
  | .rel _ a b => hdom reg Γ a && hdom reg Γ b
  | .and a b => inDomainN reg Γ (.and a b) && hdom reg Γ a && hdom reg Γ b
  | .or a b => inDomainN reg Γ (.or a b) && hdom reg Γ a && hdom reg Γ b
  | e => inDomainN reg Γ e

section
variable (reg : Registry) (Γ : VarEnv)

theorem hdom_node (e : E) (h : hdom reg Γ e = true) : inDomainN reg Γ e = true := by
  cases e
  -- a clause with a node test has it first; a clause without one is a class on which `inDomainN` is `true`
  case fn1 => exact (Bool.and_eq_true_iff.mp h).1
  case fnN | ite | and | or => exact (Bool.and_eq_true_iff.mp (Bool.and_eq_true_iff.mp h).1).1
  all_goals first | rfl | exact h

/-! the operands along a flat spine are no bigger, and in the domain if the spine is (`E.snoc_sub`) -/

theorem addArgs_hdom (e : E) :
    ∀ x ∈ Sym.addArgs e, sz x ≤ sz e ∧ (hdom reg Γ e = true → hdom reg Γ x = true) := by
  induction e with
  | add a b iha _ =>
    exact fun x hx => (E.snoc_sub (.add a b) iha rfl Bool.and_eq_true_iff.mp x hx).imp_left Nat.le_of_lt
  | _ => exact fun x hx => List.mem_singleton.mp hx ▸ ⟨Nat.le_refl _, id⟩

theorem mulArgs_hdom (e : E) :
    ∀ x ∈ Sym.mulArgs e, sz x ≤ sz e ∧ (hdom reg Γ e = true → hdom reg Γ x = true) := by
  induction e with
  | mul a b iha _ =>
    exact fun x hx => (E.snoc_sub (.mul a b) iha rfl Bool.and_eq_true_iff.mp x hx).imp_left Nat.le_of_lt
  | _ => exact fun x hx => List.mem_singleton.mp hx ▸ ⟨Nat.le_refl _, id⟩

/-- `And`, `Or` and `fnN` nodes carry their own node condition in front of those of the operands -/
theorem hdom_operands {p a b : Bool} (h : (p && a && b) = true) : a = true ∧ b = true :=
  ⟨(Bool.and_eq_true_iff.mp (Bool.and_eq_true_iff.mp h).1).2, (Bool.and_eq_true_iff.mp h).2⟩

theorem andArgs_hdom (e : E) :
    ∀ x ∈ Sym.andArgs e, sz x ≤ sz e ∧ (hdom reg Γ e = true → hdom reg Γ x = true) := by
  induction e with
  | and a b iha _ => exact fun x hx => (E.snoc_sub (.and a b) iha rfl hdom_operands x hx).imp_left Nat.le_of_lt
  | _ => exact fun x hx => List.mem_singleton.mp hx ▸ ⟨Nat.le_refl _, id⟩

theorem orArgs_hdom (e : E) :
    ∀ x ∈ Sym.orArgs e, sz x ≤ sz e ∧ (hdom reg Γ e = true → hdom reg Γ x = true) := by
  induction e with
  | or a b iha _ => exact fun x hx => (E.snoc_sub (.or a b) iha rfl hdom_operands x hx).imp_left Nat.le_of_lt
  | _ => exact fun x hx => List.mem_singleton.mp hx ▸ ⟨Nat.le_refl _, id⟩

theorem fnArgs_hdom (f : String) (e : E) :
    ∀ x ∈ Sym.fnArgs f e, sz x ≤ sz e ∧ (hdom reg Γ e = true → hdom reg Γ x = true) := by
  induction e with
  | fnN g a b iha _ =>
    intro x hx
    by_cases hfg : f = g
    · subst hfg
      rw [Sym.fnArgs, if_pos rfl] at hx
      exact (E.snoc_sub (.fnN f a b) iha rfl hdom_operands x hx).imp_left Nat.le_of_lt
    · rw [Sym.fnArgs, if_neg hfg] at hx
      exact List.mem_singleton.mp hx ▸ ⟨Nat.le_refl _, id⟩
  | _ => exact fun x hx => List.mem_singleton.mp hx ▸ ⟨Nat.le_refl _, id⟩

theorem chain_hdom (e : E) :
    ∀ x ∈ chainExprs e, sz x < sz e ∧ (hdom reg Γ e = true → hdom reg Γ x = true) := by
  induction e with
  | ite c t el _ _ ihel =>
    intro x hx
    simp only [chainExprs, List.mem_cons] at hx
    simp only [hdom, Bool.and_eq_true, Bool.or_eq_true, beq_iff_eq, sz]
    rcases hx with rfl | hx
    · exact ⟨by omega, fun h => h.1.2⟩
    · obtain ⟨h1, h2⟩ := ihel x hx
      refine ⟨by omega, fun h => h2 (h.2.resolve_left fun hu => ?_)⟩
      rw [hu] at hx; cases hx
  | _ => intro x hx; cases hx

/-- the generated body asks `self.traverse` only for strictly smaller expressions, all of them in the domain -/
theorem kids_hdom (e : E) (h : hdom reg Γ e = true) :
    ∀ x ∈ kids e, hdom reg Γ x = true ∧ sz x < sz e := by
  suffices H : ∀ x ∈ kids e, sz x < sz e ∧ (hdom reg Γ e = true → hdom reg Γ x = true) from
    fun x hx => ⟨(H x hx).2 h, (H x hx).1⟩
  intro x hx
  cases e with
  | add a b => exact E.snoc_sub (.add a b) (addArgs_hdom reg Γ a) rfl Bool.and_eq_true_iff.mp x hx
  | mul a b => exact E.snoc_sub (.mul a b) (mulArgs_hdom reg Γ a) rfl Bool.and_eq_true_iff.mp x hx
  | and a b => exact E.snoc_sub (.and a b) (andArgs_hdom reg Γ a) rfl hdom_operands x hx
  | or a b => exact E.snoc_sub (.or a b) (orArgs_hdom reg Γ a) rfl hdom_operands x hx
  | fnN f a b =>
    simp only [kids, Sym.fnArgs, if_true] at hx
    exact E.snoc_sub (.fnN f a b) (fnArgs_hdom reg Γ f a) rfl hdom_operands x hx
  | ite c t el => exact chain_hdom reg Γ _ x hx
  | pow a b | rel _ a b =>
    simp only [kids, List.mem_cons, List.mem_nil_iff, or_false] at hx
    simp only [sz, hdom, Bool.and_eq_true]
    rcases hx with rfl | rfl
    · exact ⟨by omega, fun h => h.1⟩
    · exact ⟨by omega, fun h => h.2⟩
  | deriv v t =>
    simp only [kids, List.mem_cons, List.mem_nil_iff, or_false] at hx
    simp only [hdom, Bool.and_eq_true]
    rcases hx with rfl | rfl
    · exact ⟨Nat.lt_succ_self _, fun h => h.1⟩
    · exact ⟨Nat.lt_succ_self _, fun h => h.2⟩
  | abs a | floor a | ceil a | not a =>
    simp only [kids, List.mem_singleton] at hx
    subst hx
    exact ⟨Nat.lt_succ_self _, id⟩
  | fn1 f a =>
    simp only [kids, List.mem_singleton] at hx
    subst hx
    exact ⟨Nat.lt_succ_self _, fun h => (Bool.and_eq_true_iff.mp h).2⟩
  | _ => cases hx

/-- **The closed generated `traverse` is the hand model**, on the hereditary tie domain: the same quantity, or an
    exception of the same class. -/
theorem genTraverse_eq (e : E) (h : hdom reg Γ e = true) :
    genTraverse reg Γ e = liftE (traverse reg Γ e) := by
  suffices H : ∀ n, ∀ e, sz e < n → hdom reg Γ e = true → genTraverse reg Γ e = liftE (traverse reg Γ e) from
    H (sz e + 1) e (Nat.lt_succ_self _) h
  intro n
  induction n with
  | zero => intro e he; cases he
  | succ n ih =>
    intro e he hd
    rw [genTraverse, ← traverse_tie_nary reg Γ e (hdom_node reg Γ e hd)]
    apply gen_congr
    intro x hx
    obtain ⟨h1, h2⟩ := kids_hdom reg Γ e hd x hx
    simp only [dif_pos h2, modelRec]
    exact ih x (by omega) h1

/-! ## the headline theorems of C04, for the generated function -/

theorem infer_sound_gen (e : E) (hd : hdom reg Γ e = true) (hs : SimpleExps e = true) (r : M × Container)
    (h : genTraverse reg Γ e = .ok r) : ∃ su, specUnit reg Γ e = some su ∧ sem reg r.2 ≃₂ su := by
  rw [genTraverse_eq reg Γ e hd] at h
  exact infer_sound reg Γ e hs r ((errClass_eq_ok _ _ _).mp h)

theorem infer_consistent_gen (e : E) (hd : hdom reg Γ e = true) (hs : SimpleExps e = true) (r : M × Container)
    (h : genTraverse reg Γ e = .ok r) : ∃ su, HasUnit reg Γ e su ∧ sem reg r.2 ≃₂ su := by
  rw [genTraverse_eq reg Γ e hd] at h
  exact infer_consistent reg Γ e hs r ((errClass_eq_ok _ _ _).mp h)

/-- `infer_complete_err` for the generated `traverse`: no unit under the CellML rules - an exception -/
theorem infer_complete_err_gen (e : E) (hd : hdom reg Γ e = true) (hs : SimpleExps e = true)
    (hno : ∀ su, ¬ HasUnit reg Γ e su) : ∃ c, genTraverse reg Γ e = .error c := by
  obtain ⟨err, he⟩ := infer_complete_err reg Γ e hs hno
  exact ⟨⟨errName err⟩, by rw [genTraverse_eq reg Γ e hd, he]; rfl⟩

/-- `infer_error_trichotomy` for the generated `traverse`: the exception class is that of a `UnitError` subclass, or
    of a python exception of a magnitude operation occurring in `e`, or the model's `unsupported` for a node outside
    the exactly modelled fragment -/
theorem infer_error_trichotomy_gen (e : E) (hd : hdom reg Γ e = true) (c : PyErr)
    (h : genTraverse reg Γ e = .error c) :
    ∃ err, c = ⟨errName err⟩ ∧
      (isUnitError err = true ∨ (∃ w, err = .otherException w ∧ w ∈ pyErrors e) ∨
        (∃ w, err = .unsupported w ∧ outside Γ e = true)) := by
  rw [genTraverse_eq reg Γ e hd] at h
  obtain ⟨err, he, hc⟩ := (errClass_eq_error _ _ _).mp h
  exact ⟨err, hc, infer_error_trichotomy reg Γ e err he⟩

end

/-- non-vacuity of `hdom` -/
example : hdom builtinRegistry [⟨[("volt", 1)], none⟩, ⟨[("second", 1)], none⟩]
    (.ite (.rel .lt (.var 1) (.int 0)) (.add (.var 0) (.mul (.deriv 0 1) (.var 1)))
      (.ite .tt (.mul (.fn1 "exp" (.int 0)) (.var 0)) .undef)) = true := by decide +kernel
end Cellml.Props.C04Gen
