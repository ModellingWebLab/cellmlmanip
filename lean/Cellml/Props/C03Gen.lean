import Cellml.Props.C03
import Cellml.Tie.GenBUnitDefs

/-! # C03 about the GENERATED code — `worklist_terminates`, `worklist_sound_partial`, `worklist_perm_partial` and the
    rejection theorems of `Props/C03.lean`, restated for `Cellml.Tie.PGenB.genAddUnits`: the set-up pass and the
    `while definitions_to_add:` loop of `Parser._add_units` as GENERATED from the source text of `cellmlmanip/parser.py`
    (`Cellml.Gen.UnitDefs.addUnitsSetup`, `addUnitsBody`, `addUnitsBody_test`, with `_make_pint_unit_definition` =
    the generated `makePintUnitDefinition` inside the body), closed by the `while` loop of `Tie/GenBWhile.lean`.

    Every theorem (but `worklist_terminates_bigstep`, which speaks of the python semantics of `while` and has no
    counterpart there) is a corollary of the theorem of the same name in `Props/C03.lean` through
    `genAddUnits_eq : genAddUnits id defs = errClass addErrClass (Units.addUnits id defs)` (all documents, no
    hypothesis). Hypotheses are exactly those of the originals. `meaningOf reg st n` is what
    `get_base_units(get_unit(n))` of the unit store left behind by `_add_units` answers (pint: a leaf). -/

namespace Cellml.Props.C03Gen
open Units Cellml.Gen Cellml.Tie.PGenB
open Cellml.Props.C03 (GoodIdents)

/-! ## 2. The work list terminates -/

/-- `_add_units` cannot hang: the `while` loop over the GENERATED body, run with the budget `stepBound n 0` of passes
    through the `while` test (`n` = number of queued definitions), ends — and ends with the value of the total
    function `genAddUnits` — for every document. -/
theorem worklist_terminates (id : Nat) (defs : List UDef) : genAddUnitsFuel id defs = some (genAddUnits id defs) :=
  genAddUnitsFuel_eq id defs

/-- in the words of the python semantics: started in the state the generated set-up pass returns, the `while`
    statement over the generated body HAS a result (final state or exception), and it is the one `genAddUnits` reports -/
theorem worklist_terminates_bigstep (id : Nat) (defs : List UDef) (s : LoopSt)
    (hs : UnitDefs.addUnitsSetup defs (builtinRegistry, { id := id, known := [] }) = .ok s) :
    ∃ r, WhileRuns loopTest loopBody s r ∧ genAddUnits id defs = r.map loopResult :=
  genAddUnits_runs id defs s hs

theorem worklist_budget_suffices (id : Nat) (defs : List UDef) : (genAddUnitsFuel id defs).isSome = true := by
  rw [worklist_terminates]; rfl

/-! ## 3. Soundness -/

/-- SOUNDNESS of the generated `_add_units`: if it returns (unit store `(reg, st)`), every `<units>` of the document has
    a meaning according to the specification formula, no other, and `get_base_units` of the loaded unit is that meaning. -/
theorem worklist_sound_partial (id : Nat) (defs : List UDef) (reg : Registry) (st : Store) (hgood : GoodIdents defs)
    (h : genAddUnits id defs = .ok (reg, st)) :
    ∀ d ∈ defs, (∃ x, NameDen id defs d.name x) ∧
      ∀ x, NameDen id defs d.name x → meaningOf reg st d.name ≃₂ x :=
  C03.worklist_sound_partial id defs reg st hgood ((genAddUnits_ok_iff id defs (reg, st)).mp h)

/-! ## 4. Order independence -/

/-- ORDER INDEPENDENCE of the generated `_add_units`: permuting the `<units>` elements changes neither whether the
    document is loaded nor, when it is, the names known or the meaning of any name. -/
theorem worklist_perm_partial (id : Nat) {defs₁ defs₂ : List UDef} (hp : defs₁.Perm defs₂) (hgood : GoodIdents defs₁) :
    ((∃ r, genAddUnits id defs₁ = .ok r) ↔ (∃ r, genAddUnits id defs₂ = .ok r)) ∧
    ∀ reg₁ st₁ reg₂ st₂, genAddUnits id defs₁ = .ok (reg₁, st₁) → genAddUnits id defs₂ = .ok (reg₂, st₂) →
      st₁.known.Perm st₂.known ∧ ∀ d ∈ defs₁, meaningOf reg₁ st₁ d.name ≃₂ meaningOf reg₂ st₂ d.name := by
  simpa only [genAddUnits_ok_iff] using C03.worklist_perm_partial id hp hgood

/-- COMPLETENESS of the generated `_add_units` (what `worklist_perm_partial` rests on) -/
theorem worklist_complete_partial (id : Nat) (defs : List UDef) (hgood : GoodIdents defs) (hl : Loadable id defs) :
    ∃ r, genAddUnits id defs = .ok r := by
  simpa only [genAddUnits_ok_iff] using C03.worklist_complete_partial id defs hgood hl

/-! ## 5. Faulty documents are rejected: the generated `_add_units` raises -/

theorem reject_duplicate (id : Nat) (defs : List UDef) (h : ¬ (defs.map (·.name)).Nodup) :
    ∃ e, genAddUnits id defs = .error e :=
  (genAddUnits_error_iff id defs).mpr (C03.reject_duplicate id defs h)

theorem reject_builtin_override (id : Nat) (defs : List UDef) (d : UDef) (hd : d ∈ defs)
    (h : cellmlUnits.contains d.name = true) : ∃ e, genAddUnits id defs = .error e :=
  (genAddUnits_error_iff id defs).mpr (C03.reject_builtin_override id defs d hd h)

theorem reject_offset (id : Nat) (defs : List UDef) (d : UDef) (hd : d ∈ defs) (hb : d.base = false)
    (e : UnitElem) (he : e ∈ d.elems) (o : String) (ho : e.offset = some o) (hbad : offsetRejected o = true) :
    ∃ err, genAddUnits id defs = .error err :=
  (genAddUnits_error_iff id defs).mpr (C03.reject_offset id defs d hd hb e he o ho hbad)

theorem reject_nonzero_offset (id : Nat) (defs : List UDef) (d : UDef) (hd : d ∈ defs) (hb : d.base = false)
    (e : UnitElem) (he : e ∈ d.elems) (o : String) (ho : e.offset = some o) (q : Rat)
    (hq : Decimal.parse o = some q) (hnz : roundsToZero q = false) : ∃ err, genAddUnits id defs = .error err :=
  (genAddUnits_error_iff id defs).mpr (C03.reject_nonzero_offset id defs d hd hb e he o ho q hq hnz)

theorem reject_nonzero_offset_of_ne (id : Nat) (defs : List UDef) (d : UDef) (hd : d ∈ defs) (hb : d.base = false)
    (e : UnitElem) (he : e ∈ d.elems) (o : String) (ho : e.offset = some o) (q : Rat)
    (hq : Decimal.parse o = some q) (hne : q ≠ 0) (hden : q.den < 2 ^ 1075) :
    ∃ err, genAddUnits id defs = .error err :=
  (genAddUnits_error_iff id defs).mpr (C03.reject_nonzero_offset_of_ne id defs d hd hb e he o ho q hq hne hden)

/-- the converse, at full strength: offsets that the source accepts (`float(offset) != 0` is false: every spelling of
    zero) have no effect on what the GENERATED `_add_units` does - outcome, exception class, registry and store are
    those of the document without the `offset` attributes -/
theorem zero_offsets_ignored (id : Nat) (defs : List UDef)
    (h : ∀ d ∈ defs, d.elems.any elemOffsetBad = false) :
    genAddUnits id (defs.map C03.dropOffsets) = genAddUnits id defs := by
  rw [genAddUnits_eq, genAddUnits_eq, C03.zero_offsets_ignored id defs h]

theorem zero_offsets_ignored_of_zero (id : Nat) (defs : List UDef)
    (h : ∀ d ∈ defs, ∀ e ∈ d.elems, ∀ o, e.offset = some o → Decimal.parse o = some 0) :
    genAddUnits id (defs.map C03.dropOffsets) = genAddUnits id defs := by
  rw [genAddUnits_eq, genAddUnits_eq, C03.zero_offsets_ignored_of_zero id defs h]

theorem reject_dangling (id : Nat) (defs : List UDef) (d : UDef) (hd : d ∈ defs) (hb : d.base = false)
    (e : UnitElem) (he : e ∈ d.elems) (h1 : cellmlUnits.contains e.units = false)
    (h2 : e.units ∉ defs.map (·.name)) : ∃ err, genAddUnits id defs = .error err :=
  (genAddUnits_error_iff id defs).mpr (C03.reject_dangling id defs d hd hb e he h1 h2)

theorem reject_cycle (id : Nat) (defs : List UDef) (cyc : List UDef) (hne : cyc ≠ [])
    (h : ∀ d ∈ cyc, d ∈ defs ∧ d.base = false ∧ ∃ e ∈ d.elems, ∃ d' ∈ cyc, e.units = d'.name) :
    ∃ err, genAddUnits id defs = .error err :=
  (genAddUnits_error_iff id defs).mpr (C03.reject_cycle id defs cyc hne h)

/-! ## 6. Non-vacuity: the generated code run on concrete documents -/

/-- the chain document of `Props/C03.lean` is loaded by the generated `_add_units` … -/
example : ∃ r, genAddUnits 0 C03.chain = .ok r := by
  simpa only [genAddUnits_ok_iff] using C03.chain_loads

/-- … `offset="0.0"` is accepted by the generated code (finding `valid-rejected:zero-offset-spelling`, fixed) … -/
example : ∃ r, genAddUnits 0 [⟨"degK", false, [⟨"kelvin", none, none, none, some "0.0"⟩]⟩] = .ok r := by
  simpa only [genAddUnits_ok_iff] using C03.offset_zero_point_accepted.2.2.2.2

/-- … a ring of three definitions is refused with the work list's own `ValueError` (class from the source) -/
example : genAddUnits 0 C03.ring = .error ⟨"ValueError"⟩ := by
  rw [genAddUnits_eq, C03.error_of_fuel (id := 0) (defs := C03.ring) (e := stuck) (by decide +kernel)]
  rfl

end Cellml.Props.C03Gen
