import Cellml.Props.C07
import Cellml.Tie.GenBUnits

/-! # C07 about the GENERATED code — the seven laws of `Props/C07.lean`, restated for the definitions that
    `harness/translate_code.py` writes from the source text of `cellmlmanip/units.py`
    (`Cellml.Gen.Units.convert`, `getConversionFactor`, `isEquivalent` in `Generated/Code/Units.lean`).

    Reading: `storeObj st reg []` is the python `UnitStore` object of ANY store `st` whose pint registry holds the
    definitions `reg` and has no conversion rule enabled (the setting of C07). `factor(a, b)` of the property statement
    is the magnitude of `store.convert(1 * a, b)` — the very call `get_conversion_factor` makes
    (`unitQuantity ⟨a⟩` is python's `1 * from_unit`). A number is a magnitude without symbols, `⟨f, []⟩`.

    The theorems follow from those of `Props/C07.lean` through `genConvert_plain`, `genFactor_plain`
    (`Tie/GenBUnits.lean`: `convert_tie` and `getConversionFactor_eq` with no rule enabled) and `isEquivalent_tie`
    (`Tie/Units.lean`), which hold for ALL arguments: no tie hypothesis is added. The hypotheses `allKnown reg a` are
    those of the original theorems. -/

namespace Cellml.Props.C07Gen
open Units PMap Cellml.Tie Cellml.Tie.PUnits Cellml.Tie.PGenB

/-- `store.convert(1 * a, b)` computed by the GENERATED `UnitStore.convert` (no rule enabled) -/
abbrev conv1 (st : Store) (reg : Registry) (a b : Container) : Except PyErr QuantityObj :=
  Gen.Units.convert (storeObj st reg []) (unitQuantity ⟨a⟩) ⟨b⟩

/-- the quantity "number `f`, unit `b`" -/
abbrev num (f : Scale) (b : Container) : QuantityObj := ⟨⟨f, []⟩, ⟨b⟩⟩

/-- factor(a, a) = 1 -/
theorem factor_refl (st : Store) (reg : Registry) (a : Container) (h : allKnown reg a = true) :
    ∃ f, conv1 st reg a a = .ok (num f a) ∧ f ≃ [] := by
  simpa only [genConvert_plain_ok] using C07.factor_refl reg a h

/-- … and `get_conversion_factor(a, a)` returns the int `1` -/
theorem factor_refl_api (st : Store) (reg : Registry) (a : Container) (h : allKnown reg a = true) :
    Gen.Units.getConversionFactor (storeObj st reg []) ⟨a⟩ ⟨a⟩ = .ok 1 := by
  rw [genFactor_plain, Units.factor_refl h]; rfl

/-- the factor is the ratio of the units' SI scales (scales of the root expansion) -/
theorem factor_ratio (st : Store) (reg : Registry) (a b : Container) (f : Scale)
    (h : conv1 st reg a b = .ok (num f b)) : f ≃ sub (toRoot reg a).1 (toRoot reg b).1 :=
  C07.factor_ratio reg a b f ((genConvert_plain_ok st reg a b f).mp h)

/-- factor(a, b) · factor(b, a) = 1 -/
theorem factor_inv (st : Store) (reg : Registry) (a b : Container) (f : Scale)
    (h : conv1 st reg a b = .ok (num f b)) :
    ∃ g, conv1 st reg b a = .ok (num g a) ∧ add f g ≃ [] := by
  simp only [conv1, genConvert_plain_ok] at h ⊢
  exact C07.factor_inv reg a b f h

/-- factor(a, c) = factor(a, b) · factor(b, c) -/
theorem factor_trans (st : Store) (reg : Registry) (a b c : Container) (f g : Scale)
    (h₁ : conv1 st reg a b = .ok (num f b)) (h₂ : conv1 st reg b c = .ok (num g c)) :
    ∃ k, conv1 st reg a c = .ok (num k c) ∧ k ≃ add f g := by
  simp only [conv1, genConvert_plain_ok] at h₁ h₂ ⊢
  exact C07.factor_trans reg a b c f g h₁ h₂

/-- a dimension mismatch between known units is reported as `DimensionalityError`, never as a number — by `convert`
    for every magnitude, and by `get_conversion_factor` -/
theorem mismatch_is_error (st : Store) (reg : Registry) (m : MagObj) (a b : Container)
    (ha : allKnown reg a = true) (hb : allKnown reg b = true) (hd : beq (dimsOf reg a) (dimsOf reg b) = false) :
    Gen.Units.convert (storeObj st reg []) ⟨m, ⟨a⟩⟩ ⟨b⟩ = .error ⟨"DimensionalityError"⟩ ∧
    Gen.Units.getConversionFactor (storeObj st reg []) ⟨a⟩ ⟨b⟩ = .error ⟨"DimensionalityError"⟩ := by
  have h := C07.mismatch_is_error reg a b ha hb hd
  constructor
  · rw [genConvert_plain, h]; rfl
  · rw [genFactor_plain, h]; rfl

/-- convert(q·a, b) has magnitude q · factor(a, b), in unit b — for every magnitude `m` (number or symbolic) -/
theorem convert_magnitude (st : Store) (reg : Registry) (m : MagObj) (a b : Container) (q : QuantityObj)
    (h : Gen.Units.convert (storeObj st reg []) ⟨m, ⟨a⟩⟩ ⟨b⟩ = .ok q) :
    q.units = ⟨b⟩ ∧ ∃ f, conv1 st reg a b = .ok (num f b) ∧ q.magnitude = m * ⟨f, []⟩ := by
  rw [genConvert_plain] at h
  cases hf : factor reg a b with
  | error e => rw [hf] at h; cases h
  | ok f =>
    rw [hf] at h
    simp only [Except.ok.injEq] at h
    subst h
    exact ⟨rfl, f, (genConvert_plain_ok st reg a b f).mpr hf, rfl⟩

/-- the model-level statement `convert_magnitude` of `Props/C07.lean` in the same shape: what the generated `convert`
    returns determines the model's pair (factor, unit) -/
theorem convert_magnitude_model (st : Store) (reg : Registry) (a b : Container) (f : Scale) (u : Container)
    (h : conv1 st reg a b = .ok (num f u)) : u = b ∧ conv1 st reg a b = .ok (num f b) := by
  obtain ⟨f', _, hq⟩ := (genConvert_plain_ok_iff st reg a b _).mp h
  simp only [QuantityObj.mk.injEq, MagObj.mk.injEq, and_true, UnitObj.mk.injEq] at hq
  obtain ⟨_, rfl⟩ := hq
  exact ⟨rfl, h⟩

/-! ### `is_equivalent` is an equivalence relation, and holds exactly when the factor is one -/

/-- the GENERATED `UnitStore.is_equivalent` -/
abbrev isEq (st : Store) (reg : Registry) (rules : List Rule) (a b : Container) : Bool :=
  Id.run (Gen.Units.isEquivalent (storeObj st reg rules) ⟨a⟩ ⟨b⟩)

theorem equiv_equivalence (st : Store) (reg : Registry) (rules : List Rule) :
    (∀ a, isEq st reg rules a a = true) ∧
    (∀ a b, isEq st reg rules a b = true → isEq st reg rules b a = true) ∧
    (∀ a b c, isEq st reg rules a b = true → isEq st reg rules b c = true → isEq st reg rules a c = true) := by
  simp only [isEq, isEquivalent_tie]
  exact ⟨C07.equiv_refl reg, C07.equiv_symm reg, C07.equiv_trans reg⟩

/-- `is_equivalent` holds exactly when `convert(1 * a, b)` is the number one in `b` AND the two units expand to the
    same root units (what `radian` violates; `(toRoot reg ·).2` is the unit part of pint's `get_base_units`) -/
theorem equiv_iff_factor_one (st : Store) (reg : Registry) (a b : Container) (ha : allKnown reg a = true)
    (hb : allKnown reg b = true) :
    isEq st reg [] a b = true ↔ (conv1 st reg a b = .ok (num [] b) ∧ (toRoot reg a).2 ≃ (toRoot reg b).2) := by
  show Id.run (Gen.Units.isEquivalent (storeObj st reg []) ⟨a⟩ ⟨b⟩) = true ↔ _
  rw [isEquivalent_tie, C07.equiv_iff_factor_one reg a b ha hb, genConvert_plain_ok]

/-- … in terms of `get_conversion_factor`: equivalent ⇔ it returns the int `1` and the root units agree -/
theorem equiv_iff_factor_one_api (st : Store) (reg : Registry) (a b : Container) (ha : allKnown reg a = true)
    (hb : allKnown reg b = true) :
    isEq st reg [] a b = true ↔
      (Gen.Units.getConversionFactor (storeObj st reg []) ⟨a⟩ ⟨b⟩ = .ok 1 ∧ (toRoot reg a).2 ≃ (toRoot reg b).2) := by
  rw [equiv_iff_factor_one st reg a b ha hb, genConvert_plain_ok, genFactor_plain]
  cases hf : factor reg a b with
  | error e => simp
  | ok f =>
    by_cases h : f = []
    · subst h; simp; intro _; rfl
    · have : (CFObj.mag ⟨f, []⟩ = (1 : CFObj)) = False := by
        apply eq_false; intro hh; cases hh
      simp [h, this]

/-! ### non-vacuity: the generated code run on concrete units of the built-in registry -/

example : conv1 ⟨0, []⟩ builtinRegistry [("liter", 1)] [("meter", 3)] = .ok (num [(2, -3), (5, -3)] [("meter", 3)]) :=
  (genConvert_plain_ok _ _ _ _ _).mpr C07.liter_in_cubic_meters
example : Gen.Units.getConversionFactor (storeObj ⟨0, []⟩ builtinRegistry []) ⟨[("volt", 1)]⟩
    ⟨[("joule", 1), ("coulomb", -1)]⟩ = .ok 1 := by
  rw [genFactor_plain, C07.volt_is_joule_per_coulomb]; rfl
example : conv1 ⟨0, []⟩ builtinRegistry [("volt", 1)] [("second", 1)] = .error ⟨"DimensionalityError"⟩ := by
  rw [conv1, unitQuantity, genConvert_plain, C07.volt_to_second_refused]; rfl

end Cellml.Props.C07Gen
