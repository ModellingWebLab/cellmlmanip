import Cellml.Props.C19Gen
import Cellml.Tie.ConvRule

/-! # C19 about the GENERATED `add_conversion_rule` — "custom conversion rules apply the same way whatever the units"

    `Props/C19.lean` / `Props/C19Gen.lean` take the list of enabled transformations as given (hypotheses
    `lookupRule rules … = some r`). Here the list is the one the code generated from `UnitStore.add_conversion_rule`
    (`Cellml.Gen.ConvRule.addConversionRule`) leaves in the python object, so the statements that contain the call run from
    `add_conversion_rule(f, t, rule)` to the later `convert` / `get_conversion_factor` (both generated).

    The four `added_rule_…_units` / `…_same_dims` theorems, `add_twice` and `add_unknown_unit_raises` contain the generated
    call (`addR`). `added_rule_other_key_untouched`, `added_rule_directional`, `add_twice_idempotent`,
    `later_rule_shadows`, `later_rule_other_key_does_not_shadow` contain no generated term: they are about `lookupRule`
    over `mkRule reg f t body :: rules`, the rule list that `addConversionRule_ok` / `add_twice` show the call (once,
    twice) leaves in the object; the whole conversions after two calls are in `Props/C19GenRIdem.lean`. Shadowing is
    pint's `ContextChain` (newest map first), observed in `notes/tie5_convrule_probe.py` cases 5-8. -/

namespace Cellml.Props.C19GenR
open Units PMap Cellml.Tie Cellml.Tie.PUnits Cellml.Tie.PConvRule

/-- `store.add_conversion_rule(f, t, rule)` computed by the GENERATED method on the object `storeObj st reg rules` -/
abbrev addR (st : Store) (reg : Registry) (rules : List Rule) (f t : Container) (body : List RFactor) :
    Except PyErr StoreObj :=
  Gen.ConvRule.addConversionRule (storeObj st reg rules) ⟨f⟩ ⟨t⟩ body

@[simp] theorem mkRule_src (reg : Registry) (f t : Container) (body : List RFactor) :
    (mkRule reg f t body).src = dimsOf reg f := rfl

@[simp] theorem mkRule_dst (reg : Registry) (f t : Container) (body : List RFactor) :
    (mkRule reg f t body).dst = dimsOf reg t := rfl

theorem lookupRule_cons (r : Rule) (rules : List Rule) (s d : Dims) :
    lookupRule (r :: rules) s d = if r.src = s ∧ r.dst = d then some r else lookupRule rules s d :=
  Units.lookupRule_cons r rules s d

/-- **The key depends on dimensionality only.** After `add_conversion_rule(f, t, rule)` (units known to the
    registry), for ANY units `a`, `b` with the dimensionalities of `f` and `t` — any scale, any spelling — the
    transformation pint finds for (dim a, dim b) is this rule. -/
theorem added_rule_found_whatever_units (st : Store) (reg : Registry) (rules : List Rule) (f t a b : Container)
    (body : List RFactor) (hf : allKnown reg f = true) (ht : allKnown reg t = true)
    (ha : dimsOf reg a ≃ dimsOf reg f) (hb : dimsOf reg b ≃ dimsOf reg t) :
    ∃ s', addR st reg rules f t body = .ok s' ∧ s' = storeObj st reg s'._registry.rules ∧
      lookupRule s'._registry.rules (dimsOf reg a) (dimsOf reg b) = some (mkRule reg f t body) := by
  refine ⟨_, addConversionRule_ok st reg rules f t body hf ht, rfl, ?_⟩
  show lookupRule (mkRule reg f t body :: rules) _ _ = _
  rw [lookupRule_cons, dimsOf_eq_of_equiv ha, dimsOf_eq_of_equiv hb]
  simp

/-- **… and it is applied the same way whatever the units.** After the call, the generated `convert` of any
    magnitude from ANY unit `a` of the dimension of `f` to ANY unit `b` of the dimension of `t` (the two dimensions
    differ; κ = the rule's multiplier has the dimension target / source) succeeds with the multiplier
    `scale(a) · |κ| · scale(unit κ) / scale(b)` and the symbols of κ: nothing of `f`, `t` enters but their dimension. -/
theorem added_rule_converts_whatever_units (st : Store) (reg : Registry) (rules : List Rule) (f t a b : Container)
    (body : List RFactor) (m : MagObj) (hf : allKnown reg f = true) (ht : allKnown reg t = true)
    (hka : allKnown reg a = true) (hkb : allKnown reg b = true)
    (hk : allKnown reg (norm (kappa body).2.2) = true)
    (ha : dimsOf reg a ≃ dimsOf reg f) (hb : dimsOf reg b ≃ dimsOf reg t)
    (hne : ¬ dimsOf reg f ≃ dimsOf reg t)
    (hdim : dimsOf reg (norm (kappa body).2.2) ≃ sub (dimsOf reg t) (dimsOf reg f)) :
    ∃ s' g y, addR st reg rules f t body = .ok s' ∧
      Gen.Units.convert s' ⟨m, ⟨a⟩⟩ ⟨b⟩ = .ok ⟨m * ⟨g, y⟩, ⟨b⟩⟩ ∧
      g ≃ add (sub (toRoot reg a).1 (toRoot reg b).1)
            (add (norm (kappa body).1) (toRoot reg (norm (kappa body).2.2)).1) ∧
      y ≃ norm (kappa body).2.1 := by
  have hlk : lookupRule (mkRule reg f t body :: rules) (dimsOf reg a) (dimsOf reg b) = some (mkRule reg f t body) := by
    rw [lookupRule_cons, dimsOf_eq_of_equiv ha, dimsOf_eq_of_equiv hb]; simp
  have hne' : ¬ dimsOf reg a ≃ dimsOf reg b := by
    rw [dimsOf_eq_of_equiv ha, dimsOf_eq_of_equiv hb]; exact hne
  obtain ⟨g, y, hc, hg, hy⟩ := C19Gen.rule_unit_independent_any_magnitude st reg (mkRule reg f t body :: rules) m a b
    (mkRule reg f t body) hka hkb hk hne' hlk hdim
  exact ⟨_, g, y, addConversionRule_ok st reg rules f t body hf ht, hc, hg, hy⟩

/-- registering the rule through other units of the same two dimensions leaves the same python object -/
theorem added_rule_registration_units_irrelevant (st : Store) (reg : Registry) (rules : List Rule)
    (f f' t t' : Container) (body : List RFactor)
    (hf : allKnown reg f = true) (ht : allKnown reg t = true)
    (hf' : allKnown reg f' = true) (ht' : allKnown reg t' = true)
    (h₁ : dimsOf reg f ≃ dimsOf reg f') (h₂ : dimsOf reg t ≃ dimsOf reg t') :
    addR st reg rules f t body = addR st reg rules f' t' body := by
  unfold addR
  rw [addConversionRule_ok st reg rules f t body hf ht, addConversionRule_ok st reg rules f' t' body hf' ht',
    C19.rule_registration_units_irrelevant reg f f' t t' body h₁ h₂]

/-- **A conversion between units of equal dimensionality never consults the rule**: the generated `convert` and
    `get_conversion_factor` return the same — result or exception class — on the object after the call as on the
    object before it, whatever the rule (even one keyed on that very dimension). -/
theorem added_rule_not_consulted_same_dims (st : Store) (reg : Registry) (rules : List Rule) (f t a b : Container)
    (body : List RFactor) (m : MagObj) (hf : allKnown reg f = true) (ht : allKnown reg t = true)
    (hd : dimsOf reg a ≃ dimsOf reg b) :
    ∃ s', addR st reg rules f t body = .ok s' ∧
      Gen.Units.convert s' ⟨m, ⟨a⟩⟩ ⟨b⟩ = Gen.Units.convert (storeObj st reg rules) ⟨m, ⟨a⟩⟩ ⟨b⟩ ∧
      Gen.Units.getConversionFactor s' ⟨a⟩ ⟨b⟩ = Gen.Units.getConversionFactor (storeObj st reg rules) ⟨a⟩ ⟨b⟩ :=
  ⟨_, addConversionRule_ok st reg rules f t body hf ht,
    (C19Gen.rule_noninterference_code st reg (mkRule reg f t body :: rules) rules m a b hd).1,
    (C19Gen.rule_noninterference_code st reg (mkRule reg f t body :: rules) rules m a b hd).2⟩

/-- lookups under every key other than (dim f, dim t) are what they were before the call -/
theorem added_rule_other_key_untouched (reg : Registry) (rules : List Rule) (f t : Container) (body : List RFactor)
    (s d : Dims) (h : ¬ (dimsOf reg f = s ∧ dimsOf reg t = d)) :
    lookupRule (mkRule reg f t body :: rules) s d = lookupRule rules s d := by
  rw [lookupRule_cons, mkRule_src, mkRule_dst, if_neg h]

/-- the rule is directional: under the reversed key nothing new is found -/
theorem added_rule_directional (reg : Registry) (rules : List Rule) (f t : Container) (body : List RFactor)
    (hne : dimsOf reg f ≠ dimsOf reg t) :
    lookupRule (mkRule reg f t body :: rules) (dimsOf reg t) (dimsOf reg f) =
      lookupRule rules (dimsOf reg t) (dimsOf reg f) :=
  added_rule_other_key_untouched reg rules f t body _ _ (fun h => hne h.1)

/-- the rule list of the object after `add_conversion_rule(f, t, rule)` twice (the second call on the object the
    first returned) -/
theorem add_twice (st : Store) (reg : Registry) (rules : List Rule) (f t f' t' : Container)
    (body body' : List RFactor) (hf : allKnown reg f = true) (ht : allKnown reg t = true)
    (hf' : allKnown reg f' = true) (ht' : allKnown reg t' = true) :
    (addR st reg rules f t body >>= fun s₁ => Gen.ConvRule.addConversionRule s₁ ⟨f'⟩ ⟨t'⟩ body') =
      .ok (storeObj st reg (mkRule reg f' t' body' :: mkRule reg f t body :: rules)) := by
  unfold addR
  rw [addConversionRule_ok st reg rules f t body hf ht]
  exact addConversionRule_ok st reg _ f' t' body' hf' ht'

/-- **Adding the same rule twice is idempotent on lookups**: pint holds two contexts with the same key, every lookup
    gives what it gave after the first call. -/
theorem add_twice_idempotent (reg : Registry) (rules : List Rule) (f t : Container) (body : List RFactor)
    (s d : Dims) :
    lookupRule (mkRule reg f t body :: mkRule reg f t body :: rules) s d =
      lookupRule (mkRule reg f t body :: rules) s d := by
  rw [lookupRule_cons, lookupRule_cons]
  split <;> rfl

/-- **A later rule for the same pair of dimensionalities shadows the earlier one** — whatever units either was
    registered with (pint: `ContextChain` is a `ChainMap` with the newest context first). -/
theorem later_rule_shadows (reg : Registry) (rules : List Rule) (f t f' t' a b : Container)
    (body body' : List RFactor)
    (h₁ : dimsOf reg f' ≃ dimsOf reg f) (h₂ : dimsOf reg t' ≃ dimsOf reg t)
    (ha : dimsOf reg a ≃ dimsOf reg f) (hb : dimsOf reg b ≃ dimsOf reg t) :
    lookupRule (mkRule reg f' t' body' :: mkRule reg f t body :: rules) (dimsOf reg a) (dimsOf reg b) =
      some (mkRule reg f' t' body') := by
  rw [lookupRule_cons, dimsOf_eq_of_equiv ha, dimsOf_eq_of_equiv hb, mkRule_src, mkRule_dst,
    dimsOf_eq_of_equiv h₁, dimsOf_eq_of_equiv h₂]
  simp

/-- … and a later rule for ANOTHER pair does not: the earlier rule is still found under its key -/
theorem later_rule_other_key_does_not_shadow (reg : Registry) (rules : List Rule) (f t f' t' a b : Container)
    (body body' : List RFactor)
    (hk : ¬ (dimsOf reg f' = dimsOf reg f ∧ dimsOf reg t' = dimsOf reg t))
    (ha : dimsOf reg a ≃ dimsOf reg f) (hb : dimsOf reg b ≃ dimsOf reg t) :
    lookupRule (mkRule reg f' t' body' :: mkRule reg f t body :: rules) (dimsOf reg a) (dimsOf reg b) =
      some (mkRule reg f t body) := by
  rw [dimsOf_eq_of_equiv ha, dimsOf_eq_of_equiv hb, added_rule_other_key_untouched reg _ f' t' body' _ _ hk,
    lookupRule_cons]
  simp

/-- a unit the registry does not know (a unit of a store with another registry): `UndefinedUnitError`, and no object
    with a new rule list is produced -/
theorem add_unknown_unit_raises (st : Store) (reg : Registry) (rules : List Rule) (f t : Container)
    (body : List RFactor) (h : allKnown reg f = false ∨ allKnown reg t = false) :
    addR st reg rules f t body = .error ⟨"UndefinedUnitError"⟩ := by
  apply addConversionRule_unknown
  rcases h with h | h <;> simp [h]

end Cellml.Props.C19GenR
