import Cellml.Tie.GenDConvertVar
import Cellml.Props.C06

/-! # C06 — the property theorems of `Props/C06.lean`, stated about the GENERATED code

    `Props/C06.lean` proves its theorems about the hand model `Model.CV.convertVariable s v u cf dir move` (the factor
    `cf` is an input of the hand model). Here each headline theorem is restated about
    `Gen.ConvertVar.convertVariable view s v u dir move : Except PyErr (CState × Nat)` — the definition generated from
    the source of `Model.convert_variable`, calling the definitions generated from `_convert_variable_instance`,
    `_convert_state_variable_deriv`, `_convert_free_variable_deriv`, `_remove_ode_and_assign_rhs_to_new_variable`,
    `_replace_references_to_derivatives` — and proved as a corollary through the ties of `Tie/ConvertVar*.lean`.

    * The factor: python computes it (`self.units.get_conversion_factor`, the view's leaf `getConversionFactor`, subject
      of C07). Every theorem carries `hget : view.getConversionFactor (unitOfV s v) u = .ok cf`, which NAMES the factor
      the property speaks about (it replaces the hand model's argument `cf`; it is not a restriction of the domain: when
      the units module raises instead, `convertVariable_cf_error` says `convert_variable` raises the same exception).
    * "Python raises nothing" becomes part of the statements: `∃ s' nv, Gen… = .ok (s', nv) ∧ …`.
    * `get_unique_name`: inside the generated helpers the call is the LEAF `freshName` of the hand model, a fixpoint of
      the generated `get_unique_name` (`getUniqueName_tie`) and equal to the closed generated function `genUniqueName`
      (`Tie/GenDConvertVar.lean`), with which the statements here are written.
    * Theorems whose original has NO invariant among its hypotheses (`convert_var_meta`, `convert_var_names_fresh`)
      carry the domain hypotheses of `convertVariable_tie` (`s.raised = false`, `DerivOdes s`, `KeysNodup s`) and speak
      about the case that python returns; `convert_var_noop_gen` needs only that the variable is in the model. These are
      not implied by the originals' hypotheses — see notes/reports/TIE2_GenD.md. On well-formed models (`WF`) all of
      them follow (`convert_var_meta_gen_wf`). `Props/C06GenE.lean` proves both from `KeysNodup s` alone. -/

namespace Cellml.Props.C06Gen
open Model Model.CV Cellml.Gen Cellml.Tie Cellml.Tie.CV Cellml.Tie.GenD Cellml.Props.C06

variable {K : Type} [Field K]

/-- **Soundness of one call of the generated `convert_variable`** (`convert_var_sound`): from a well-formed model,
    for a factor other than 1 that is not read as zero, python raises nothing and returns a state `s'` and a variable
    `nv` for which `CallOK` holds (new variable returned, `s'` well-formed, every point solution of `s` extends to one
    of `s'`, every point solution of `s'` restricts to one of `s`).

    The third component of `CallOK`'s argument is the map `derivative_replacements`, a LOCAL of the python function
    that is not returned; it is named here by the hand model's ghost component. `convert_var_sound_gen_exists` hides
    it. -/
theorem convert_var_sound_gen (view : CVView) (I : Interp K) {s : CState} (hwf : WF s) (v : Nat)
    (hv : v < s.vars.length) (u : U) (cf : Rat) (hget : view.getConversionFactor (unitOfV s v) u = .ok cf)
    (hcf1 : cf ≠ 1) (hcf : I.lit cf ≠ 0) (dir : Dir) (move : Bool) :
    ∃ s' nv, ConvertVar.convertVariable view s v u dir move = .ok (s', nv) ∧
      CallOK I s v cf dir (s', nv, (CV.convertVariable s v u cf dir move).2.2) :=
  ⟨_, _, convertVariable_tie_wf view _ v u dir move cf hwf hv hget, convert_var_sound I hwf v hv u cf hcf1 hcf dir move⟩

theorem convert_var_sound_gen_exists (view : CVView) (I : Interp K) {s : CState} (hwf : WF s) (v : Nat)
    (hv : v < s.vars.length) (u : U) (cf : Rat) (hget : view.getConversionFactor (unitOfV s v) u = .ok cf)
    (hcf1 : cf ≠ 1) (hcf : I.lit cf ≠ 0) (dir : Dir) (move : Bool) :
    ∃ s' nv, ConvertVar.convertVariable view s v u dir move = .ok (s', nv) ∧
      ∃ rep, CallOK I s v cf dir (s', nv, rep) := by
  obtain ⟨s', nv, h1, h2⟩ := convert_var_sound_gen view I hwf v hv u cf hget hcf1 hcf dir move
  exact ⟨s', nv, h1, _, h2⟩

/-- **Equivalent units** (`convert_var_noop`): the generated code returns the untouched model and the original
    variable — any state. Domain hypothesis of the code that the hand-model theorem does not have: the variable is in
    the model (for a variable whose NAME is not in the model python's first `assert` fails:
    `convert_var_noop_outside`). -/
theorem convert_var_noop_gen (view : CVView) (s : CState) (v : Nat) (hv : v < s.vars.length) (u : U)
    (hget : view.getConversionFactor (unitOfV s v) u = .ok 1) (dir : Dir) (move : Bool) :
    ConvertVar.convertVariable view s v u dir move = .ok (s, v) :=
  convertVariable_noop_gen view s v u dir move hv hget

/-- outside that hypothesis the code and the hand model differ: python raises, the model answers `(s, v, [])` -/
theorem convert_var_noop_outside (view : CVView) (s : CState) (v : Nat) (hv : nameOfV s v ∉ CV.names s) (u : U)
    (dir : Dir) (move : Bool) :
    ConvertVar.convertVariable view s v u dir move = .error ⟨"AssertionError"⟩ ∧
    CV.convertVariable s v u 1 dir move = (s, v, []) :=
  ⟨convertVariable_not_in_model view s v u dir move hv, convert_var_noop s v u dir move⟩

/-- **Nothing raises, the result is well-formed** (`convert_var_wf`), for the generated code -/
theorem convert_var_wf_gen (view : CVView) {s : CState} (hwf : WF s) (v : Nat) (hv : v < s.vars.length) (u : U)
    (cf : Rat) (hget : view.getConversionFactor (unitOfV s v) u = .ok cf) (dir : Dir) (move : Bool) :
    ∃ s' nv, ConvertVar.convertVariable view s v u dir move = .ok (s', nv) ∧ WF s' ∧ s'.raised = false :=
  ⟨_, _, convertVariable_tie_wf view _ v u dir move cf hwf hv hget, convert_var_wf hwf v hv u cf dir move⟩

/-- `convert_var_names_fresh` for the generated code: the closed generated `get_unique_name` answers a name no variable
    has; and whenever the generated `convert_variable` returns, distinct names stay distinct. -/
theorem convert_var_names_fresh_gen (view : CVView) (s : CState) (v : Nat) (hv : v < s.vars.length) (u : U) (cf : Rat)
    (hget : view.getConversionFactor (unitOfV s v) u = .ok cf) (dir : Dir) (move : Bool)
    (hs : s.raised = false) (hd : DerivOdes s) (hk : KeysNodup s) :
    (∀ base, genUniqueName s base ∉ CV.names s) ∧
    (∀ s' nv, ConvertVar.convertVariable view s v u dir move = .ok (s', nv) →
      (CV.names s).Nodup → (CV.names s').Nodup) := by
  refine ⟨genUniqueName_fresh s, ?_⟩
  intro s' nv hok hn
  obtain ⟨hr, _⟩ := gen_returns (convertVariable_tie view s v u dir move cf hs hv hd hk hget) hok
  have : s' = (CV.convertVariable s v u cf dir move).1 := congrArg Prod.fst hr
  rw [this]
  exact (convert_var_names_fresh s v hv u cf dir move).2 hn

/-- the initial value of the new variable: `cf ·` the original's for INPUT, none for OUTPUT (the `match` of
    `convert_var_meta`, named so that it can be written under a hypothesis that mentions `dir`) -/
abbrev newInitOf (dir : Dir) (i : Option Rat) (cf : Rat) : Option Rat :=
  match dir with | .input => i.map (· * cf) | .output => none

/-- the initial value the original variable keeps: none for INPUT, its own for OUTPUT -/
abbrev keptInitOf (dir : Dir) (i : Option Rat) : Option Rat :=
  match dir with | .input => none | .output => i

/-- **Initial values and annotations move as documented** (`convert_var_meta`), for the generated code: whenever the
    generated `convert_variable` returns `(s', nv)` for a factor other than 1, `nv` is the number of variables before
    the call, and `s'` has: variable `nv` = the new one (name from the generated `get_unique_name`, requested units,
    initial value `cf ·` the original's for INPUT and none for OUTPUT, the cmeta id of the original iff annotations
    move); the original with its initial value removed for INPUT and its cmeta id removed iff annotations move; every
    other old variable untouched; the cmeta map pointing to the new variable (or untouched).

    Domain hypotheses of the tie, NOT among the hypotheses of `convert_var_meta` (which has no invariant at all):
    `hs`, `hd`, `hk`. -/
theorem convert_var_meta_gen (view : CVView) (s : CState) (v : Nat) (hv : v < s.vars.length) (u : U) (cf : Rat)
    (hget : view.getConversionFactor (unitOfV s v) u = .ok cf) (hcf : cf ≠ 1) (dir : Dir) (move : Bool)
    (hs : s.raised = false) (hd : DerivOdes s) (hk : KeysNodup s)
    (s' : CState) (nv : Nat) (hok : ConvertVar.convertVariable view s v u dir move = .ok (s', nv)) :
    s'.vars[s.vars.length]? =
      some ⟨genUniqueName s (nameOfV s v ++ "_converted"), u,
            newInitOf dir (initOfV s v) cf,
            if move then cmetaOfV s v else none⟩ ∧
    s'.vars[v]? =
      (s.vars[v]?).map (fun y => ⟨y.name, y.unit, keptInitOf dir y.init,
                                  if move then none else y.cmeta⟩) ∧
    (∀ i, i < s.vars.length → i ≠ v → s'.vars[i]? = s.vars[i]?) ∧
    (∀ c, move = true → cmetaOfV s v = some c → s'.cmetaMap.lookup c = some s.vars.length) ∧
    ((move = false ∨ cmetaOfV s v = none) → s'.cmetaMap = s.cmetaMap) ∧
    s'.raised = false := by
  obtain ⟨hr, hflag⟩ := gen_returns (convertVariable_tie view s v u dir move cf hs hv hd hk hget) hok
  have h1 : s' = (CV.convertVariable s v u cf dir move).1 := congrArg Prod.fst hr
  obtain ⟨m1, m2, m3, m4, m5⟩ := convert_var_meta s v hv u cf hcf dir move
  rw [h1, genUniqueName_eq]
  exact ⟨m1, m2, m3, m4, m5, hflag⟩

/-- the same on a well-formed model, where python is known to return (and the returned variable is the new one) -/
theorem convert_var_meta_gen_wf (view : CVView) {s : CState} (hwf : WF s) (v : Nat) (hv : v < s.vars.length) (u : U)
    (cf : Rat) (hget : view.getConversionFactor (unitOfV s v) u = .ok cf) (hcf : cf ≠ 1) (dir : Dir) (move : Bool) :
    ∃ s', ConvertVar.convertVariable view s v u dir move = .ok (s', s.vars.length) ∧
    s'.vars[s.vars.length]? =
      some ⟨genUniqueName s (nameOfV s v ++ "_converted"), u,
            newInitOf dir (initOfV s v) cf,
            if move then cmetaOfV s v else none⟩ ∧
    s'.vars[v]? =
      (s.vars[v]?).map (fun y => ⟨y.name, y.unit, keptInitOf dir y.init,
                                  if move then none else y.cmeta⟩) ∧
    (∀ i, i < s.vars.length → i ≠ v → s'.vars[i]? = s.vars[i]?) ∧
    (∀ c, move = true → cmetaOfV s v = some c → s'.cmetaMap.lookup c = some s.vars.length) ∧
    ((move = false ∨ cmetaOfV s v = none) → s'.cmetaMap = s.cmetaMap) := by
  have hg := convertVariable_tie_wf view _ v u dir move cf hwf hv hget
  rw [convertVariable_ret s v u cf dir move hcf] at hg
  obtain ⟨m1, m2, m3, m4, m5, _⟩ := convert_var_meta_gen view s v hv u cf hget hcf dir move hwf.inv.notRaised
    (derivOdes_of_inv0 hwf.inv) hwf.inv.odKeys _ _ hg
  exact ⟨_, hg, m1, m2, m3, m4, m5⟩

/-- **Unit-consistent equations stay unit-consistent** (`convert_var_units`), for the generated code -/
theorem convert_var_units_gen (view : CVView) (J : UI) {s : CState} (hwf : WF s) (hu : UnitsOK J s) (v : Nat)
    (hv : v < s.vars.length) (u : U) (cf : Rat) (hget : view.getConversionFactor (unitOfV s v) u = .ok cf) (dir : Dir)
    (move : Bool) (hvs : (unitOfV s v).scale ≠ 0) (hus : u.scale ≠ 0) :
    ∃ s' nv, ConvertVar.convertVariable view s v u dir move = .ok (s', nv) ∧ UnitsOK J s' :=
  ⟨_, _, convertVariable_tie_wf view _ v u dir move cf hwf hv hget, convert_var_units J hwf hu v hv u cf dir move hvs hus⟩

/-- a sequence of calls of the generated `convert_variable` (python: one after the other on the same `Model` object;
    the first exception ends the run): the final model and the variables returned. The `cf` field of a `Call` is not
    used: python computes the factor. -/
def runSeqGen (view : CVView) (s : CState) : List Call → Except PyErr (CState × List Nat)
  | [] => .ok (s, [])
  | a :: rest =>
      match ConvertVar.convertVariable view s a.v a.u a.dir a.move with
      | .error e => .error e
      | .ok (s1, r) =>
          match runSeqGen view s1 rest with
          | .error e => .error e
          | .ok (s2, rs) => .ok (s2, r :: rs)

/-- each call converts a variable that exists when the call is made; `a.cf` IS the factor the units module answers at
    that moment, and it is not read as zero. Stated along the run of the GENERATED code. -/
def ValidSeqGen (view : CVView) (I : Interp K) (s : CState) : List Call → Prop
  | [] => True
  | a :: rest => a.v < s.vars.length ∧ view.getConversionFactor (unitOfV s a.v) a.u = .ok a.cf ∧ I.lit a.cf ≠ 0 ∧
      ∀ s1 r, ConvertVar.convertVariable view s a.v a.u a.dir a.move = .ok (s1, r) → ValidSeqGen view I s1 rest

theorem runSeqGen_eq (view : CVView) (I : Interp K) : ∀ (cs : List Call) (s : CState), WF s →
    ValidSeqGen view I s cs → runSeqGen view s cs = .ok (runSeq s cs) ∧ ValidSeq I s cs
  | [], s, _, _ => ⟨rfl, trivial⟩
  | a :: rest, s, hwf, hval => by
    obtain ⟨hv, hget, hcf, hrest⟩ := hval
    have hg := convertVariable_tie_wf view _ a.v a.u a.dir a.move a.cf hwf hv hget
    have hwf1 := (convert_var_wf hwf a.v hv a.u a.cf a.dir a.move).1
    obtain ⟨ih1, ih2⟩ := runSeqGen_eq view I rest _ hwf1 (hrest _ _ hg)
    refine ⟨?_, hv, hcf, ih2⟩
    simp only [runSeqGen, hg, ih1, runSeq]

/-- **Any sequence of conversions** (`convert_var_seq`), for the generated code: python raises nothing along the
    whole run; the final model is well-formed; every point solution of the first model extends to one of the last in
    which every returned variable is `cf ·` its original; every point solution of the last gives one of the first. -/
theorem convert_var_seq_gen (view : CVView) (I : Interp K) (hI1 : I.lit 1 = 1) (cs : List Call) (s : CState)
    (hwf : WF s) (hval : ValidSeqGen view I s cs) :
    ∃ sN rets, runSeqGen view s cs = .ok (sN, rets) ∧
    WF sN ∧ s.vars.length ≤ sN.vars.length ∧
    (∀ σ : Val K, Sat I σ s → ∃ σ' : Val K, Sat I σ' sN ∧ Agree s.vars.length σ σ' ∧ Chain I σ' cs rets) ∧
    (∀ σ' : Val K, Sat I σ' sN → ∃ σ : Val K, Sat I σ s ∧ σ.v = σ'.v ∧ Chain I σ' cs rets) := by
  obtain ⟨hrun, hv⟩ := runSeqGen_eq view I cs s hwf hval
  exact ⟨_, _, hrun, convert_var_seq I hI1 cs s hwf hv⟩

/-- `convert_var_twice` for the generated code -/
theorem convert_var_twice_gen (view : CVView) (I : Interp K) (hI1 : I.lit 1 = 1) {s : CState} (hwf : WF s)
    (a b : Call) (hval : ValidSeqGen view I s [a, b])
    (hb : ∀ s1 r, ConvertVar.convertVariable view s a.v a.u a.dir a.move = .ok (s1, r) → b.v = r)
    (σ : Val K) (hσ : Sat I σ s) :
    ∃ sN rets, runSeqGen view s [a, b] = .ok (sN, rets) ∧
    ∃ σ' : Val K, Sat I σ' sN ∧ Agree s.vars.length σ σ' ∧
      ∃ r ∈ rets, σ'.v r = I.lit b.cf * I.lit a.cf * σ.v a.v := by
  obtain ⟨hrun, hv⟩ := runSeqGen_eq view I [a, b] s hwf hval
  have hg := convertVariable_tie_wf view _ a.v a.u a.dir a.move a.cf hwf hval.1 hval.2.1
  exact ⟨_, _, hrun, convert_var_twice I hI1 hwf a b (hb _ _ hg) hv σ hσ⟩

/-! The docstring model of `Props/C06.lean` (`demo`) run through the generated code, with a units module that answers
    1/1000 for mV → V and ms → s. -/

def demoView : CVView := ⟨fun _ _ => .ok (1 / 1000)⟩

/-- the generated code evaluated by the kernel: the INPUT conversion of the state variable `sv1` of the docstring -/
example : (ConvertVar.convertVariable demoView demo 1 uVolt .input true).map
      (fun r => (r.1.vars.map fun x => (x.name, x.init, x.cmeta), r.2)) =
    .ok ([("time", none, some "time"), ("sv1", none, none), ("sv1_converted", some (1/500), some "sv11"),
          ("sv1_orig_deriv", none, none)], 2) := by decide +kernel

example : ∃ s' nv, ConvertVar.convertVariable demoView demo 1 uVolt .input true = .ok (s', nv) ∧
    CallOK (K := ℚ) ⟨fun q => q, fun _ x => x, fun _ x _ => x⟩ demo 1 (1/1000) .input
      (s', nv, (CV.convertVariable demo 1 uVolt (1/1000) .input true).2.2) :=
  convert_var_sound_gen demoView _ demo_wf 1 (by decide) uVolt (1/1000) rfl (by decide +kernel) (by decide +kernel)
    .input true

end Cellml.Props.C06Gen

/-- info: 'Cellml.Props.C06Gen.convert_var_sound_gen' depends on axioms: [propext, Classical.choice, Quot.sound] -/
#guard_msgs in
#print axioms Cellml.Props.C06Gen.convert_var_sound_gen
/-- info: 'Cellml.Props.C06Gen.convert_var_noop_gen' depends on axioms: [propext, Classical.choice, Quot.sound] -/
#guard_msgs in
#print axioms Cellml.Props.C06Gen.convert_var_noop_gen
/-- info: 'Cellml.Props.C06Gen.convert_var_wf_gen' depends on axioms: [propext, Classical.choice, Quot.sound] -/
#guard_msgs in
#print axioms Cellml.Props.C06Gen.convert_var_wf_gen
/-- info: 'Cellml.Props.C06Gen.convert_var_names_fresh_gen' depends on axioms: [propext, Classical.choice, Quot.sound] -/
#guard_msgs in
#print axioms Cellml.Props.C06Gen.convert_var_names_fresh_gen
/-- info: 'Cellml.Props.C06Gen.convert_var_meta_gen' depends on axioms: [propext, Classical.choice, Quot.sound] -/
#guard_msgs in
#print axioms Cellml.Props.C06Gen.convert_var_meta_gen
/-- info: 'Cellml.Props.C06Gen.convert_var_meta_gen_wf' depends on axioms: [propext, Classical.choice, Quot.sound] -/
#guard_msgs in
#print axioms Cellml.Props.C06Gen.convert_var_meta_gen_wf
/-- info: 'Cellml.Props.C06Gen.convert_var_units_gen' depends on axioms: [propext, Classical.choice, Quot.sound] -/
#guard_msgs in
#print axioms Cellml.Props.C06Gen.convert_var_units_gen
/-- info: 'Cellml.Props.C06Gen.convert_var_seq_gen' depends on axioms: [propext, Classical.choice, Quot.sound] -/
#guard_msgs in
#print axioms Cellml.Props.C06Gen.convert_var_seq_gen
/-- info: 'Cellml.Props.C06Gen.convert_var_twice_gen' depends on axioms: [propext, Classical.choice, Quot.sound] -/
#guard_msgs in
#print axioms Cellml.Props.C06Gen.convert_var_twice_gen
