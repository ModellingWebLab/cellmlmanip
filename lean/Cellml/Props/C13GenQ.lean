import Cellml.Props.C13
import Cellml.Tie.RdfQ

/-! # C13, stated about the GENERATED annotation / RDF queries (`Generated/Code/RdfQ.lean`)

    Corollaries of the ties of `Tie/RdfQ.lean` (and, for the consistency with `get_variable_by_ontology_term`, of
    `Tie/CmetaQ.lean`) and of the theorems of `Props/C13.lean` about the hand model. Every statement is about the
    definitions generated from the python source, for ALL states (satisfying the invariant where it is needed) and ALL
    arguments. -/

namespace Cellml.Props.C13GenQ
open Model Model.RdfQ
open Cellml.Tie (errClass)
open Cellml.Tie.PCmeta (RdfArg)
open Cellml.Tie.PRdfQ
open Cellml.Gen

/-- `get_ontology_terms_by_variable(v, ns)` never raises, and lists exactly the local names of the objects of the
    triples whose subject is the id `v` carries now (its rdf identity `#id`), whose predicate is `bqbiol:is` and whose
    object starts with `ns` (when a namespace is given) -/
theorem gen_terms_exact (a : AState) (v : Nat) (ns : Option String) :
    ∃ l, Gen.RdfQ.getOntologyTermsByVariable a v ns = .ok l ∧
      ∀ x, x ∈ l ↔
        ∃ t ∈ a.rdf, cmetaOf a.m v = some t.subj ∧ t.pred = bqbiolIs ∧ nsOk ns t.obj = true ∧ localName t.obj.text = x :=
  ⟨termsOf a v ns, getOntologyTermsByVariable_tie a v ns, fun x => C13.annotations_reachable a v ns x⟩

/-- a variable without cmeta id has no terms -/
theorem gen_terms_no_id (a : AState) (v : Nat) (ns : Option String) (h : cmetaOf a.m v = none) :
    Gen.RdfQ.getOntologyTermsByVariable a v ns = .ok [] := by
  rw [getOntologyTermsByVariable_tie]
  simp [termsOf, annotationsOf, h]

/-- `has_ontology_annotation(v, ns)` never raises and is true exactly when `get_ontology_terms_by_variable(v, ns)` is
    not empty -/
theorem gen_has_iff (a : AState) (v : Nat) (ns : Option String) :
    ∃ b l, Gen.RdfQ.hasOntologyAnnotation a v ns = .ok b ∧ Gen.RdfQ.getOntologyTermsByVariable a v ns = .ok l ∧
      (b = true ↔ l ≠ []) := by
  refine ⟨_, _, hasOntologyAnnotation_tie a v ns, getOntologyTermsByVariable_tie a v ns, ?_⟩
  unfold hasAnnotation
  cases termsOf a v ns <;> simp

/-- `has_ontology_annotation(v, ns)` is false for a variable without cmeta id -/
theorem gen_has_no_id (a : AState) (v : Nat) (ns : Option String) (h : cmetaOf a.m v = none) :
    Gen.RdfQ.hasOntologyAnnotation a v ns = .ok false := by
  rw [hasOntologyAnnotation_tie]
  simp [hasAnnotation, termsOf, annotationsOf, h]

/-- `create_rdf_node('#' + id)` is the URIRef, never a Literal (so `Variable._set_cmeta_id` gives every variable with
    an id a resource as rdf identity, which is what the subjects of the graph are compared with) -/
theorem gen_fragment_is_uri (c : String) :
    Gen.RdfQ.createRdfNode (.str ("#" ++ c)) = .ok (.node (.uri ("#" ++ c))) ∧
    ∀ x, Gen.RdfQ.createRdfNode (.str ("#" ++ c)) ≠ .ok (.node (.lit x)) := by
  refine ⟨createRdfNode_fragment c, fun x h => ?_⟩
  rw [createRdfNode_fragment] at h
  cases h

/-- `_set_cmeta_id` keeps `rdf_identity` in step with `_cmeta_id`: `None` with `None`, `URIRef('#' + c)` with `c` -/
theorem gen_identity_follows_id (o : VarObj) (c : Option String) :
    ∃ o', Gen.RdfQ.setCmetaId o c = .ok o' ∧ o'._cmeta_id = c ∧
      Gen.RdfQ.rdfIdentity o' = .ok (c.map (fun c => RNode.uri ("#" ++ c))) :=
  ⟨_, setCmetaId_tie o c, rfl, rfl⟩

/-- consistency of the two directions: when `get_variable_by_ontology_term(term)` (generated, CmetaQ) returns `v`, the
    local name of `term` is among `get_ontology_terms_by_variable(v)` (generated, RdfQ) -/
theorem gen_term_roundtrip (a : AState) (h : AInv a) (term : RNode) (v : Nat)
    (hv : CmetaQ.getVariableByOntologyTerm a (.node term) = .ok v) :
    ∃ l, Gen.RdfQ.getOntologyTermsByVariable a v none = .ok l ∧ localName term.text ∈ l := by
  refine ⟨termsOf a v none, getOntologyTermsByVariable_tie a v none, ?_⟩
  rw [Cellml.Tie.PCmeta.getVariableByOntologyTerm_tie, Cellml.Tie.errClass_eq_ok] at hv
  exact (C13.lookup_term a h term).2.2 v hv

/-- `get_rdf_value(s, p)` returns only the (stripped) text of a literal that is the object of the ONE triple matching
    `(s, p, None)`; in every other case it raises AssertionError -/
theorem gen_value_spec (a : AState) (s p : RdfArg) (x : String) (h : Gen.RdfQ.getRdfValue a s p = .ok x) :
    ∃ t y, Gen.RdfQ.getRdfAnnotations a s p .none = .ok [t] ∧ t.obj = .lit y ∧ x = strip y := by
  rw [getRdfValue_tie] at h
  rw [getRdfAnnotations_tie]
  have hn : patOf RdfArg.none = none := rfl
  rw [hn]
  unfold rdfValue at h
  match hm : annotations a (patOf s) (patOf p) none, h with
  | [], h => simp [errClass] at h
  | [t], h =>
    cases ho : t.obj with
    | uri u => simp [ho, errClass] at h
    | lit y =>
      simp only [ho, errClass] at h
      injection h with h
      exact ⟨t, y, rfl, ho, h.symm⟩
  | _ :: _ :: _, h => simp [errClass] at h

/-- `add_rdf` (generated) of a document that parses keeps the invariant of C13 (hence the bijection between ids and
    live variables), and leaves the variables alone -/
theorem gen_addRdf_inv (a : AState) (h : AInv a) (ts : List Triple) :
    ∃ a', Gen.RdfQ.addRdf ⟨some ts⟩ a = (.ok (), a') ∧ AInv a' ∧ a'.m = a.m := by
  refine ⟨addRdfDoc a ts, addRdf_tie a ts, ?_⟩
  exact List.foldl_inv _ (fun a' => AInv a' ∧ a'.m = a.m) ts a ⟨h, rfl⟩ fun b t _ hb =>
    ⟨ainv_step hb.1 (.addRdf t), (show (Model.addRdf b t).m = b.m by unfold Model.addRdf; split <;> rfl).trans hb.2⟩

end Cellml.Props.C13GenQ
