import Cellml.Iso.Process
import Cellml.Props.C16

/-! # C16, model-level half: operations on one model leave every other model of the process as it was

    Model: `Iso/Process.lean` (`Iso.Process.Proc`: the global cells of cellmlmanip — store counter and registries,
    the heap of `sympy.Dummy` objects, the module constant `ONE`, the mutable handler table, the two `lru_cache`s —
    plus the list of models). Theorems, for every SymPy (`Sym`), every reachable process state and every finite
    interleaving of operations:

    the ownership invariant `PInv` holds (`inv_reachable`), and from it follow the frame theorems (`frame_model`, `_run`,
    `_reachable`; their unit part is `Iso.step_view`, the lemma behind `frame` / `frame_run` of Props/C16),
    `cache_key_sound`, `one_not_mutated` and `units_own`; each says what it claims at its statement. -/

namespace Cellml.Props.C16Process
open Units Units.Wire Iso Iso.Process

/-- objects persist; only a variable owned by model `m` may get another cmeta id -/
def HeapUpd (m : Nat) (h h' : List Obj) : Prop :=
  ∀ (id : Nat) (o : Obj), h[id]? = some o → h'[id]? = some o ∨ ∃ n u c c', o = Obj.var n u m c ∧ h'[id]? = some (Obj.var n u m c')

theorem lt_of_getElem? {α} {l : List α} {i : Nat} {a : α} (h : l[i]? = some a) : i < l.length :=
  (List.getElem?_eq_some_iff.mp h).1

theorem getElem?_append_of_some {α} {l x : List α} {i : Nat} {a : α} (h : l[i]? = some a) : (l ++ x)[i]? = some a := by
  rw [List.getElem?_append_left (lt_of_getElem? h)]; exact h

theorem heapUpd_append (m : Nat) (h x : List Obj) : HeapUpd m h (h ++ x) := by
  intro _ _ ho; exact Or.inl (getElem?_append_of_some ho)

theorem heapUpd_refl (m : Nat) (h : List Obj) : HeapUpd m h h := by intro _ _ ho; exact Or.inl ho

/-- the heap only grows: every object stays as it is (`HeapUpd` moreover lets a variable of one model get a cmeta id) -/
def HeapExt (h h' : List Obj) : Prop := ∀ (id : Nat) (o : Obj), h[id]? = some o → h'[id]? = some o

theorem heapExt_refl (h : List Obj) : HeapExt h h := by intro _ _ ho; exact ho
theorem heapExt_append (h x : List Obj) : HeapExt h (h ++ x) := by intro _ _ ho; exact getElem?_append_of_some ho
theorem HeapExt.trans {a b c : List Obj} (h₁ : HeapExt a b) (h₂ : HeapExt b c) : HeapExt a c := by
  intro id o ho; exact h₂ id o (h₁ id o ho)
theorem HeapExt.upd {a b : List Obj} (m : Nat) (h : HeapExt a b) : HeapUpd m a b := by
  intro id o ho; exact Or.inl (h id o ho)

theorem TokOk_mono {vars vars' qtys qtys' : List Nat} (hv : ∀ v ∈ vars, v ∈ vars') (hq : ∀ q ∈ qtys, q ∈ qtys')
    {t : Tok} (h : TokOk vars qtys t) : TokOk vars' qtys' t := by
  cases t with
  | v id => exact hv id h
  | q id => exact hq id h
  | num r => trivial
  | op n a => trivial

/-- the ownership invariant: each model has its own store; its variables are objects whose `_model` is that model; the
    quantities it handed out, and every atom of its equations, carry units of ITS store (`varsOwn`, `qtysOwn`, `toksOwn`:
    `Owns` of every model, `PInv.owns`); both memo tables are sound and every key of the first carries the `V` of some
    model; `ONE` is what the import made it -/
structure PInv (sym : Sym) (p : Proc) : Prop where
  world : Iso.Inv p.world
  storeLt : ∀ (m : Nat) (mm : MModel), p.models[m]? = some mm → mm.store < p.world.stores.length
  storeInj : ∀ (m m' : Nat) (mm mm' : MModel), p.models[m]? = some mm → p.models[m']? = some mm' →
    mm.store = mm'.store → m = m'
  varsOwn : ∀ (m : Nat) (mm : MModel), p.models[m]? = some mm → ∀ v ∈ mm.vars,
    ∃ n u c, p.heap[v]? = some (Obj.var n (.ofStore mm.store u) m c)
  qtysOwn : ∀ (m : Nat) (mm : MModel), p.models[m]? = some mm → ∀ q ∈ mm.qtys,
    ∃ x u, p.heap[q]? = some (Obj.qty x (.ofStore mm.store u))
  toksOwn : ∀ (m : Nat) (mm : MModel), p.models[m]? = some mm → ∀ e ∈ mm.eqs,
    e.lhs ∈ mm.vars ∧ ∀ t ∈ e.rhs, TokOk mm.vars mm.qtys t
  singOk : CacheOk sym.analyse p.singCache
  pwOk : CacheOk sym.piecewise p.pwCache
  keysOwn : ∀ (k : SingKey) (r : SingRes), (k, r) ∈ p.singCache →
    ∃ (m : Nat) (mm : MModel), p.models[m]? = some mm ∧ k.V ∈ mm.vars
  oneOk : p.heap[p.one]? = some (Obj.qty 1 (.bare "dimensionless"))

theorem inv_init (sym : Sym) : PInv sym {} where
  world := inv_empty
  storeLt := by intro m mm h; simp at h
  storeInj := by intro m m' mm mm' h; simp at h
  varsOwn := by intro m mm h; simp at h
  qtysOwn := by intro m mm h; simp at h
  toksOwn := by intro m mm h; simp at h
  singOk := by intro k v h; simp at h
  pwOk := by intro k v h; simp at h
  keysOwn := by intro k r h; simp at h
  oneOk := rfl

/-- model `m` with record `mm` owns what it refers to: its variables are objects whose `_model` is `m`, they and its
    quantities carry units of its store, and its equations mention nothing else -/
structure Owns (heap : List Obj) (m : Nat) (mm : MModel) : Prop where
  vars : ∀ v ∈ mm.vars, ∃ n u c, heap[v]? = some (Obj.var n (.ofStore mm.store u) m c)
  qtys : ∀ q ∈ mm.qtys, ∃ x u, heap[q]? = some (Obj.qty x (.ofStore mm.store u))
  toks : ∀ e ∈ mm.eqs, e.lhs ∈ mm.vars ∧ ∀ t ∈ e.rhs, TokOk mm.vars mm.qtys t

section
variable {heap heap' : List Obj} {k m : Nat} {mm : MModel}

theorem PInv.owns {sym : Sym} {p : Proc} (h : PInv sym p) (hm : p.models[m]? = some mm) : Owns p.heap m mm :=
  ⟨h.varsOwn m mm hm, h.qtysOwn m mm hm, h.toksOwn m mm hm⟩

/-- ownership survives whatever any model does to the heap: a new cmeta id is the only change to an object -/
theorem Owns.mono (o : Owns heap m mm) (hh : HeapUpd k heap heap') : Owns heap' m mm := by
  refine ⟨fun v hv => ?_, fun q hq => ?_, o.toks⟩
  · obtain ⟨n, u, c, ho⟩ := o.vars v hv
    rcases hh v _ ho with h1 | ⟨_, _, _, c', heq, h1⟩
    · exact ⟨n, u, c, h1⟩
    · cases heq; exact ⟨n, u, c', h1⟩
  · obtain ⟨x, u, ho⟩ := o.qtys q hq
    rcases hh q _ ho with h1 | ⟨_, _, _, _, heq, _⟩
    · exact ⟨x, u, h1⟩
    · cases heq

theorem Owns.addVar (o : Owns heap m mm) {v : Nat} {n : String} {u : List (String × Int)} {c : Option String}
    (hv : heap[v]? = some (Obj.var n (.ofStore mm.store u) m c)) :
    Owns heap m { mm with vars := mm.vars ++ [v] } := by
  refine ⟨fun v' hv' => ?_, o.qtys, fun e he => ⟨List.mem_append_left _ (o.toks e he).1, fun t ht =>
    TokOk_mono (fun _ h => List.mem_append_left _ h) (fun _ h => h) ((o.toks e he).2 t ht)⟩⟩
  rcases List.mem_append.mp hv' with h | h
  · exact o.vars v' h
  · rw [List.mem_singleton.mp h]; exact ⟨n, u, c, hv⟩

theorem Owns.addQtys (o : Owns heap m mm) {ids : List Nat}
    (hq : ∀ q ∈ ids, ∃ x u, heap[q]? = some (Obj.qty x (.ofStore mm.store u))) :
    Owns heap m { mm with qtys := mm.qtys ++ ids } :=
  ⟨o.vars, fun q h => (List.mem_append.mp h).elim (o.qtys q) (hq q), fun e he => ⟨(o.toks e he).1, fun t ht =>
    TokOk_mono (fun _ h => h) (fun _ h => List.mem_append_left _ h) ((o.toks e he).2 t ht)⟩⟩

theorem Owns.addEq (o : Owns heap m mm) {e : Eqn}
    (he : e.lhs ∈ mm.vars ∧ ∀ t ∈ e.rhs, TokOk mm.vars mm.qtys t) : Owns heap m { mm with eqs := mm.eqs ++ [e] } :=
  ⟨o.vars, o.qtys, fun e' h => (List.mem_append.mp h).elim (o.toks e') (fun h => List.mem_singleton.mp h ▸ he)⟩

end

/-! ### what "model `j` looks the same" means, and why the observation follows -/

/-- model `j` is the same record in both states, its store shows the same root form for every name, and the objects
    it refers to are unchanged -/
def Agree (p p' : Proc) (j : Nat) : Prop :=
  ∃ mj, p.models[j]? = some mj ∧ p'.models[j]? = some mj ∧ SameView p.world p'.world mj.store ∧
    ∀ id, id ∈ mj.vars ∨ id ∈ mj.qtys → p'.heap[id]? = p.heap[id]?

theorem Agree.trans {p p' p'' : Proc} {j : Nat} (h₁ : Agree p p' j) (h₂ : Agree p' p'' j) : Agree p p'' j := by
  obtain ⟨mj, a1, a2, a3, a4⟩ := h₁
  obtain ⟨mj', b1, b2, b3, b4⟩ := h₂
  rw [a2] at b1
  cases b1
  exact ⟨mj, a1, b2, a3.trans b3, fun id hid => (b4 id hid).trans (a4 id hid)⟩

theorem obsQUnit_same {w w' : World} {s : Nat} (hv : SameView w w' s) (u : List (String × Int)) :
    obsQUnit w' (.ofStore s u) = obsQUnit w (.ofStore s u) := by
  simp only [obsQUnit, hv.probe]

theorem obsObj_same (sym : Sym) {p p' : Proc} {j : Nat} (h : PInv sym p) {mj : MModel} (hm : p.models[j]? = some mj)
    (hv : SameView p.world p'.world mj.store) {id : Nat} (hid : id ∈ mj.vars ∨ id ∈ mj.qtys)
    (hh : p'.heap[id]? = p.heap[id]?) : obsObj p' id = obsObj p id := by
  unfold obsObj
  rw [hh]
  rcases hid with hid | hid
  · obtain ⟨n, u, c, ho⟩ := h.varsOwn j mj hm id hid
    simp only [ho, obsQUnit_same hv]
  · obtain ⟨x, u, ho⟩ := h.qtysOwn j mj hm id hid
    simp only [ho, obsQUnit_same hv]

theorem evalf_same {heap heap' : List Obj} {qtys : List Nat} {vars : List Nat} {e : Ex}
    (ht : ∀ t ∈ e, TokOk vars qtys t) (hh : ∀ id ∈ qtys, heap'[id]? = heap[id]?) : evalf heap' e = evalf heap e := by
  unfold evalf
  apply List.map_congr_left
  intro t htm
  cases t with
  | q id => simp only [hh id (ht _ htm)]
  | v id => rfl
  | num r => rfl
  | op n a => rfl

theorem lruCall_fst {κ ν : Type} [BEq κ] [LawfulBEq κ] (f : κ → ν) (cache : List (κ × ν)) (h : CacheOk f cache)
    (k : κ) : (lruCall f cache k).1 = f k := (Cellml.Props.C16.cache_sound f cache h k).1

theorem lruCall_ok {κ ν : Type} [BEq κ] [LawfulBEq κ] (f : κ → ν) (cache : List (κ × ν)) (h : CacheOk f cache)
    (k : κ) : CacheOk f (lruCall f cache k).2 :=
  Cellml.Props.C16.cache_evict_sound f _ (Cellml.Props.C16.cache_sound f cache h k).2 _

theorem lruCalls_ok {κ ν : Type} [BEq κ] [LawfulBEq κ] (f : κ → ν) (ks : List κ) :
    ∀ cache, CacheOk f cache → (lruCalls f cache ks).1 = ks.map f ∧ CacheOk f (lruCalls f cache ks).2 := by
  induction ks with
  | nil => intro cache h; exact ⟨rfl, h⟩
  | cons k ks ih =>
      intro cache h
      obtain ⟨h1, h2⟩ := ih _ (lruCall_ok f cache h k)
      refine ⟨?_, h2⟩
      show (lruCall f cache k).1 :: (lruCalls f (lruCall f cache k).2 ks).1 = f k :: ks.map f
      rw [h1, lruCall_fst f cache h k]

theorem lruCall_mem {κ ν : Type} [BEq κ] (f : κ → ν) (cache : List (κ × ν)) (k : κ) (k' : κ) (r : ν)
    (h : (k', r) ∈ (lruCall f cache k).2) : (k', r) ∈ cache ∨ k' = k := by
  unfold lruCall cachedCall at h
  have h := List.mem_of_mem_take h
  split at h
  · exact Or.inl h
  · rcases List.mem_cons.mp h with h | h
    · cases h; exact Or.inr rfl
    · exact Or.inl h

theorem Agree.obs (sym : Sym) {p p' : Proc} {j : Nat} (h : PInv sym p) (h' : PInv sym p') (ha : Agree p p' j) :
    obsModel p' j = obsModel p j ∧
    ∀ mj, p.models[j]? = some mj → ∀ e ∈ mj.eqs, ∀ V u fn,
      analysisAnswer sym p' e.rhs V u fn = analysisAnswer sym p e.rhs V u fn := by
  obtain ⟨mj, hm, hm', hv, hh⟩ := ha
  constructor
  · simp only [obsModel, hm, hm', hv.obsStore, Option.some.injEq, ModelObs.mk.injEq, true_and, and_true]
    constructor
    · apply List.map_congr_left
      intro v hvm
      rw [obsObj_same sym h hm hv (Or.inl hvm) (hh v (Or.inl hvm))]
    · apply List.map_congr_left
      intro e he
      congr 1
      apply List.map_congr_left
      intro t ht
      have hok := (h.toksOwn j mj hm e he).2 t ht
      cases t with
      | v id => simp only [obsTok, obsObj_same sym h hm hv (Or.inl hok) (hh id (Or.inl hok))]
      | q id => simp only [obsTok, obsObj_same sym h hm hv (Or.inr hok) (hh id (Or.inr hok))]
      | num r => rfl
      | op n a => rfl
  · intro mj2 hm2 e he V u fn
    rw [hm] at hm2
    cases hm2
    unfold analysisAnswer
    rw [lruCall_fst _ _ h'.singOk, lruCall_fst _ _ h.singOk,
      evalf_same (h.toksOwn j mj hm e he).2 (fun id hid => hh id (Or.inr hid))]

theorem getElem?_set_self' {α} {l : List α} {i : Nat} {a b : α} (h : l[i]? = some a) : (l.set i b)[i]? = some b := by
  rw [List.getElem?_set_self (lt_of_getElem? h)]

/-- What an operation of model `m` does when it is not refused: the world is untouched, the record `mm` of `m` is
    replaced by `mm'` with the same store and at least the same variables, the heap only grows (or a variable of `m` gets
    a cmeta id), `ONE` stays bound, the memo tables stay sound, and `mm'` owns what it refers to. -/
structure LocalStep (sym : Sym) (p p' : Proc) (m : Nat) (mm mm' : MModel) : Prop where
  model : p.models[m]? = some mm
  world : p'.world = p.world
  models : p'.models = p.models.set m mm'
  store : mm'.store = mm.store
  vars : ∀ v ∈ mm.vars, v ∈ mm'.vars
  heap : HeapUpd m p.heap p'.heap
  one : p'.one = p.one
  sing : CacheOk sym.analyse p'.singCache
  pw : CacheOk sym.piecewise p'.pwCache
  keys : ∀ k r, (k, r) ∈ p'.singCache → (k, r) ∈ p.singCache ∨ k.V ∈ mm'.vars
  owns : Owns p'.heap m mm'

/-- the conclusion of every `_spec` lemma: the operation was refused and nothing changed, or it is a local step -/
def Acts (sym : Sym) (p p' : Proc) (m : Nat) : Prop := p' = p ∨ ∃ mm mm', LocalStep sym p p' m mm mm'

/-- a local step that touches the heap and the record of `m` only -/
theorem LocalStep.plain {sym : Sym} {p : Proc} (h : PInv sym p) {m : Nat} {mm mm' : MModel} {heap' : List Obj}
    (hm : p.models[m]? = some mm) (hs : mm'.store = mm.store) (hv : ∀ v ∈ mm.vars, v ∈ mm'.vars)
    (hh : HeapUpd m p.heap heap') (ho : Owns heap' m mm') :
    LocalStep sym p { p with heap := heap', models := p.models.set m mm' } m mm mm' :=
  ⟨hm, rfl, rfl, hs, hv, hh, rfl, h.singOk, h.pwOk, fun _ _ hkr => Or.inl hkr, ho⟩

theorem local_step (sym : Sym) {p p' : Proc} {m : Nat} {mm mm' : MModel} (h : PInv sym p)
    (l : LocalStep sym p p' m mm mm') :
    PInv sym p' ∧ ∀ j, j ≠ m → ∀ mj, p.models[j]? = some mj → Agree p p' j := by
  obtain ⟨hm, hw, hmods, hstore, hvsub, hheap, hone, hs, hp, hk, ho⟩ := l
  -- every model of the new state is the new record of `m` or an old model, and owns what it refers to
  have hget : ∀ k mk, p'.models[k]? = some mk → (k = m ∧ mk = mm') ∨ (k ≠ m ∧ p.models[k]? = some mk) := by
    intro k mk hk'
    rw [hmods, List.getElem?_set] at hk'
    split at hk'
    · rename_i hkm; subst hkm; rw [if_pos (lt_of_getElem? hm)] at hk'; exact Or.inl ⟨rfl, (Option.some.inj hk').symm⟩
    · rename_i hkm; exact Or.inr ⟨Ne.symm hkm, hk'⟩
  have hset : ∀ k mk, k ≠ m → p.models[k]? = some mk → p'.models[k]? = some mk := by
    intro k mk hkm hk'; rw [hmods, List.getElem?_set_ne (Ne.symm hkm)]; exact hk'
  have hself : p'.models[m]? = some mm' := by rw [hmods]; exact getElem?_set_self' hm
  have hown : ∀ k mk, p'.models[k]? = some mk → Owns p'.heap k mk := by
    intro k mk hk'
    rcases hget k mk hk' with ⟨rfl, rfl⟩ | ⟨_, hold⟩
    · exact ho
    · exact (h.owns hold).mono hheap
  -- objects of other models, and quantities, are untouched
  have hkeep : ∀ (id : Nat) (o : Obj), (∀ n u c, o ≠ Obj.var n u m c) → p.heap[id]? = some o → p'.heap[id]? = some o := by
    intro id o hne ho'
    rcases hheap id _ ho' with h1 | ⟨n', u', c', _, heq, _⟩
    · exact h1
    · exact absurd heq (hne n' u' c')
  refine ⟨⟨by rw [hw]; exact h.world, ?_, ?_, fun k mk hk' => (hown k mk hk').vars, fun k mk hk' => (hown k mk hk').qtys,
    fun k mk hk' => (hown k mk hk').toks, hs, hp, ?_, ?_⟩, ?_⟩
  · intro k mk hk'
    rw [hw]
    rcases hget k mk hk' with ⟨rfl, rfl⟩ | ⟨_, hold⟩
    · rw [hstore]; exact h.storeLt _ mm hm
    · exact h.storeLt k mk hold
  · intro k k' mk mk' hk1 hk2 heq
    rcases hget k mk hk1 with ⟨rfl, rfl⟩ | ⟨hne1, hold1⟩ <;> rcases hget k' mk' hk2 with ⟨rfl, rfl⟩ | ⟨hne2, hold2⟩
    · rfl
    · exact h.storeInj _ _ mm mk' hm hold2 (hstore ▸ heq)
    · exact h.storeInj _ _ mk mm hold1 hm (hstore ▸ heq)
    · exact h.storeInj k k' mk mk' hold1 hold2 heq
  · intro k r hkr
    rcases hk k r hkr with hold | hnew
    · obtain ⟨m0, mm0, hm0, hV⟩ := h.keysOwn k r hold
      by_cases h0 : m0 = m
      · subst h0
        rw [hm] at hm0; cases hm0
        exact ⟨m0, mm', hself, hvsub _ hV⟩
      · exact ⟨m0, mm0, hset m0 mm0 h0 hm0, hV⟩
    · exact ⟨m, mm', hself, hnew⟩
  · rw [hone]; exact hkeep _ _ (fun _ _ _ hc => by cases hc) h.oneOk
  · intro j hjm mj hmj
    refine ⟨mj, hmj, hset j mj hjm hmj, ?_, ?_⟩
    · rw [hw]; exact sameView_refl _ h.world _ (h.storeLt j mj hmj)
    · intro id hid
      rcases hid with hid | hid
      · obtain ⟨n, u, c, ho'⟩ := h.varsOwn j mj hmj id hid
        rw [ho']; exact hkeep id _ (fun _ _ _ hc => hjm (Obj.var.inj hc).2.2.1) ho'
      · obtain ⟨x, u, ho'⟩ := h.qtysOwn j mj hmj id hid
        rw [ho']; exact hkeep id _ (fun _ _ _ hc => by cases hc) ho'


theorem agree_refl (sym : Sym) {p : Proc} (h : PInv sym p) {j : Nat} {mj : MModel} (hm : p.models[j]? = some mj) :
    Agree p p j :=
  ⟨mj, hm, hm, sameView_refl _ h.world _ (h.storeLt j mj hm), fun _ _ => rfl⟩

theorem Acts.spec (sym : Sym) {p p' : Proc} {m : Nat} (h : PInv sym p) (a : Acts sym p p' m) :
    PInv sym p' ∧ ∀ j, j ≠ m → ∀ mj, p.models[j]? = some mj → Agree p p' j := by
  rcases a with rfl | ⟨_, _, l⟩
  · exact ⟨h, fun _ _ _ hmj => agree_refl sym h hmj⟩
  · exact local_step sym h l

theorem Acts.one {sym : Sym} {p p' : Proc} {m : Nat} (a : Acts sym p p' m) : p'.one = p.one := by
  rcases a with rfl | ⟨_, _, l⟩
  · rfl
  · exact l.one

theorem getElem?_append_self {α} (l : List α) (x : α) (r : List α) : (l ++ x :: r)[l.length]? = some x := by
  rw [List.getElem?_append_right (Nat.le_refl _)]; simp

theorem units_spec (sym : Sym) (p : Proc) (h : PInv sym p) (uop : Iso.Op) :
    PInv sym { p with world := Iso.step p.world uop } ∧
    ∀ j mj, p.models[j]? = some mj → uop.actsOn mj.store = false →
      Agree p { p with world := Iso.step p.world uop } j := by
  refine ⟨{ h with world := inv_step _ _ h.world, storeLt := ?_ }, ?_⟩
  · intro m mm hm
    exact Nat.lt_of_lt_of_le (h.storeLt m mm hm) (stores_length_step _ _)
  · intro j mj hm hact
    exact ⟨mj, hm, hm, step_view _ h.world uop _ (h.storeLt j mj hm) hact, fun _ _ => rfl⟩

theorem newModel_spec (sym : Sym) (p : Proc) (h : PInv sym p) (share : Option Nat) :
    PInv sym (newModel p share) ∧ ∀ j mj, p.models[j]? = some mj → Agree p (newModel p share) j := by
  have hw : (newModel p share).world = Iso.step p.world (.newStore share) := rfl
  have hget : ∀ (k : Nat) (mk : MModel), (newModel p share).models[k]? = some mk ↔
      p.models[k]? = some mk ∨ (k = p.models.length ∧ mk = { store := p.world.stores.length }) := by
    intro k mk; exact getElem?_snoc _ _ _ _
  have hlen : (newModel p share).world.stores.length = p.world.stores.length + 1 := newStore_length _ _
  refine ⟨⟨by rw [hw]; exact inv_step _ _ h.world, ?_, ?_, ?_, ?_, ?_, h.singOk, h.pwOk, ?_, h.oneOk⟩, ?_⟩
  · intro m mm hm
    rw [hlen]
    rcases (hget m mm).mp hm with h1 | ⟨_, rfl⟩
    · exact Nat.lt_succ_of_lt (h.storeLt m mm h1)
    · exact Nat.lt_succ_self _
  · intro m m' mm mm' hm hm' heq
    rcases (hget m mm).mp hm with h1 | ⟨e1, rfl⟩ <;> rcases (hget m' mm').mp hm' with h2 | ⟨e2, rfl⟩
    · exact h.storeInj m m' mm mm' h1 h2 heq
    · have := h.storeLt m mm h1; simp only at heq; omega
    · have := h.storeLt m' mm' h2; simp only at heq; omega
    · rw [e1, e2]
  · intro m mm hm v hv
    rcases (hget m mm).mp hm with h1 | ⟨_, rfl⟩
    · exact h.varsOwn m mm h1 v hv
    · simp at hv
  · intro m mm hm q hq
    rcases (hget m mm).mp hm with h1 | ⟨_, rfl⟩
    · exact h.qtysOwn m mm h1 q hq
    · simp at hq
  · intro m mm hm e he
    rcases (hget m mm).mp hm with h1 | ⟨_, rfl⟩
    · exact h.toksOwn m mm h1 e he
    · simp at he
  · intro k r hkr
    obtain ⟨m, mm, hm, hV⟩ := h.keysOwn k r hkr
    exact ⟨m, mm, (hget m mm).mpr (Or.inl hm), hV⟩
  · intro j mj hm
    refine ⟨mj, hm, (hget j mj).mpr (Or.inl hm), ?_, fun _ _ => rfl⟩
    rw [hw]
    exact step_view _ h.world _ _ (h.storeLt j mj hm) rfl

theorem addVariable_spec (sym : Sym) (p : Proc) (h : PInv sym p) (m : Nat) (name unit : String) :
    Acts sym p (addVariable p m name unit) m := by
  unfold addVariable
  split
  · rename_i mm hm
    split
    · exact Or.inr ⟨mm, _, .plain h hm rfl (fun v hv => List.mem_append_left _ hv) (heapUpd_append _ _ _)
        (((h.owns hm).mono (heapUpd_append m _ _)).addVar (getElem?_append_self _ _ _))⟩
    · exact Or.inl rfl
  · exact Or.inl rfl

theorem createQuantity_spec (sym : Sym) (p : Proc) (h : PInv sym p) (m : Nat) (value : Rat) (unit : String) :
    Acts sym p (createQuantity p m value unit) m := by
  unfold createQuantity
  split
  · rename_i mm hm
    split
    · exact Or.inr ⟨mm, _, .plain h hm rfl (fun v hv => hv) (heapUpd_append _ _ _)
        (((h.owns hm).mono (heapUpd_append m _ _)).addQtys
          (fun q hq => List.mem_singleton.mp hq ▸ ⟨_, _, getElem?_append_self _ _ _⟩))⟩
    · exact Or.inl rfl
  · exact Or.inl rfl

theorem addEquation_spec (sym : Sym) (p : Proc) (h : PInv sym p) (m : Nat) (lhs : Nat) (rhs : Ex) :
    Acts sym p (addEquation p m lhs rhs) m := by
  unfold addEquation
  split
  · rename_i mm hm
    split
    · rename_i hg
      exact Or.inr ⟨mm, _, .plain h hm rfl (fun v hv => hv) (heapUpd_refl _ _) ((h.owns hm).addEq hg)⟩
    · exact Or.inl rfl
  · exact Or.inl rfl

theorem convertVariable_spec (sym : Sym) (p : Proc) (h : PInv sym p) (m v : Nat) (unit : String) (cf : Rat) :
    Acts sym p (convertVariable p m v unit cf) m := by
  unfold convertVariable
  split
  · rename_i mm name s fs owner c hm hv
    split
    · rename_i hg
      -- `create_quantity`, `add_variable`, `add_equation`, in this order
      have hnew : (p.heap ++ [Obj.qty cf (.ofStore mm.store ((unit, 1) :: fs.map (fun f => (f.1, -f.2)))),
          Obj.var (name ++ "_converted") (.ofStore mm.store [(unit, 1)]) m none])[p.heap.length + 1]? =
          some (Obj.var (name ++ "_converted") (.ofStore mm.store [(unit, 1)]) m none) := by
        rw [List.getElem?_append_right (Nat.le_succ _)]; simp
      exact Or.inr ⟨mm, _, .plain h hm rfl (fun v hv => List.mem_append_left _ hv) (heapUpd_append _ _ _)
        (((((h.owns hm).mono (heapUpd_append m _ _)).addQtys
          (fun q hq => List.mem_singleton.mp hq ▸ ⟨_, _, getElem?_append_self _ _ _⟩)).addVar hnew).addEq
          ⟨List.mem_append_right _ (List.mem_singleton.mpr rfl), by
            intro t ht
            simp only [List.mem_cons, List.not_mem_nil, or_false] at ht
            rcases ht with rfl | rfl | rfl
            · trivial
            · exact List.mem_append_left _ hg.1
            · exact List.mem_append_right _ (List.mem_singleton.mpr rfl)⟩)⟩
    · exact Or.inl rfl
  · exact Or.inl rfl

theorem addCmetaId_spec (sym : Sym) (p : Proc) (h : PInv sym p) (m v : Nat) :
    Acts sym p (addCmetaId p m v) m := by
  unfold addCmetaId
  split
  · rename_i mm name u owner hm hv
    split
    · rename_i hvm
      obtain ⟨n, u', c, ho⟩ := h.varsOwn m mm hm v hvm
      rw [hv] at ho
      simp only [Option.some.injEq, Obj.var.injEq] at ho
      obtain ⟨_, _, rfl, _⟩ := ho
      have hupd : HeapUpd owner p.heap (p.heap.set v (.var name u owner
          (some (freshCmeta (mm.cmeta.map (·.1)) (mm.cmeta.length + 1) name)))) := by
        intro id o ho
        by_cases hid : v = id
        · subst hid
          rw [hv] at ho
          cases ho
          exact Or.inr ⟨name, _, none, _, rfl, getElem?_set_self' hv⟩
        · left
          simp only [List.getElem?_set, hid, if_false]
          exact ho
      exact Or.inr ⟨mm, _, .plain h hm rfl (fun v hv => hv) hupd
        ⟨((h.owns hm).mono hupd).vars, ((h.owns hm).mono hupd).qtys, h.toksOwn owner mm hm⟩⟩
    · exact Or.inl rfl
  · exact Or.inl rfl


/-! ### `remove_fixable_singularities`: the loop -/

theorem replanted_all (s : Nat) (u : List (String × Int)) (one : Rat) (r : SingRes) :
    ∀ o ∈ replanted s (.ofStore s u) one r, ∃ x u', o = Obj.qty x (.ofStore s u') := by
  intro o ho
  unfold replanted at ho
  rcases List.mem_cons.mp ho with ho | ho
  · exact ⟨_, _, ho⟩
  · obtain ⟨t, _, ht⟩ := List.mem_flatMap.mp ho
    simp only [List.mem_cons, List.not_mem_nil, or_false] at ht
    rcases ht with rfl | rfl | rfl <;> exact ⟨_, _, rfl⟩

theorem TokOk_skeleton (vars qtys : List Nat) (x : Ex) : ∀ t ∈ skeleton x, TokOk vars qtys t := by
  intro t ht
  have := (List.mem_filter.mp ht).2
  cases t <;> simp_all [TokOk]

/-- the loop invariant: the record of `m` with the quantities and equations made so far owns what it refers to -/
structure FixGood (sym : Sym) (m : Nat) (mm : MModel) (V : Nat) (p : Proc) (st : FixSt) : Prop where
  ext : HeapExt p.heap st.heap
  sub : ∀ q ∈ mm.qtys, q ∈ st.qtys
  owns : Owns st.heap m { mm with qtys := st.qtys, eqs := st.eqs }
  sing : CacheOk sym.analyse st.sing
  pw : CacheOk sym.piecewise st.pw
  keys : ∀ (k : SingKey) (r : SingRes), (k, r) ∈ st.sing → (k, r) ∈ p.singCache ∨ k.V = V

theorem heapExt_ite (c : Bool) (h x : List Obj) : HeapExt h (if c = true then h ++ x else h) := by
  split
  · exact heapExt_append _ _
  · exact heapExt_refl _

theorem fixEq_good (sym : Sym) (m : Nat) (mm : MModel) (V : Nat) (p : Proc) (u : List (String × Int))
    (one uo : Rat) (fn : String) (excl : List Nat) (st : FixSt) (e : Eqn)
    (g : FixGood sym m mm V p st) (hV : V ∈ mm.vars) (hl : e.lhs ∈ mm.vars) (hr : ∀ t ∈ e.rhs, TokOk mm.vars mm.qtys t) :
    FixGood sym m mm V p (fixEq sym mm.store V (.ofStore mm.store u) one uo fn excl st e) := by
  have he : e.lhs ∈ mm.vars ∧ ∀ t ∈ e.rhs, TokOk mm.vars st.qtys t :=
    ⟨hl, fun t ht => TokOk_mono (fun _ h => h) g.sub (hr t ht)⟩
  unfold fixEq
  split
  · exact { g with owns := g.owns.addEq he }
  · dsimp only
    have hsing := lruCall_ok sym.analyse st.sing g.sing ⟨evalf st.heap e.rhs, V, uo, fn⟩
    have hkeys : ∀ (k : SingKey) (r : SingRes),
        (k, r) ∈ (lruCall sym.analyse st.sing ⟨evalf st.heap e.rhs, V, uo, fn⟩).2 → (k, r) ∈ p.singCache ∨ k.V = V := by
      intro k r hkr
      rcases lruCall_mem _ _ _ _ _ hkr with h1 | h1
      · exact g.keys k r h1
      · right; rw [h1]
    have hstep := heapExt_ite (st.sing.lookup ⟨evalf st.heap e.rhs, V, uo, fn⟩).isNone st.heap
      (placeholders (lruCall sym.analyse st.sing ⟨evalf st.heap e.rhs, V, uo, fn⟩).1)
    have o1 := g.owns.mono (hstep.upd m)
    split
    · exact ⟨g.ext.trans hstep, g.sub, o1.addEq he, hsing, g.pw, hkeys⟩
    · refine ⟨(g.ext.trans hstep).trans (heapExt_append _ _), fun q hq => List.mem_append_left _ (g.sub q hq), ?_, hsing,
        (lruCalls_ok sym.piecewise _ _ g.pw).2, hkeys⟩
      refine ((o1.mono (heapUpd_append m _ _)).addQtys ?_).addEq ⟨hl, ?_⟩
      · intro q hq
        obtain ⟨k, hk, rfl⟩ := List.mem_map.mp hq
        have hk' := List.mem_range.mp hk
        rw [List.getElem?_append_right (Nat.le_add_left _ _), Nat.add_sub_cancel]
        obtain ⟨x, u', ho⟩ := replanted_all mm.store u one _ _ (List.getElem_mem hk')
        exact ⟨x, u', by rw [List.getElem?_eq_getElem hk', ho]⟩
      · intro t ht
        rcases List.mem_append.mp ht with ht | ht
        · rcases List.mem_append.mp ht with ht | ht
          · rcases List.mem_cons.mp ht with rfl | ht
            · trivial
            · obtain ⟨id, hid, rfl⟩ := List.mem_map.mp ht
              exact List.mem_append_right _ hid
          · rcases List.mem_cons.mp ht with rfl | ht
            · exact hV
            · obtain ⟨x, _, hx⟩ := List.mem_flatMap.mp ht
              exact TokOk_skeleton _ _ x t hx
        · exact TokOk_mono (fun _ h => h) (fun q hq => List.mem_append_left _ hq) (he.2 t ht)

theorem foldl_good (sym : Sym) (m : Nat) (mm : MModel) (V : Nat) (p : Proc) (u : List (String × Int))
    (one uo : Rat) (fn : String) (excl : List Nat) (hV : V ∈ mm.vars) :
    ∀ (eqs : List Eqn) (st : FixSt), FixGood sym m mm V p st →
      (∀ e ∈ eqs, e.lhs ∈ mm.vars ∧ ∀ t ∈ e.rhs, TokOk mm.vars mm.qtys t) →
      FixGood sym m mm V p (eqs.foldl (fixEq sym mm.store V (.ofStore mm.store u) one uo fn excl) st) :=
  fun eqs st g he => List.foldl_inv _ (FixGood sym m mm V p) eqs st g fun st e hm g =>
    fixEq_good sym m mm V p u one uo fn excl st e g hV (he e hm).1 (he e hm).2

theorem removeSing_spec (sym : Sym) (p : Proc) (h : PInv sym p) (m V : Nat) (excl : List Nat) :
    Acts sym p (removeSing sym p m V excl) m := by
  unfold removeSing
  split
  · rename_i mm n vu owner c oneValue ou hm hV hone
    split
    · rename_i hVm
      obtain ⟨n', u, c', ho⟩ := h.varsOwn m mm hm V hVm
      rw [hV] at ho
      simp only [Option.some.injEq, Obj.var.injEq] at ho
      obtain ⟨_, hu, _, _⟩ := ho
      subst hu
      have g0 : FixGood sym m mm V p
          { heap := p.heap, qtys := mm.qtys, sing := p.singCache, pw := p.pwCache, eqs := [] } :=
        ⟨heapExt_refl _, fun _ h => h, ⟨h.varsOwn m mm hm, h.qtysOwn m mm hm, by intro e he; cases he⟩, h.singOk, h.pwOk,
          fun k r hkr => Or.inl hkr⟩
      have g := foldl_good sym m mm V p u oneValue (1 / 10000000) (handlerOf p "exp") excl hVm
        mm.eqs _ g0 (h.toksOwn m mm hm)
      refine Or.inr ⟨mm, _, hm, rfl, rfl, rfl, fun v hv => hv, g.ext.upd m, rfl, g.sing, g.pw, ?_, g.owns⟩
      intro k r hkr
      rcases g.keys k r hkr with h1 | h1
      · exact Or.inl h1
      · right; rw [h1]; exact hVm
    · exact Or.inl rfl
  · exact Or.inl rfl


theorem step_spec (sym : Sym) (p : Proc) (h : PInv sym p) (op : POp) :
    PInv sym (step sym p op) ∧
    ∀ j mj, p.models[j]? = some mj → op.actsOn j mj.store = false → Agree p (step sym p op) j := by
  -- what holds of every model but `m` holds of every model the operation does not act on
  have lift : ∀ {p' : Proc} {m : Nat}, Acts sym p p' m →
      PInv sym p' ∧ ∀ j mj, p.models[j]? = some mj → (m == j) = false → Agree p p' j := by
    intro p' m a
    refine ⟨(a.spec sym h).1, fun j mj hm hf => (a.spec sym h).2 j ?_ mj hm⟩
    intro heq
    subst heq
    simp at hf
  cases op with
  | units uop => exact units_spec sym p h uop
  | newModel share => exact ⟨(newModel_spec sym p h share).1, fun j mj hm _ => (newModel_spec sym p h share).2 j mj hm⟩
  | addVariable m name unit => exact lift (addVariable_spec sym p h m name unit)
  | createQuantity m value unit => exact lift (createQuantity_spec sym p h m value unit)
  | addEquation m lhs rhs => exact lift (addEquation_spec sym p h m lhs rhs)
  | convertVariable m v unit cf => exact lift (convertVariable_spec sym p h m v unit cf)
  | removeSing m V excl => exact lift (removeSing_spec sym p h m V excl)
  | addCmetaId m v => exact lift (addCmetaId_spec sym p h m v)
  | setHandler tag cls =>
      exact ⟨{ h with }, fun j mj hm _ => agree_refl sym h hm⟩

theorem inv_step (sym : Sym) (p : Proc) (h : PInv sym p) (op : POp) : PInv sym (step sym p op) :=
  (step_spec sym p h op).1

theorem inv_run (sym : Sym) (ops : List POp) : ∀ p, PInv sym p → PInv sym (run sym p ops) :=
  fun p h => List.foldl_inv (step sym) (PInv sym) ops p h fun p op _ hp => inv_step sym p hp op

/-- every process state reachable from the freshly imported package satisfies the ownership invariant -/
theorem inv_reachable (sym : Sym) (ops : List POp) : PInv sym (run sym {} ops) := inv_run sym ops _ (inv_init sym)

theorem run_agree (sym : Sym) (ops : List POp) : ∀ (p : Proc), PInv sym p → ∀ (j : Nat) (mj : MModel),
    p.models[j]? = some mj → (∀ op ∈ ops, op.actsOn j mj.store = false) → Agree p (run sym p ops) j := by
  induction ops with
  | nil => intro p h j mj hm _; exact agree_refl sym h hm
  | cons op ops ih =>
      intro p h j mj hm hops
      obtain ⟨h1, h2⟩ := step_spec sym p h op
      have a1 := h2 j mj hm (hops op (by simp))
      obtain ⟨mj', e1, e2, _, _⟩ := id a1
      rw [hm] at e1; cases e1
      exact Agree.trans a1 (ih _ h1 j mj e2 (fun o ho => hops o (by simp [ho])))

/-- **frame_model**: an operation that does not act on model `j` — an operation on another model `i ≠ j`, on a store
    other than `j`'s, the creation of a model or store (own or SHARED registry), a change of the global handler table —
    leaves the observation of `j` unchanged: its variables, its equations with the unit of every quantity (resolved
    through `j`'s own store: `is_defined` and root form of every factor), its cmeta ids, everything observable through
    its unit store, and the answer of the memoised analysis for each of its expressions, for every `V`, offset and
    `exp` function. -/
theorem frame_model (sym : Sym) (p : Proc) (h : PInv sym p) (op : POp) (j : Nat) (mj : MModel)
    (hm : p.models[j]? = some mj) (hop : op.actsOn j mj.store = false) :
    obsModel (step sym p op) j = obsModel p j ∧
    ∀ e ∈ mj.eqs, ∀ V u fn,
      analysisAnswer sym (step sym p op) e.rhs V u fn = analysisAnswer sym p e.rhs V u fn := by
  obtain ⟨h1, h2⟩ := step_spec sym p h op
  obtain ⟨o1, o2⟩ := (h2 j mj hm hop).obs sym h h1
  exact ⟨o1, o2 mj hm⟩

/-- **frame_model_run**: the same for every finite interleaving of operations none of which acts on `j` -/
theorem frame_model_run (sym : Sym) (p : Proc) (h : PInv sym p) (ops : List POp) (j : Nat) (mj : MModel)
    (hm : p.models[j]? = some mj) (hops : ∀ op ∈ ops, op.actsOn j mj.store = false) :
    obsModel (run sym p ops) j = obsModel p j ∧
    ∀ e ∈ mj.eqs, ∀ V u fn,
      analysisAnswer sym (run sym p ops) e.rhs V u fn = analysisAnswer sym p e.rhs V u fn := by
  obtain ⟨o1, o2⟩ := (run_agree sym ops p h j mj hm hops).obs sym h (inv_run sym ops p h)
  exact ⟨o1, o2 mj hm⟩

/-- unconditional form: after ANY history `ops₀` of the process, any further work elsewhere leaves model `j` as it was -/
theorem frame_model_reachable (sym : Sym) (ops₀ ops : List POp) (j : Nat) (mj : MModel)
    (hm : (run sym {} ops₀).models[j]? = some mj) (hops : ∀ op ∈ ops, op.actsOn j mj.store = false) :
    obsModel (run sym {} (ops₀ ++ ops)) j = obsModel (run sym {} ops₀) j ∧
    ∀ e ∈ mj.eqs, ∀ V u fn,
      analysisAnswer sym (run sym {} (ops₀ ++ ops)) e.rhs V u fn =
        analysisAnswer sym (run sym {} ops₀) e.rhs V u fn := by
  have : run sym {} (ops₀ ++ ops) = run sym (run sym {} ops₀) ops := by simp [Process.run, List.foldl_append]
  rw [this]
  exact frame_model_run sym _ (inv_reachable sym ops₀) ops j mj hm hops

/-- the variables of two different models are different objects (`Variable._model` names the owner) -/
theorem vars_disjoint (sym : Sym) (p : Proc) (h : PInv sym p) (i j : Nat) (mi mj : MModel)
    (hi : p.models[i]? = some mi) (hj : p.models[j]? = some mj) (hij : i ≠ j) (V V' : Nat)
    (hV : V ∈ mi.vars) (hV' : V' ∈ mj.vars) : V ≠ V' := by
  intro heq
  subst heq
  obtain ⟨n, u, c, ho⟩ := h.varsOwn i mi hi V hV
  obtain ⟨n', u', c', ho'⟩ := h.varsOwn j mj hj V hV'
  rw [ho] at ho'
  simp only [Option.some.injEq, Obj.var.injEq] at ho'
  exact hij ho'.2.2.1

/-- **cache_key_sound**, for every reachable process state (every history of calls by every model):
    (1) the memoised answer for any key is the value of the pure analysis at that key — a function of the key alone,
        whatever filled (or was evicted from) the table;
    (2) the same for `_generate_piecewise`;
    (3) keys made by two different models differ, whatever the expressions, offsets and `exp` functions (their `V`
        differ), for both tables;
    (4) every key in the table of `_get_singularity` carries the `V` of some model of the process (so by (3) of
        exactly one). -/
theorem cache_key_sound (sym : Sym) (ops : List POp) :
    let p := run sym {} ops
    (∀ k : SingKey, (lruCall sym.analyse p.singCache k).1 = sym.analyse k) ∧
    (∀ k : PwKey, (lruCall sym.piecewise p.pwCache k).1 = sym.piecewise k) ∧
    (∀ (i j : Nat) (mi mj : MModel), p.models[i]? = some mi → p.models[j]? = some mj → i ≠ j →
      ∀ V ∈ mi.vars, ∀ V' ∈ mj.vars,
        (∀ e e' u u' f f', (⟨e, V, u, f⟩ : SingKey) ≠ ⟨e', V', u', f'⟩) ∧
        (∀ e e' a a' b b' c c', (⟨e, V, a, b, c⟩ : PwKey) ≠ ⟨e', V', a', b', c'⟩)) ∧
    (∀ (k : SingKey) (r : SingRes), (k, r) ∈ p.singCache →
      ∃ (m : Nat) (mm : MModel), p.models[m]? = some mm ∧ k.V ∈ mm.vars) := by
  intro p
  have h : PInv sym p := inv_reachable sym ops
  refine ⟨fun k => lruCall_fst _ _ h.singOk k, fun k => lruCall_fst _ _ h.pwOk k, ?_, h.keysOwn⟩
  intro i j mi mj hi hj hij V hV V' hV'
  have hne := vars_disjoint sym p h i j mi mj hi hj hij V V' hV hV'
  refine ⟨?_, ?_⟩
  · intro e e' u u' f f' heq
    exact hne (SingKey.mk.inj heq).2.1
  · intro e e' a a' b b' c c' heq
    exact hne (PwKey.mk.inj heq).2.1

theorem step_one (sym : Sym) (p : Proc) (h : PInv sym p) (op : POp) : (step sym p op).one = p.one := by
  cases op with
  | units uop => rfl
  | newModel share => rfl
  | addVariable m name unit => exact (addVariable_spec sym p h m name unit).one
  | createQuantity m value unit => exact (createQuantity_spec sym p h m value unit).one
  | addEquation m lhs rhs => exact (addEquation_spec sym p h m lhs rhs).one
  | convertVariable m v unit cf => exact (convertVariable_spec sym p h m v unit cf).one
  | removeSing m V excl => exact (removeSing_spec sym p h m V excl).one
  | addCmetaId m v => exact (addCmetaId_spec sym p h m v).one
  | setHandler tag cls => rfl

/-- **one_not_mutated**: in every reachable state the name `ONE` is bound to the object the import created
    (heap index 1) and that object is still `Quantity(1.0, 'dimensionless')` with its placeholder string unit: no
    operation of any model re-binds it or writes to it (it is only read, as a template) -/
theorem one_not_mutated (sym : Sym) (ops : List POp) :
    (run sym {} ops).one = 1 ∧ (run sym {} ops).heap[1]? = some (Obj.qty 1 (.bare "dimensionless")) := by
  have hone : ∀ (ops : List POp) (p : Proc), PInv sym p → (run sym p ops).one = p.one := by
    intro ops
    induction ops with
    | nil => intro p _; rfl
    | cons op ops ih => intro p hp; exact (ih _ (inv_step sym p hp op)).trans (step_one sym p hp op)
  have h := (inv_reachable sym ops).oneOk
  rw [hone ops {} (inv_init sym)] at h ⊢
  exact ⟨rfl, h⟩

/-- one-step form from any state satisfying the invariant -/
theorem one_not_mutated_step (sym : Sym) (p : Proc) (h : PInv sym p) (op : POp) :
    (step sym p op).one = p.one ∧ (step sym p op).heap[p.one]? = p.heap[p.one]? := by
  refine ⟨step_one sym p h op, ?_⟩
  have h' := (inv_step sym p h op).oneOk
  rw [step_one sym p h op] at h'
  rw [h', h.oneOk]

/-- **units_own**: in every reachable state, every quantity in every equation of every model carries a unit of the
    store of ITS model (never a string placeholder, never a unit named in another model's store), and every variable
    in it is a variable of that model -/
theorem units_own (sym : Sym) (ops : List POp) (m : Nat) (mm : MModel)
    (hm : (run sym {} ops).models[m]? = some mm) (e : Eqn) (he : e ∈ mm.eqs) :
    (∀ id, Tok.q id ∈ e.rhs → ∃ x u, (run sym {} ops).heap[id]? = some (Obj.qty x (.ofStore mm.store u))) ∧
    (∀ id, Tok.v id ∈ e.rhs → ∃ n u c, (run sym {} ops).heap[id]? = some (Obj.var n (.ofStore mm.store u) m c)) := by
  have h := inv_reachable sym ops
  obtain ⟨_, h2⟩ := h.toksOwn m mm hm e he
  exact ⟨fun id hid => h.qtysOwn m mm hm id (h2 _ hid), fun id hid => h.varsOwn m mm hm id (h2 _ hid)⟩

/-- two models never have the same store (each `Model.__init__` creates its own `UnitStore`) -/
theorem stores_distinct (sym : Sym) (ops : List POp) (i j : Nat) (mi mj : MModel)
    (hi : (run sym {} ops).models[i]? = some mi) (hj : (run sym {} ops).models[j]? = some mj) (hij : i ≠ j) :
    mi.store ≠ mj.store :=
  fun heq => hij ((inv_reachable sym ops).storeInj i j mi mj hi hj heq)

/-! ### non-vacuity: a concrete process with two models SHARING a registry, equal names, both repaired -/

/-- a SymPy that finds one singularity at `V = -5` in every expression containing `exp` -/
def demoSym : Sym where
  analyse k := if k.expr.contains (.op "exp" 1) then [(-5 - 1 / 10000000, -5 + 1 / 10000000, -5)] else []
  piecewise k := .op "Piecewise" 2 :: k.expr

def demoOps : List POp :=
  [.newModel none, .newModel (some 0),
   .units (.addUnit 0 "mV" [{ units := "volt", pfx := some "milli" }]),
   .units (.addUnit 1 "mV" [{ units := "volt", pfx := some "micro" }]),
   .addVariable 0 "V" "mV", .addVariable 1 "V" "mV",          -- heap 2, 3
   .addVariable 0 "i" "mV", .addVariable 1 "i" "mV",          -- heap 4, 5
   .createQuantity 0 5 "mV", .createQuantity 1 5 "mV",        -- heap 6, 7
   .addEquation 0 4 [.op "Mul" 2, .v 2, .op "exp" 1, .q 6],
   .addEquation 1 5 [.op "Mul" 2, .v 3, .op "exp" 1, .q 7],
   .addEquation 1 5 [.v 2],                                   -- refused: a variable of model 0
   .removeSing 0 2 [], .addCmetaId 0 2, .convertVariable 0 4 "volt" (1 / 1000), .removeSing 0 2 []]

/-- model 1 after everything model 0 did (repair, annotation, conversion, second repair) = model 1 before it: the
    hypotheses of `frame_model_reachable` are met by the demo -/
example : obsModel (Process.run demoSym {} demoOps) 1 = obsModel (Process.run demoSym {} (demoOps.take 13)) 1 :=
  (frame_model_reachable demoSym (demoOps.take 13) (demoOps.drop 13) 1
    { store := 1, vars := [3, 5], qtys := [7], eqs := [⟨5, [.op "Mul" 2, .v 3, .op "exp" 1, .q 7]⟩] }
    (by decide +kernel) (by decide)).1

/-- the process the demo ends in. The examples about that state rewrite with `demoProc_eq` before they evaluate, so the
    seventeen operations are run once and not once per example. -/
def demoProc : Proc where
  world := { regs := [[("store1_mV", .derived [(2, -6), (5, -6)] [("volt", 1)]),
                       ("store0_mV", .derived [(2, -3), (5, -3)] [("volt", 1)])] ++ builtinRegistry],
             stores := [(⟨0, ["mV"]⟩, 0), (⟨1, ["mV"]⟩, 0)] }
  heap := [.qty 1 (.bare "dimensionless"), .qty 1 (.bare "dimensionless"),
    .var "V" (.ofStore 0 [("mV", 1)]) 0 (some "V"), .var "V" (.ofStore 1 [("mV", 1)]) 1 none,
    .var "i" (.ofStore 0 [("mV", 1)]) 0 none, .var "i" (.ofStore 1 [("mV", 1)]) 1 none,
    .qty 5 (.ofStore 0 [("mV", 1)]), .qty 5 (.ofStore 1 [("mV", 1)]),
    .qty (-5 - 1 / 10000000) (.bare "dimensionless"), .qty (-5 + 1 / 10000000) (.bare "dimensionless"),
    .qty (-5) (.bare "dimensionless"),
    .qty 1 (.ofStore 0 [("dimensionless", 1)]),
    .qty (-5 - 1 / 10000000) (.ofStore 0 [("mV", 1)]), .qty (-5 + 1 / 10000000) (.ofStore 0 [("mV", 1)]),
    .qty (-5) (.ofStore 0 [("mV", 1)]),
    .qty (1 / 1000) (.ofStore 0 [("volt", 1), ("mV", -1)]),
    .var "i_converted" (.ofStore 0 [("volt", 1)]) 0 none]
  models := [{ store := 0, vars := [2, 4, 16], qtys := [6, 11, 12, 13, 14, 15],
               eqs := [⟨4, [.op "Piecewise" 2, .q 11, .q 12, .q 13, .q 14, .v 2, .op "Piecewise" 2, .op "Mul" 2, .op "exp" 1,
                            .op "Mul" 2, .v 2, .op "exp" 1, .q 6]⟩,
                       ⟨16, [.op "Mul" 2, .v 4, .q 15]⟩],
               cmeta := [("V", 2)] },
             { store := 1, vars := [3, 5], qtys := [7], eqs := [⟨5, [.op "Mul" 2, .v 3, .op "exp" 1, .q 7]⟩] }]
  singCache := [(⟨[.op "Mul" 2, .v 4, .num (1 / 1000)], 2, 1 / 10000000, "exp"⟩, []),
                (⟨[.op "Mul" 2, .v 2, .op "exp" 1, .num 5], 2, 1 / 10000000, "exp"⟩,
                  [(-5 - 1 / 10000000, -5 + 1 / 10000000, -5)])]
  pwCache := [(⟨[.op "Mul" 2, .v 2, .op "exp" 1, .q 6], 2, -5, -5 - 1 / 10000000, -5 + 1 / 10000000⟩,
               [.op "Piecewise" 2, .op "Mul" 2, .v 2, .op "exp" 1, .q 6])]

theorem demoProc_eq : Process.run demoSym {} demoOps = demoProc := by
  have h : (Process.run demoSym {} demoOps).world.regs = demoProc.world.regs ∧
      (Process.run demoSym {} demoOps).world.stores = demoProc.world.stores ∧
      (Process.run demoSym {} demoOps).heap = demoProc.heap ∧ (Process.run demoSym {} demoOps).one = demoProc.one ∧
      (Process.run demoSym {} demoOps).models = demoProc.models ∧
      (Process.run demoSym {} demoOps).handlers = demoProc.handlers ∧
      (Process.run demoSym {} demoOps).singCache = demoProc.singCache ∧
      (Process.run demoSym {} demoOps).pwCache = demoProc.pwCache := by decide +kernel
  -- `Proc` and `World` derive no `DecidableEq`: the fields are decided one by one and the structure is put back by eta
  revert h
  rcases Process.run demoSym {} demoOps with ⟨⟨_, _⟩, _, _, _, _, _, _⟩
  rintro ⟨rfl, rfl, rfl, rfl, rfl, rfl, rfl, rfl⟩
  rfl

/-- … the observation is not empty, and model 0 DID change: repaired with 4 new quantities, one converted variable;
    the refused equation (a variable of model 0 in model 1) changed nothing -/
example : ((Process.run demoSym {} demoOps).models.map (fun mm => (mm.store, mm.vars, mm.qtys, mm.eqs.length))) =
    [(0, [2, 4, 16], [6, 11, 12, 13, 14, 15], 2), (1, [3, 5], [7], 1)] := by rw [demoProc_eq]; decide +kernel
example : (obsModel (Process.run demoSym {} demoOps) 1).map (fun o => o.vars.length) = some 2 := by
  rw [demoProc_eq]; decide +kernel
example : (Process.run demoSym {} demoOps).singCache.length = 2 := by rw [demoProc_eq]; decide +kernel
example : (Process.run demoSym {} demoOps).heap.length = 17 := by rw [demoProc_eq]; decide +kernel
/-- the copy of `ONE` planted in model 0 carries model 0's own `dimensionless`, the bounds carry the unit of its `V` -/
example : (Process.run demoSym {} demoOps).heap[11]? = some (.qty 1 (.ofStore 0 [("dimensionless", 1)])) := by
  rw [demoProc_eq]; decide +kernel
example : (Process.run demoSym {} demoOps).heap[12]? =
    some (.qty (-5 - 1 / 10000000) (.ofStore 0 [("mV", 1)])) := by rw [demoProc_eq]; decide +kernel
/-- the first repair of model 1 MISSES the cache although model 0 analysed the same-looking expression: its key
    carries `V = 3`, the keys of model 0 carry `V = 2` -/
example : ((Process.run demoSym {} (demoOps ++ [.removeSing 1 3 []])).singCache.map (·.1.V)) = [3, 2, 2] := by
  rw [show Process.run demoSym {} (demoOps ++ [.removeSing 1 3 []]) =
    Process.run demoSym (Process.run demoSym {} demoOps) [.removeSing 1 3 []] from List.foldl_append, demoProc_eq]
  decide +kernel

end Cellml.Props.C16Process
