import Cellml.Props.C15
import Cellml.Tie.LoaderConsts
import Cellml.Tie.LoaderGen

/-! # C15 — order independence at the set-iteration site of the loader, stated about the GENERATED code

    Of the three modelled set-iteration sites (`C15.Adv`: `consts`, `refs`, `anc`) the loader ties cover `consts`:
    `Parser.transform_constants`. (The sites `refs` / `anc` are in `Model.graph` / `get_equations_for`; their ties are
    `Tie/Graph*.lean`, which belong to C09.) Subject: `Gen.LoaderConsts.transformConstants`, generated from the
    source text. In the source after the fix the loop is `for var in list(self.model.variables())` — the generated
    `for var in self.variables` over a LIST — and the one `set` left, `state_vars = set(get_state_variables())`, is
    only used for `in`. -/

namespace Cellml.Props.C15Gen
open Load _root_.C15 Cellml.Tie Cellml.Tie.GenA Cellml.Gen

/-- `transformConstants_eq` for the generated code. Domain hypothesis of the tie (`transformConstants_tie`): the
    variable table has distinct identities (`hnd`). On that domain, whenever the generated function returns, the
    equations it has appended to `model.equations` are exactly `C15.transformConstants states vt` — the initial-value
    constants in `variables()` order — and it returns iff `Load.checkConstants` passes. -/
theorem transformConstants_gen_eq (states defined : List VRef) (vt : VarTable) (hnd : (vt.map (·.1)).Nodup)
    (added : List FlatEq) (cleared : List VRef) :
    (∀ st', LoaderConsts.transformConstants (constsView states vt) ⟨defined, added, cleared⟩ = .ok st' →
      st'.added = added ++ transformConstants states vt) ∧
    ((∃ st', LoaderConsts.transformConstants (constsView states vt) ⟨defined, added, cleared⟩ = .ok st') ↔
      checkConstants states defined vt = .ok ()) := by
  rw [transformConstants_tie states defined vt hnd added cleared, Cellml.Props.C15.transformConstants_eq]
  cases checkConstants states defined vt with
  | error e => simp
  | ok u => cases u; simp

theorem isIn_perm {α : Type} [BEq α] {l l' : List α} (hp : l.Perm l') (x : α) : Py.isIn x l = Py.isIn x l' :=
  hp.contains_eq

/-- **the generated `transform_constants` does not depend on the iteration order of its `set`**: two views that hand
    out `set(self.model.get_state_variables())` in different orders (same elements) and agree on `variables()` give the
    same result — same appended equations in the same order, same cleared initial values, same exception. For every
    view and every start state; proved on the generated text. -/
theorem transformConstants_gen_set_irrelevant (sv sv' : List VarObj) (hp : sv'.Perm sv) (vars : List VarObj)
    (st : TCState) :
    LoaderConsts.transformConstants ⟨sv', vars⟩ st = LoaderConsts.transformConstants ⟨sv, vars⟩ st := by
  rw [transformConstants_forIn, transformConstants_forIn]
  have : tcStep sv' = tcStep sv := by
    funext var s
    unfold tcStep
    rw [isIn_perm hp var]
  simp only [this]

/-- the same with the adversary of `C15.Adv` choosing the order of the set: a fair adversary has no influence.
    (`Adv.consts`, the field for `set(self.model.variables())`, is lent here to `state_vars`, whose view has the same
    type.) -/
theorem transformConstants_gen_adv (π π' : Adv) (hπ : π.Fair) (hπ' : π'.Fair) (states : List VRef) (vt : VarTable)
    (st : TCState) :
    LoaderConsts.transformConstants ⟨π.consts (constsView states vt).stateVars, vt⟩ st =
    LoaderConsts.transformConstants ⟨π'.consts (constsView states vt).stateVars, vt⟩ st := by
  rw [transformConstants_gen_set_irrelevant _ _ (hπ.consts _), transformConstants_gen_set_irrelevant _ _ (hπ'.consts _)]

/-- BEFORE the fix the loop ran over `set(self.model.variables())`; had the generated loop been given the variables in
    an adversary's order, the appended equations would follow that order — the generated function is NOT invariant
    under permutations of `variables` (so the `list(…)` of the source matters): witness with two constants. -/
theorem transformConstants_gen_variables_order_matters :
    ∃ (vt : VarTable) (st : TCState), (vt.map (·.1)).Nodup ∧
      LoaderConsts.transformConstants ⟨[], vt⟩ st ≠ LoaderConsts.transformConstants ⟨[], vt.reverse⟩ st := by
  refine ⟨[(("A", "a"), ⟨[], .none, .none, some 1, none, "dimensionless"⟩),
           (("A", "b"), ⟨[], .none, .none, some 2, none, "dimensionless"⟩)], ⟨[], [], []⟩, by decide, ?_⟩
  decide +kernel

/-- `load_order_independent` for the generated `parse`: it takes no adversary — nothing in the generated text iterates
    a set — and the flat model it returns is a function of the document alone (also independent of the
    `unit_store` argument). -/
theorem load_order_independent_gen (fd : C17.FaultDoc) (us us' : Option Unit) :
    (genParse fd us).map (·.flat) = (genParse fd us').map (·.flat) := rfl

/-- `load_variables_equations_independent` for the generated `parse`: two successful runs return the same
    `variables()` and the same `equations`, in the same order. -/
theorem load_variables_equations_independent_gen (fd : C17.FaultDoc) (us us' : Option Unit) (F F' : Flat)
    (h : (genParse fd us).map (·.flat) = .ok (some F)) (h' : (genParse fd us').map (·.flat) = .ok (some F')) :
    variables F = variables F' ∧ F.eqs = F'.eqs := by
  rw [load_order_independent_gen fd us us'] at h
  rw [h] at h'
  simp only [Except.ok.injEq, Option.some.injEq] at h'
  subst h'
  exact ⟨rfl, rfl⟩

end Cellml.Props.C15Gen
