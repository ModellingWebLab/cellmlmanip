import Cellml.Props.C12
import Cellml.Tie.Sing
import Cellml.Tie.SingFixAdd
import Cellml.Tie.SingDet3

/-! # C12 — the headline theorems of `Props/C12.lean`, restated for the definitions GENERATED from the source text of
    `cellmlmanip/_singularity_fixes.py` (`Cellml/Generated/Code/Sing{Pw,Fix,Trav,Det,Det3}.lean`).

    Every statement here is a corollary of a theorem of `Props/C12.lean` through a tie theorem of `Tie/Sing*.lean`; none
    mentions a hand-written model function in its conclusion except where the python function takes another python
    function as an argument whose tie is an open-recursion fixpoint (`_fix_expr_parts`, see `fixParts_is_generated`: the
    recursion is not closed, `genRemove` runs the generated `_remove_singularities` over the model's `fixParts`), and
    `forms_repaired_gen`, which keeps the model's detector (`forms_repaired_gendet` has the generated one).

    `_generate_piecewise` is `Gen.SingPw.generatePiecewise`, `_remove_singularities` `Gen.SingFix.removeSingularities`,
    `remove_fixable_singularities` `Gen.SingTrav.removeFixableSingularities`, `_get_singularity`
    `Gen.SingDet3.getSingularity` (with `Gen.SingDet.*`; last section). -/

namespace Cellml.Props.C12Gen
open _root_.C12 _root_.C12.Expr Cellml.Gen Cellml.Tie Cellml.Tie.Sing Cellml.Props.C12

section
variable {K : Type} [Field K] [LinearOrder K] [IsStrictOrderedRing K]

/-- `outside_equal` for the generated `_generate_piecewise`: outside the range it returns (never raises) the value of
    the original expression — any `f`, any bounds, any `sp` -/
theorem outside_equal_gen (f : K → K) (V sp vmin vmax : K)
    (h : ¬ (lo vmin vmax ≤ V ∧ V ≤ hi vmin vmax)) : SingPw.generatePiecewise f V sp vmin vmax = .ok (f V) := by
  rw [generatePiecewise_tie, outside_equal f V vmin vmax h]

/-- `inside_between` for the generated `_generate_piecewise`: for distinct bounds and a voltage inside the range the
    returned value is a convex combination of the two edge values, between them, within their distance of either, and
    at the edges the function returns the edge values -/
theorem inside_between_gen (f : K → K) (V sp vmin vmax : K) (hne : vmin ≠ vmax)
    (h : lo vmin vmax ≤ V ∧ V ≤ hi vmin vmax) :
    ∃ r : K, SingPw.generatePiecewise f V sp vmin vmax = .ok r ∧
      (∃ t : K, 0 ≤ t ∧ t ≤ 1 ∧ r = (1 - t) * f (lo vmin vmax) + t * f (hi vmin vmax)) ∧
      min (f (lo vmin vmax)) (f (hi vmin vmax)) ≤ r ∧ r ≤ max (f (lo vmin vmax)) (f (hi vmin vmax)) ∧
      |r - f (lo vmin vmax)| ≤ |f (hi vmin vmax) - f (lo vmin vmax)| ∧
      |r - f (hi vmin vmax)| ≤ |f (hi vmin vmax) - f (lo vmin vmax)| ∧
      SingPw.generatePiecewise f (lo vmin vmax) sp vmin vmax = .ok (f (lo vmin vmax)) ∧
      SingPw.generatePiecewise f (hi vmin vmax) sp vmin vmax = .ok (f (hi vmin vmax)) := by
  obtain ⟨h1, h2, h3, h4, h5, h6, h7⟩ := inside_between f V vmin vmax hne h
  refine ⟨generate f V vmin vmax, generatePiecewise_tie f V sp vmin vmax, h1, h2, h3, h4, h5, ?_, ?_⟩
  · rw [generatePiecewise_tie, h6]
  · rw [generatePiecewise_tie, h7]

/-- `swap_irrelevant` for the generated function -/
theorem swap_irrelevant_gen (f : K → K) (V sp vmin vmax : K) :
    SingPw.generatePiecewise f V sp vmin vmax = SingPw.generatePiecewise f V sp vmax vmin := by
  rw [generatePiecewise_tie, generatePiecewise_tie, swap_irrelevant]

/-- `window_brackets` for the generated `_generate_piecewise` called with the range of `U = k·V + c`
    (`Vmin = (δ − c)/k`, `Vmax = (−δ − c)/k`, `sp = −c/k`): the singular point lies strictly between the bounds, and the
    generated function returns the original value exactly at the voltages with `|U(V)| > δ` -/
theorem window_brackets_gen (f : K → K) (k c δ : K) (hk : k ≠ 0) (hδ : 0 < δ) :
    (min (vminOf k c δ) (vmaxOf k c δ) < spOf k c ∧ spOf k c < max (vminOf k c δ) (vmaxOf k c δ)) ∧
    ∀ V : K, ¬ |k * V + c| ≤ δ →
      SingPw.generatePiecewise f V (spOf k c) (vminOf k c δ) (vmaxOf k c δ) = .ok (f V) := by
  obtain ⟨hb, hiff⟩ := window_brackets k c δ hk hδ
  exact ⟨hb, fun V hV => outside_equal_gen f V _ _ _ (fun hin => hV ((hiff V).mp hin))⟩

end

/-- the hand model `fixParts` (on which `fix_outside_equal`, `forms_repaired`, … are stated) is what the functional
    generated from the source of `_fix_expr_parts` maps it to, one level deeper: all branches (`Add` included).
    `hcanon`: SymPy trees have no `Mul` with fewer than two arguments (`Tie/SingFixAdd.lean`, `fixExprParts_tie`). -/
theorem fixParts_is_generated (det : List Expr → List (Win Rat)) (n : Nat) (e : Expr)
    (hcanon : ∀ as, dropOnes e = mul as → 2 ≤ as.length) :
    SingFix.fixExprParts det (fun x => enc (fixParts det n x)) e = .ok (enc (fixParts det (n + 1) e)) :=
  fixParts_fixpoint det n e hcanon

/-- the generated `_remove_singularities`, run with the `_fix_expr_parts` of the model (see `fixParts_is_generated`) -/
def genRemove (det : List Expr → List (Win Rat)) : Expr → Except PyErr (Bool × Expr) :=
  SingFix.removeSingularities (fun x => .ok (enc (fixParts det (x.size + 1) x)))

theorem genRemove_ok (det : List Expr → List (Win Rat)) (e : Expr) :
    genRemove det e = .ok (pyRemoveSing det e) := removeSingularities_tie det e

section
variable {K : Type} [Field K] [LinearOrder K] [IsStrictOrderedRing K]

/-- `remove_outside_equal` / `fix_outside_equal` for the generated `_remove_singularities`: whatever it returns as the
    new expression has, outside every generated range, the value of the original one — every detector, every
    interpretation of `exp` / functions / variables; and it never raises -/
theorem remove_outside_equal_gen (I : Interp K) (v : K) (det : List Expr → List (Win Rat)) (e : Expr) :
    ∃ changed ex, genRemove det e = .ok (changed, ex) ∧ (clear v ex → eval I v ex = eval I v e) := by
  refine ⟨(pyRemoveSing det e).1, (pyRemoveSing det e).2, genRemove_ok det e, ?_⟩
  unfold pyRemoveSing
  by_cases h : e.hasExp = true
  · simp only [h, Bool.not_true, Bool.false_eq_true, if_false]
    exact fun hc => fix_outside_equal I v det _ e hc
  · simp [h]

end

theorem genRemove_of_removeSing {det : List Expr → List (Win Rat)} {e x : Expr} (h : removeSing det e = some x) :
    genRemove det e = .ok (true, x) := by
  rw [← fixOf_pyRemoveSing] at h
  rw [genRemove_ok]
  unfold fixOf at h
  split at h
  · rename_i h1
    exact congrArg Except.ok (Prod.ext h1 (Option.some.inj h))
  · cases h

/-- `forms_repaired` for the generated `_remove_singularities`: every product `P·(one of the four documented forms)`
    with an affine exponent argument is reported changed and wrapped with exactly the range `|U| ≤ δ` -/
theorem forms_repaired_gen (δ P k c : Rat) (hk : k ≠ 0) (hc : c ≠ 0) (hP : P ≠ 1) (n : Nat) (rev : Bool) :
    genRemove (detect δ rev) (mul (form n P k c)) = .ok (true, wrapWin (window k c δ) (mul (form n P k c))) :=
  genRemove_of_removeSing (forms_repaired δ P k c hk hc hP n rev)

/-- the generated traversal with the generated `_remove_singularities`; `order`: the nodes of the sorted graph with
    their equation or `None`; result: `(Model.equations, unprocessed_eqs, units hung on re-created quantities)` -/
def genRun (det : List Expr → List (Win Rat)) (sid : Nat) (vUnits : C18.UnitArg) (order : List (Option Eqn))
    (excl : List String) (eqs : List Eqn) : Except PyErr (List Eqn × Env × List C18.UnitRef) :=
  SingTrav.removeFixableSingularities sid vUnits order (genRemove det) excl eqs

/-- hypotheses on the call: `V` is a variable of the model (its unit is a unit of the model's store or of a store
    sharing the registry), every variable has at most one equation -/
structure Call (vUnits : C18.UnitArg) (order : List (Option Eqn)) : Prop where
  vOfModel : vUnits = .ownUnit ∨ vUnits = .sharedUnit
  nodup : (lhss (order.filterMap id)).Nodup

theorem genRun_eq (det : List Expr → List (Win Rat)) (sid : Nat) (vUnits : C18.UnitArg) (order : List (Option Eqn))
    (excl : List String) (eqs : List Eqn) (hc : Call vUnits order) :
    ∃ created, (∀ r ∈ created, r = C18.UnitRef.ofStore sid) ∧
      genRun det sid vUnits order excl eqs
        = .ok ((traverse (removeSing det) excl (order.filterMap id) eqs).eqs,
               (traverse (removeSing det) excl (order.filterMap id) eqs).env, created) :=
  removeFixable_removeSing_tie det sid vUnits hc.vOfModel order excl eqs hc.nodup

/-- the generated function never raises -/
theorem never_raises_gen (det : List Expr → List (Win Rat)) (sid : Nat) (vUnits : C18.UnitArg)
    (order : List (Option Eqn)) (excl : List String) (eqs : List Eqn) (hc : Call vUnits order) :
    ∃ res, genRun det sid vUnits order excl eqs = .ok res := by
  obtain ⟨created, _, h⟩ := genRun_eq det sid vUnits order excl eqs hc
  exact ⟨_, h⟩

theorem result_gen {det : List Expr → List (Win Rat)} {sid : Nat} {vUnits : C18.UnitArg} {order : List (Option Eqn)}
    {excl : List String} {eqs eqs' : List Eqn} {env' : Env} {created : List C18.UnitRef} (hc : Call vUnits order)
    (hrun : genRun det sid vUnits order excl eqs = .ok (eqs', env', created)) :
    eqs' = (traverse (removeSing det) excl (order.filterMap id) eqs).eqs ∧
    (∀ r ∈ created, r = C18.UnitRef.ofStore sid) := by
  obtain ⟨cr, hcr, h⟩ := genRun_eq det sid vUnits order excl eqs hc
  rw [h] at hrun
  have := Except.ok.inj hrun
  simp only [Prod.mk.injEq] at this
  obtain ⟨h1, _, h3⟩ := this
  exact ⟨h1.symm, h3 ▸ hcr⟩

/-- `defined_vars_unchanged` for the generated traversal: the left-hand sides of `Model.equations` after the call are
    a permutation of those before -/
theorem defined_vars_unchanged_gen {det : List Expr → List (Win Rat)} {sid : Nat} {vUnits : C18.UnitArg}
    {order : List (Option Eqn)} {excl : List String} {eqs eqs' : List Eqn} {env' : Env} {created : List C18.UnitRef}
    (hc : Call vUnits order) (hn : (lhss eqs).Nodup) (hm : ∀ e ∈ order.filterMap id, e.lhs ∈ lhss eqs)
    (hrun : genRun det sid vUnits order excl eqs = .ok (eqs', env', created)) :
    (lhss eqs').Perm (lhss eqs) := by
  rw [(result_gen hc hrun).1]
  exact defined_vars_unchanged _ excl _ eqs hn hm

/-- `excluded_unchanged` for the generated traversal: the equation of a variable listed in `modifiable_parameters`
    is still there, unchanged -/
theorem excluded_unchanged_gen {det : List Expr → List (Win Rat)} {sid : Nat} {vUnits : C18.UnitArg}
    {order : List (Option Eqn)} {excl : List String} {eqs eqs' : List Eqn} {env' : Env} {created : List C18.UnitRef}
    (hc : Call vUnits order) (e0 : Eqn) (h0 : e0 ∈ eqs) (hx : e0.lhs ∈ excl)
    (hrun : genRun det sid vUnits order excl eqs = .ok (eqs', env', created)) : e0 ∈ eqs' := by
  rw [(result_gen hc hrun).1]
  exact excluded_unchanged _ excl _ eqs e0 h0 hx

/-- `survives` (hence `piecewise_rhs_unchanged`, `no_pattern_unchanged`) for the generated traversal -/
theorem survives_gen {det : List Expr → List (Win Rat)} {sid : Nat} {vUnits : C18.UnitArg}
    {order : List (Option Eqn)} {excl : List String} {eqs eqs' : List Eqn} {env' : Env} {created : List C18.UnitRef}
    (hc : Call vUnits order) (e0 : Eqn) (hn : (lhss eqs).Nodup) (hsub : ∀ e ∈ order.filterMap id, e ∈ eqs)
    (h0 : e0 ∈ eqs)
    (h : e0.rhs.isPiecewise = true ∨ excl.contains e0.lhs = true ∨ ∀ env, (subst env e0.rhs).hasExp = false)
    (hrun : genRun det sid vUnits order excl eqs = .ok (eqs', env', created)) : e0 ∈ eqs' := by
  rw [(result_gen hc hrun).1]
  refine survives _ excl _ eqs e0 hn hsub h0 ?_
  rcases h with h | h | h
  · exact Or.inl h
  · exact Or.inr (Or.inl h)
  · exact Or.inr (Or.inr (fun env => removeSing_noexp det _ (h env)))

section
variable {K : Type} [Field K] [LinearOrder K] [IsStrictOrderedRing K]

/-- **`traverse_sound` for the generated traversal (only repairs).** Every solution of the original model satisfies
    every equation of `Model.equations` as the generated `remove_fixable_singularities` leaves it, at every voltage
    outside the generated ranges of that equation -/
theorem traverse_sound_gen {det : List Expr → List (Win Rat)} {sid : Nat} {vUnits : C18.UnitArg}
    {order : List (Option Eqn)} {excl : List String} {eqs eqs' : List Eqn} {env' : Env} {created : List C18.UnitRef}
    (I : Interp K) (hc : Call vUnits order) (hsub : ∀ e ∈ order.filterMap id, e ∈ eqs) (hs : Solves I eqs)
    (hrun : genRun det sid vUnits order excl eqs = .ok (eqs', env', created)) : SolvesOutside I eqs' := by
  rw [(result_gen hc hrun).1]
  exact traverse_sound I det excl _ eqs hsub hs

end

/-! ## non-vacuity: the concrete model of `Props/C12.lean` run through the generated functions -/

/-- `x = 3·U/(exp U − 1)` is replaced (and moves to the end), `y` and the excluded `z` stay; two quantities re-created,
    both with a unit of store 0; the hypotheses `Call` hold -/
example : (genRun (detect exδ false) 0 .ownUnit (exEqs.map some) ["z"] exEqs).toOption.map
        (fun r => (lhss r.1, r.2.2)) = some (["y", "z", "x"], [.ofStore 0, .ofStore 0]) ∧
    Call .ownUnit (exEqs.map some) := by
  refine ⟨by decide +kernel, Or.inl rfl, by decide +kernel⟩

/-! ## `_get_singularity` (generated): the detector is the generated one, not an arbitrary `det`

    `Gen.SingDet3.getSingularity` is the text of `_get_singularity` (with `Gen.SingDet.onTopLoop`, `checkUMatch`,
    `solveReal`, `Gen.SingDet3.fp2Loop`, `spLoop`, `recordLoop`, `isNegativePowerF`), run on the canonical product
    `canon rev args` (the model's classification of SymPy's factors) with the model's reading of SymPy's matcher and of
    `solveset` on the affine fragment, and ANY `log` leaf with `log 1 = 0` (`Tie/SingDet3.lean`, `getSingularity_tie`). -/

section
open Cellml.Tie.PSing2 Cellml.Tie.PSing3

/-- a returned triple `(Vmin, Vmax, sp)` as a range -/
def tripleWin (t : Rat × Rat × Rat) : Win Rat := ⟨t.1, t.2.1, t.2.2⟩

/-- the detector GENERATED from the source of `_get_singularity`, as a function of the arguments of the product. It is run
    on `canon rev args`, the MODEL's classification of the factors (the leaf: what SymPy's canonical product holds), and a
    raise is read as "no singularity" (python would pass it on; on the fragment it never raises: `genDet_eq`). -/
def genDet (lg : Rat → Rat) (δ : Rat) (rev : Bool) (args : List Expr) : List (Win Rat) :=
  match SingDet3.getSingularity matchNegM matchPosM lg solveAff (canon rev args) δ with
  | .ok l => l.map tripleWin
  | .error _ => []

/-- on the affine fragment (no factor outside it) the generated detector never raises and IS `C12.detect` -/
theorem genDet_eq (lg : Rat → Rat) (hlg : lg 1 = 0) (δ : Rat) (rev : Bool) (args : List Expr)
    (h : (detect? δ rev args).isSome) : genDet lg δ rev args = detect δ rev args := by
  unfold genDet
  rw [getSingularity_detect lg hlg δ rev args h]
  simp [List.map_map, Function.comp_def, tripleWin, winTriple]

theorem in_fragment {δ : Rat} {rev : Bool} {args : List Expr} {w : Win Rat} (h : detect δ rev args = [w]) :
    (detect? δ rev args).isSome := by
  unfold detect at h
  cases hd : detect? δ rev args with
  | some ws => rfl
  | none => rw [hd] at h; cases h

/-- on each of the four documented forms (outer factor `P`, `U = k·V + c`, any offset) the generated `_get_singularity`
    returns (never raises) exactly one triple, the range `|U| ≤ δ` with its singular point -/
theorem forms_detected_all_gen (lg : Rat → Rat) (hlg : lg 1 = 0) (δ P k c : Rat) (hk : k ≠ 0) (n : Nat) (rev : Bool) :
    SingDet3.getSingularity matchNegM matchPosM lg solveAff (canon rev (form n P k c)) δ
      = .ok [(vminOf k c δ, vmaxOf k c δ, spOf k c)] := by
  rw [getSingularity_detect lg hlg δ rev _ (in_fragment (forms_detected_all δ P k c hk n rev)),
    forms_detected_all δ P k c hk n rev]
  rfl

set_option linter.unusedVariables false in
/-- **`forms_detected` for the generated `_get_singularity`** -/
theorem forms_detected_gen (lg : Rat → Rat) (hlg : lg 1 = 0) (δ P k c : Rat) (hk : k ≠ 0) (hc : c ≠ 0) (n : Nat)
    (rev : Bool) :
    SingDet3.getSingularity matchNegM matchPosM lg solveAff (canon rev (form n P k c)) δ
      = .ok [(vminOf k c δ, vmaxOf k c δ, spOf k c)] :=
  forms_detected_all_gen lg hlg δ P k c hk n rev

set_option linter.unusedVariables false in
/-- the same for an offset of zero (`U = k·V`, held by SymPy as a product) -/
theorem forms_detected_zero_offset_gen (lg : Rat → Rat) (hlg : lg 1 = 0) (δ P k : Rat) (hk : k ≠ 0) (hk1 : k ≠ 1)
    (n : Nat) (rev : Bool) :
    SingDet3.getSingularity matchNegM matchPosM lg solveAff (canon rev (form n P k 0)) δ
      = .ok [(vminOf k 0 δ, vmaxOf k 0 δ, spOf k 0)] :=
  forms_detected_all_gen lg hlg δ P k 0 hk n rev

/-- **`window_brackets` for what the generated `_get_singularity` returns** on a documented form: the singular point
    lies strictly between the two bounds, and a voltage is inside the range exactly when `|U(V)| ≤ δ` -/
theorem window_brackets_det_gen (lg : Rat → Rat) (hlg : lg 1 = 0) (δ P k c : Rat) (hk : k ≠ 0) (hc : c ≠ 0)
    (hδ : 0 < δ) (n : Nat) (rev : Bool) :
    ∃ vmin vmax sp, SingDet3.getSingularity matchNegM matchPosM lg solveAff (canon rev (form n P k c)) δ
        = .ok [(vmin, vmax, sp)] ∧
      (min vmin vmax < sp ∧ sp < max vmin vmax) ∧
      ∀ V : Rat, (lo vmin vmax ≤ V ∧ V ≤ hi vmin vmax) ↔ |k * V + c| ≤ δ :=
  ⟨_, _, _, forms_detected_gen lg hlg δ P k c hk hc n rev, window_brackets k c δ hk hδ⟩

/-- **`forms_repaired` with BOTH `_remove_singularities` and `_get_singularity` generated from the source**: every
    product `P·(one of the four documented forms)` with an affine exponent argument is reported changed and wrapped
    with exactly the range `|U| ≤ δ` -/
theorem forms_repaired_gendet (lg : Rat → Rat) (hlg : lg 1 = 0) (δ P k c : Rat) (hk : k ≠ 0) (hc : c ≠ 0) (hP : P ≠ 1)
    (n : Nat) (rev : Bool) :
    genRemove (genDet lg δ rev) (mul (form n P k c)) = .ok (true, wrapWin (window k c δ) (mul (form n P k c))) := by
  refine genRemove_of_removeSing
    (removeSing_mul_of_det _ _ _ [] (form_hasExp n P k c) (form_dropOnes n P k c hP) ?_)
  rw [genDet_eq lg hlg δ rev _ (in_fragment (forms_detected δ P k c hk hc n rev)), forms_detected δ P k c hk hc n rev]

/-- non-vacuity: the generated detector run on `3·U/(exp U − 1)`, `U = V/2 − 5/2`, `δ = 1e-7` -/
example : SingDet3.getSingularity matchNegM matchPosM (fun _ => 0) solveAff (canon false (form 0 3 (1/2) (-5/2))) exδ
    = .ok [(5 + 2 / 10000000, 5 - 2 / 10000000, 5)] := by
  rw [forms_detected_gen (fun _ => 0) rfl exδ 3 (1/2) (-5/2) (by decide +kernel) (by decide +kernel) 0 false]
  decide +kernel

end

end Cellml.Props.C12Gen
