import Cellml.C02.Lemmas

/-! # C02 — MathML → SymPy transpilation preserves meaning for every supported operator

    Model: `C02.transpile : Mml → Except Err Sy` (lean/Cellml/C02/Model.lean), a branch-by-branch model of
    `cellmlmanip.parser.Transpiler` whose dispatch is driven by the GENERATED tables `Cellml.Gen.mathmlOps`,
    `Cellml.Gen.naryRelations`, `Cellml.Gen.handlerKeys` (re-extracted from parser.py on every run).
    Semantics (lean/Cellml/C02/Semantics.lean): `evalMml` — MathML 2 chapter 4 written on the tree; `evalSy` — the value
    of the SymPy term built; both over `Rat`, transcendental functions / real powers / named constants uninterpreted.

    The tie to the Python code: the correspondence check harness/props/c02.py, and the source ties of
    `Tie/Transpile.lean` / `Tie/TranspileClosed.lean`, along which `Props/C02Gen.lean` restates these theorems over the
    code generated from parser.py. -/

namespace Cellml.Props.C02
open _root_.C02

/-! ## 1. The generated operator table (per-tag theorems: `Cellml.C02.Table`) -/

/-- every entry except `rem`: the meaning of the class is the meaning of the element -/
theorem table_sound (tag c : String) (h : Gen.mathmlOps.lookup tag = some c) (hrem : tag ≠ "rem") :
    mmlMeaning tag = some (syMeaning c) :=
  (entry_facts h).2.2.resolve_left hrem

/-! ## 2. Transpilation preserves meaning -/

/-- **transpile_sound** (partial: `noNullary`, `remFree` exclude the two known findings proved below).
    For every content-MathML tree of ANY depth and every interpretation (values of the identifiers, of the
    transcendental functions, of real powers): if the transpiler returns `e` and MathML 2 assigns the tree the value
    `v`, then the SymPy term `e` evaluates to `v`. Fragment covered by `evalMml`: ci, cn (plain and e-notation),
    constants, plus/times/minus/divide/power/root±degree/log±logbase/abs/floor/ceiling/max/min/exp/ln/24 trigonometric
    names (uninterpreted `fn`), n-ary relations (chained), neq, and/or/xor/not, piecewise. -/
theorem transpile_sound_partial (I : Interp) (t : Mml) (e : Sy) (v : Val)
    (hn : t.noNullary = true) (hr : t.remFree = true)
    (ht : transpile t = .ok e) (hv : evalMml I t = some v) : evalSy I e = some v :=
  (sound_all I).1 t hn hr e v ht hv

def I0 : Interp := { var := fun _ => .num 3, fn := fun _ x => x, pow := fun a _ => a, constant := fun _ => 0 }
def ap (xs : List Mml) : Mml := .el "apply" (Mml.ofList xs)
def op (t : String) : Mml := .el t .nil
def cnum (s : String) : Mml := .cn none (some s) []

/-- the full-strength statement is FALSE of the code: `<apply><plus/></apply>` is the empty sum 0 in MathML 2, the
    transpiler returns the class `Add` (KNOWN FINDING arity0) -/
theorem transpile_sound_fails_nullary :
    transpile (ap [op "plus"]) = .ok (.cls "Add") ∧ evalMml I0 (ap [op "plus"]) = some (.num 0) ∧
    evalSy I0 (.cls "Add") = none := by
  refine ⟨?_, ?_, ?_⟩ <;> decide +kernel

/-- … and of `rem`: MathML 2 gives rem(−7, 3) = −1, the transpiled `Mod(-7, 3)` is 2 (KNOWN FINDING rem-sign) -/
theorem transpile_sound_fails_rem :
    transpile (ap [op "rem", cnum "-7", cnum "3"]) = .ok (.app "Mod" (.cons (.num (-7)) (.cons (.num 3) .nil))) ∧
    evalMml I0 (ap [op "rem", cnum "-7", cnum "3"]) = some (.num (-1)) ∧
    evalSy I0 (.app "Mod" (.cons (.num (-7)) (.cons (.num 3) .nil))) = some (.num 2) := by
  refine ⟨?_, ?_, ?_⟩ <;> decide +kernel


/-- non-vacuity: a depth-4 tree with a qualifier, a chained relation and a piecewise meets every hypothesis and has a
    value: piecewise(root₃(x+5) if 1 < x ≤ 4, otherwise −x) at x = 3 -/
def sample : Mml :=
  .el "piecewise" (Mml.ofList [
    .el "piece" (Mml.ofList [ap [op "root", .el "degree" (Mml.ofList [cnum "3"]), ap [op "plus", .ci "x", cnum "5"]],
                              ap [op "and", ap [op "lt", cnum "1", .ci "x"], ap [op "leq", .ci "x", cnum "4e0"]]]),
    .el "otherwise" (Mml.ofList [ap [op "minus", .ci "x"]])])

theorem sample_ok : sample.noNullary = true ∧ sample.remFree = true ∧ (transpile sample).toOption.isSome = true ∧
    evalMml I0 sample = some (.num 8) := by
  refine ⟨?_, ?_, ?_, ?_⟩ <;> decide +kernel

example : sample.noNullary = true ∧ sample.remFree = true ∧ (transpile sample).toOption.isSome = true ∧
    evalMml I0 sample = some (.num 8) := sample_ok

example : evalSy I0 ((transpile sample).toOption.getD .nil) = some (.num 8) := by
  obtain ⟨hn, hr, hs, hv⟩ := sample_ok
  cases h : transpile sample with
  | error e => rw [h] at hs; cases hs
  | ok e => exact transpile_sound_partial I0 sample e _ hn hr h hv

/-- the qualifiers are placed as MathML 2 says: `<degree>` first then operand ↦ root(operand, degree) -/
example : transpile (ap [op "root", .el "degree" (Mml.ofList [.ci "n"]), .ci "x"]) =
    .ok (.app "root" (.cons (.sym "x") (.cons (.sym "n") .nil))) := by decide +kernel
example : transpile (ap [op "log", .el "logbase" (Mml.ofList [.ci "b"]), .ci "x"]) =
    .ok (.app "logb" (.cons (.sym "x") (.cons (.sym "b") .nil))) := by decide +kernel
example : transpile (ap [op "log", .ci "x"]) = .ok (.app "logb" (.cons (.sym "x") (.cons (.int 10) .nil))) := by
  decide +kernel

/-- derivatives (outside `evalMml`: uninterpreted): bound variable first, optional integer degree -/
theorem diff_shape (x y : String) (k : Mml) :
    transpile (.el "apply" (.cons (.el "diff" k) (.cons (.el "bvar" (.cons (.ci x) .nil)) (.cons (.ci y) .nil)))) =
      .ok (.app "Derivative" (.cons (.sym y) (.cons (.sym x) (.cons (.int 1) .nil)))) := by
  have h1 := transpile_wrapped "diff" "_diff_handler" k handlerOf_diff (by simp [wrappedHandlers])
  have hbv : transpile (.el "bvar" (.cons (.ci x) .nil)) = .ok (.sym x) := by
    rw [transpile_bvar]; simp only [transpile, assemble_bvar]
  have hy : transpile (.cons (.ci y) .nil) = .ok (.cons (.sym y) .nil) := rfl
  rw [transpile_apply_call h1 (transpile_cons_of_ok hbv hy)]
  simp only [call, callWrapped_diff]
  rfl

example : transpile (ap [op "diff", .el "bvar" (Mml.ofList [.ci "t", .el "degree" (Mml.ofList [cnum "2"])]), .ci "V"]) =
    .ok (.app "Derivative" (.cons (.sym "V") (.cons (.sym "t") (.cons (.int 2) .nil)))) := by decide +kernel


/-! ## 3. What is rejected — and, precisely, what is not -/

/-- an element without handler that the transpiler visits (not below an operator leaf, whose children are never read) -/
def visitsUnknown : Mml → Bool
  | .cons h t => visitsUnknown h || visitsUnknown t
  | .el tag kids =>
    match handlerOf tag with
    | none => true
    | some m => if m == "_simple_operator_handler" || wrappedHandlers.contains m || m == "transpile" then false
                else visitsUnknown kids
  | _ => false

/-- **unknown element ⇒ error**, wherever the transpiler visits it (`visitsUnknown`), at any depth -/
theorem transpile_rejects_unknown (t : Mml) (h : visitsUnknown t = true) : ∃ err, transpile t = .error err := by
  induction t with
  | cons a b iha ihb =>
    simp only [visitsUnknown, Bool.or_eq_true] at h
    simp only [transpile]
    cases ha : transpile a with
    | error e => exact ⟨e, rfl⟩
    | ok x =>
      cases hb : transpile b with
      | error e => exact ⟨e, rfl⟩
      | ok y =>
        rcases h with h | h
        · obtain ⟨e, he⟩ := iha h; rw [ha] at he; cases he
        · obtain ⟨e, he⟩ := ihb h; rw [hb] at he; cases he
  | el tag kids ih =>
    simp only [visitsUnknown] at h
    cases hh : handlerOf tag with
    | none => exact ⟨.value, by simp [transpile, hh]⟩
    | some m =>
      simp only [hh] at h
      split at h
      · cases h
      · rename_i hm
        simp only [Bool.or_eq_true, not_or, Bool.not_eq_true, beq_eq_false_iff_ne, ne_eq] at hm
        obtain ⟨e, he⟩ := ih h
        refine ⟨e, ?_⟩
        rw [transpile_container _ _ _ hh (by simpa using hm.1.1) (by simpa using hm.1.2) (by simpa using hm.2), he]
  | _ => simp [visitsUnknown] at h

theorem unknown_tag_is_ValueError (tag : String) (kids : Mml) (h : handlerOf tag = none) :
    transpile (.el tag kids) = .error .value := by simp [transpile, h]

example : handlerOf "factorial" = none ∧ visitsUnknown (ap [op "plus", .ci "x", ap [op "factorial", .ci "n"]]) = true := by
  constructor <;> decide +kernel

/-- the children of a container are transpiled first: their error is the container's error -/
theorem container_propagates (tag m : String) (kids : Mml) (e : Err) (h : handlerOf tag = some m)
    (h1 : (m == "_simple_operator_handler") = false) (h2 : m ∉ wrappedHandlers) (h3 : (m == "transpile") = false)
    (hk : transpile kids = .error e) : transpile (.el tag kids) = .error e := by
  rw [transpile_container _ _ _ h h1 h2 h3, hk]

/-- `<piece>` without exactly 2 children, `<otherwise>` / `<degree>` without exactly 1, `<bvar>` with none or more than
    2, `<apply>` / `<logbase>` with none ⇒ error -/
theorem transpile_rejects_containers (ks : List Mml) (r : Sy) (hr : transpile (Mml.ofList ks) = .ok r) :
    (ks.length ≠ 2 → transpile (.el "piece" (Mml.ofList ks)) = .error .value) ∧
    (ks.length ≠ 1 → transpile (.el "otherwise" (Mml.ofList ks)) = .error .value) ∧
    (ks.length ≠ 1 → transpile (.el "degree" (Mml.ofList ks)) = .error .value) ∧
    (ks.length ≠ 1 → ks.length ≠ 2 → transpile (.el "bvar" (Mml.ofList ks)) = .error .value) ∧
    (ks.length = 0 → transpile (.el "apply" (Mml.ofList ks)) = .error .index) ∧
    (ks.length = 0 → transpile (.el "logbase" (Mml.ofList ks)) = .error .index) := by
  obtain ⟨rs, rfl, hl⟩ := transpile_ofList_ok ks r hr
  rw [← hl]
  refine ⟨?_, ?_, ?_, ?_, ?_, ?_⟩
  · intro hn
    simp only [transpile_piece, hr, assemble_piece]
    match rs, hn with
    | [], _ => rfl
    | [_], _ => rfl
    | [_, _], hn => simp at hn
    | _ :: _ :: _ :: _, _ => rfl
  · intro hn
    simp only [transpile_otherwise, hr, assemble_otherwise]
    match rs, hn with
    | [], _ => rfl
    | [_], hn => simp at hn
    | _ :: _ :: _, _ => rfl
  · intro hn
    simp only [transpile_degree, hr, assemble_degree]
    match rs, hn with
    | [], _ => rfl
    | [_], hn => simp at hn
    | _ :: _ :: _, _ => rfl
  · intro h1 h2
    simp only [transpile_bvar, hr, assemble_bvar]
    match rs, h1, h2 with
    | [], _, _ => rfl
    | [_], h1, _ => simp at h1
    | [_, _], _, h2 => simp at h2
    | _ :: _ :: _ :: _, _, _ => rfl
  · intro h0
    simp only [transpile_apply, hr, assemble_apply]
    match rs, h0 with
    | [], _ => rfl
  · intro h0
    simp only [transpile_logbase, hr, assemble_logbase]
    match rs, h0 with
    | [], _ => rfl

example : transpile (.el "piece" (Mml.ofList [.ci "x"])) = .error .value := by decide +kernel
example : transpile (.el "piecewise" (Mml.ofList [.el "otherwise" (Mml.ofList [.ci "x", .ci "y"])])) = .error .value := by
  decide +kernel

/-- `<cn>`: a `type` other than e-notation, e-notation without exactly one `<sep/>`, text that is not a number ⇒
    ValueError -/
theorem transpile_rejects_cn (ty : String) (text : Option String) (kids : List (Bool × Option String)) (s : String) :
    (ty ≠ "e-notation" → transpile (.cn (some ty) text kids) = .error .value) ∧
    ((∀ k, kids ≠ [(true, k)]) → transpile (.cn (some "e-notation") text kids) = .error .value) ∧
    (pyFloat s.toList = none → transpile (.cn none (some s) kids) = .error .value) := by
  refine ⟨?_, ?_, ?_⟩
  · intro h
    have : (ty == "e-notation") = false := by simpa using h
    simp [transpile, cnHandler, this]
  · intro h
    simp only [transpile, cnHandler]
    simp
  · intro h
    simp [transpile, cnHandler, h]

/-- what counts as malformed: a few of the texts the generator uses -/
example : (["", " ", ".", "1 2", "1,5", "0x10", "--1", "1e", "e5", "1__0", "_1", "1_", "1e_5", "abc", "1.5.2"].all
    fun s => pyFloat s.toList == none) = true := by decide +kernel
example : transpile (.cn (some "e-notation") (some "1e2") [(true, some "3")]) = .error .value := by decide +kernel
example : transpile (.cn (some "e-notation") (some "1.5") [(true, some "3.0")]) = .error .value := by decide +kernel

/-- operand counts the wrapped callbacks reject (Python's TypeError): minus takes 1 or 2, divide and power exactly 2,
    root and log 1 or 2 (qualifier included), diff 2 or 3 (bvar included; 3 is the KNOWN FINDING diff/3) -/
theorem transpile_rejects_wrapped_arity (opk : Mml) (ks : List Mml) (r : Sy) (hr : transpile (Mml.ofList ks) = .ok r)
    (h0 : ks ≠ []) :
    (ks.length > 2 → transpile (.el "apply" (.cons (.el "minus" opk) (Mml.ofList ks))) = .error .type) ∧
    (ks.length ≠ 2 → transpile (.el "apply" (.cons (.el "divide" opk) (Mml.ofList ks))) = .error .type) ∧
    (ks.length ≠ 2 → transpile (.el "apply" (.cons (.el "power" opk) (Mml.ofList ks))) = .error .type) ∧
    (ks.length > 2 → transpile (.el "apply" (.cons (.el "root" opk) (Mml.ofList ks))) = .error .type) ∧
    (ks.length > 2 → transpile (.el "apply" (.cons (.el "log" opk) (Mml.ofList ks))) = .error .type) ∧
    (ks.length ≠ 2 → ks.length ≠ 3 →
      transpile (.el "apply" (.cons (.el "diff" opk) (Mml.ofList ks))) = .error .type) := by
  obtain ⟨rs, rfl, hl⟩ := transpile_ofList_ok ks r hr
  have hne : rs ≠ [] := by intro h; subst h; simp at hl; exact h0 (List.eq_nil_of_length_eq_zero hl.symm)
  rw [← hl]
  have step : ∀ (opn m : String), handlerOf opn = some m → m ∈ wrappedHandlers →
      transpile (.el "apply" (.cons (.el opn opk) (Mml.ofList ks))) = assemble "_apply_handler" (.cons (.wrapped m) (Sy.ofList rs)) := by
    intro opn m hh hm
    rw [transpile_apply, transpile_cons_of_ok (transpile_wrapped opn m opk hh hm) hr]
  refine ⟨?_, ?_, ?_, ?_, ?_, ?_⟩
  · intro hn
    rw [step _ _ handlerOf_minus (by simp [wrappedHandlers])]
    match rs, hne, hn with
    | _ :: _ :: _ :: _, _, _ => simp only [assemble_apply, Sy.ofList, call, callWrapped_minus]
  · intro hn
    rw [step _ _ handlerOf_divide (by simp [wrappedHandlers])]
    match rs, hne, hn with
    | [_], _, _ => simp only [assemble_apply, Sy.ofList, call, callWrapped_divide]
    | [_, _], _, hn => simp at hn
    | _ :: _ :: _ :: _, _, _ => simp only [assemble_apply, Sy.ofList, call, callWrapped_divide]
  · intro hn
    rw [step _ _ handlerOf_power (by simp [wrappedHandlers])]
    match rs, hne, hn with
    | [_], _, _ => simp only [assemble_apply, Sy.ofList, call, callWrapped_power]
    | [_, _], _, hn => simp at hn
    | _ :: _ :: _ :: _, _, _ => simp only [assemble_apply, Sy.ofList, call, callWrapped_power]
  · intro hn
    rw [step _ _ handlerOf_root (by simp [wrappedHandlers])]
    match rs, hne, hn with
    | _ :: _ :: _ :: _, _, _ => simp only [assemble_apply, Sy.ofList, call, callWrapped_root]
  · intro hn
    rw [step _ _ handlerOf_log (by simp [wrappedHandlers])]
    match rs, hne, hn with
    | _ :: _ :: _ :: _, _, _ => simp only [assemble_apply, Sy.ofList, call, callWrapped_log]
  · intro h2 h3
    rw [step _ _ handlerOf_diff (by simp [wrappedHandlers])]
    match rs, hne, h2, h3 with
    | [_], _, _, _ => simp only [assemble_apply, Sy.ofList, call, callWrapped_diff]
    | [_, _], _, h2, _ => simp at h2
    | [_, _, _], _, _, h3 => simp at h3
    | _ :: _ :: _ :: _ :: _, _, _, _ => simp only [assemble_apply, Sy.ofList, call, callWrapped_diff]


theorem apply_simple_unfold (tag c : String) (opk : Mml) (ks : List Mml) (rs : List Sy)
    (hc : Gen.mathmlOps.lookup tag = some c) (hr : transpile (Mml.ofList ks) = .ok (Sy.ofList rs)) (hne : rs ≠ []) :
    transpile (.el "apply" (.cons (.el tag opk) (Mml.ofList ks))) =
      call (if tag ∈ Gen.naryRelations then .rel c else if c ∈ sympyConstants then .const c else .cls c)
        (Sy.ofList rs) := by
  rw [transpile_apply_call (transpile_simple tag opk c hc) hr]
  match rs, hne with
  | _ :: _, _ => rfl

/-- **wrong operand count for a table operator ⇒ TypeError**: a class of the generated table applied to a number of
    operands outside the range its SymPy constructor accepts; a constant (pi, true …) applied to anything -/
theorem transpile_rejects_class_arity (tag c : String) (opk : Mml) (ks : List Mml) (r : Sy)
    (hc : Gen.mathmlOps.lookup tag = some c) (hnr : tag ∉ Gen.naryRelations)
    (hr : transpile (Mml.ofList ks) = .ok r) (h0 : ks ≠ []) :
    (c ∈ sympyConstants → transpile (.el "apply" (.cons (.el tag opk) (Mml.ofList ks))) = .error .type) ∧
    (∀ lo hi, c ∉ sympyConstants → sympyArity c = some (lo, hi) →
        (ks.length < lo ∨ (∃ h, hi = some h ∧ h < ks.length)) →
        transpile (.el "apply" (.cons (.el tag opk) (Mml.ofList ks))) = .error .type) := by
  obtain ⟨rs, rfl, hl⟩ := transpile_ofList_ok ks r hr
  have hne : rs ≠ [] := by intro h; subst h; simp at hl; exact h0 (List.eq_nil_of_length_eq_zero hl.symm)
  rw [apply_simple_unfold tag c opk ks rs hc hr hne]
  constructor
  · intro hcon; simp [hnr, hcon, call]
  · intro lo hi hcon har hbad
    simp only [hnr, hcon, if_false, call, callClass, har, ofList_len, hl]
    rcases hbad with hlt | ⟨h, rfl, hgt⟩
    · simp [hlt]
    · simp [hgt]

/-- an n-ary relation with a single operand ⇒ TypeError (IndexError when that operand is `true`/`false` and the
    relation an inequality: the error message indexes the missing second operand) -/
theorem transpile_rejects_relation_unary (tag c : String) (opk k : Mml) (a : Sy)
    (hc : Gen.mathmlOps.lookup tag = some c) (hnr : tag ∈ Gen.naryRelations) (hk : transpile k = .ok a)
    (har : sympyArity c = some (2, some 2)) :
    transpile (.el "apply" (.cons (.el tag opk) (Mml.ofList [k]))) = .error .type ∨
    transpile (.el "apply" (.cons (.el tag opk) (Mml.ofList [k]))) = .error .index := by
  rw [apply_simple_unfold tag c opk [k] [a] hc (transpile_cons_of_ok hk rfl) (by simp)]
  simp only [hnr, if_true, call]
  unfold callRel
  have hl : (Sy.ofList [a]).len = 1 := rfl
  rw [if_neg (by rw [hl]; decide)]
  by_cases h1 : (isIneqClass c && (Sy.ofList [a]).any isBoolConst) = true
  · rw [if_pos h1, if_pos (by rw [hl]; decide)]; right; rfl
  · rw [if_neg h1]
    by_cases h2 : (isEqClass c && (Sy.ofList [a]).any isBoolConst && !(Sy.ofList [a]).all isBoolConst &&
        (Sy.ofList [a]).any isDerivative) = true
    · rw [if_pos h2]; left; rfl
    · rw [if_neg h2]; left
      simp [callClass, har, hl]

/-- SymPy's arity of every class of the table is the arity MathML 2 gives the element — except `ln` (KNOWN FINDING ln/2).
    `(lo, hi)`: unary 1..1, binary 2..2, n-ary 0.. (plus, times, and, or, xor), 1.. (max, min); constants: not callable -/
def specArity : List (String × Option (Nat × Option Nat)) := [
  ("plus", some (0, none)), ("times", some (0, none)), ("and", some (0, none)), ("or", some (0, none)), ("xor", some (0, none)),
  ("max", some (1, none)), ("min", some (1, none)), ("not", some (1, some 1)),
  ("eq", some (2, some 2)), ("neq", some (2, some 2)), ("lt", some (2, some 2)), ("leq", some (2, some 2)),
  ("gt", some (2, some 2)), ("geq", some (2, some 2)), ("rem", some (2, some 2)),
  ("abs", some (1, some 1)), ("floor", some (1, some 1)), ("ceiling", some (1, some 1)), ("exp", some (1, some 1)),
  ("ln", some (1, some 1)),
  ("sin", some (1, some 1)), ("cos", some (1, some 1)), ("tan", some (1, some 1)), ("sec", some (1, some 1)),
  ("csc", some (1, some 1)), ("cot", some (1, some 1)), ("sinh", some (1, some 1)), ("cosh", some (1, some 1)),
  ("tanh", some (1, some 1)), ("sech", some (1, some 1)), ("csch", some (1, some 1)), ("coth", some (1, some 1)),
  ("arcsin", some (1, some 1)), ("arccos", some (1, some 1)), ("arctan", some (1, some 1)), ("arcsec", some (1, some 1)),
  ("arccsc", some (1, some 1)), ("arccot", some (1, some 1)), ("arcsinh", some (1, some 1)), ("arccosh", some (1, some 1)),
  ("arctanh", some (1, some 1)), ("arcsech", some (1, some 1)), ("arccsch", some (1, some 1)), ("arccoth", some (1, some 1)),
  ("pi", none), ("exponentiale", none), ("infinity", none), ("notanumber", none), ("true", none), ("false", none)]

theorem class_arities_match_spec :
    (Gen.mathmlOps.all fun p =>
      p.1 == "ln" ||
      specArity.lookup p.1 == some (if sympyConstants.contains p.2 then none else sympyArity p.2)) = true ∧
    (Gen.mathmlOps.lookup "ln").bind sympyArity = some (1, some 2) := by
  constructor <;> decide +kernel

theorem rejects_examples : transpile (ap [op "sin", .ci "x", .ci "y"]) = .error .type ∧
    transpile (ap [op "rem", .ci "x"]) = .error .type ∧ transpile (ap [op "neq", .ci "x", .ci "y", .ci "z"]) = .error .type ∧
    transpile (ap [op "pi", .ci "x"]) = .error .type ∧ transpile (ap [op "eq", .ci "x"]) = .error .type ∧
    transpile (ap [op "lt", op "true"]) = .error .index ∧ transpile (ap [op "not", .ci "p", .ci "q"]) = .error .type := by
  refine ⟨?_, ?_, ?_, ?_, ?_, ?_, ?_⟩ <;> decide +kernel

example : transpile (ap [op "sin", .ci "x", .ci "y"]) = .error .type ∧
    transpile (ap [op "rem", .ci "x"]) = .error .type ∧ transpile (ap [op "neq", .ci "x", .ci "y", .ci "z"]) = .error .type ∧
    transpile (ap [op "pi", .ci "x"]) = .error .type ∧ transpile (ap [op "eq", .ci "x"]) = .error .type ∧
    transpile (ap [op "lt", op "true"]) = .error .index ∧ transpile (ap [op "not", .ci "p", .ci "q"]) = .error .type :=
  rejects_examples

/-! ### The wrong-arity / malformed inputs the code does NOT reject (KNOWN FINDINGS), as theorems about the model -/

/-- arity0: an `<apply>` with the operator as its only child returns the operator itself — for EVERY operator -/
theorem nullary_apply_returns_operator (tag : String) (opk : Mml) (f : Sy) (h : transpile (.el tag opk) = .ok f) :
    transpile (.el "apply" (.cons (.el tag opk) .nil)) = .ok f :=
  transpile_apply_call h (ks := .nil) (r := .nil) rfl

example : transpile (ap [op "divide"]) = .ok (.wrapped "_divide_handler") ∧ transpile (ap [op "sin"]) = .ok (.cls "sin") ∧
    transpile (ap [op "eq"]) = .ok (.rel "Eq") := by refine ⟨?_, ?_, ?_⟩ <;> decide +kernel
/-- … and such a result is applied by an enclosing `<apply>` -/
example : transpile (ap [ap [op "plus"], .ci "x", .ci "y"]) = .ok (.app "Add" (.cons (.sym "x") (.cons (.sym "y") .nil))) := by
  decide +kernel

/-- ln/2: `sympy.ln` is `sympy.log`, the second operand becomes a base -/
theorem ln_two_operands_accepted :
    transpile (ap [op "ln", .ci "x", .ci "y"]) = .ok (.app "ln" (.cons (.sym "x") (.cons (.sym "y") .nil))) ∧
    evalMml I0 (ap [op "ln", .ci "x", .ci "y"]) = none := by constructor <;> decide +kernel

/-- plain-operand-as-qualifier: without `<degree>`/`<logbase>`/`<bvar>` the FIRST of two operands is taken as one -/
theorem plain_operand_as_qualifier :
    transpile (ap [op "root", .ci "x", .ci "y"]) = .ok (.app "root" (.cons (.sym "y") (.cons (.sym "x") .nil))) ∧
    transpile (ap [op "log", .ci "x", .ci "y"]) = .ok (.app "logb" (.cons (.sym "y") (.cons (.sym "x") .nil))) ∧
    transpile (ap [op "diff", .ci "x", .ci "y"]) =
      .ok (.app "Derivative" (.cons (.sym "y") (.cons (.sym "x") (.cons (.int 1) .nil)))) ∧
    evalMml I0 (ap [op "root", .ci "x", .ci "y"]) = none := by refine ⟨?_, ?_, ?_, ?_⟩ <;> decide +kernel

/-- qualifier-misplaced: `<degree>`, `<logbase>`, one-child `<bvar>` are transparent wherever they stand -/
theorem qualifiers_are_transparent (d : Mml) (a : Sy) (h : transpile d = .ok a) :
    transpile (.el "degree" (.cons d .nil)) = .ok a ∧ transpile (.el "logbase" (.cons d .nil)) = .ok a ∧
    transpile (.el "bvar" (.cons d .nil)) = .ok a := by
  have hl : transpile (.cons d .nil) = .ok (.cons a .nil) := transpile_cons_of_ok h rfl
  exact ⟨by simp only [transpile_degree, hl, assemble_degree], by simp only [transpile_logbase, hl, assemble_logbase],
    by simp only [transpile_bvar, hl, assemble_bvar]⟩

example : transpile (ap [op "plus", .el "degree" (Mml.ofList [.ci "x"]), .ci "y"]) =
    .ok (.app "Add" (.cons (.sym "x") (.cons (.sym "y") .nil))) := by decide +kernel
/-- operand first, degree second: operand and degree swap roles -/
example : transpile (ap [op "root", .ci "y", .el "degree" (Mml.ofList [.ci "x"])]) =
    .ok (.app "root" (.cons (.sym "x") (.cons (.sym "y") .nil))) := by decide +kernel

/-- logbase-arity:2, diff/3, diff degree truncation, cn leniency, cn children ignored -/
theorem other_accepted_malformed_inputs :
    transpile (ap [op "log", .el "logbase" (Mml.ofList [cnum "3", cnum "4"]), .ci "x"]) =
      .ok (.app "logb" (.cons (.sym "x") (.cons (.num 3) .nil))) ∧
    transpile (ap [op "diff", .el "bvar" (Mml.ofList [.ci "t"]), .ci "x", op "true"]) =
      .ok (.app "DerivativeEval" (.cons (.sym "x") (.cons (.sym "t") (.cons (.int 1) (.cons (.const "true") .nil))))) ∧
    transpile (ap [op "diff", .el "bvar" (Mml.ofList [.ci "t", .el "degree" (Mml.ofList [cnum "2.5"])]), .ci "x"]) =
      .ok (.app "Derivative" (.cons (.sym "x") (.cons (.sym "t") (.cons (.int 2) .nil)))) ∧
    transpile (cnum "1_000") = .ok (.num 1000) ∧ transpile (cnum "inf") = .ok (.special "inf") ∧
    transpile (cnum "-Infinity") = .ok (.special "-inf") ∧ transpile (cnum "nan") = .ok (.special "nan") ∧
    transpile (.cn none (some "1.5") [(true, some "3")]) = .ok (.num (3/2)) ∧
    evalMml I0 (cnum "1_000") = none ∧ evalMml I0 (cnum "inf") = none ∧
    evalMml I0 (.cn none (some "1.5") [(true, some "3")]) = none := by
  refine ⟨?_, ?_, ?_, ?_, ?_, ?_, ?_, ?_, ?_, ?_, ?_⟩ <;> decide +kernel

end Cellml.Props.C02
