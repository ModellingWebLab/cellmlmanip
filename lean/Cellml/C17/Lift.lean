import Cellml.C17.Reject2
import Cellml.Units.WorklistSound

/-! # C17 — what `loadFull` (the whole of `Parser.parse`) accepts, and the fault classes only it can see -/

namespace C17
open Load

theorem load_isErr_of_loadFrom {doc : Doc}
    (h : ∀ reg ust, buildUnits doc.units (Units.builtinRegistry, { id := 0, known := [] }) = .ok (reg, ust) →
      IsErr (loadFrom reg ust doc)) : IsErr (load doc) := by
  rw [load_eq]
  cases hb : buildUnits doc.units (Units.builtinRegistry, { id := 0, known := [] }) with
  | error e => exact ⟨e, rfl⟩
  | ok p => obtain ⟨reg, ust⟩ := p; exact h reg ust hb

theorem loadFull_ok_parts {fd : FaultDoc} {F : Flat} (h : loadFull fd = .ok F) :
    schemaVars fd.doc = true ∧ fd.compUnits = [] ∧ fd.badEqs = [] ∧
    ∃ reg ust L, Units.addUnits 0 fd.udefs = .ok (reg, ust) ∧ reactionErr ust fd = none ∧
      prepareFrom reg ust fd.doc = .ok L ∧ finishFrom L fd.doc = .ok F := by
  unfold loadFull at h
  split at h
  · cases h
  rename_i hs
  split at h
  · cases h
  rename_i hc
  split at h
  · cases h
  rename_i reg ust hu
  split at h
  · cases h
  rename_i hr
  split at h
  · cases h
  rename_i L hL
  split at h
  · cases h
  rename_i hb
  exact ⟨by simpa using hs, by simpa using hc, List.head?_eq_none_iff.mp hb, reg, ust, L, hu, hr, hL, h⟩

/-- a variable with both interfaces `in`, or an `initial_value` on a variable with an `in` interface (RELAX NG) -/
def SchemaViolation (fd : FaultDoc) : Prop :=
  ∃ c ∈ fd.doc.comps, ∃ d ∈ c.vars, (d.pub = .inn ∧ d.priv = .inn) ∨ (d.init.isSome = true ∧ (d.pub = .inn ∨ d.priv = .inn))

/-- some component contains a `<units>` element -/
def HasComponentUnits (fd : FaultDoc) : Prop := fd.compUnits ≠ []

/-- some component contains a `<reaction>` element -/
def HasReaction (fd : FaultDoc) : Prop := ∃ i ∈ fd.reactions, i < fd.doc.comps.length

/-- some equation has a left-hand side that is neither a variable nor a derivative -/
def NonVariableLhs (fd : FaultDoc) : Prop := ∃ b ∈ fd.badEqs, ∃ e, b.lhs = .nonvar e

/-- some equation has a derivative of second or higher order on its left-hand side -/
def HigherOrderLhs (fd : FaultDoc) : Prop := ∃ b ∈ fd.badEqs, ∃ x t n, b.lhs = .higher x t n ∧ 2 ≤ n

/-- **what `loadFull` accepts**: the document breaks neither schema rule, has no units inside components, no
    reaction, no left-hand side `add_equation` refuses; the unit work list returns, and with its units the document
    goes through `loadFrom` and is `Accepted` (Faults.lean). The `fault_rejected_…` of `Props/C17.lean` about
    `loadFull` are its contrapositives. -/
theorem loadFull_accepted {fd : FaultDoc} {F : Flat} (h : loadFull fd = .ok F) :
    schemaVars fd.doc = true ∧ fd.compUnits = [] ∧ fd.badEqs = [] ∧ ¬ HasReaction fd ∧
    ∃ reg ust dl st, Units.addUnits 0 fd.udefs = .ok (reg, ust) ∧ loadFrom reg ust fd.doc = .ok F ∧
      Accepted reg ust fd.doc dl st := by
  obtain ⟨h1, h2, h3, reg, ust, L, hu, hr, hL, hfin⟩ := loadFull_ok_parts h
  have hF : loadFrom reg ust fd.doc = .ok F := by unfold loadFrom; rw [hL]; exact hfin
  obtain ⟨dl, st, A⟩ := loadFrom_accepted hF
  refine ⟨h1, h2, h3, ?_, reg, ust, dl, st, hu, hF, A⟩
  -- a listed index below the bound makes `firstIdx` find one, and then `reactionErr` is an error
  rintro ⟨i, hi, hlt⟩
  unfold reactionErr at hr
  cases hf : firstIdx fd.reactions fd.doc.comps.length with
  | none =>
    have := firstIdx_none hf i hlt
    rw [List.contains_iff_mem.mpr hi] at this
    cases this
  | some j => rw [hf] at hr; simp only at hr; split at hr <;> cases hr

theorem loadFull_isErr_of_loadFrom {fd : FaultDoc}
    (h : ∀ reg ust, Units.addUnits 0 fd.udefs = .ok (reg, ust) → IsErr (loadFrom reg ust fd.doc)) :
    IsErr (loadFull fd) := by
  refine isErr_of_not_ok (fun F hF => ?_)
  obtain ⟨_, _, _, _, reg, ust, _, _, hu, hF', _⟩ := loadFull_accepted hF
  obtain ⟨e, he⟩ := h reg ust hu
  rw [hF'] at he
  cases he

theorem loadFull_isErr_of_units {fd : FaultDoc} (h : ∃ e, Units.addUnits 0 fd.udefs = .error e) :
    IsErr (loadFull fd) := by
  refine isErr_of_not_ok (fun F hF => ?_)
  obtain ⟨e, he⟩ := h
  obtain ⟨_, _, _, _, _, _, _, _, hu, _⟩ := loadFull_accepted hF
  rw [he] at hu
  cases hu

theorem schemaVars_ok {doc : Doc} (h : schemaVars doc = true) {c : Comp} (hc : c ∈ doc.comps) {d : VarDecl}
    (hd : d ∈ c.vars) : ¬ (d.pub = .inn ∧ d.priv = .inn) ∧ (d.init.isSome = true → d.pub ≠ .inn ∧ d.priv ≠ .inn) := by
  have h2 := List.all_eq_true.mp (List.all_eq_true.mp h c hc) d hd
  unfold schemaVar at h2
  cases hp : d.pub <;> cases hq : d.priv <;> simp_all

theorem bad_lhs_rejected {fd : FaultDoc} (h : fd.badEqs ≠ []) : IsErr (loadFull fd) :=
  isErr_of_not_ok (fun _ hF => h (loadFull_accepted hF).2.2.1)

theorem addUnits_known {defs : List Units.UDef} {reg : Registry} {ust : Units.Store}
    (h : Units.addUnits 0 defs = .ok (reg, ust)) : ∀ n ∈ ust.known, n ∈ defs.map (·.name) :=
  fun _ => (Units.addUnits_known h).mem_iff.mp

theorem loadFull_clean {fd : FaultDoc} {reg : Registry} {ust : Units.Store} (hs : schemaVars fd.doc = true)
    (hc : fd.compUnits = []) (hu : Units.addUnits 0 fd.udefs = .ok (reg, ust)) (hr : fd.reactions = [])
    (hb : fd.badEqs = []) : loadFull fd = loadFrom reg ust fd.doc := by
  have hre : reactionErr ust fd = none := by
    unfold reactionErr firstIdx
    rw [hr]; rfl
  unfold loadFull loadFrom
  rw [hs, hc, hu]
  simp only [Bool.not_true, Bool.false_eq_true, if_false, List.isEmpty_nil, hre, hb, List.head?_nil]

theorem ConnHas.mono {doc : Doc} {P Q : Option (Iface × Iface) → Prop} (hpq : ∀ f, P f → Q f) (h : ConnHas doc P) :
    ConnHas doc Q := by
  obtain ⟨k, hk, d1, d2, e1, e2, hp⟩ := h
  exact ⟨k, hk, d1, d2, e1, e2, hpq _ hp⟩

theorem connHas_of_b {doc : Doc} {Q : Option (Iface × Iface) → Prop} (p : Option (Iface × Iface) → Bool)
    (hpq : ∀ f, p f = true → Q f) (h : connHasB doc p = true) : ConnHas doc Q :=
  ((connHasB_iff doc p).mp h).mono hpq

theorem not_ok_of {ε α : Type} {x : Except ε α} (h : (match x with | .ok _ => false | .error _ => true) = true) :
    ∀ a, x ≠ .ok a := by
  intro a e
  rw [e] at h
  cases h

instance (fd : FaultDoc) : Decidable (SchemaViolation fd) := by unfold SchemaViolation; infer_instance
instance (fd : FaultDoc) : Decidable (HasReaction fd) := by unfold HasReaction; infer_instance

end C17
