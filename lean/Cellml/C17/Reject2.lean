import Cellml.Units.WorklistLemmas
import Cellml.C17.Reject

/-! # C17 — every fault class is refused by `loadFrom`, part 2: maths (definitions, identifiers, units, initial values) -/

namespace C17
open Load

/-- in one component two equations define the same variable (`x = …` twice, or `x = …` and `dx/dt = …`) -/
def DefinedTwiceDirect (doc : Doc) : Prop := ∃ c ∈ doc.comps, ¬ (c.eqs.map (·.lhs.defines)).Nodup

/-- both ends of a connection are defined by an equation of their own component -/
def DefinedTwiceConnected (doc : Doc) : Prop :=
  ∃ k ∈ doc.conns, k.c1 ≠ k.c2 ∧
    (∃ ca ∈ doc.comps, ca.name = k.c1 ∧ ∃ e ∈ ca.eqs, e.lhs.defines = k.v1) ∧
    (∃ cb ∈ doc.comps, cb.name = k.c2 ∧ ∃ e ∈ cb.eqs, e.lhs.defines = k.v2)

instance (doc : Doc) : Decidable (DefinedTwiceConnected doc) := by unfold DefinedTwiceConnected; infer_instance

/-- a variable without an `in` interface has an initial value and an equation `x = …` (`transform_constants` would add a
    second definition) -/
def InitAndEquation (doc : Doc) : Prop :=
  ∃ c ∈ doc.comps, ∃ e ∈ c.eqs, ∃ x, e.lhs = .var x ∧ ∃ d, declOf doc.comps (c.name, x) = some d ∧
    d.init.isSome = true ∧ d.pub ≠ .inn ∧ d.priv ≠ .inn

/-- no equation of the document is an ODE -/
def NoOde (doc : Doc) : Prop := ∀ c ∈ doc.comps, ∀ e ∈ c.eqs, e.lhs.isDiff = false

instance (doc : Doc) : Decidable (DefinedTwiceDirect doc) := by unfold DefinedTwiceDirect; infer_instance

theorem lhsRoot_eq (st : CState) (cname : String) :
    lhsRoot st cname = (fun x => rootOf st (cname, x)) ∘ (fun e : Eqn String String => e.lhs.defines) := rfl

theorem defined_twice_direct_rejected {reg : Registry} {ust : Units.Store} {doc : Doc} (h : DefinedTwiceDirect doc) :
    IsErr (loadFrom reg ust doc) :=
  rejected_of fun _ st A => by
    obtain ⟨c, hc, hnd⟩ := h
    have hc' := ((List.pairwise_flatMap (R := (· ≠ ·))).mp A.defs).1 c hc
    rw [lhsRoot_eq, ← List.map_map] at hc'
    exact hnd ((List.pairwise_map.mp hc').imp (fun hab e => hab (by rw [e])))

theorem pairwise_mem {α : Type} {R : α → α → Prop} (hsym : ∀ a b, R a b → R b a) :
    ∀ {l : List α}, l.Pairwise R → ∀ a ∈ l, ∀ b ∈ l, a ≠ b → R a b
  | [], _, a, ha, _, _, _ => by simp at ha
  | x :: l, hp, a, ha, b, hb, hne => by
      rw [List.pairwise_cons] at hp
      rcases List.mem_cons.mp ha with ea | ha
      · rcases List.mem_cons.mp hb with eb | hb
        · exact absurd (ea.trans eb.symm) hne
        · rw [ea]; exact hp.1 b hb
      · rcases List.mem_cons.mp hb with eb | hb
        · rw [eb]; exact hsym _ _ (hp.1 a ha)
        · exact pairwise_mem hsym hp.2 a ha b hb hne

theorem defined_twice_connected_rejected {reg : Registry} {ust : Units.Store} {doc : Doc}
    (h : DefinedTwiceConnected doc) : IsErr (loadFrom reg ust doc) :=
  rejected_of fun _ st A => by
    obtain ⟨k, hk, hne, ⟨ca, hca, na, e1, he1, d1⟩, ⟨cb, hcb, nb, e2, he2, d2⟩⟩ := h
    have hroot : rootOf st k.end1 = rootOf st k.end2 := by
      obtain ⟨_, _, _, _, ⟨_, hd⟩ | ⟨_, hd⟩⟩ := A.directed hk
      · exact (A.ends _ _ hd).symm
      · exact A.ends _ _ hd
    have r1 : rootOf st k.end1 ∈ ca.eqs.map (lhsRoot st ca.name) :=
      List.mem_map.mpr ⟨e1, he1, by simp only [lhsRoot, d1, na]; rfl⟩
    have r2 : rootOf st k.end1 ∈ cb.eqs.map (lhsRoot st cb.name) :=
      List.mem_map.mpr ⟨e2, he2, by rw [hroot]; simp only [lhsRoot, d2, nb]; rfl⟩
    have hab : ca ≠ cb := fun e => hne (by rw [← na, ← nb, e])
    have hdis := pairwise_mem (R := fun a₁ a₂ : Comp => ∀ x ∈ a₁.eqs.map (lhsRoot st a₁.name),
        ∀ y ∈ a₂.eqs.map (lhsRoot st a₂.name), x ≠ y)
      (fun a b hR x hx y hy e => hR y hy x hx e.symm)
      ((List.pairwise_flatMap (R := (· ≠ ·))).mp A.defs).2 ca hca cb hcb hab
    exact hdis _ r1 _ r2 rfl

/-- an equation mentions an identifier its component does not declare -/
def UndefinedIdentifier (doc : Doc) : Prop :=
  ∃ c ∈ doc.comps, ∃ e ∈ c.eqs, ∃ x ∈ e.lhs.idents ++ e.rhs.idents, declOf doc.comps (c.name, x) = none

instance (doc : Doc) : Decidable (UndefinedIdentifier doc) := by unfold UndefinedIdentifier; infer_instance

theorem undefined_identifier_rejected {reg : Registry} {ust : Units.Store} {doc : Doc} (h : UndefinedIdentifier doc) :
    IsErr (loadFrom reg ust doc) :=
  rejected_of fun _ _ A => by
    obtain ⟨c, hc, e, he, x, hx, hnone⟩ := h
    have := (A.clean c hc e he).1 x hx
    rw [lookup_varTable, hnone] at this
    cases this

/-- a variable or a number carries a unit name that the unit store does not know -/
def UndefinedUnit (ust : Units.Store) (doc : Doc) : Prop :=
  (∃ c ∈ doc.comps, ∃ d ∈ c.vars, ∀ k, Units.getUnit ust d.units ≠ .ok k) ∨
  (∃ c ∈ doc.comps, ∃ e ∈ c.eqs, ∃ u ∈ e.rhs.unitsUsed, ∀ k, Units.getUnit ust u ≠ .ok k)

theorem undefined_unit_rejected {reg : Registry} {ust : Units.Store} {doc : Doc} (h : UndefinedUnit ust doc) :
    IsErr (loadFrom reg ust doc) :=
  rejected_of fun _ _ A => by
    rcases h with ⟨c, hc, d, hd, hno⟩ | ⟨c, hc, e, he, u, hu, hno⟩
    · obtain ⟨k, hk⟩ := A.units c hc d hd
      exact hno k hk
    · obtain ⟨k, hk⟩ := (A.clean c hc e he).2 u hu
      exact hno k hk

/-- the unit name is neither a CellML unit nor one of `names` -/
def UnknownName (names : List String) (u : String) : Prop :=
  Cellml.Gen.cellmlUnits.contains u = false ∧ u ∉ names

instance (names : List String) (u : String) : Decidable (UnknownName names u) := by unfold UnknownName; infer_instance

theorem getUnit_unknown {ust : Units.Store} {names : List String} (hk : ∀ n ∈ ust.known, n ∈ names) {u : String}
    (h : UnknownName names u) : ∀ k, Units.getUnit ust u ≠ .ok k := by
  intro k hu
  unfold Units.getUnit at hu
  split at hu
  · cases hu
  · split at hu
    · cases hu
    · rename_i hdef
      simp only [Units.Store.isDefined, h.1, Bool.false_or, Bool.not_eq_true', Bool.not_eq_false] at hdef
      exact h.2 (hk u (by simpa using hdef))

/-- a variable or a number carries a unit name that is neither built in nor defined in the document -/
def UndefinedUnitName (names : List String) (doc : Doc) : Prop :=
  (∃ c ∈ doc.comps, ∃ d ∈ c.vars, UnknownName names d.units) ∨
  (∃ c ∈ doc.comps, ∃ e ∈ c.eqs, ∃ u ∈ e.rhs.unitsUsed, UnknownName names u)

instance (names : List String) (doc : Doc) : Decidable (UndefinedUnitName names doc) := by
  unfold UndefinedUnitName; infer_instance

theorem undefinedUnit_of_name {ust : Units.Store} {names : List String} (hk : ∀ n ∈ ust.known, n ∈ names) {doc : Doc}
    (h : UndefinedUnitName names doc) : UndefinedUnit ust doc := by
  rcases h with ⟨c, hc, d, hd, hu⟩ | ⟨c, hc, e, he, u, hu, hun⟩
  · exact Or.inl ⟨c, hc, d, hd, getUnit_unknown hk hu⟩
  · exact Or.inr ⟨c, hc, e, he, u, hu, getUnit_unknown hk hun⟩

def UnitDecl.name : UnitDecl → String
  | .base n => n
  | .derived n _ => n

/-- `Load.buildUnits` is a run of single additions, one per declaration (only the name of a declaration matters to
    `Units.Adds`) -/
theorem buildUnits_run : ∀ (us : List UnitDecl) (rs r : Registry × Units.Store), buildUnits us rs = .ok r →
    Units.Run Units.Adds rs (us.map fun u => ⟨UnitDecl.name u, false, []⟩) r
  | [], rs, r, h => by cases h; exact .nil
  | .base m :: us, (reg, st), r, h => by
      unfold buildUnits at h
      split at h
      · rename_i rs' hb
        obtain ⟨h1, h2⟩ := Units.addBaseUnit_ok hb
        exact .cons ⟨h1, congrArg Prod.snd h2, _, congrArg Prod.fst h2⟩ (buildUnits_run us rs' r h)
      · cases h
  | .derived m es :: us, (reg, st), r, h => by
      unfold buildUnits at h
      split at h
      · rename_i rs' hb
        obtain ⟨_, _, _, _, h1, h2, _, _, _, hr⟩ := Units.addUnit_ok hb
        refine .cons ⟨?_, congrArg Prod.snd hr, _, congrArg Prod.fst hr⟩ (buildUnits_run us rs' r h)
        exact Units.isDefined_eq_false_iff.mpr ⟨h1, h2⟩
      · cases h

theorem buildUnits_known (us : List UnitDecl) (rs r : Registry × Units.Store) (h : buildUnits us rs = .ok r) :
    ∀ n ∈ r.2.known, n ∈ rs.2.known ∨ n ∈ us.map UnitDecl.name := by
  intro n hn
  rw [(buildUnits_run us rs r h).known.1, List.mem_append, List.mem_reverse, List.map_map] at hn
  exact hn.symm

/-- PARTIAL (documents without ODEs): an `initial_value` and an equation for the same variable are refused. With ODEs
    in the document the statement is still true of the model (a state with an algebraic equation as well is a duplicate
    definition) but the proof needs positions in `lhsRoots`; the fault stream covers it. -/
theorem init_and_equation_rejected_partial {reg : Registry} {ust : Units.Store} {doc : Doc} (hno : NoOde doc)
    (h : InitAndEquation doc) : IsErr (loadFrom reg ust doc) :=
  rejected_of fun _ st A => by
    obtain ⟨c, hc, e, he, x, hlhs, d, hd, hinit, hpub, hpriv⟩ := h
    have hl : (varTable ust doc.comps).lookup (c.name, x) = some (entry ust c.name d).2 := by
      rw [lookup_varTable, hd]; rfl
    have hm := List.mem_of_lookup _ _ _ hl
    have hsrc : (entry ust c.name d).2.isSrc = true := by
      unfold VarInfo.isSrc entry
      cases hp : d.pub <;> cases hq : d.priv <;> simp_all
    -- the variable is its own root, so the equation `x = …` defines it
    have hin : (c.name, x) ∈ lhsRoots st doc.comps := by
      unfold lhsRoots
      refine List.mem_flatMap.mpr ⟨c, hc, List.mem_map.mpr ⟨e, he, ?_⟩⟩
      simp only [lhsRoot, hlhs, Lhs.defines]
      exact A.src _ (src_of_mem hm hsrc)
    have hstates : statesOf (mathsOf ust st doc.comps) = [] := List.eq_nil_iff_forall_not_mem.mpr fun v hv => by
      obtain ⟨fe, hfe, hd, -⟩ := mem_statesOf.mp hv
      obtain ⟨c', hc', e', he', rfl⟩ := mem_mathsOf.mp hfe
      have := hno c' hc' e' he'
      rw [transcribe_isDiff, this] at hd
      cases hd
    exact A.consts _ _ hm (by rw [hstates]; rfl) (by simpa [entry] using hinit) hin

end C17
