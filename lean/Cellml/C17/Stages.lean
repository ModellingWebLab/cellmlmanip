import Cellml.C17.Model
import Cellml.C17.Worklist

/-! # C17 — refusal as a proposition, and what is particular to C17 about the stages of the loader

    What each stage has checked when it returns is in `Load/Stages.lean`. -/

namespace C17
open Load

def IsErr {α : Type} (x : Except Err α) : Prop := ∃ e, x = .error e

theorem isErr_of_not_ok {α : Type} {x : Except Err α} (h : ∀ a, x ≠ .ok a) : IsErr x := by
  cases x with
  | error e => exact ⟨e, rfl⟩
  | ok a => exact absurd rfl (h a)

theorem firstIdx_eq (l : List Nat) (b : Nat) : firstIdx l b = (l.filter (· < b)).min? := by
  unfold firstIdx
  cases l.filter (· < b) with
  | nil => rfl
  | cons i r =>
    simp only [List.foldl_cons, List.min?_cons']
    induction r generalizing i with
    | nil => rfl
    | cons j r ih => simp only [List.foldl_cons, ih, Nat.min_comm]

theorem firstIdx_none {l : List Nat} {b : Nat} (h : firstIdx l b = none) : ∀ k, k < b → l.contains k = false := by
  rw [firstIdx_eq, List.min?_eq_none_iff] at h
  intro k hk
  cases hc : l.contains k with
  | false => rfl
  | true =>
    have hm : k ∈ l.filter (· < b) := List.mem_filter.mpr ⟨by simpa using hc, by simpa using hk⟩
    rw [h] at hm
    cases hm

theorem firstIdx_some {l : List Nat} {b m : Nat} (h : firstIdx l b = some m) :
    m < b ∧ l.contains m = true ∧ ∀ j, j < m → l.contains j = false := by
  rw [firstIdx_eq, List.min?_eq_some_iff] at h
  obtain ⟨hm, h2⟩ := h
  simp only [List.mem_filter, decide_eq_true_eq] at hm
  refine ⟨hm.2, by simpa using hm.1, fun j hj => ?_⟩
  cases hc : l.contains j with
  | false => rfl
  | true =>
    have := h2 j (List.mem_filter.mpr ⟨by simpa using hc, by simp; omega⟩)
    omega

/-! ## the class of what a stage raises

    `className` (what `load_model` shows) and `Err.className` differ on `.unsupported` only. The unit stage does answer
    `.unsupported` (`Load.buildUnits` passes on `addErr (.unsupported w)` of `Units.addUnit`); no stage AFTER it does:
    each raises `keyError`, `valueError`, `assertion` or `dimensionality` written out in its definition. -/

theorem checkVars_err_class {ust : Units.Store} {cname : String} {vars : List VarDecl} {acc : List VRef × List String}
    {e : Err} (h : checkVars ust cname vars acc = .error e) : className e = e.className := by
  fun_induction checkVars ust cname vars acc
  case case1 => cases h
  -- raised here: unknown unit, second variable of the name, cmeta id in use
  case case2 | case3 | case4 => cases h; rfl
  case case5 ih | case6 ih => exact ih h

theorem checkComps_err_class {ust : Units.Store} {comps : List Comp} {seen : List String} {acc : List VRef × List String}
    {e : Err} (h : checkComps ust comps seen acc = .error e) : className e = e.className := by
  fun_induction checkComps ust comps seen acc
  case case1 => cases h
  -- raised here: second component of the name
  case case2 => cases h; rfl
  case case3 e' he => cases h; exact checkVars_err_class he
  case case4 ih => exact ih h

theorem buildParents_err_class {comps : List String} {l : List (Option String × String)} {par : ParentMap}
    {enc : List (String × String)} {e : Err} (h : buildParents comps l par enc = .error e) :
    className e = e.className := by
  fun_induction buildParents comps l par enc
  case case1 => cases h
  -- raised here: unknown parent, edge seen before, unknown child, second parent
  case case3 | case4 | case5 | case6 => cases h; rfl
  -- raised further down the list (after a top-level edge, after an edge that was recorded)
  case case2 ih | case7 ih => exact ih h

theorem direction_err_class {par : ParentMap} {vt : VarTable} {c : Conn} {e : Err}
    (h : direction par vt c = .error e) : className e = e.className := by
  rw [Load.direction_eq] at h
  split at h
  -- the first, the second variable does not exist
  · cases h; rfl
  · cases h; rfl
  -- both exist: the two directions answer `ok`, anything else is the ValueError
  · split at h
    · cases h
    · cases h
    · cases h; rfl

theorem directAll_err_class {comps : List String} {par : ParentMap} {vt : VarTable} {conns : List Conn} {e : Err}
    (h : directAll comps par vt conns = .error e) : className e = e.className := by
  fun_induction directAll comps par vt conns
  case case1 | case6 => cases h
  -- raised here: one of the two components does not exist
  case case2 | case3 => cases h; rfl
  case case4 e' he => cases h; exact direction_err_class he
  case case5 e' he ih => cases h; exact ih he

theorem stepConn_err_class {reg : Registry} {vt : VarTable} {st : CState} {c : VRef × VRef} {e : Err}
    (h : stepConn reg vt st c = .error e) : className e = e.className := by
  have hsp := stepConn_spec reg vt st c.1 c.2
  rw [h] at hsp
  cases hsp <;> rfl

theorem connectLoop_err_class {reg : Registry} {vt : VarTable} {dq : List (VRef × VRef)} {unch : Nat}
    {hle : unch ≤ dq.length} {st : CState} {e : Err} (h : connectLoop reg vt dq unch hle st = .error e) :
    className e = e.className := by
  fun_induction connectLoop reg vt dq unch hle st
  case case1 => cases h
  case case2 e' he _ => cases h; exact stepConn_err_class he
  -- raised here: the `assert` on `unchanged_loop_count`
  case case4 => cases h; rfl
  -- raised in a later iteration (connection put back, connection resolved)
  case case3 ih | case5 ih => exact ih h

theorem connect_err_class {reg : Registry} {vt : VarTable} {l : List (VRef × VRef)} {e : Err}
    (h : connect reg vt l = .error e) : className e = e.className :=
  connectLoop_err_class h

theorem checkIdent_err_class {vt : VarTable} {cname x : String} {e : Err} (h : checkIdent vt cname x = .error e) :
    className e = e.className := by
  unfold checkIdent at h
  split at h
  · cases h
  · cases h; rfl

theorem checkExpr_err_class {ust : Units.Store} {vt : VarTable} {cname : String} : ∀ {x : Expr String String} {e : Err},
    checkExpr ust vt cname x = .error e → className e = e.className
  | .num q u, e, h => by
    simp only [checkExpr] at h
    split at h
    · cases h
    -- unknown unit of a number
    · cases h; rfl
  | .var a, e, h => checkIdent_err_class h
  | .diff x t, e, h => by
    simp only [checkExpr] at h
    split at h
    · exact checkIdent_err_class h
    · rename_i e' he; cases h; exact checkIdent_err_class he
  | .add a b, e, h | .sub a b, e, h | .mul a b, e, h | .div a b, e, h => by
    simp only [checkExpr] at h
    split at h
    · exact checkExpr_err_class h
    · rename_i e' he; cases h; exact checkExpr_err_class he
  | .neg a, e, h => checkExpr_err_class (x := a) h
  | .powi a n, e, h => checkExpr_err_class (x := a) h

theorem checkLhs_err_class {vt : VarTable} {cname : String} {l : Lhs String} {e : Err}
    (h : checkLhs vt cname l = .error e) : className e = e.className := by
  cases l with
  | var a => exact checkIdent_err_class h
  | diff x t =>
    simp only [checkLhs] at h
    split at h
    · exact checkIdent_err_class h
    · rename_i e' he; cases h; exact checkIdent_err_class he

theorem checkEqs_err_class {ust : Units.Store} {vt : VarTable} {st : CState} {cname : String}
    {es : List (Eqn String String)} {defined : List VRef} {e : Err}
    (h : checkEqs ust vt st cname es defined = .error e) : className e = e.className := by
  fun_induction checkEqs ust vt st cname es defined
  case case1 => cases h
  case case2 e' he => cases h; exact checkLhs_err_class he
  case case3 e' he => cases h; exact checkExpr_err_class he
  -- raised here: second definition of the variable
  case case4 => cases h; rfl
  case case5 ih => exact ih h

theorem checkMaths_err_class {ust : Units.Store} {vt : VarTable} {st : CState} {comps : List Comp} {defined : List VRef}
    {e : Err} (h : checkMaths ust vt st comps defined = .error e) : className e = e.className := by
  fun_induction checkMaths ust vt st comps defined
  case case1 => cases h
  case case2 e' he => cases h; exact checkEqs_err_class he
  case case3 ih => exact ih h

theorem checkConstants_err_class {states defined : List VRef} {vt : VarTable} {e : Err}
    (h : checkConstants states defined vt = .error e) : className e = e.className := by
  fun_induction checkConstants states defined vt
  case case1 => cases h
  -- raised here: a state variable without initial value, a constant that has an equation
  case case2 | case4 => cases h; rfl
  case case3 ih | case5 ih => exact ih h

end C17
