import Cellml.C17.Stages

/-! # C17 — what the fault predicates of `Reject.lean` / `Reject2.lean` are phrased with

    The declarations of the document (`declOf`), the encapsulation parents the loader computes (`parOf`) and the
    interfaces through which the two ends of a connection see each other (`facing`) — not the loader's variable table,
    so these predicates do not depend on the units (`IncompatibleUnits`, `TwoSources`, `UnfedRelay` of Reject.lean read
    `varTable ust …` and do); the stages a successful `loadFrom` has gone through, and what they have
    established about the document (`Accepted`, `loadFrom_accepted`). -/

namespace C17
open Load

def declList (comps : List Comp) : List (VRef × VarDecl) :=
  comps.flatMap (fun c => c.vars.map (fun d => ((c.name, d.name), d)))

/-- the first `<variable>` with this (component, name) -/
def declOf (comps : List Comp) (v : VRef) : Option VarDecl := (declList comps).lookup v

theorem varTable_eq (ust : Units.Store) (comps : List Comp) :
    varTable ust comps = (declList comps).map (fun p => (p.1, (entry ust p.1.1 p.2).2)) := by
  unfold varTable declList
  rw [List.map_flatMap]
  congr 1
  funext c
  simp only [List.map_map]
  rfl

theorem lookup_varTable (ust : Units.Store) (comps : List Comp) (v : VRef) :
    (varTable ust comps).lookup v = (declOf comps v).map (fun d => (entry ust v.1 d).2) := by
  rw [varTable_eq]
  exact List.lookup_map_snd (fun k d => (entry ust k.1 d).2) (declList comps) v

theorem lookup_varTable_some {ust : Units.Store} {comps : List Comp} {v : VRef} {i : VarInfo}
    (h : (varTable ust comps).lookup v = some i) :
    ∃ d, declOf comps v = some d ∧ i.pub = d.pub ∧ i.priv = d.priv ∧ i.init = d.init := by
  rw [lookup_varTable] at h
  cases hd : declOf comps v with
  | none => rw [hd] at h; cases h
  | some d =>
      rw [hd] at h
      simp only [Option.map_some, Option.some.injEq] at h
      subst h
      exact ⟨d, rfl, rfl, rfl, rfl⟩

theorem lookup_varTable_of_decl {ust : Units.Store} {comps : List Comp} {v : VRef} {d : VarDecl}
    (h : declOf comps v = some d) :
    ∃ i, (varTable ust comps).lookup v = some i ∧ i.pub = d.pub ∧ i.priv = d.priv := by
  rw [lookup_varTable, h]
  exact ⟨_, rfl, rfl, rfl⟩

theorem loadFrom_ok_parts {reg : Registry} {ust : Units.Store} {doc : Doc} {F : Flat}
    (h : loadFrom reg ust doc = .ok F) :
    ∃ chk par dl st defined,
      checkComps ust doc.comps [] ([], doc.cmeta.toList) = .ok chk ∧
      buildParents (doc.comps.map (·.name)) doc.encaps [] [] = .ok par ∧
      directAll (doc.comps.map (·.name)) par (varTable ust doc.comps) doc.conns = .ok dl ∧
      connect reg (varTable ust doc.comps) dl = .ok st ∧
      checkMaths ust (varTable ust doc.comps) st doc.comps (st.convs.map (·.target)) = .ok defined ∧
      checkConstants (statesOf (mathsOf ust st doc.comps)) defined (varTable ust doc.comps) = .ok () := by
  unfold loadFrom at h
  split at h
  · cases h
  · rename_i L hL
    unfold prepareFrom at hL
    split at hL
    · cases hL
    · rename_i chk h1
      simp only at hL
      split at hL
      · cases hL
      · rename_i par h2
        split at hL
        · cases hL
        · rename_i dl h3
          split at hL
          · cases hL
          · rename_i st h4
            simp only [Except.ok.injEq] at hL
            subst hL
            unfold finishFrom at h
            split at h
            · cases h
            · rename_i defined h5
              split at h
              · cases h
              · rename_i h6
                exact ⟨chk, par, dl, st, defined, h1, h2, h3, h4, h5, h6⟩

/-- the encapsulation parents the loader computes (`[]` when `_add_relationships` raises) -/
def parOf (doc : Doc) : ParentMap :=
  match buildParents (doc.comps.map (·.name)) doc.encaps [] [] with
  | .ok p => p
  | .error _ => []

theorem parOf_eq {doc : Doc} {par : ParentMap}
    (h : buildParents (doc.comps.map (·.name)) doc.encaps [] [] = .ok par) : parOf doc = par := by
  unfold parOf; rw [h]

/-- the two interfaces through which the ends of a connection see each other: public/public for siblings, the parent's
    private and the child's public interface otherwise; `none` when the components are not adjacent -/
def facing (par : ParentMap) (k : Conn) (d1 d2 : VarDecl) : Option (Iface × Iface) :=
  if par.lookup k.c1 = par.lookup k.c2 then some (d1.pub, d2.pub)
  else if par.lookup k.c2 = some k.c1 then some (d1.priv, d2.pub)
  else if par.lookup k.c1 = some k.c2 then some (d1.pub, d2.priv)
  else none

theorem direction_ok_facing {par : ParentMap} {ust : Units.Store} {comps : List Comp} {k : Conn} {d : VRef × VRef}
    (h : direction par (varTable ust comps) k = .ok d) :
    ∃ d1 d2, declOf comps k.end1 = some d1 ∧ declOf comps k.end2 = some d2 ∧
      ((facing par k d1 d2 = some (.out, .inn) ∧ d = (k.end1, k.end2)) ∨
       (facing par k d1 d2 = some (.inn, .out) ∧ d = (k.end2, k.end1))) := by
  rw [direction_eq] at h
  split at h
  · cases h
  · cases h
  rename_i i1 i2 h1 h2
  obtain ⟨d1, hd1, p1, q1, _⟩ := lookup_varTable_some h1
  obtain ⟨d2, hd2, p2, q2, _⟩ := lookup_varTable_some h2
  have hf : facing par k d1 d2 = faces par k i1 i2 := by unfold facing faces; rw [p1, p2, q1, q2]
  refine ⟨d1, d2, hd1, hd2, ?_⟩
  rw [hf]
  split at h
  · rename_i hfa; cases h; exact Or.inl ⟨hfa, rfl⟩
  · rename_i hfa; cases h; exact Or.inr ⟨hfa, rfl⟩
  · cases h

/-- **Soundness of acceptance**, in the words of the document: `dl` are its connections, directed, and `st` is the
    state in which the work list has left them. Every fault class of `Reject.lean` / `Reject2.lean` contradicts one of
    the fields. -/
structure Accepted (reg : Registry) (ust : Units.Store) (doc : Doc) (dl : List (VRef × VRef)) (st : CState) : Prop where
  comps : (doc.comps.map (·.name)).Nodup
  units : ∀ c ∈ doc.comps, ∀ d ∈ c.vars, ∃ k, Units.getUnit ust d.units = .ok k
  connComps : ∀ k ∈ doc.conns, k.c1 ∈ doc.comps.map (·.name) ∧ k.c2 ∈ doc.comps.map (·.name)
  dir : doc.conns.map (direction (parOf doc) (varTable ust doc.comps)) = dl.map Except.ok
  targets : (dl.map Prod.snd).Nodup
  factor : ∀ s t, (s, t) ∈ dl →
    ∃ f, Units.factor reg (unitsOf (varTable ust doc.comps) s) (unitsOf (varTable ust doc.comps) t) = .ok f
  /-- ONE step back only. The loop guarantees more (`Load.Resolvable.fed` is well-founded: every source is fed from a
      variable without `in` interface, so there is no cycle of connections among relays); no fault class of C17 is
      about such a cycle, so `Accepted` does not keep that half and does not refute one -/
  fed : ∀ s t, (s, t) ∈ dl → Src (varTable ust doc.comps) s ∨ ∃ s', (s', s) ∈ dl
  ends : ∀ s t, (s, t) ∈ dl → rootOf st t = rootOf st s
  src : ∀ v, Src (varTable ust doc.comps) v → rootOf st v = v
  defs : (lhsRoots st doc.comps).Nodup
  clean : ∀ c ∈ doc.comps, ∀ e ∈ c.eqs, EqClean ust (varTable ust doc.comps) c.name e
  /-- `transform_constants` would define it a second time -/
  consts : ∀ v i, (v, i) ∈ varTable ust doc.comps → (statesOf (mathsOf ust st doc.comps)).contains v = false →
    i.init.isSome = true → v ∉ lhsRoots st doc.comps

theorem loadFrom_accepted {reg : Registry} {ust : Units.Store} {doc : Doc} {F : Flat}
    (h : loadFrom reg ust doc = .ok F) : ∃ dl st, Accepted reg ust doc dl st := by
  obtain ⟨_, par, dl, st, defined, h1, h2, h3, h4, h5, h6⟩ := loadFrom_ok_parts h
  rw [← parOf_eq h2] at h3
  obtain ⟨c1, -, c3, -⟩ := checkComps_ok _ _ _ _ _ h1
  obtain ⟨d1, d2⟩ := directAll_ok h3
  obtain ⟨m1, ⟨m2, -⟩, m4⟩ := checkMaths_ok _ _ _ h5
  refine ⟨dl, st, c1, c3, fun k hk => by simpa using d2 k hk, d1, connect_ok_targets_nodup h4, connect_ok_factor h4,
    connect_ok_source_fed h4, fun _ _ => rootOf_ends h4, fun _ => rootOf_src h4, m2, m4, ?_⟩
  intro v i hm hs hi hv
  have := (checkConstants_ok _ h6 v i hm).2 hs hi
  rw [m1] at this
  simp [hv] at this

theorem Accepted.directed {reg : Registry} {ust : Units.Store} {doc : Doc} {dl : List (VRef × VRef)} {st : CState}
    (A : Accepted reg ust doc dl st) {k : Conn} (hk : k ∈ doc.conns) :
    ∃ d1 d2, declOf doc.comps k.end1 = some d1 ∧ declOf doc.comps k.end2 = some d2 ∧
      ((facing (parOf doc) k d1 d2 = some (.out, .inn) ∧ (k.end1, k.end2) ∈ dl) ∨
       (facing (parOf doc) k d1 d2 = some (.inn, .out) ∧ (k.end2, k.end1) ∈ dl)) := by
  obtain ⟨d, hd, e⟩ := List.mem_map.mp (A.dir ▸ List.mem_map_of_mem (f := direction _ _) hk)
  obtain ⟨d1, d2, e1, e2, hf⟩ := direction_ok_facing e.symm
  exact ⟨d1, d2, e1, e2, hf.imp (fun ⟨a, b⟩ => ⟨a, b ▸ hd⟩) (fun ⟨a, b⟩ => ⟨a, b ▸ hd⟩)⟩

end C17
