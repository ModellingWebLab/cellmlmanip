import Cellml.Units.Lemmas
import Cellml.C17.Faults

/-! # C17 — every fault class is refused by `loadFrom` (hence by `Load.load` and by `loadFull`), part 1:
    components, connections (existence, interfaces, adjacency, units, two sources, unfed relay)

    Each class contradicts a field of `Accepted` (Faults.lean); `rejected_of` turns that into the refusal. -/

namespace C17
open Load

/-- some `<connection>` names a component that does not exist -/
def MissingComponent (doc : Doc) : Prop :=
  ∃ k ∈ doc.conns, k.c1 ∉ doc.comps.map (·.name) ∨ k.c2 ∉ doc.comps.map (·.name)

/-- some `<map_variables>` names a variable that its component does not declare -/
def MissingVariable (doc : Doc) : Prop :=
  ∃ k ∈ doc.conns, declOf doc.comps k.end1 = none ∨ declOf doc.comps k.end2 = none

/-- two `<component>` elements have the same name -/
def DuplicateComponent (doc : Doc) : Prop := ¬ (doc.comps.map (·.name)).Nodup

/-- some connection between declared variables whose facing interfaces satisfy `P` -/
def ConnHas (doc : Doc) (P : Option (Iface × Iface) → Prop) : Prop :=
  ∃ k ∈ doc.conns, ∃ d1 d2, declOf doc.comps k.end1 = some d1 ∧ declOf doc.comps k.end2 = some d2 ∧
    P (facing (parOf doc) k d1 d2)

/-- both ends offer the value (`out` facing `out`) -/
def BothSources (doc : Doc) : Prop := ConnHas doc (· = some (.out, .out))
/-- both ends expect the value (`in` facing `in`) -/
def BothReceivers (doc : Doc) : Prop := ConnHas doc (· = some (.inn, .inn))
/-- an end declares no interface towards the other (`none` or absent) -/
def NoDirection (doc : Doc) : Prop := ConnHas doc (fun f => ∃ a b, f = some (a, b) ∧ (a = .none ∨ b = .none))
/-- the two components are neither siblings nor parent and child -/
def NonAdjacent (doc : Doc) : Prop := ConnHas doc (· = none)

instance (doc : Doc) : Decidable (MissingComponent doc) := by unfold MissingComponent; infer_instance
instance (doc : Doc) : Decidable (MissingVariable doc) := by unfold MissingVariable; infer_instance
instance (doc : Doc) : Decidable (DuplicateComponent doc) := by unfold DuplicateComponent; infer_instance

/-- `ConnHas` for a Boolean test, computed (`connHasB_iff`): the declarations are determined by the connection -/
def connHasB (doc : Doc) (p : Option (Iface × Iface) → Bool) : Bool :=
  doc.conns.any (fun k => match declOf doc.comps k.end1, declOf doc.comps k.end2 with
    | some d1, some d2 => p (facing (parOf doc) k d1 d2)
    | _, _ => false)

theorem connHasB_iff (doc : Doc) (p : Option (Iface × Iface) → Bool) :
    connHasB doc p = true ↔ ConnHas doc (fun f => p f = true) := by
  unfold connHasB ConnHas
  simp only [List.any_eq_true]
  constructor
  · rintro ⟨k, hk, h⟩
    split at h
    · rename_i d1 d2 h1 h2; exact ⟨k, hk, d1, d2, h1, h2, h⟩
    · cases h
  · rintro ⟨k, hk, d1, d2, h1, h2, h⟩
    exact ⟨k, hk, by rw [h1, h2]; exact h⟩

theorem rejected_of {reg : Registry} {ust : Units.Store} {doc : Doc}
    (h : ∀ dl st, ¬ Accepted reg ust doc dl st) : IsErr (loadFrom reg ust doc) :=
  isErr_of_not_ok fun _ hF => let ⟨dl, st, A⟩ := loadFrom_accepted hF; h dl st A

theorem missing_component_rejected {reg : Registry} {ust : Units.Store} {doc : Doc} (h : MissingComponent doc) :
    IsErr (loadFrom reg ust doc) :=
  rejected_of fun _ _ A => by
    obtain ⟨k, hk, hm⟩ := h
    exact hm.elim (· (A.connComps k hk).1) (· (A.connComps k hk).2)

theorem missing_variable_rejected {reg : Registry} {ust : Units.Store} {doc : Doc} (h : MissingVariable doc) :
    IsErr (loadFrom reg ust doc) :=
  rejected_of fun _ _ A => by
    obtain ⟨k, hk, hm⟩ := h
    obtain ⟨d1, d2, e1, e2, _⟩ := A.directed hk
    rcases hm with hm | hm
    · rw [hm] at e1; cases e1
    · rw [hm] at e2; cases e2

theorem duplicate_component_rejected {reg : Registry} {ust : Units.Store} {doc : Doc} (h : DuplicateComponent doc) :
    IsErr (loadFrom reg ust doc) :=
  rejected_of fun _ _ A => h A.comps

theorem bad_facing_rejected {reg : Registry} {ust : Units.Store} {doc : Doc} {P : Option (Iface × Iface) → Prop}
    (hP : ∀ f, P f → f ≠ some (.out, .inn) ∧ f ≠ some (.inn, .out)) (h : ConnHas doc P) :
    IsErr (loadFrom reg ust doc) :=
  rejected_of fun _ _ A => by
    obtain ⟨k, hk, d1, d2, e1, e2, hp⟩ := h
    obtain ⟨d1', d2', e1', e2', hf⟩ := A.directed hk
    rw [e1] at e1'; rw [e2] at e2'
    cases e1'; cases e2'
    rcases hf with ⟨hf, _⟩ | ⟨hf, _⟩
    · exact (hP _ hp).1 hf
    · exact (hP _ hp).2 hf

theorem both_sources_rejected {reg : Registry} {ust : Units.Store} {doc : Doc} (h : BothSources doc) :
    IsErr (loadFrom reg ust doc) :=
  bad_facing_rejected (fun f hf => by subst hf; exact ⟨by decide, by decide⟩) h

theorem both_receivers_rejected {reg : Registry} {ust : Units.Store} {doc : Doc} (h : BothReceivers doc) :
    IsErr (loadFrom reg ust doc) :=
  bad_facing_rejected (fun f hf => by subst hf; exact ⟨by decide, by decide⟩) h

theorem no_direction_rejected {reg : Registry} {ust : Units.Store} {doc : Doc} (h : NoDirection doc) :
    IsErr (loadFrom reg ust doc) := by
  refine bad_facing_rejected (fun f hf => ?_) h
  obtain ⟨a, b, rfl, hab⟩ := hf
  -- one of the two is `none`, which is neither `out` nor `in`
  constructor <;> intro e <;> simp only [Option.some.injEq, Prod.mk.injEq] at e <;>
    rcases hab with rfl | rfl <;> simp at e

theorem non_adjacent_rejected {reg : Registry} {ust : Units.Store} {doc : Doc} (h : NonAdjacent doc) :
    IsErr (loadFrom reg ust doc) :=
  bad_facing_rejected (fun f hf => by subst hf; exact ⟨by simp, by simp⟩) h

/-- the units of the two ends of some connection cannot be converted into each other, in either direction -/
def IncompatibleUnits (reg : Registry) (ust : Units.Store) (doc : Doc) : Prop :=
  ∃ k ∈ doc.conns,
    (∀ f, Units.factor reg (unitsOf (varTable ust doc.comps) k.end1) (unitsOf (varTable ust doc.comps) k.end2) ≠ .ok f) ∧
    (∀ f, Units.factor reg (unitsOf (varTable ust doc.comps) k.end2) (unitsOf (varTable ust doc.comps) k.end1) ≠ .ok f)

/-- `factor` asks the same of both directions (every name known, equal dimensions), so a conversion that fails one
    way fails the other way too -/
theorem factor_not_ok_symm {reg : Registry} {a b : Container} (h : ∀ f, Units.factor reg a b ≠ .ok f) :
    ∀ f, Units.factor reg b a ≠ .ok f :=
  fun _ hf => h _ (Units.factor_symm hf)

theorem incompatible_units_rejected {reg : Registry} {ust : Units.Store} {doc : Doc}
    (h : IncompatibleUnits reg ust doc) : IsErr (loadFrom reg ust doc) :=
  rejected_of fun _ _ A => by
    obtain ⟨k, hk, ha, hb⟩ := h
    obtain ⟨_, _, _, _, ⟨_, hd⟩ | ⟨_, hd⟩⟩ := A.directed hk
    · obtain ⟨f, hf⟩ := A.factor _ _ hd
      exact ha f hf
    · obtain ⟨f, hf⟩ := A.factor _ _ hd
      exact hb f hf

/-- two `<map_variables>` (at different places of the document) are directed into the same variable -/
def TwoSources (ust : Units.Store) (doc : Doc) : Prop :=
  ∃ i j : Nat, i < j ∧ ∃ ki kj, doc.conns[i]? = some ki ∧ doc.conns[j]? = some kj ∧ ∃ s1 s2 t,
    direction (parOf doc) (varTable ust doc.comps) ki = .ok (s1, t) ∧
    direction (parOf doc) (varTable ust doc.comps) kj = .ok (s2, t)

theorem two_sources_rejected {reg : Registry} {ust : Units.Store} {doc : Doc} (h : TwoSources ust doc) :
    IsErr (loadFrom reg ust doc) :=
  rejected_of fun dl _ A => by
    obtain ⟨i, j, hij, ki, kj, hi, hj, s1, s2, t, di, dj⟩ := h
    -- the `i`-th directed connection is the direction of the `i`-th `<map_variables>`
    have get : ∀ (i : Nat) k s, doc.conns[i]? = some k →
        direction (parOf doc) (varTable ust doc.comps) k = .ok (s, t) → (dl.map Prod.snd)[i]? = some t := by
      intro i k s hi di
      have := congrArg (fun l => l[i]?) A.dir
      simp only [List.getElem?_map, hi, Option.map_some, di] at this
      cases hx : dl[i]? with
      | none => rw [hx] at this; cases this
      | some x =>
        rw [hx] at this
        simp only [Option.map_some, Option.some.injEq, Except.ok.injEq] at this
        rw [List.getElem?_map, hx, ← this]; rfl
    obtain ⟨hi', ei⟩ := List.getElem?_eq_some_iff.mp (get i ki s1 hi di)
    obtain ⟨hj', ej⟩ := List.getElem?_eq_some_iff.mp (get j kj s2 hj dj)
    exact (List.pairwise_iff_getElem.mp A.targets) i j hi' hj' hij (ei.trans ej.symm)

/-- some connection is directed out of a variable that has an `in` interface and is the target of no connection -/
def UnfedRelay (ust : Units.Store) (doc : Doc) : Prop :=
  ∃ k ∈ doc.conns, ∃ s t, direction (parOf doc) (varTable ust doc.comps) k = .ok (s, t) ∧
    ¬ Src (varTable ust doc.comps) s ∧
    ∀ k' ∈ doc.conns, ∀ s', direction (parOf doc) (varTable ust doc.comps) k' ≠ .ok (s', s)

theorem unfed_relay_rejected {reg : Registry} {ust : Units.Store} {doc : Doc} (h : UnfedRelay ust doc) :
    IsErr (loadFrom reg ust doc) :=
  rejected_of fun dl _ A => by
    obtain ⟨k, hk, s, t, hd, hns, hno⟩ := h
    have hdm : (s, t) ∈ dl := by
      obtain ⟨d, hd', e⟩ := List.mem_map.mp (A.dir ▸ List.mem_map_of_mem (f := direction _ _) hk)
      rw [hd] at e
      cases e
      exact hd'
    rcases A.fed s t hdm with hs | ⟨s', hs'⟩
    · exact hns hs
    · obtain ⟨k', hk', e⟩ := List.mem_map.mp (A.dir ▸ List.mem_map_of_mem (f := Except.ok) hs')
      exact hno k' hk' s' e

end C17
